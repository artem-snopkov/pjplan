/-
  Model/Graph.lean — the mutable task graph of task.py / wbs.py as a value.

  Objects are indices (`Uid`); Python identity is `Uid` equality.  Several uids may carry the same task id.
  A WBS is identified by the uid of its hidden root task (id = EMPTY_TASK_ID).  All fields are the *raw*
  private fields (`__parent`, `__children`, `__predecessors`, `__successors`, `__wbs`).
  Every Python recursion is structural recursion on a fuel argument; `none` = fuel exhausted, which stands for
  Python's RecursionError (it can only happen on cyclic structures, i.e. never on a well-formed state whose uids
  all lie in the universe: Lemmas/Fuel.lean).
-/
import PjVerif.Model.Basic
namespace Pj

abbrev Uid := Nat

/-- `sys.maxsize` on the 64-bit CPython the repository runs on (task.py:9) -/
def emptyId : Int := 9223372036854775807

structure G where
  n : Nat
  tid : Uid → Int
  parent : Uid → Option Uid
  children : Uid → List Uid
  preds : Uid → List Uid
  succs : Uid → List Uid
  owner : Uid → Option Uid

def upd {β : Type} (f : Uid → β) (k : Uid) (v : β) : Uid → β := fun x => if x = k then v else f x

@[simp] theorem upd_same {β : Type} (f : Uid → β) (k : Uid) (v : β) : upd f k v k = v := by simp [upd]
@[simp] theorem upd_other {β : Type} (f : Uid → β) (k : Uid) (v : β) (x : Uid) (h : x ≠ k) :
    upd f k v x = f x := by simp [upd, h]

namespace G

/-- a WBS root task: `id == EMPTY_TASK_ID` -/
def hidden (s : G) (u : Uid) : Bool := s.tid u == emptyId

/-- the public `parent` property hides the WBS root (task.py:694-699) -/
def pubParent (s : G) (t : Uid) : Option Uid :=
  match s.parent t with
  | some p => if s.hidden p then none else some p
  | none => none

def fuel (s : G) : Nat := s.n + 1

end G

/-- generator `get_children` / `get_predecessor` / `get_successor` (task.py:805-811, 851-857, 897-904):
    pre-order list of everything reachable through `next`, with repetitions. -/
def descF (next : Uid → List Uid) : Nat → Uid → Option (List Uid)
  | 0, _ => none
  | f + 1, t => ((next t).mapM (fun c => (descF next f c).map (fun r => c :: r))).map List.flatten

/-- `_collect_subtree` (task.py:29-33) -/
def subtreeF (next : Uid → List Uid) (f : Nat) (t : Uid) : Option (List Uid) :=
  (descF next f t).map (fun r => t :: r)

/-- `__get_all_parents` (task.py:749-755): the chain of non-hidden ancestors -/
def ancF (s : G) : Nat → Option Uid → Option (List Uid)
  | 0, _ => none
  | _ + 1, none => some []
  | f + 1, some p => if s.hidden p then some [] else (ancF s f (s.pubParent p)).map (fun r => p :: r)

/-- `_find_root` over the raw parent (includes the hidden WBS root) -/
def rootF (s : G) : Nat → Uid → Option Uid
  | 0, _ => none
  | f + 1, t =>
    match s.parent t with
    | none => some t
    | some p => rootF s f p

/-- `_has_id_intersection(parent, children)` (task.py:36-51, repaired: duplicates among the incoming
    tasks count, the receiving tree is the whole tree of the raw root) -/
def hasIdIntersection (s : G) (parent : Uid) (chs : List Uid) : Option Bool := do
  let root ← rootF s s.fuel parent
  let tree ← subtreeF s.children s.fuel root
  let subs ← chs.mapM (subtreeF s.children s.fuel)
  let new := (subs.flatten.filter (fun t => !tree.contains t)).eraseDups
  if new.isEmpty then pure false
  else
    let newIds := new.map s.tid
    if newIds.eraseDups.length != newIds.length then pure true
    else pure (newIds.any (fun i => (tree.map s.tid).contains i))

/-- `_linked_with_any(tasks, others)` -/
def linkedWithAny (s : G) (tasks others : List Uid) : Bool :=
  tasks.any (fun t => (s.preds t ++ s.succs t).any (fun l => others.contains l))

/-- owner := w on a list of tasks (`_attach` / `_detach` over a subtree) -/
def setOwners (s : G) (ts : List Uid) (w : Option Uid) : G :=
  { s with owner := fun x => if ts.contains x then w else s.owner x }

/-! ### the parent setter (task.py:707-742) -/

/-- validations of `t.parent = p` for `p` not None; `none` = accepted -/
def chkParentSome (s : G) (t p : Uid) : Option Err :=
  let c1 : Option Err :=
    match s.owner t with
    | none =>
      if s.pubParent t = none ∨ s.pubParent t ≠ some p then
        (match hasIdIntersection s p [t] with
         | none => some (.crash .recursion)
         | some true => some .runtime
         | some false => none)
      else none
    | some w => if s.owner p ≠ some w then some .runtime else none
  match c1 with
  | some e => some e
  | none =>
    match descF s.children s.fuel t with
    | none => some (.crash .recursion)
    | some desc =>
      if p = t ∨ desc.contains p then some .runtime
      else
        match ancF s s.fuel (s.parent p) with
        | none => some (.crash .recursion)
        | some anc => if linkedWithAny s (t :: desc) (p :: anc) then some .runtime else none

/-- `if self.__parent is not None and self in self.__parent.__children: remove` -/
def detachOld (s : G) (t : Uid) : G :=
  match s.parent t with
  | some q => if (s.children q).contains t then { s with children := upd s.children q ((s.children q).erase t) } else s
  | none => s

/-- mutation phase for `p` not None: detach, set parent, `_attach(parent.__wbs)`, append if missing.
    The subtree enumeration of `_attach` is evaluated first: on a cyclic structure Python's RecursionError would
    interrupt the mutation half-way; the model reports the crash with the state unchanged (such structures are
    unreachable: every reachable state is a forest, C01). -/
def mutParentSome (s : G) (t p : Uid) : G × Option Err :=
  match subtreeF s.children s.fuel t with
  | none => (s, some (.crash .recursion))
  | some sub =>
    let s1 := detachOld s t
    let s2 := { s1 with parent := upd s1.parent t (some p) }
    let s3 := match s2.owner p with
      | none => s2
      | some w => setOwners s2 sub (some w)
    (if (s3.children p).contains t then s3 else { s3 with children := upd s3.children p (s3.children p ++ [t]) }, none)

def setParentSome (s : G) (t p : Uid) : G × Option Err :=
  match chkParentSome s t p with
  | some e => (s, some e)
  | none => mutParentSome s t p

/-- `t.parent = None`: a member of a WBS becomes a root task of that WBS (through
    `wbs._root().children.append(self)`, i.e. the same setter with the hidden root as parent), a detached task just
    loses its parent.  Modelling note: Python removes the task from its old parent's list *before* the inner call;
    the inner call's validations do not look at that list entry on a forest (the old parent is not below the task),
    so the model evaluates them on the state before the removal; `mutParentSome` performs the removal itself. -/
def setParentNone (s : G) (t : Uid) : G × Option Err :=
  match s.owner t with
  | some w => setParentSome s t w
  | none =>
    let s1 := detachOld s t
    ({ s1 with parent := upd s1.parent t none }, none)

def setParent (s : G) (t : Uid) (p : Option Uid) : G × Option Err :=
  match p with
  | some p => setParentSome s t p
  | none => setParentNone s t

/-! ### the children setter (task.py:765-798) -/

def chkChildren (s : G) (h : Uid) (l : List Uid) : Option Err :=
  let c1 : Option Err :=
    match s.owner h with
    | none => if l.any (fun v => (s.owner v).isSome) then some .runtime else none
    | some w => if l.any (fun v => (s.owner v).isSome && s.owner v != some w) then some .runtime else none
  match c1 with
  | some e => some e
  | none =>
    match hasIdIntersection s h l with
    | none => some (.crash .recursion)
    | some true => some .runtime
    | some false =>
      match ancF s s.fuel (s.parent h) with
      | none => some (.crash .recursion)
      | some anc =>
        l.findSome? (fun ch =>
          match descF s.children s.fuel ch with
          | none => some (.crash .recursion)
          | some desc =>
            if ch = h ∨ desc.contains h then some .runtime
            else if linkedWithAny s (ch :: desc) (h :: anc) then some .runtime
            else none)

/-- `for v in self.__children: v.__parent = None; if v not in value: v._detach()` then `clear()`
    (subtree enumeration first, see `mutParentSome`) -/
def releaseChildren (s : G) (h : Uid) (l : List Uid) : G × Option Err :=
  let old := s.children h
  let gone := old.filter (fun v => !l.contains v)
  match gone.mapM (subtreeF s.children s.fuel) with
  | none => (s, some (.crash .recursion))
  | some subs =>
    let s1 := { s with parent := fun x => if old.contains x then none else s.parent x }
    let s2 := setOwners s1 subs.flatten none
    ({ s2 with children := upd s2.children h [] }, none)

def foldSetParent : G → List Uid → Uid → G × Option Err
  | s, [], _ => (s, none)
  | s, v :: vs, h =>
    match setParent s v (some h) with
    | (s', some e) => (s', some e)
    | (s', none) => foldSetParent s' vs h

def setChildren (s : G) (h : Uid) (l : List Uid) : G × Option Err :=
  match chkChildren s h l with
  | some e => (s, some e)
  | none =>
    match releaseChildren s h l with
    | (s1, some e) => (s1, some e)
    | (s1, none) => foldSetParent s1 l h

/-! ### predecessor / successor setters (task.py:818-844, 864-890) -/

def chkLinks (s : G) (next : Uid → List Uid) (t : Uid) (l : List Uid) : Option Err :=
  match ancF s s.fuel (s.parent t) with
  | none => some (.crash .recursion)
  | some anc =>
    match descF s.children s.fuel t with
    | none => some (.crash .recursion)
    | some desc =>
      if l.any (fun v => anc.contains v || desc.contains v) then some .runtime
      else
        l.findSome? (fun v =>
          if v = t then some .runtime
          else match descF next s.fuel v with
            | none => some (.crash .recursion)
            | some r => if r.contains t then some .runtime else none)

def mutPreds (s : G) (t : Uid) (l : List Uid) : G :=
  let succs1 : Uid → List Uid := fun v => if (s.preds t).contains v then (s.succs v).filter (fun x => x != t) else s.succs v
  { s with preds := upd s.preds t l,
           succs := fun v => if l.contains v ∧ !(succs1 v).contains t then succs1 v ++ [t] else succs1 v }

def setPreds (s : G) (t : Uid) (l : List Uid) : G × Option Err :=
  match chkLinks s s.preds t l with
  | some e => (s, some e)
  | none => (mutPreds s t l, none)

def mutSuccs (s : G) (t : Uid) (l : List Uid) : G :=
  let preds1 : Uid → List Uid := fun v => if (s.succs t).contains v then (s.preds v).filter (fun x => x != t) else s.preds v
  { s with succs := upd s.succs t l,
           preds := fun v => if l.contains v ∧ !(preds1 v).contains t then preds1 v ++ [t] else preds1 v }

def setSuccs (s : G) (t : Uid) (l : List Uid) : G × Option Err :=
  match chkLinks s s.succs t l with
  | some e => (s, some e)
  | none => (mutSuccs s t l, none)

end Pj

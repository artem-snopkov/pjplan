/-
  Model/PyLite.lean — a tiny deeply-embedded fragment of Python ("PyLite") with a total big-step interpreter.

  Purpose: tools/extract_calendar.py translates the bodies of the `get_available_units` methods of calendar.py /
  resource.py into PyLite terms (Extracted/CalendarSrc.lean, regenerated on every check); Lemmas/CalendarSrc.lean
  proves that interpreting those terms equals the hand-written model (Model/Calendar.lean).

  A second evaluator over the same syntax ("scheduler layer", after the first one: `Expr.evalW`, `Stmt.execW`, `runW`)
  adds a mutable usage ledger and handlers for method calls on other objects; tools/extract_schedule.py translates
  the three methods of `_ResourceUsage` and the four inner loops of the schedulers (schedule.py) into
  Extracted/ScheduleSrc.lean and Lemmas/ScheduleSrc.lean proves them equal to Model/Sched.lean.  The constructs that
  only the second evaluator understands are `stuck` in the first one, which is otherwise unchanged.

  A third evaluator ("pass layer", end of this file: `Expr.evalP`, `Stmt.execP`, `callP`) interprets the recursive
  passes of the schedulers and their `__prepare_tasks` (tools/extract_pass.py, Extracted/PassSrc.lean,
  Lemmas/PassSrc.lean, Lemmas/PassSrcBwd.lean): it adds a heap of
  task objects whose attributes are read and written, the list `calculated`, the scheduler's resource table, a
  scripted clock, calls of other methods of `self` (handlers) and of the method itself (fuel).  Its constructs are
  `stuck` in the first two evaluators.

  The third evaluator also interprets the "calc constructs" (tools/extract_calc.py, Extracted/CalcSrc.lean,
  Lemmas/CalcSrc.lean): the pre-checks of the schedulers (`_validate_graph_isolation`, `_leaves`, `_waits_for`,
  `_check_loops`, `_check_loops_from_task`, `__check_no_end_dates_in_future`) and the two `calc` methods.  They add
  mutable containers (`box`), function values (`fn`), calls of module-level functions / function values (handler
  `fn`) and library attributes that are not defined in schedule.py (handler `prim`); see the section "pass layer".

  The third evaluator also interprets the "task constructs" (tools/extract_task.py, Extracted/TaskSrc.lean,
  Lemmas/TaskSrc*.lean): the four relation setters of `Task` (task.py) and their helpers.  They add list-valued
  attributes that are changed in place (`attrAppend` / `attrRemove` / `attrClear`), `type(e) is T`, sets as values
  (`setOf`, `setInter`), truthiness of an object and a runner for a PROGRAM - a table of functions that call one
  another, every call using one unit of fuel (`progH`); see the end of the section "pass layer".

  Further constructs of the third evaluator, for further functions of such programs: the "wbs constructs" (wbs.py: dict
  comprehensions / `get` / indexing / `values()`, `next(<generator>)`, `try … except`, a `for` over a live list; listed in
  Model/PyLiteW.lean, which layers a second program over the first), the "facade constructs" and the "critical-path
  constructs" (sections of these names at the end of this file).

  Trust base = this file + the translators.  Conventions:
  * numbers are `Rat` (the model's abstraction of int/float), datetimes are `Time` (= Rat days), timedeltas are
    `Rat` days; a Python `bool` is a number (True = 1) for arithmetic, ordering and `==`, exactly as in Python;
  * objects with a `get_available_units` method are opaque references `ref i`; the call is interpreted through the
    parameter `sub : Nat → Time → Res (Option Rat)`; `ref 0` is the object itself (`self`);
  * Python exceptions are the model's `Err`: RuntimeError = `.runtime`, TypeError = `.crash .type`,
    ZeroDivisionError = `.crash .zeroDivision`, KeyError = `.crash .key`, AttributeError = `.crash .attribute`;
  * `stuck` (= `.crash .other`) marks a run that leaves the modelled fragment (e.g. list concatenation,
    `datetime + number`, truthiness of a non-bool, NameError, a `while` loop that exhausts the interpreter's
    fuel).  The model never produces `.crash .other` for the translated methods, so an equivalence theorem
    `interp = eval` shows in particular that no run gets stuck.
-/
import PjVerif.Model.Basic
namespace Pj.PyLite

/-! ### values -/

/-- scalar values -/
inductive Atom
  | none
  | num (q : Rat)
  | bool (b : Bool)
  | time (t : Time)
  | delta (d : Rat)        -- `timedelta`, in days
  | ref (i : Nat)          -- an object: one answering `get_available_units(date)` (`ref 0` = `self`); in the pass layer an object of the store
  | row (res : Nat) (date : Time) (task : Nat) (units : Rat)
                          -- a `ResourceUsageRow(resource, date, task, units)` object (scheduler layer only)
  | str (k : Nat)          -- a `str`, abstracted to a key: equal strings = equal keys (pass layer only)
  | fn (k : Nat)           -- a function value: the k-th entry of the function table of the run (calc constructs only)
  | box (i : Nat)          -- a mutable container (`list` / `set` object): the i-th box of the state (calc constructs only)
  deriving DecidableEq, Repr, Inhabited

inductive Val
  | atom (a : Atom)
  | list (vs : List Atom)
  | dict (kvs : List (Atom × Atom))   -- association list with distinct keys, in insertion order
  deriving DecidableEq, Repr, Inhabited

instance : Coe Atom Val := ⟨Val.atom⟩

def stuck : Err := .crash .other

/-- int/float/bool as a number (Python: `bool` is a subclass of `int`) -/
def Atom.asNum? : Atom → Option Rat
  | .num q => some q
  | .bool b => some (if b then 1 else 0)
  | _ => Option.none

/-- `True`/`False` are the numbers 1/0 -/
def Atom.norm : Atom → Atom
  | .bool b => .num (if b then 1 else 0)
  | a => a

/-- Python `==` (and dict-key identity) on scalars: numeric for numbers/bools, identity for objects,
    False across kinds -/
def Atom.pyEq (a b : Atom) : Bool := decide (a.norm = b.norm)

/-! ### dicts (association lists) -/

def Dict.get? (d : List (Atom × Atom)) (k : Atom) : Option Atom :=
  (d.find? (fun p => p.1.pyEq k)).map (·.2)

/-- `d[k] = v`: an existing key keeps its position -/
def Dict.insert : List (Atom × Atom) → Atom → Atom → List (Atom × Atom)
  | [], k, v => [(k, v)]
  | p :: d, k, v => if p.1.pyEq k then (p.1, v) :: d else p :: Dict.insert d k v

/-- the dict built by inserting the pairs in order (`{k: v for ...}`) -/
def Dict.ofList (kvs : List (Atom × Atom)) : List (Atom × Atom) :=
  kvs.foldl (fun d p => Dict.insert d p.1 p.2) []

/-! ### syntax -/

inductive CmpOp | lt | gt | le | ge | eq | ne
  deriving DecidableEq, Repr, Inhabited

inductive BinOp | add | sub | mul | div
  deriving DecidableEq, Repr, Inhabited

inductive Expr
  | none                                  -- `None`
  | num (q : Rat)                         -- numeric literal
  | bool (b : Bool)                       -- `True` / `False`
  | var (x : String)                      -- local variable / parameter
  | self                                  -- `self` (only as receiver of `get_available_units`)
  | field (f : String)                    -- `self.f` / `self.__f`
  | isNone (e : Expr)                     -- `e is None`
  | isNotNone (e : Expr)                  -- `e is not None`
  | cmp (op : CmpOp) (a b : Expr)         -- `a < b` ...
  | and (a b : Expr) | or (a b : Expr) | not (a : Expr)
  | bin (op : BinOp) (a b : Expr)         -- `a + b` ...
  | ite (c a b : Expr)                    -- `a if c else b`
  | units (c d : Expr)                    -- `c.get_available_units(d)`
  | dayStart (d : Expr)                   -- `_day_start(d)`
  | timedelta (days : Expr)               -- `timedelta(days=e)`
  | weekday (d : Expr)                    -- `d.weekday()`
  | index (d k : Expr)                    -- `d[k]`
  | isIn (k d : Expr)                     -- `k in d`
  -- scheduler layer (interpreted by `Expr.evalW`; `Expr.eval` is stuck on them; `Expr.evalP` interprets `min`,
  -- `attr`, `listComp`, `sum` of these)
  | min (a b : Expr)                      -- `min(a, b)`
  | timedeltaHours (h : Expr)             -- `timedelta(hours=e)`
  | attr (e : Expr) (f : String)          -- `e.f` on a `ResourceUsageRow`
  | listComp (elt : Expr) (x : String) (it cond : Expr)   -- `[elt for x in it if cond]`
  | sum (l start : Expr)                  -- `sum(l, start)`
  | app (param : String) (body arg : Expr)  -- call of a one-parameter static method `def f(param): return body`
  | rows                                  -- `self.rows` (inside `_ResourceUsage`): the ledger
  | mkRow (r d t u : Expr)                -- `ResourceUsageRow(r, d, t, u)`
  | nearest (c d dir : Expr)              -- `c.get_nearest_availability_date(d, dir)`
  | reserved (r d t : Expr)               -- `resource_usage.reserved(r, d, t)` (`t` = `None` when omitted)
  -- pass layer (interpreted by `Expr.evalP` only; the other two evaluators are stuck on them)
  | datetime (t : Time)                   -- `datetime(y, m, d)` with literal arguments, as days since 1970-01-01
  | now                                   -- `datetime.now()`: the next reading of the clock
  | listNil                               -- `[]`
  | listCons (a l : Expr)                 -- `[a, *l]`: list displays `[a, b, ...]`, and the argument lists of calls
  | len (l : Expr)                        -- `len(l)`
  | max (a b : Expr)                      -- `max(a, b)`
  | max3 (a b c : Expr)                   -- `max(a, b, c)`
  | maxList (l : Expr)                    -- `max(l)`
  | minList (l : Expr)                    -- `min(l)`
  | isSame (a b : Expr)                   -- `a is b` on object references / `None`
  | calcHas (e : Expr)                    -- `id(e) in calculated`
  | resSetdefault (k : Expr)              -- `self.__resources.setdefault(k, Resource(k))`
  | callSelf (m : String) (args : Expr)   -- `self.__m(args...)`, a method other than the one being interpreted;
                                          --   the ledger argument is implicit (it is the interpreter's state)
  | reversed (l : Expr)                   -- `reversed(l)` as the iterable of a `for`: the items of the list `l`, last first
  -- calc constructs (pass layer, interpreted by `Expr.evalP` only): the pre-checks and `calc` of schedule.py
  | idOf (e : Expr)                       -- `id(e)` of a task object
  | prim (name : String) (args : Expr)    -- a library attribute / call that is not defined in schedule.py
                                          --   (`wbs.tasks`, `task.all_children`, …): handler `prim`
  | fnRef (k : Nat)                       -- a module-level function, a method or a closed `lambda` as a value
  | callVal (f : Expr) (args : Expr)      -- `f(args...)`, `f` a function value: handler `fn`
  | newBox (l : Expr)                     -- a new mutable container holding the items of `l`: `[]`, `set()`, `set(l)`
  | items (b : Expr)                      -- the current items of the container `b` (a snapshot, as a list value)
  | listOf (e : Expr)                     -- `list(e)`
  | flatComp (inner : Expr) (x : String) (it cond : Expr)
                                          -- `[y for x in it if cond for … ]` = the lists `inner` (the comprehension
                                          --   over the remaining `for` clauses, `x` bound) joined in order
  | anyComp (elt : Expr) (x : String) (it cond : Expr)   -- `any(elt for x in it if cond)`
  | range3 (lo hi step : Expr)            -- `range(lo, hi, step)` as the iterable of a `for`: the list of its items
  | listIndex (l i : Expr)                -- `l[i]`, `l` a list and `i` an `int` (negative: counted from the end)
  -- task constructs (pass layer, interpreted by `Expr.evalP` only): the relation setters of task.py
  | typeIs (e : Expr) (ty : String)       -- `type(e) is <ty>` for ty = Task / list / tuple / set, and
                                          --   `isinstance(e, Iterable)` for ty = Iterable; `e` is None, a task or a list
  | setOf (l : Expr)                      -- `set(l)` as a VALUE: the items of `l` without repetitions
  | setInter (a b : Expr)                 -- `a.intersection(b)` on two such sets
  | callFn (k : Nat) (args : Expr)        -- `f(args...)`, `f` the k-th function of the program; `args` is an argument
                                          --   list `listCons a (listCons b … listNil)` whose items are VALUES (lists too)
  -- wbs constructs (pass layer, interpreted by `Expr.evalP` only): wbs.py
  | dictComp (k v : Expr) (x : String) (it cond : Expr)
                                          -- `{k: v for x in it if cond}`: the key first, then the value (may allocate)
  | dictGet (d k : Expr)                  -- `d.get(k)`: the value, `None` for a missing key
  | dictIndex (d k : Expr)                -- `d[k]` on a dict (KeyError for a missing key)
  | dictValues (d : Expr)                 -- `d.values()` as an iterable: the values in insertion order
  | nextComp (elt : Expr) (x : String) (it cond : Expr)
                                          -- `next(elt for x in it if cond)`: the first element; StopIteration when none
  -- facade constructs (pass layer, interpreted by `Expr.evalP` only): the list facades of task.py; they also use
  -- `nextComp` of the wbs constructs above
  | listInsert (l i e : Expr)             -- the list `l` with `e` inserted before position `i` (`list.insert(i, e)`)
  | listRemove (l e : Expr)               -- the list `l` without the first item equal to `e` (`list.remove(e)`)
  | indexOf (l e : Expr)                  -- `l.index(e)`
  | sortedBy (key : Expr) (x : String) (l rev : Expr)     -- `sorted(l, key=lambda x: key, reverse=rev)`
  | typeIsS (e : Expr) (ty : String)      -- `typeIs` where `e` may also be a `str` and `ty` may also be `str`
  -- critical-path constructs (pass layer, interpreted by `Expr.evalP` only): alg/critical_path.py
  | construct (k : Nat) (args : Expr)     -- `C(args...)`, `C` a class of the program whose `__init__` is the k-th function:
                                          --   the arguments, a NEW object (no attributes), `__init__(obj, args...)`; the object is the value
  | dictNil                               -- `{}`
  | dictSet (d k v : Expr)                -- the dict `d` after `d[k] = v` (Python's order: `v`, `d`, `k`)
  | dictHas (k d : Expr)                  -- `k in d` on a dict
  | abs (e : Expr)                        -- `abs(e)` on a number
  deriving Repr, Inhabited

inductive Stmt
  | assign (x : String) (e : Expr)                     -- `x = e`
  | aug (x : String) (op : BinOp) (e : Expr)           -- `x op= e`
  | ifElse (c : Expr) (t e : List Stmt)                -- `if c: t else: e` (`elif` = nested `ifElse` in `e`)
  | forIn (x : String) (e : Expr) (body : List Stmt)   -- `for x in e: body` (no `break`, no `else`)
  | while (c : Expr) (body : List Stmt)                -- `while c: body` (no `break`, no `else`)
  | raiseRuntime                                       -- `raise RuntimeError(...)`
  | continue
  | ret (e : Expr)                                     -- `return e`
  | pass
  -- scheduler layer (interpreted by `Stmt.execW` only; `Stmt.exec` is stuck on them)
  | forRange (x : String) (lo hi : Expr) (body : List Stmt)   -- `for x in range(lo, hi): body`
  | rowsAppend (e : Expr)                              -- `self.rows.append(e)` (inside `_ResourceUsage`)
  | resReserve (c d t u : Expr)                        -- `c.reserve(d, t, u)` on a resource: `IResource.reserve` is `pass`
  | augReserve (x : String) (op : BinOp) (r d t u : Expr)  -- `x op= resource_usage.reserve(r, d, t, u)`
  -- pass layer (interpreted by `Stmt.execP` only)
  | setAttr (o : Expr) (f : String) (e : Expr)         -- `o.f = e` on a task object
  | calcAppend (e : Expr)                              -- `calculated.append(id(e))`
  | recurse (args : Expr)                              -- `self.__m(args..., resource_usage, calculated)`: the method itself
  -- calc constructs (interpreted by `Stmt.execP` only)
  | expr (e : Expr)                                    -- an expression statement (a call made for its effect)
  | boxAppend (b e : Expr)                             -- `b.append(e)` on a list object / `b.add(e)` on a set object
  | boxPop (b : Expr)                                  -- `b.pop()` on a list object, as a statement
  | ledgerNew                                          -- `x = _ResourceUsage()`: the ledger of the run is a new, empty one
  | calcNew                                            -- `x = []` for the list that is passed on as `calculated`
  -- task constructs (interpreted by `Stmt.execP` only): the list held by an attribute of a task object, changed in place
  | attrAppend (o : Expr) (f : String) (e : Expr)      -- `o.f.append(e)`
  | attrRemove (o : Expr) (f : String) (e : Expr)      -- `o.f.remove(e)`
  | attrClear (o : Expr) (f : String)                  -- `o.f.clear()`
  -- wbs constructs (interpreted by `Stmt.execP` only)
  | tryExcept (body : List Stmt) (exc : Err) (handler : List Stmt)
                                                       -- `try: body` / `except <exc>: handler` (the body writes nothing)
  | forLive (x : String) (o : Expr) (f : String) (body : List Stmt)
                                                       -- `for x in o.f: body` over the LIVE list held by the attribute
  deriving Repr, Inhabited

/-! ### environments -/

abbrev Env := List (String × Val)

def Env.get? (env : Env) (x : String) : Option Val :=
  (env.find? (fun p => p.1 == x)).map (·.2)

def Env.set : Env → String → Val → Env
  | [], x, v => [(x, v)]
  | p :: env, x, v => if p.1 == x then (x, v) :: env else p :: Env.set env x v

/-! ### expressions -/

/-- datetime/timedelta arithmetic -/
def arithTime (op : BinOp) (a b : Atom) : Option Atom :=
  match op, a, b with
  | .add, .time x, .delta d => some (.time (x + d))
  | .add, .delta d, .time x => some (.time (x + d))
  | .sub, .time x, .delta d => some (.time (x - d))
  | .sub, .time x, .time y => some (.delta (x - y))
  | .add, .delta d, .delta e => some (.delta (d + e))
  | .sub, .delta d, .delta e => some (.delta (d - e))
  | _, _, _ => Option.none

/-- `+ - * /` on int/float/bool (`None` operand: TypeError; division by zero: ZeroDivisionError) and `+ -` on
    datetimes/timedeltas -/
def arith (op : BinOp) (a b : Val) : Res Val :=
  match a, b with
  | .atom a, .atom b =>
    if let some r := arithTime op a b then pure r
    else if (a = .none ∨ a.asNum?.isSome) ∧ (b = .none ∨ b.asNum?.isSome) then
      match a.asNum?, b.asNum? with
      | some x, some y =>
        match op with
        | .add => pure (Atom.num (x + y))
        | .sub => pure (Atom.num (x - y))
        | .mul => pure (Atom.num (x * y))
        | .div => if y = 0 then throw (.crash .zeroDivision) else pure (Atom.num (x / y))
      | _, _ => throw (.crash .type)
    else throw stuck
  | _, _ => throw stuck

def cmpRat (op : CmpOp) (x y : Rat) : Bool :=
  match op with
  | .lt => decide (x < y) | .gt => decide (y < x) | .le => decide (x ≤ y) | .ge => decide (y ≤ x)
  | .eq => decide (x = y) | .ne => !decide (x = y)

/-- comparisons: ordering needs two numbers, two datetimes or two timedeltas (`None`, or mixed kinds: TypeError);
    `==`/`!=` on scalars never raise -/
def compare (op : CmpOp) (a b : Val) : Res Val :=
  match a, b with
  | .atom a, .atom b =>
    match op with
    | .eq => pure (Atom.bool (a.pyEq b))
    | .ne => pure (Atom.bool (!a.pyEq b))
    | _ =>
      match a, b with
      | .time x, .time y => pure (Atom.bool (cmpRat op x y))
      | .delta x, .delta y => pure (Atom.bool (cmpRat op x y))
      | .ref _, _ => throw stuck
      | _, .ref _ => throw stuck
      | .str _, _ => throw stuck
      | _, .str _ => throw stuck
      | a, b =>
        match a.asNum?, b.asNum? with
        | some x, some y => pure (Atom.bool (cmpRat op x y))
        | _, _ => throw (.crash .type)
  | _, _ => throw stuck

/-- truthiness is modelled for bools only (the translator rejects anything else in boolean position) -/
def truth : Val → Res Bool
  | .atom (.bool b) => pure b
  | _ => throw stuck

/-- `sub i t` = result of `get_available_units(t)` on the object `ref i`; `self` = the object's fields -/
def Expr.eval (sub : Nat → Time → Res (Option Rat)) (self : Env) (env : Env) : Expr → Res Val
  | .none => pure Atom.none
  | .num q => pure (Atom.num q)
  | .bool b => pure (Atom.bool b)
  | .var x => match env.get? x with
    | some v => pure v
    | Option.none => throw stuck                        -- NameError / UnboundLocalError
  | .self => pure (Atom.ref 0)
  | .field f => match self.get? f with
    | some v => pure v
    | Option.none => throw (.crash .attribute)
  | .isNone e => do
    let v ← e.eval sub self env
    pure (Atom.bool (decide (v = .atom .none)))
  | .isNotNone e => do
    let v ← e.eval sub self env
    pure (Atom.bool (!decide (v = .atom .none)))
  | .cmp op a b => do
    let x ← a.eval sub self env
    let y ← b.eval sub self env
    compare op x y
  | .and a b => do                                     -- `a and b`: `a` if falsy else `b`
    let x ← a.eval sub self env
    if (← truth x) then b.eval sub self env else pure x
  | .or a b => do                                      -- `a or b`: `a` if truthy else `b`
    let x ← a.eval sub self env
    if (← truth x) then pure x else b.eval sub self env
  | .not a => do
    let x ← a.eval sub self env
    pure (Atom.bool (!(← truth x)))
  | .bin op a b => do
    let x ← a.eval sub self env
    let y ← b.eval sub self env
    arith op x y
  | .ite c a b => do
    let x ← c.eval sub self env
    if (← truth x) then a.eval sub self env else b.eval sub self env
  | .units c d => do
    let o ← c.eval sub self env
    let t ← d.eval sub self env
    match o, t with
    | .atom (.ref i), .atom (.time t) =>
      match (← sub i t) with
      | some q => pure (Atom.num q)
      | Option.none => pure Atom.none
    | .atom .none, _ => throw (.crash .attribute)
    | _, _ => throw stuck
  | .dayStart d => do
    match (← d.eval sub self env) with
    | .atom (.time t) => pure (Atom.time (midnight t))
    | .atom .none => throw (.crash .attribute)
    | _ => throw stuck
  | .timedelta d => do
    match (← d.eval sub self env) with
    | .atom .none => throw (.crash .type)
    | .atom a => match a.asNum? with
      | some q => pure (Atom.delta q)
      | Option.none => throw stuck
    | _ => throw stuck
  | .weekday d => do
    match (← d.eval sub self env) with
    | .atom (.time t) => pure (Atom.num ((Pj.weekday t : Nat) : Rat))
    | .atom .none => throw (.crash .attribute)
    | _ => throw stuck
  | .index d k => do
    let dv ← d.eval sub self env
    let kv ← k.eval sub self env
    match dv, kv with
    | .dict kvs, .atom k => match Dict.get? kvs k with
      | some v => pure v
      | Option.none => throw (.crash .key)
    | .atom .none, _ => throw (.crash .type)            -- 'NoneType' object is not subscriptable
    | _, _ => throw stuck
  | .isIn k d => do
    let kv ← k.eval sub self env
    let dv ← d.eval sub self env
    match kv, dv with
    | .atom k, .dict kvs => pure (Atom.bool (Dict.get? kvs k).isSome)
    | .atom k, .list vs => pure (Atom.bool (vs.any (fun v => v.pyEq k)))
    | .atom _, .atom .none => throw (.crash .type)      -- argument of type 'NoneType' is not iterable
    | _, _ => throw stuck
  | .min _ _ => throw stuck
  | .timedeltaHours _ => throw stuck
  | .attr _ _ => throw stuck
  | .listComp _ _ _ _ => throw stuck
  | .sum _ _ => throw stuck
  | .app _ _ _ => throw stuck
  | .rows => throw stuck
  | .mkRow _ _ _ _ => throw stuck
  | .nearest _ _ _ => throw stuck
  | .reserved _ _ _ => throw stuck
  | .datetime _ => throw stuck
  | .now => throw stuck
  | .listNil => throw stuck
  | .listCons _ _ => throw stuck
  | .len _ => throw stuck
  | .max _ _ => throw stuck
  | .max3 _ _ _ => throw stuck
  | .maxList _ => throw stuck
  | .minList _ => throw stuck
  | .isSame _ _ => throw stuck
  | .calcHas _ => throw stuck
  | .resSetdefault _ => throw stuck
  | .callSelf _ _ => throw stuck
  | .reversed _ => throw stuck
  | .idOf _ => throw stuck
  | .prim _ _ => throw stuck
  | .fnRef _ => throw stuck
  | .callVal _ _ => throw stuck
  | .newBox _ => throw stuck
  | .items _ => throw stuck
  | .listOf _ => throw stuck
  | .flatComp _ _ _ _ => throw stuck
  | .anyComp _ _ _ _ => throw stuck
  | .range3 _ _ _ => throw stuck
  | .listIndex _ _ => throw stuck
  | .typeIs _ _ => throw stuck
  | .setOf _ => throw stuck
  | .setInter _ _ => throw stuck
  | .callFn _ _ => throw stuck
  | .dictComp _ _ _ _ _ => throw stuck
  | .dictGet _ _ => throw stuck
  | .dictIndex _ _ => throw stuck
  | .dictValues _ => throw stuck
  | .nextComp _ _ _ _ => throw stuck
  | .listInsert _ _ _ => throw stuck
  | .listRemove _ _ => throw stuck
  | .indexOf _ _ => throw stuck
  | .sortedBy _ _ _ _ => throw stuck
  | .typeIsS _ _ => throw stuck
  | .construct _ _ => throw stuck
  | .dictNil => throw stuck
  | .dictSet _ _ _ => throw stuck
  | .dictHas _ _ => throw stuck
  | .abs _ => throw stuck

/-! ### statements -/

inductive Outcome
  | normal (env : Env)      -- fell through
  | cont (env : Env)        -- `continue` reached
  | ret (v : Val)           -- `return v`
  | raise (e : Err)
  deriving Repr, Inhabited

/-- `for x in vs: body` where `body` is already interpreted as a function of the environment -/
def forLoop (x : String) (body : Env → Outcome) : List Atom → Env → Outcome
  | [], env => .normal env
  | v :: vs, env =>
    match body (env.set x v) with
    | .normal env' => forLoop x body vs env'
    | .cont env' => forLoop x body vs env'
    | r => r

/-- `while cond: body`, both already interpreted as functions of the environment; at most `fuel` evaluations of
    the condition, then the run is stuck -/
def whileLoop (cond : Env → Res Bool) (body : Env → Outcome) : Nat → Env → Outcome
  | 0, _ => .raise stuck
  | fuel + 1, env =>
    match cond env with
    | .error err => .raise err
    | .ok false => .normal env
    | .ok true =>
      match body env with
      | .normal env' => whileLoop cond body fuel env'
      | .cont env' => whileLoop cond body fuel env'
      | r => r

/-- the sequence iterated by `for`: a list, or the keys of a dict; `None`: TypeError -/
def iterOf : Val → Res (List Atom)
  | .list vs => pure vs
  | .dict kvs => pure (kvs.map (·.1))
  | .atom .none => throw (.crash .type)
  | _ => throw stuck

mutual
def Stmt.exec (sub : Nat → Time → Res (Option Rat)) (self : Env) (fuel : Nat) : Stmt → Env → Outcome
  | .assign x e, env =>
    match e.eval sub self env with
    | .ok v => .normal (env.set x v)
    | .error err => .raise err
  | .aug x op e, env =>
    match env.get? x with
    | Option.none => .raise stuck
    | some old =>
      match e.eval sub self env with
      | .error err => .raise err
      | .ok v =>
        match arith op old v with
        | .ok r => .normal (env.set x r)
        | .error err => .raise err
  | .ifElse c t e, env =>
    match (do truth (← c.eval sub self env)) with
    | .ok b => if b then execBlock sub self fuel t env else execBlock sub self fuel e env
    | .error err => .raise err
  | .forIn x e body, env =>
    match (do iterOf (← e.eval sub self env)) with
    | .ok vs => forLoop x (fun env' => execBlock sub self fuel body env') vs env
    | .error err => .raise err
  | .while c body, env =>
    whileLoop (fun env' => do truth (← c.eval sub self env')) (fun env' => execBlock sub self fuel body env') fuel env
  | .raiseRuntime, _ => .raise .runtime
  | .continue, env => .cont env
  | .ret e, env =>
    match e.eval sub self env with
    | .ok v => .ret v
    | .error err => .raise err
  | .pass, env => .normal env
  | .forRange _ _ _ _, _ => .raise stuck
  | .rowsAppend _, _ => .raise stuck
  | .resReserve _ _ _ _, _ => .raise stuck
  | .augReserve _ _ _ _ _ _, _ => .raise stuck
  | .setAttr _ _ _, _ => .raise stuck
  | .calcAppend _, _ => .raise stuck
  | .recurse _, _ => .raise stuck
  | .expr _, _ => .raise stuck
  | .boxAppend _ _, _ => .raise stuck
  | .boxPop _, _ => .raise stuck
  | .ledgerNew, _ => .raise stuck
  | .calcNew, _ => .raise stuck
  | .attrAppend _ _ _, _ => .raise stuck
  | .attrRemove _ _ _, _ => .raise stuck
  | .attrClear _ _, _ => .raise stuck
  | .tryExcept _ _ _, _ => .raise stuck
  | .forLive _ _ _ _, _ => .raise stuck

def execBlock (sub : Nat → Time → Res (Option Rat)) (self : Env) (fuel : Nat) : List Stmt → Env → Outcome
  | [], env => .normal env
  | s :: ss, env =>
    match s.exec sub self fuel env with
    | .normal env' => execBlock sub self fuel ss env'
    | r => r
end

/-- run a method body with the given parameter bindings; falling off the end returns `None`.
    `fuel` bounds every `while` loop (a body without `while` needs none). -/
def runBody (sub : Nat → Time → Res (Option Rat)) (self : Env) (fuel : Nat) (body : List Stmt) (params : Env) :
    Res Val :=
  match execBlock sub self fuel body params with
  | .normal _ => pure Atom.none
  | .cont _ => pure Atom.none                           -- unreachable: `continue` only occurs inside loops
  | .ret v => pure v
  | .raise e => throw e

/-- run `def get_available_units(self, date, ...)`: the returned value must be `None` or a number -/
def run (sub : Nat → Time → Res (Option Rat)) (body : List Stmt) (self : Env) (date : Time) : Res (Option Rat) :=
  match runBody sub self 0 body [("date", .atom (.time date))] with
  | .ok (.atom .none) => pure Option.none
  | .ok (.atom (.num q)) => pure (some q)
  | .ok _ => throw stuck
  | .error e => throw e

/-! ## scheduler layer: a mutable ledger and handlers for method calls

  The inner loops of schedule.py (`ForwardScheduler` / `BackwardScheduler`.`__get_resource_nearest_available_date`,
  `__shift_by_resource_usage_and_calendar`) and the three methods of `_ResourceUsage` are interpreted by a second
  evaluator over the same syntax.  It covers every construct of the first one and adds:

  * a *ledger* `L : List LRow` — the state of the one `_ResourceUsage` object of a run (`self.rows` inside the class,
    the parameter `resource_usage` inside the schedulers).  Expressions only read it; it is changed by the statements
    `rowsAppend` and `augReserve`.  Rows are typed: resource and task are object references, the date is a datetime,
    the units a number — anything else leaves the fragment (`stuck`);
  * *handlers* for the method calls that leave the translated method: on a resource object `ref i`
    (`get_available_units`, `get_nearest_availability_date` with its default `max_days`) and on the ledger object
    (`reserved`, `reserve`).  Lemmas/ScheduleSrc.lean instantiates them with the interpretation of the translated
    source of those methods.
-/

structure LRow where
  res : Nat
  date : Time
  task : Nat
  units : Rat
  deriving DecidableEq, Repr, Inhabited

def LRow.toAtom (x : LRow) : Atom := .row x.res x.date x.task x.units

structure Handlers where
  /-- `ref i`.get_available_units(t[, task]) -/
  units : Nat → Time → Res (Option Rat)
  /-- `ref i`.get_nearest_availability_date(t, dir) -/
  nearest : Nat → Time → Int → Res Time
  /-- `resource_usage.reserved(resource, date, task)` on the ledger -/
  reserved : List LRow → Val → Val → Val → Res Val
  /-- `resource_usage.reserve(resource, date, task, units)` on the ledger: result and new ledger -/
  reserve : List LRow → Val → Val → Val → Val → Res (Val × List LRow)

/-- an `int` -/
def Atom.asInt? : Atom → Option Int
  | .num q => if q.den = 1 then some q.num else Option.none
  | _ => Option.none

/-- `[elt for x in vs if cond]` where `f v` = `some elt` / `none` (filtered out) for the item `v` -/
def compLoop (f : Atom → Res (Option Atom)) : List Atom → Res (List Atom)
  | [] => pure []
  | v :: vs => do
    let o ← f v
    let rest ← compLoop f vs
    pure (match o with | some a => a :: rest | Option.none => rest)

/-- `sum(vs, acc)` -/
def sumLoop : Val → List Atom → Res Val
  | acc, [] => pure acc
  | acc, v :: vs => do
    let acc' ← arith .add acc (.atom v)
    sumLoop acc' vs

/-- attribute of a `ResourceUsageRow` (a frozen dataclass with exactly these fields) -/
def rowAttr (r : Nat) (d : Time) (t : Nat) (u : Rat) (f : String) : Res Val :=
  if f = "resource" then pure (Atom.ref r)
  else if f = "date" then pure (Atom.time d)
  else if f = "task" then pure (Atom.ref t)
  else if f = "units" then pure (Atom.num u)
  else throw (.crash .attribute)

def Expr.evalW (H : Handlers) (self : Env) (L : List LRow) (env : Env) : Expr → Res Val
  | .none => pure Atom.none
  | .num q => pure (Atom.num q)
  | .bool b => pure (Atom.bool b)
  | .var x => match env.get? x with
    | some v => pure v
    | Option.none => throw stuck
  | .self => pure (Atom.ref 0)
  | .field f => match self.get? f with
    | some v => pure v
    | Option.none => throw (.crash .attribute)
  | .isNone e => do
    let v ← e.evalW H self L env
    pure (Atom.bool (decide (v = .atom .none)))
  | .isNotNone e => do
    let v ← e.evalW H self L env
    pure (Atom.bool (!decide (v = .atom .none)))
  | .cmp op a b => do
    let x ← a.evalW H self L env
    let y ← b.evalW H self L env
    compare op x y
  | .and a b => do
    let x ← a.evalW H self L env
    if (← truth x) then b.evalW H self L env else pure x
  | .or a b => do
    let x ← a.evalW H self L env
    if (← truth x) then pure x else b.evalW H self L env
  | .not a => do
    let x ← a.evalW H self L env
    pure (Atom.bool (!(← truth x)))
  | .bin op a b => do
    let x ← a.evalW H self L env
    let y ← b.evalW H self L env
    arith op x y
  | .ite c a b => do
    let x ← c.evalW H self L env
    if (← truth x) then a.evalW H self L env else b.evalW H self L env
  | .units c d => do
    let o ← c.evalW H self L env
    let t ← d.evalW H self L env
    match o, t with
    | .atom (.ref i), .atom (.time t) =>
      match (← H.units i t) with
      | some q => pure (Atom.num q)
      | Option.none => pure Atom.none
    | .atom .none, _ => throw (.crash .attribute)
    | _, _ => throw stuck
  | .dayStart d => do
    match (← d.evalW H self L env) with
    | .atom (.time t) => pure (Atom.time (midnight t))
    | .atom .none => throw (.crash .attribute)
    | _ => throw stuck
  | .timedelta d => do
    match (← d.evalW H self L env) with
    | .atom .none => throw (.crash .type)
    | .atom a => match a.asNum? with
      | some q => pure (Atom.delta q)
      | Option.none => throw stuck
    | _ => throw stuck
  | .weekday d => do
    match (← d.evalW H self L env) with
    | .atom (.time t) => pure (Atom.num ((Pj.weekday t : Nat) : Rat))
    | .atom .none => throw (.crash .attribute)
    | _ => throw stuck
  | .index d k => do
    let dv ← d.evalW H self L env
    let kv ← k.evalW H self L env
    match dv, kv with
    | .dict kvs, .atom k => match Dict.get? kvs k with
      | some v => pure v
      | Option.none => throw (.crash .key)
    | .atom .none, _ => throw (.crash .type)
    | _, _ => throw stuck
  | .isIn k d => do
    let kv ← k.evalW H self L env
    let dv ← d.evalW H self L env
    match kv, dv with
    | .atom k, .dict kvs => pure (Atom.bool (Dict.get? kvs k).isSome)
    | .atom k, .list vs => pure (Atom.bool (vs.any (fun v => v.pyEq k)))
    | .atom _, .atom .none => throw (.crash .type)
    | _, _ => throw stuck
  | .min a b => do                                      -- `min(a, b)`: `b` if `b < a` else `a`; numbers only
    let x ← a.evalW H self L env
    let y ← b.evalW H self L env
    match x, y with
    | .atom p, .atom q =>
      match p.asNum?, q.asNum? with
      | some u, some v => pure (if v < u then y else x)
      | _, _ => throw stuck
    | _, _ => throw stuck
  | .timedeltaHours h => do
    match (← h.evalW H self L env) with
    | .atom .none => throw (.crash .type)
    | .atom a => match a.asNum? with
      | some q => pure (Atom.delta (q / 24))
      | Option.none => throw stuck
    | _ => throw stuck
  | .attr e f => do
    match (← e.evalW H self L env) with
    | .atom (.row r d t u) => rowAttr r d t u f
    | .atom .none => throw (.crash .attribute)
    | _ => throw stuck
  | .listComp elt x it cond => do                       -- `x` is local to the comprehension
    let vs ← iterOf (← it.evalW H self L env)
    let out ← compLoop (fun v => do
      let c ← cond.evalW H self L (env.set x v)
      if (← truth c) then
        match (← elt.evalW H self L (env.set x v)) with
        | .atom a => pure (some a)
        | _ => throw stuck
      else pure Option.none) vs
    pure (Val.list out)
  | .sum l start => do
    let lv ← l.evalW H self L env
    let s ← start.evalW H self L env
    match lv with
    | .list vs => sumLoop s vs
    | _ => throw stuck
  | .app param body arg => do                           -- a fresh scope holding the parameter only
    let v ← arg.evalW H self L env
    body.evalW H self L [(param, v)]
  | .rows => pure (Val.list (L.map LRow.toAtom))
  | .mkRow r d t u => do
    let rv ← r.evalW H self L env
    let dv ← d.evalW H self L env
    let tv ← t.evalW H self L env
    let uv ← u.evalW H self L env
    match rv, dv, tv, uv with
    | .atom (.ref r), .atom (.time d), .atom (.ref t), .atom (.num u) => pure (Atom.row r d t u)
    | _, _, _, _ => throw stuck
  | .nearest c d dir => do
    let o ← c.evalW H self L env
    let t ← d.evalW H self L env
    let k ← dir.evalW H self L env
    match o, t, k with
    | .atom (.ref i), .atom (.time t), .atom k =>
      match k.asInt? with
      | some dir => do
        let r ← H.nearest i t dir
        pure (Atom.time r)
      | Option.none => throw stuck
    | .atom .none, _, _ => throw (.crash .attribute)
    | _, _, _ => throw stuck
  | .reserved r d t => do
    let rv ← r.evalW H self L env
    let dv ← d.evalW H self L env
    let tv ← t.evalW H self L env
    H.reserved L rv dv tv
  | .datetime _ => throw stuck
  | .now => throw stuck
  | .listNil => throw stuck
  | .listCons _ _ => throw stuck
  | .len _ => throw stuck
  | .max _ _ => throw stuck
  | .max3 _ _ _ => throw stuck
  | .maxList _ => throw stuck
  | .minList _ => throw stuck
  | .isSame _ _ => throw stuck
  | .calcHas _ => throw stuck
  | .resSetdefault _ => throw stuck
  | .callSelf _ _ => throw stuck
  | .reversed _ => throw stuck
  | .idOf _ => throw stuck
  | .prim _ _ => throw stuck
  | .fnRef _ => throw stuck
  | .callVal _ _ => throw stuck
  | .newBox _ => throw stuck
  | .items _ => throw stuck
  | .listOf _ => throw stuck
  | .flatComp _ _ _ _ => throw stuck
  | .anyComp _ _ _ _ => throw stuck
  | .range3 _ _ _ => throw stuck
  | .listIndex _ _ => throw stuck
  | .typeIs _ _ => throw stuck
  | .setOf _ => throw stuck
  | .setInter _ _ => throw stuck
  | .callFn _ _ => throw stuck
  | .dictComp _ _ _ _ _ => throw stuck
  | .dictGet _ _ => throw stuck
  | .dictIndex _ _ => throw stuck
  | .dictValues _ => throw stuck
  | .nextComp _ _ _ _ => throw stuck
  | .listInsert _ _ _ => throw stuck
  | .listRemove _ _ => throw stuck
  | .indexOf _ _ => throw stuck
  | .sortedBy _ _ _ _ => throw stuck
  | .typeIsS _ _ => throw stuck
  | .construct _ _ => throw stuck
  | .dictNil => throw stuck
  | .dictSet _ _ _ => throw stuck
  | .dictHas _ _ => throw stuck
  | .abs _ => throw stuck

inductive OutcomeW
  | normal (env : Env) (L : List LRow)
  | cont (env : Env) (L : List LRow)
  | ret (v : Val) (L : List LRow)
  | raise (e : Err)
  deriving Repr, Inhabited

def forLoopW (x : String) (body : Env → List LRow → OutcomeW) : List Atom → Env → List LRow → OutcomeW
  | [], env, L => .normal env L
  | v :: vs, env, L =>
    match body (env.set x v) L with
    | .normal env' L' => forLoopW x body vs env' L'
    | .cont env' L' => forLoopW x body vs env' L'
    | r => r

/-- `for x in range(i, i + n): body` -/
def rangeLoopW (x : String) (body : Env → List LRow → OutcomeW) : Nat → Int → Env → List LRow → OutcomeW
  | 0, _, env, L => .normal env L
  | n + 1, i, env, L =>
    match body (env.set x (.atom (.num (i : Rat)))) L with
    | .normal env' L' => rangeLoopW x body n (i + 1) env' L'
    | .cont env' L' => rangeLoopW x body n (i + 1) env' L'
    | r => r

def whileLoopW (cond : Env → List LRow → Res Bool) (body : Env → List LRow → OutcomeW) :
    Nat → Env → List LRow → OutcomeW
  | 0, _, _ => .raise stuck
  | fuel + 1, env, L =>
    match cond env L with
    | .error err => .raise err
    | .ok false => .normal env L
    | .ok true =>
      match body env L with
      | .normal env' L' => whileLoopW cond body fuel env' L'
      | .cont env' L' => whileLoopW cond body fuel env' L'
      | r => r

/-- the bounds of `range(lo, hi)`: two `int`s -/
def rangeOf (lo hi : Val) : Res (Int × Nat) :=
  match lo, hi with
  | .atom a, .atom b =>
    match a.asInt?, b.asInt? with
    | some i, some j => pure (i, (j - i).toNat)
    | _, _ => throw stuck
  | _, _ => throw stuck

mutual
def Stmt.execW (H : Handlers) (self : Env) (fuel : Nat) : Stmt → Env → List LRow → OutcomeW
  | .assign x e, env, L =>
    match e.evalW H self L env with
    | .ok v => .normal (env.set x v) L
    | .error err => .raise err
  | .aug x op e, env, L =>
    match env.get? x with
    | Option.none => .raise stuck
    | some old =>
      match e.evalW H self L env with
      | .error err => .raise err
      | .ok v =>
        match arith op old v with
        | .ok r => .normal (env.set x r) L
        | .error err => .raise err
  | .ifElse c t e, env, L =>
    match (do truth (← c.evalW H self L env)) with
    | .ok b => if b then execBlockW H self fuel t env L else execBlockW H self fuel e env L
    | .error err => .raise err
  | .forIn x e body, env, L =>
    match (do iterOf (← e.evalW H self L env)) with
    | .ok vs => forLoopW x (fun env' L' => execBlockW H self fuel body env' L') vs env L
    | .error err => .raise err
  | .while c body, env, L =>
    whileLoopW (fun env' L' => do truth (← c.evalW H self L' env'))
      (fun env' L' => execBlockW H self fuel body env' L') fuel env L
  | .raiseRuntime, _, _ => .raise .runtime
  | .continue, env, L => .cont env L
  | .ret e, env, L =>
    match e.evalW H self L env with
    | .ok v => .ret v L
    | .error err => .raise err
  | .pass, env, L => .normal env L
  | .forRange x lo hi body, env, L =>
    match (do rangeOf (← lo.evalW H self L env) (← hi.evalW H self L env)) with
    | .ok (i, n) => rangeLoopW x (fun env' L' => execBlockW H self fuel body env' L') n i env L
    | .error err => .raise err
  | .rowsAppend e, env, L =>
    match e.evalW H self L env with
    | .ok (.atom (.row r d t u)) => .normal env (L ++ [⟨r, d, t, u⟩])
    | .ok _ => .raise stuck
    | .error err => .raise err
  | .resReserve c d t u, env, L =>
    match (do
      let o ← c.evalW H self L env
      let _ ← d.evalW H self L env
      let _ ← t.evalW H self L env
      let _ ← u.evalW H self L env
      pure o) with
    | .ok (.atom (.ref _)) => .normal env L
    | .ok (.atom .none) => .raise (.crash .attribute)
    | .ok _ => .raise stuck
    | .error err => .raise err
  | .augReserve x op r d t u, env, L =>
    match env.get? x with
    | Option.none => .raise stuck
    | some old =>
      match (do
        let rv ← r.evalW H self L env
        let dv ← d.evalW H self L env
        let tv ← t.evalW H self L env
        let uv ← u.evalW H self L env
        H.reserve L rv dv tv uv) with
      | .error err => .raise err
      | .ok (v, L') =>
        match arith op old v with
        | .ok res => .normal (env.set x res) L'
        | .error err => .raise err
  | .setAttr _ _ _, _, _ => .raise stuck
  | .calcAppend _, _, _ => .raise stuck
  | .recurse _, _, _ => .raise stuck
  | .expr _, _, _ => .raise stuck
  | .boxAppend _ _, _, _ => .raise stuck
  | .boxPop _, _, _ => .raise stuck
  | .ledgerNew, _, _ => .raise stuck
  | .calcNew, _, _ => .raise stuck
  | .attrAppend _ _ _, _, _ => .raise stuck
  | .attrRemove _ _ _, _, _ => .raise stuck
  | .attrClear _ _, _, _ => .raise stuck
  | .tryExcept _ _ _, _, _ => .raise stuck
  | .forLive _ _ _ _, _, _ => .raise stuck

def execBlockW (H : Handlers) (self : Env) (fuel : Nat) : List Stmt → Env → List LRow → OutcomeW
  | [], env, L => .normal env L
  | s :: ss, env, L =>
    match s.execW H self fuel env L with
    | .normal env' L' => execBlockW H self fuel ss env' L'
    | r => r
end

/-- run a method body on the ledger `L` with the given parameter bindings: result and final ledger -/
def runW (H : Handlers) (self : Env) (fuel : Nat) (body : List Stmt) (params : Env) (L : List LRow) :
    Res (Val × List LRow) :=
  match execBlockW H self fuel body params L with
  | .normal _ L' => pure (Atom.none, L')
  | .cont _ L' => pure (Atom.none, L')
  | .ret v L' => pure (v, L')
  | .raise e => throw e

/-! ## pass layer: task objects, `calculated`, the resource table, the clock, calls of `self`

  The recursive passes of schedule.py (`ForwardScheduler.__forward_pass`, `BackwardScheduler.__backward_pass`) are
  interpreted by a third evaluator over the same syntax.  Besides the ledger it threads (`PState`):

  * `heap` — the attributes of the task objects: `ref i`.`f` reads `heap i` (`attr`; a missing attribute is
    AttributeError), `o.f = e` (`setAttr`) writes it.  Attributes are plain slots: the property setters of
    task.py (`estimate`, `spent` raise RuntimeError on negative values) are NOT modelled;
  * `done` — the list `calculated` of object identities; the parameter may only occur as `id(x) in calculated`
    (`calcHas`) and `calculated.append(id(x))` (`calcAppend`);
  * `res` — the dict `self.__resources` (name ↦ resource object), only used through
    `self.__resources.setdefault(k, Resource(k))` (`resSetdefault`): `Resource(k)` is evaluated first (handler
    `newResource`: the reference of the object it constructs) and stored when `k` is missing;
  * `reads` — the number of `datetime.now()` calls so far; the k-th call returns `clock k`.  Programs without a clock
    (wbs.py, alg/critical_path.py) use it as the allocation pointer: `construct`, Model/PyLiteW.lean.

  Expressions may change this state (`now`, `resSetdefault`, `callSelf`), so `Expr.evalP` returns the new state.
  `callSelf m args` leaves the method: handler `call` (it sees and changes the ledger only).  `recurse args` calls the
  method being interpreted: `callP` binds the positional arguments and runs the body with one unit of fuel less; at
  fuel 0 the run ends with RecursionError (`.crash .recursion`) — Python's recursion limit.
  Truthiness (`truthP`) covers `bool`, `None`, numbers and datetimes (always true).  Of the constructs of the other
  two layers the pass layer also interprets `min(a, b)` (here on numbers or datetimes, through `pyMin`) and
  `timedelta(days=e)`; `reversed(l)` yields the items of a list last first (the translator only accepts it as the
  iterable of a `for`, where Python's reverse iterator over an unmodified list yields exactly these).  `while`,
  `for … in range`, the ledger-class constructs and the other calendar constructs are `stuck` here.

  Calc constructs (the pre-checks and `calc` of schedule.py; `stuck` in the first two evaluators):

  * `boxes` — the mutable containers.  A `list` / `set` object that the program mutates or shares between the
    activations of a function is a BOX: `newBox l` appends a new box holding the items of `l` to the store and
    yields the reference `box i`; `items b` reads a box (a snapshot, as a list value); `boxAppend` (`b.append(x)`,
    `s.add(x)`) and `boxPop` (`b.pop()`) change it.  References are atoms, so they are passed to (recursive) calls
    like any other argument and aliasing is what it is in Python.  A box never holds a box (`boxAppend` of a box
    reference is stuck).  A SET box is represented by the list of the items added, WITH repetitions: the translator
    only accepts `x in s`, `x not in s` and `s.add(x)` on a set, for which this representation is faithful.
    All other lists are immutable values (`Val.list`), as before: no construct changes them.
  * function values — `fnRef k` is the k-th entry of the function table of the run (a module-level function, a
    method, or a closed `lambda` the translator lifted), the atom `fn k`; `callVal f args` evaluates `f`, then the
    arguments, and leaves the function: handler `fn k args st` (result and new state).  Lemmas/CalcSrc.lean
    instantiates the handler level by level with the interpretation (`callP`) of the translated source of the
    callee.  The function being interpreted calls itself with `recurse`, as in the pass layer.
  * `prim name args` — a library attribute / method that is not defined in schedule.py (`wbs.tasks`, `wbs.roots`,
    `wbs.clone()`, `task.all_children`, `task.all_parents`): handler `prim` (read-only); Lemmas/CalcSrc.lean gives
    them the meaning the model gives them.
  * `idOf e` = `id(e)` of a task object `ref i`: the `int` `i`.  `listOf e` = `list(e)`.  `flatComp` / `anyComp`:
    a comprehension with several `for` clauses / `any(<generator>)` (which stops at the first truthy element).
    `range3` = the items of `range(lo, hi, step)` (`rangeList`; a zero step: ValueError), `listIndex` = `l[i]` on a
    list with Python's negative indices (IndexError outside the range).
  * `expr e` — an expression statement.  `ledgerNew` / `calcNew`: `x = _ResourceUsage()` / `x = []` for the two
    objects that are interpreter state in this layer (the ledger `L`, the list `calculated` = `done`): the state is
    reset; the translator makes sure that these are the objects passed to the pass.

  Task constructs (the relation setters of task.py and their helpers; `stuck` in the first two evaluators):

  * list-valued attributes.  The private lists of a task object (`__children`, `__predecessors`, `__successors`) are
    attributes holding a list VALUE; `attrAppend` / `attrRemove` / `attrClear` (`o.f.append(x)`, `o.f.remove(x)`,
    `o.f.clear()`) replace the value of the attribute.  This is what Python's in-place operations do as long as no
    other reference to the list object is used while it changes - every such attribute of task.py holds its own list
    object, and the translator rejects a `for` over an attribute whose body (or a function it calls) changes an
    attribute of that name.  `list.remove` of a missing item: ValueError.
  * `typeIs e ty` - `type(e) is ty` / `isinstance(e, Iterable)` - on `None`, a task object or a list; `setOf l` -
    `set(l)` as a value, the first occurrences of the items (only `len`, `in` and `intersection` are applied to it,
    for which the order is irrelevant); `setInter a b`.
  * `truthP` of an object reference is `True` (`Task` defines neither `__bool__` nor `__len__`).
  * `callFn k args` - the call of the k-th function of a PROGRAM; the arguments (`evalArgsP`: the items of the
    argument list `listCons a (listCons b … listNil)`, left to right) are values - lists too, unlike the arguments of
    `callVal` / `callSelf` / `recurse`, which are scalars - and the call is the handler `fnV`.
  * `progH prim tbl fuel` - handlers for a PROGRAM `tbl` (function number ↦ parameters and body): `callFn k args`
    runs the body of the k-th function (`callPV`) with the handlers `progH prim tbl (fuel - 1)`; at fuel 0 the call
    ends with RecursionError.  The fuel thus bounds the DEPTH of nested calls, as Python's recursion limit does;
    functions call themselves through the table like any other function (`recurse` is not used).
-/

structure PState where
  L : List LRow
  heap : Nat → Env
  done : List Nat
  res : List (Atom × Nat)
  reads : Nat
  /-- the mutable containers (calc constructs): `box i` is the i-th entry -/
  boxes : List (List Atom) := []

/-- `ref i`.`f` = `v` -/
def heapSet (h : Nat → Env) (i : Nat) (f : String) (v : Val) : Nat → Env :=
  fun j => if j = i then (h i).set f v else h j

structure PHandlers where
  /-- value of the k-th `datetime.now()` -/
  clock : Nat → Time
  /-- `self.__m(args)` on the ledger: result and new ledger -/
  call : String → List Atom → List LRow → Res (Val × List LRow)
  /-- the object `Resource(name)` constructs -/
  newResource : Atom → Res Nat
  /-- calc constructs: a library attribute / call (`prim name args`), read-only -/
  prim : String → List Atom → PState → Res Val := fun _ _ _ => throw stuck
  /-- calc constructs: the call of the function value `fn k` -/
  fn : Nat → List Atom → PState → Res (Val × PState) := fun _ _ _ => throw stuck
  /-- task constructs: the call of the k-th function of the program, the arguments being values -/
  fnV : Nat → List Val → PState → Res (Val × PState) := fun _ _ _ => throw stuck

/-- the name of a resource: `None` or a `str` -/
def Atom.isName : Atom → Bool
  | .none => true
  | .str _ => true
  | _ => false

def truthP : Val → Res Bool
  | .atom (.bool b) => pure b
  | .atom .none => pure false
  | .atom (.num q) => pure (!decide (q = 0))
  | .atom (.time _) => pure true
  | .atom (.ref _) => pure true       -- an object whose class defines neither `__bool__` nor `__len__` (task constructs)
  | _ => throw stuck

/-- one step of `max`: `b if b > a else a` -/
def pyMax (a b : Val) : Res Val := do
  match (← compare .gt b a) with
  | .atom (.bool true) => pure b
  | _ => pure a

/-- one step of `min`: `b if b < a else a` -/
def pyMin (a b : Val) : Res Val := do
  match (← compare .lt b a) with
  | .atom (.bool true) => pure b
  | _ => pure a

/-- `max(l)` / `min(l)` after the first item -/
def foldLoop (step : Val → Val → Res Val) : Val → List Atom → Res Val
  | m, [] => pure m
  | m, v :: vs => do
    let m' ← step m (.atom v)
    foldLoop step m' vs

/-- `max(l)` / `min(l)`: ValueError on an empty list -/
def foldList (step : Val → Val → Res Val) : Val → Res Val
  | .list [] => throw (.crash .value)
  | .list (v :: vs) => foldLoop step (.atom v) vs
  | .atom .none => throw (.crash .type)
  | _ => throw stuck

/-- `+` also concatenates two lists -/
def arithP (op : BinOp) (a b : Val) : Res Val :=
  match op, a, b with
  | .add, .list xs, .list ys => pure (.list (xs ++ ys))
  | _, _, _ => arith op a b

/-- `[elt for x in vs if cond]`, threading the state -/
def compLoopP (f : Atom → PState → Res (Option Atom × PState)) : List Atom → PState → Res (List Atom × PState)
  | [], st => pure ([], st)
  | v :: vs, st => do
    let (o, st) ← f v st
    let (rest, st) ← compLoopP f vs st
    pure (match o with | some a => a :: rest | Option.none => rest, st)

/-- `[y for x in vs if cond for …]`: the inner lists joined, threading the state -/
def flatLoopP (f : Atom → PState → Res (List Atom × PState)) : List Atom → PState → Res (List Atom × PState)
  | [], st => pure ([], st)
  | v :: vs, st => do
    let (o, st) ← f v st
    let (rest, st) ← flatLoopP f vs st
    pure (o ++ rest, st)

/-- `any(elt for x in vs if cond)`: stops at the first truthy element -/
def anyLoopP (f : Atom → PState → Res (Bool × PState)) : List Atom → PState → Res (Bool × PState)
  | [], st => pure (false, st)
  | v :: vs, st => do
    let (b, st) ← f v st
    if b then pure (true, st) else anyLoopP f vs st

def Atom.isBox : Atom → Bool
  | .box _ => true
  | _ => false

/-- the items of `range(lo, hi, step)`, `step ≠ 0` (Python: `max(0, (hi - lo + step - 1) // step)` items for a
    positive step, `max(0, (lo - hi - step - 1) // (-step))` for a negative one) -/
def rangeList (lo hi step : Int) : List Int :=
  if 0 < step then (List.range ((hi - lo + step - 1) / step).toNat).map (fun (i : Nat) => lo + (i : Int) * step)
  else (List.range ((lo - hi - step - 1) / (-step)).toNat).map (fun (i : Nat) => lo + (i : Int) * step)

/-- `set(l)` as a value: the first occurrences of the items of `l` (Python `==` on scalars) -/
def pyDedup (vs : List Atom) : List Atom := vs.eraseDupsBy (fun a b => a.pyEq b)

/-- `l.remove(a)`: without the first item equal to `a`; `none` when there is no such item (ValueError) -/
def pyErase : List Atom → Atom → Option (List Atom)
  | [], _ => Option.none
  | x :: xs, a => if x.pyEq a then some xs else (pyErase xs a).map (fun r => x :: r)

/-- `type(v) is <ty>` (ty = Task / list / tuple / set) and `isinstance(v, Iterable)` (ty = Iterable) for `v` = None,
    a task object (every object of the store is an instance of `Task` itself) or a `list` -/
def pyTypeIs (v : Val) (ty : String) : Res Bool :=
  if ty = "Task" ∨ ty = "list" ∨ ty = "tuple" ∨ ty = "set" ∨ ty = "Iterable" then
    match v with
    | .atom .none => pure false
    | .atom (.ref _) => pure (decide (ty = "Task"))
    | .list _ => pure (decide (ty = "list" ∨ ty = "Iterable"))
    | _ => throw stuck
  else throw stuck

/-! #### facade constructs: helpers (`listInsert`, `indexOf`, `sortedBy`, `typeIsS`; see the section
    "facade constructs" at the end of the file) -/

/-- Python `list.insert(i, x)`: negative indexes count from the end, out-of-range indexes are clamped -/
def pyInsertA (l : List Atom) (i : Int) (x : Atom) : List Atom :=
  let len : Int := l.length
  let j : Int := if i < 0 then (if i + len < 0 then 0 else i + len) else (if i > len then len else i)
  l.take j.toNat ++ [x] ++ l.drop j.toNat

/-- `l.index(a)`: the position of the first item equal to `a`; `none` when there is no such item (ValueError) -/
def pyIndexOf : List Atom → Atom → Option Nat
  | [], _ => Option.none
  | x :: xs, a => if x.pyEq a then some 0 else (pyIndexOf xs a).map (· + 1)

/-- `a <= b` on sort keys: two numbers (bools included), two datetimes, or two `str`s - abstract strings are numbered
    in lexicographic order, so the order of two strings is the order of their numbers; `none`: not comparable -/
def keyLe (a b : Atom) : Option Bool :=
  match a, b with
  | .str i, .str j => some (decide (i ≤ j))
  | .time x, .time y => some (decide (x ≤ y))
  | a, b =>
    match a.asNum?, b.asNum? with
    | some x, some y => some (decide (x ≤ y))
    | _, _ => Option.none

/-- insert `a` into a list sorted by `le`, before the first item that is not smaller -/
def insLe {α : Type} (le : α → α → Bool) (a : α) : List α → List α
  | [] => [a]
  | b :: l => if le a b then a :: b :: l else b :: insLe le a l

/-- stable sorting by insertion, last item first: items that `le` does not distinguish keep their order -/
def insSort {α : Type} (le : α → α → Bool) : List α → List α
  | [] => []
  | a :: l => insLe le a (insSort le l)

/-- `sorted(items, key=…, reverse=rev)` on (item, key) pairs: the keys must be pairwise comparable (otherwise the
    run leaves the fragment); stable, and with `reverse` the items with equal keys keep their order too -/
def pySorted (rev : Bool) (items : List (Atom × Atom)) : Res (List Atom) :=
  if items.all (fun p => items.all (fun q => (keyLe p.2 q.2).isSome)) then
    pure ((insSort (fun p q => if rev then keyLe q.2 p.2 == some true else keyLe p.2 q.2 == some true) items).map (·.1))
  else throw stuck

/-- `pyTypeIs` where the value may also be a `str` and the type may also be `str` -/
def pyTypeIsS (v : Val) (ty : String) : Res Bool :=
  if ty = "str" then
    match v with
    | .atom (.str _) => pure true
    | .atom .none => pure false
    | .atom (.ref _) => pure false
    | .list _ => pure false
    | _ => throw stuck
  else
    match v with
    | .atom (.str _) =>
      if ty = "Task" ∨ ty = "list" ∨ ty = "tuple" ∨ ty = "set" then pure false
      else if ty = "Iterable" then pure true
      else throw stuck
    | _ => pyTypeIs v ty

/-- `{k: v for x in vs if cond}`: the pairs in order, threading the state (wbs constructs) -/
def pairLoopP (f : Atom → PState → Res (Option (Atom × Atom) × PState)) :
    List Atom → PState → Res (List (Atom × Atom) × PState)
  | [], st => pure ([], st)
  | v :: vs, st => do
    let (o, st) ← f v st
    let (rest, st) ← pairLoopP f vs st
    pure (match o with | some a => a :: rest | Option.none => rest, st)

/-- `next(elt for x in vs if cond)`: stops at the first element; `none` when there is none (wbs constructs) -/
def nextLoopP (f : Atom → PState → Res (Option Atom × PState)) : List Atom → PState → Res (Option Atom × PState)
  | [], st => pure (Option.none, st)
  | v :: vs, st => do
    let (o, st) ← f v st
    match o with
    | some a => pure (some a, st)
    | Option.none => nextLoopP f vs st

mutual
def Expr.evalP (H : PHandlers) (self : Env) (env : Env) : Expr → PState → Res (Val × PState)
  | .none, st => pure (Atom.none, st)
  | .num q, st => pure (Atom.num q, st)
  | .bool b, st => pure (Atom.bool b, st)
  | .var x, st => match env.get? x with
    | some v => pure (v, st)
    | Option.none => throw stuck
  | .field f, st => match self.get? f with
    | some v => pure (v, st)
    | Option.none => throw (.crash .attribute)
  | .isNone e, st => do
    let (v, st) ← e.evalP H self env st
    pure (Atom.bool (decide (v = .atom .none)), st)
  | .isNotNone e, st => do
    let (v, st) ← e.evalP H self env st
    pure (Atom.bool (!decide (v = .atom .none)), st)
  | .cmp op a b, st => do
    let (x, st) ← a.evalP H self env st
    let (y, st) ← b.evalP H self env st
    let r ← compare op x y
    pure (r, st)
  | .and a b, st => do
    let (x, st) ← a.evalP H self env st
    if (← truthP x) then b.evalP H self env st else pure (x, st)
  | .or a b, st => do
    let (x, st) ← a.evalP H self env st
    if (← truthP x) then pure (x, st) else b.evalP H self env st
  | .not a, st => do
    let (x, st) ← a.evalP H self env st
    pure (Atom.bool (!(← truthP x)), st)
  | .bin op a b, st => do
    let (x, st) ← a.evalP H self env st
    let (y, st) ← b.evalP H self env st
    let r ← arithP op x y
    pure (r, st)
  | .ite c a b, st => do
    let (x, st) ← c.evalP H self env st
    if (← truthP x) then a.evalP H self env st else b.evalP H self env st
  | .isIn k d, st => do
    let (kv, st) ← k.evalP H self env st
    let (dv, st) ← d.evalP H self env st
    match kv, dv with
    | .atom k, .list vs => pure (Atom.bool (vs.any (fun v => v.pyEq k)), st)
    | .atom _, .atom .none => throw (.crash .type)
    | _, _ => throw stuck
  | .attr e f, st => do
    let (o, st) ← e.evalP H self env st
    match o with
    | .atom (.ref i) => match (st.heap i).get? f with
      | some v => pure (v, st)
      | Option.none => throw (.crash .attribute)
    | .atom (.row r d t u) => do
      let v ← rowAttr r d t u f
      pure (v, st)
    | .atom .none => throw (.crash .attribute)
    | _ => throw stuck
  | .listComp elt x it cond, st => do                   -- `x` is local to the comprehension
    let (itv, st) ← it.evalP H self env st
    let vs ← iterOf itv
    let (out, st) ← compLoopP (fun v st => do
      let (c, st) ← cond.evalP H self (env.set x v) st
      if (← truthP c) then
        match (← elt.evalP H self (env.set x v) st) with
        | (.atom a, st) => pure (some a, st)
        | _ => throw stuck
      else pure (Option.none, st)) vs st
    pure (Val.list out, st)
  | .sum l start, st => do
    let (lv, st) ← l.evalP H self env st
    let (s, st) ← start.evalP H self env st
    match lv with
    | .list vs => do
      let r ← sumLoop s vs
      pure (r, st)
    | _ => throw stuck
  | .datetime t, st => pure (Atom.time t, st)
  | .now, st => pure (Atom.time (H.clock st.reads), { st with reads := st.reads + 1 })
  | .listNil, st => pure (Val.list [], st)
  | .listCons a l, st => do
    let (x, st) ← a.evalP H self env st
    let (xs, st) ← l.evalP H self env st
    match x, xs with
    | .atom x, .list xs => pure (Val.list (x :: xs), st)
    | _, _ => throw stuck
  | .len l, st => do
    let (lv, st) ← l.evalP H self env st
    match lv with
    | .list vs => pure (Atom.num ((vs.length : Nat) : Rat), st)
    | .atom .none => throw (.crash .type)
    | _ => throw stuck
  | .max a b, st => do
    let (x, st) ← a.evalP H self env st
    let (y, st) ← b.evalP H self env st
    let r ← pyMax x y
    pure (r, st)
  | .max3 a b c, st => do
    let (x, st) ← a.evalP H self env st
    let (y, st) ← b.evalP H self env st
    let (z, st) ← c.evalP H self env st
    let r ← pyMax x y
    let r ← pyMax r z
    pure (r, st)
  | .maxList l, st => do
    let (lv, st) ← l.evalP H self env st
    let r ← foldList pyMax lv
    pure (r, st)
  | .minList l, st => do
    let (lv, st) ← l.evalP H self env st
    let r ← foldList pyMin lv
    pure (r, st)
  | .isSame a b, st => do
    let (x, st) ← a.evalP H self env st
    let (y, st) ← b.evalP H self env st
    match x, y with
    | .atom (.ref i), .atom (.ref j) => pure (Atom.bool (decide (i = j)), st)
    | .atom .none, .atom .none => pure (Atom.bool true, st)
    | .atom .none, .atom (.ref _) => pure (Atom.bool false, st)
    | .atom (.ref _), .atom .none => pure (Atom.bool false, st)
    | _, _ => throw stuck
  | .calcHas e, st => do
    let (o, st) ← e.evalP H self env st
    match o with
    | .atom (.ref i) => pure (Atom.bool (st.done.contains i), st)
    | _ => throw stuck
  | .resSetdefault k, st => do
    let (kv, st) ← k.evalP H self env st
    match kv with
    | .atom a =>
      if a.isName then do                                -- the names of resources: `None` or a `str`
        let r ← H.newResource a
        match st.res.find? (fun p => p.1.pyEq a) with
        | some p => pure (Atom.ref p.2, st)
        | Option.none => pure (Atom.ref r, { st with res := st.res ++ [(a, r)] })
      else throw stuck
    | _ => throw stuck
  | .callSelf m args, st => do
    let (av, st) ← args.evalP H self env st
    match av with
    | .list as => do
      let (v, L') ← H.call m as st.L
      pure (v, { st with L := L' })
    | _ => throw stuck
  | .reversed l, st => do
    let (lv, st) ← l.evalP H self env st
    match lv with
    | .list vs => pure (Val.list vs.reverse, st)
    | .atom .none => throw (.crash .type)
    | _ => throw stuck
  | .min a b, st => do                                  -- `min(a, b)`: `b if b < a else a` (numbers or datetimes)
    let (x, st) ← a.evalP H self env st
    let (y, st) ← b.evalP H self env st
    let r ← pyMin x y
    pure (r, st)
  | .timedelta d, st => do                              -- `timedelta(days=e)`
    let (dv, st) ← d.evalP H self env st
    match dv with
    | .atom .none => throw (.crash .type)
    | .atom a => match a.asNum? with
      | some q => pure (Atom.delta q, st)
      | Option.none => throw stuck
    | _ => throw stuck
  | .idOf e, st => do                                   -- `id(e)`: the identity of a task object, an `int`
    let (o, st) ← e.evalP H self env st
    match o with
    | .atom (.ref i) => pure (Atom.num ((i : Nat) : Rat), st)
    | _ => throw stuck
  | .prim name args, st => do
    let (av, st) ← args.evalP H self env st
    match av with
    | .list as => do
      let v ← H.prim name as st
      pure (v, st)
    | _ => throw stuck
  | .fnRef k, st => pure (Atom.fn k, st)
  | .callVal f args, st => do                           -- the callee first, then the arguments
    let (fv, st) ← f.evalP H self env st
    let (av, st) ← args.evalP H self env st
    match fv, av with
    | .atom (.fn k), .list as => H.fn k as st
    | .atom .none, .list _ => throw (.crash .type)       -- 'NoneType' object is not callable
    | _, _ => throw stuck
  | .newBox l, st => do
    let (lv, st) ← l.evalP H self env st
    let vs ← iterOf lv
    pure (Atom.box st.boxes.length, { st with boxes := st.boxes ++ [vs] })
  | .items b, st => do
    let (bv, st) ← b.evalP H self env st
    match bv with
    | .atom (.box i) =>
      match st.boxes[i]? with
      | some vs => pure (Val.list vs, st)
      | Option.none => throw stuck
    | _ => throw stuck
  | .listOf e, st => do
    let (v, st) ← e.evalP H self env st
    let vs ← iterOf v
    pure (Val.list vs, st)
  | .flatComp inner x it cond, st => do                 -- `x` is local to the comprehension
    let (itv, st) ← it.evalP H self env st
    let vs ← iterOf itv
    let (out, st) ← flatLoopP (fun v st => do
      let (c, st) ← cond.evalP H self (env.set x v) st
      if (← truthP c) then
        match (← inner.evalP H self (env.set x v) st) with
        | (.list l, st) => pure (l, st)
        | _ => throw stuck
      else pure ([], st)) vs st
    pure (Val.list out, st)
  | .anyComp elt x it cond, st => do
    let (itv, st) ← it.evalP H self env st
    let vs ← iterOf itv
    let (b, st) ← anyLoopP (fun v st => do
      let (c, st) ← cond.evalP H self (env.set x v) st
      if (← truthP c) then do
        let (e, st) ← elt.evalP H self (env.set x v) st
        pure ((← truthP e), st)
      else pure (false, st)) vs st
    pure (Atom.bool b, st)
  | .range3 lo hi step, st => do                        -- three `int`s; a zero step: ValueError
    let (a, st) ← lo.evalP H self env st
    let (b, st) ← hi.evalP H self env st
    let (c, st) ← step.evalP H self env st
    match a, b, c with
    | .atom a, .atom b, .atom c =>
      match a.asInt?, b.asInt?, c.asInt? with
      | some i, some j, some k =>
        if k = 0 then throw (.crash .value)
        else pure (Val.list ((rangeList i j k).map (fun (n : Int) => Atom.num (n : Rat))), st)
      | _, _, _ => throw stuck
    | _, _, _ => throw stuck
  | .listIndex l i, st => do
    let (lv, st) ← l.evalP H self env st
    let (iv, st) ← i.evalP H self env st
    match lv, iv with
    | .list vs, .atom a =>
      match a.asInt? with
      | some j =>
        let k : Int := if j < 0 then j + (vs.length : Int) else j
        if k < 0 then throw (.crash .index)
        else match vs[k.toNat]? with
          | some v => pure (Val.atom v, st)
          | Option.none => throw (.crash .index)         -- list index out of range
      | Option.none => throw stuck
    | .atom .none, _ => throw (.crash .type)             -- 'NoneType' object is not subscriptable
    | _, _ => throw stuck
  | .typeIs e ty, st => do
    let (v, st) ← e.evalP H self env st
    let b ← pyTypeIs v ty
    pure (Atom.bool b, st)
  | .setOf l, st => do
    let (lv, st) ← l.evalP H self env st
    match lv with
    | .list vs => pure (Val.list (pyDedup vs), st)
    | .atom .none => throw (.crash .type)
    | _ => throw stuck
  | .setInter a b, st => do
    let (av, st) ← a.evalP H self env st
    let (bv, st) ← b.evalP H self env st
    match av, bv with
    | .list xs, .list ys => pure (Val.list (xs.filter (fun x => ys.any (fun y => y.pyEq x))), st)
    | .atom .none, _ => throw (.crash .attribute)
    | _, _ => throw stuck
  | .callFn k args, st => do                            -- the arguments, left to right, then the call
    let (vs, st) ← args.evalArgsP H self env st
    H.fnV k vs st
  | .self, _ => throw stuck
  | .units _ _, _ => throw stuck
  | .dayStart _, _ => throw stuck
  | .weekday _, _ => throw stuck
  | .index _ _, _ => throw stuck
  | .timedeltaHours _, _ => throw stuck
  | .app _ _ _, _ => throw stuck
  | .rows, _ => throw stuck
  | .mkRow _ _ _ _, _ => throw stuck
  | .nearest _ _ _, _ => throw stuck
  | .reserved _ _ _, _ => throw stuck
  | .dictComp k v x it cond, st => do                   -- `x` is local to the comprehension; the key before the value
    let (itv, st) ← it.evalP H self env st
    let vs ← iterOf itv
    let (out, st) ← pairLoopP (fun a st => do
      let (c, st) ← cond.evalP H self (env.set x a) st
      if (← truthP c) then
        match (← k.evalP H self (env.set x a) st) with
        | (.atom kv, st) =>
          match (← v.evalP H self (env.set x a) st) with
          | (.atom vv, st) => pure (some (kv, vv), st)
          | _ => throw stuck
        | _ => throw stuck
      else pure (Option.none, st)) vs st
    pure (Val.dict (Dict.ofList out), st)
  | .dictGet d k, st => do
    let (dv, st) ← d.evalP H self env st
    let (kv, st) ← k.evalP H self env st
    match dv, kv with
    | .dict kvs, .atom k => match Dict.get? kvs k with
      | some v => pure (Val.atom v, st)
      | Option.none => pure (Atom.none, st)
    | .atom .none, _ => throw (.crash .attribute)
    | _, _ => throw stuck
  | .dictIndex d k, st => do
    let (dv, st) ← d.evalP H self env st
    let (kv, st) ← k.evalP H self env st
    match dv, kv with
    | .dict kvs, .atom k => match Dict.get? kvs k with
      | some v => pure (Val.atom v, st)
      | Option.none => throw (.crash .key)
    | .atom .none, _ => throw (.crash .type)             -- 'NoneType' object is not subscriptable
    | _, _ => throw stuck
  | .dictValues d, st => do
    let (dv, st) ← d.evalP H self env st
    match dv with
    | .dict kvs => pure (Val.list (kvs.map (·.2)), st)
    | .atom .none => throw (.crash .attribute)
    | _ => throw stuck
  | .nextComp elt x it cond, st => do                   -- the iterable first; then lazily, up to the first element
    let (itv, st) ← it.evalP H self env st
    let vs ← iterOf itv
    let (o, st) ← nextLoopP (fun a st => do
      let (c, st) ← cond.evalP H self (env.set x a) st
      if (← truthP c) then
        match (← elt.evalP H self (env.set x a) st) with
        | (.atom r, st) => pure (some r, st)
        | _ => throw stuck
      else pure (Option.none, st)) vs st
    match o with
    | some r => pure (Val.atom r, st)
    | Option.none => throw (.crash .stopIteration)
  -- facade constructs
  | .listInsert l i e, st => do                         -- the list, the index (an `int`), the item
    let (lv, st) ← l.evalP H self env st
    let (iv, st) ← i.evalP H self env st
    let (ev, st) ← e.evalP H self env st
    match lv, iv, ev with
    | .list vs, .atom a, .atom x =>
      match a.asInt? with
      | some j => pure (Val.list (pyInsertA vs j x), st)
      | Option.none => throw stuck
    | .atom .none, _, _ => throw (.crash .attribute)
    | _, _, _ => throw stuck
  | .listRemove l e, st => do
    let (lv, st) ← l.evalP H self env st
    let (ev, st) ← e.evalP H self env st
    match lv, ev with
    | .list vs, .atom a =>
      match pyErase vs a with
      | some vs' => pure (Val.list vs', st)
      | Option.none => throw (.crash .value)             -- list.remove(x): x not in list
    | .atom .none, _ => throw (.crash .attribute)
    | _, _ => throw stuck
  | .indexOf l e, st => do
    let (lv, st) ← l.evalP H self env st
    let (ev, st) ← e.evalP H self env st
    match lv, ev with
    | .list vs, .atom a =>
      match pyIndexOf vs a with
      | some n => pure (Atom.num ((n : Nat) : Rat), st)
      | Option.none => throw (.crash .value)             -- x is not in list
    | .atom .none, _ => throw (.crash .attribute)
    | _, _ => throw stuck
  | .sortedBy key x l rev, st => do                     -- the list, `reverse`, then the key of every item in order
    let (lv, st) ← l.evalP H self env st
    let (rv, st) ← rev.evalP H self env st
    let vs ← iterOf lv
    let r ← truthP rv
    let (ks, st) ← compLoopP (fun v st => do
      match (← key.evalP H self (env.set x v) st) with
      | (.atom a, st) => pure (some a, st)
      | _ => throw stuck) vs st
    let out ← pySorted r (vs.zip ks)
    pure (Val.list out, st)
  | .typeIsS e ty, st => do
    let (v, st) ← e.evalP H self env st
    let b ← pyTypeIsS v ty
    pure (Atom.bool b, st)
  -- critical-path constructs
  | .construct k args, st => do                         -- the arguments, then the new object `ref reads`, then `__init__`
    let (vs, st) ← args.evalArgsP H self env st
    let o := st.reads
    let (_, st) ← H.fnV k (Val.atom (Atom.ref o) :: vs)
      { st with heap := fun j => if j = o then [] else st.heap j, reads := o + 1 }
    pure (Atom.ref o, st)
  | .dictNil, st => pure (Val.dict [], st)
  | .dictSet d k v, st => do                            -- the value, the dict, the key
    let (vv, st) ← v.evalP H self env st
    let (dv, st) ← d.evalP H self env st
    let (kv, st) ← k.evalP H self env st
    match dv, kv, vv with
    | .dict kvs, .atom k, .atom v => pure (Val.dict (Dict.insert kvs k v), st)
    | .atom .none, _, _ => throw (.crash .type)          -- 'NoneType' object does not support item assignment
    | _, _, _ => throw stuck
  | .dictHas k d, st => do
    let (kv, st) ← k.evalP H self env st
    let (dv, st) ← d.evalP H self env st
    match kv, dv with
    | .atom k, .dict kvs => pure (Atom.bool (Dict.get? kvs k).isSome, st)
    | .atom _, .atom .none => throw (.crash .type)
    | _, _ => throw stuck
  | .abs e, st => do
    let (v, st) ← e.evalP H self env st
    match v with
    | .atom .none => throw (.crash .type)
    | .atom a => match a.asNum? with
      | some q => pure (Atom.num (if q < 0 then -q else q), st)
      | Option.none => throw stuck
    | _ => throw stuck

/-- the argument list of `callFn`: `listCons a (listCons b … listNil)`, every item evaluated to a value -/
def Expr.evalArgsP (H : PHandlers) (self : Env) (env : Env) : Expr → PState → Res (List Val × PState)
  | .listNil, st => pure ([], st)
  | .listCons a l, st => do
    let (v, st) ← a.evalP H self env st
    let (vs, st) ← l.evalArgsP H self env st
    pure (v :: vs, st)
  | _, _ => throw stuck
end

inductive OutcomeP
  | normal (env : Env) (st : PState)
  | cont (env : Env) (st : PState)
  | ret (v : Val) (st : PState)
  | raise (e : Err)

def forLoopP (x : String) (body : Env → PState → OutcomeP) : List Atom → Env → PState → OutcomeP
  | [], env, st => .normal env st
  | v :: vs, env, st =>
    match body (env.set x v) st with
    | .normal env' st' => forLoopP x body vs env' st'
    | .cont env' st' => forLoopP x body vs env' st'
    | r => r

/-- `for x in o.f: body` over the LIVE list held by the attribute `f` of the object `ref i` (wbs constructs): `snap` is
    the list at the start of the loop.  Python's list iterator fetches the next item from the list as it is then; the
    loop below checks, every time the iterator is advanced (also when it is exhausted), that the list still is `snap` -
    then the item fetched is the next item of `snap` - and is STUCK otherwise: a run that is not stuck is faithful. -/
def forLiveLoopP (x : String) (i : Nat) (f : String) (snap : List Atom) (body : Env → PState → OutcomeP) :
    List Atom → Env → PState → OutcomeP
  | [], env, st => if (st.heap i).get? f = some (Val.list snap) then .normal env st else .raise stuck
  | v :: vs, env, st =>
    if (st.heap i).get? f = some (Val.list snap) then
      match body (env.set x v) st with
      | .normal env' st' => forLiveLoopP x i f snap body vs env' st'
      | .cont env' st' => forLiveLoopP x i f snap body vs env' st'
      | r => r
    else .raise stuck

mutual
/-- `rec args st` = the call of the method being interpreted with the positional arguments `args` -/
def Stmt.execP (H : PHandlers) (self : Env) (rec : List Atom → PState → Res (Val × PState)) :
    Stmt → Env → PState → OutcomeP
  | .assign x e, env, st =>
    match e.evalP H self env st with
    | .ok (v, st') => .normal (env.set x v) st'
    | .error err => .raise err
  | .aug x op e, env, st =>
    match env.get? x with
    | Option.none => .raise stuck
    | some old =>
      match e.evalP H self env st with
      | .error err => .raise err
      | .ok (v, st') =>
        match arithP op old v with
        | .ok r => .normal (env.set x r) st'
        | .error err => .raise err
  | .ifElse c t e, env, st =>
    match (do let (v, st') ← c.evalP H self env st; pure ((← truthP v), st')) with
    | .ok (b, st') => if b then execBlockP H self rec t env st' else execBlockP H self rec e env st'
    | .error err => .raise err
  | .forIn x e body, env, st =>
    match (do let (v, st') ← e.evalP H self env st; pure ((← iterOf v), st')) with
    | .ok (vs, st') => forLoopP x (fun env' st'' => execBlockP H self rec body env' st'') vs env st'
    | .error err => .raise err
  | .raiseRuntime, _, _ => .raise .runtime
  | .continue, env, st => .cont env st
  | .ret e, env, st =>
    match e.evalP H self env st with
    | .ok (v, st') => .ret v st'
    | .error err => .raise err
  | .pass, env, st => .normal env st
  | .setAttr o f e, env, st =>                          -- the value first, then the target
    match (do
      let (v, st) ← e.evalP H self env st
      let (ov, st) ← o.evalP H self env st
      pure (v, ov, st)) with
    | .ok (v, .atom (.ref i), st') =>
      .normal env { st' with heap := heapSet st'.heap i f v }
    | .ok (_, .atom .none, _) => .raise (.crash .attribute)
    | .ok _ => .raise stuck
    | .error err => .raise err
  | .calcAppend e, env, st =>
    match e.evalP H self env st with
    | .ok (.atom (.ref i), st') => .normal env { st' with done := st'.done ++ [i] }
    | .ok _ => .raise stuck
    | .error err => .raise err
  | .recurse args, env, st =>
    match (do
      let (av, st) ← args.evalP H self env st
      match av with
      | .list as => rec as st
      | _ => throw stuck) with
    | .ok (_, st') => .normal env st'
    | .error err => .raise err
  | .expr e, env, st =>
    match e.evalP H self env st with
    | .ok (_, st') => .normal env st'
    | .error err => .raise err
  | .boxAppend b e, env, st =>                          -- the container first, then the item
    match (do
      let (bv, st) ← b.evalP H self env st
      let (v, st) ← e.evalP H self env st
      pure (bv, v, st)) with
    | .ok (.atom (.box i), .atom a, st') =>
      match st'.boxes[i]? with
      | some vs => if a.isBox then .raise stuck else .normal env { st' with boxes := st'.boxes.set i (vs ++ [a]) }
      | Option.none => .raise stuck
    | .ok (.atom .none, _, _) => .raise (.crash .attribute)
    | .ok _ => .raise stuck
    | .error err => .raise err
  | .boxPop b, env, st =>
    match b.evalP H self env st with
    | .ok (.atom (.box i), st') =>
      match st'.boxes[i]? with
      | some [] => .raise (.crash .index)                -- pop from empty list
      | some vs => .normal env { st' with boxes := st'.boxes.set i vs.dropLast }
      | Option.none => .raise stuck
    | .ok (.atom .none, _) => .raise (.crash .attribute)
    | .ok _ => .raise stuck
    | .error err => .raise err
  | .ledgerNew, env, st => .normal env { st with L := [] }
  | .calcNew, env, st => .normal env { st with done := [] }
  | .attrAppend o f e, env, st =>                       -- the object, then the item; the list is changed in place
    match (do
      let (ov, st) ← o.evalP H self env st
      let (v, st) ← e.evalP H self env st
      pure (ov, v, st)) with
    | .ok (.atom (.ref i), .atom a, st') =>
      match (st'.heap i).get? f with
      | some (.list vs) => .normal env { st' with heap := heapSet st'.heap i f (.list (vs ++ [a])) }
      | some (.atom .none) => .raise (.crash .attribute)
      | some _ => .raise stuck
      | Option.none => .raise (.crash .attribute)
    | .ok (.atom .none, _, _) => .raise (.crash .attribute)
    | .ok _ => .raise stuck
    | .error err => .raise err
  | .attrRemove o f e, env, st =>
    match (do
      let (ov, st) ← o.evalP H self env st
      let (v, st) ← e.evalP H self env st
      pure (ov, v, st)) with
    | .ok (.atom (.ref i), .atom a, st') =>
      match (st'.heap i).get? f with
      | some (.list vs) =>
        match pyErase vs a with
        | some vs' => .normal env { st' with heap := heapSet st'.heap i f (.list vs') }
        | Option.none => .raise (.crash .value)          -- list.remove(x): x not in list
      | some (.atom .none) => .raise (.crash .attribute)
      | some _ => .raise stuck
      | Option.none => .raise (.crash .attribute)
    | .ok (.atom .none, _, _) => .raise (.crash .attribute)
    | .ok _ => .raise stuck
    | .error err => .raise err
  | .attrClear o f, env, st =>
    match o.evalP H self env st with
    | .ok (.atom (.ref i), st') =>
      match (st'.heap i).get? f with
      | some (.list _) => .normal env { st' with heap := heapSet st'.heap i f (.list []) }
      | some (.atom .none) => .raise (.crash .attribute)
      | some _ => .raise stuck
      | Option.none => .raise (.crash .attribute)
    | .ok (.atom .none, _) => .raise (.crash .attribute)
    | .ok _ => .raise stuck
    | .error err => .raise err
  | .while _ _, _, _ => .raise stuck
  | .forRange _ _ _ _, _, _ => .raise stuck
  | .rowsAppend _, _, _ => .raise stuck
  | .resReserve _ _ _ _, _, _ => .raise stuck
  | .augReserve _ _ _ _ _ _, _, _ => .raise stuck
  | .tryExcept body exc handler, env, st =>             -- the body writes nothing (translator): the handler starts from `st`
    match execBlockP H self rec body env st with
    | .raise e => if e = exc then execBlockP H self rec handler env st else .raise e
    | r => r
  | .forLive x o f body, env, st =>
    match o.evalP H self env st with
    | .ok (.atom (.ref i), st') =>
      match (st'.heap i).get? f with
      | some (.list vs) =>
        forLiveLoopP x i f vs (fun env' st'' => execBlockP H self rec body env' st'') vs env st'
      | some (.atom .none) => .raise (.crash .type)      -- 'NoneType' object is not iterable
      | some _ => .raise stuck
      | Option.none => .raise (.crash .attribute)
    | .ok (.atom .none, _) => .raise (.crash .attribute)
    | .ok _ => .raise stuck
    | .error err => .raise err

def execBlockP (H : PHandlers) (self : Env) (rec : List Atom → PState → Res (Val × PState)) :
    List Stmt → Env → PState → OutcomeP
  | [], env, st => .normal env st
  | s :: ss, env, st =>
    match s.execP H self rec env st with
    | .normal env' st' => execBlockP H self rec ss env' st'
    | r => r
end

/-- bind positional arguments to the parameter names (a wrong number of arguments: TypeError) -/
def bindParams : List String → List Atom → Res Env
  | [], [] => pure []
  | p :: ps, a :: as => do
    let rest ← bindParams ps as
    pure ((p, Val.atom a) :: rest)
  | _, _ => throw (.crash .type)

/-- call the method `def m(self, params...): body` with at most `fuel` nested activations -/
def callP (H : PHandlers) (self : Env) (params : List String) (body : List Stmt) :
    Nat → List Atom → PState → Res (Val × PState)
  | 0, _, _ => throw (.crash .recursion)
  | fuel + 1, args, st =>
    match bindParams params args with
    | .error e => throw e
    | .ok env =>
      match execBlockP H self (callP H self params body fuel) body env st with
      | .normal _ st' => pure (Atom.none, st')
      | .cont _ st' => pure (Atom.none, st')
      | .ret v st' => pure (v, st')
      | .raise e => throw e

/-! ### programs: a table of functions calling one another (task constructs) -/

/-- function number ↦ parameter names and body -/
abbrev FunTable := Nat → Option (List String × List Stmt)

/-- bind positional arguments (values) to the parameter names (a wrong number of arguments: TypeError) -/
def bindParamsV : List String → List Val → Res Env
  | [], [] => pure []
  | p :: ps, a :: as => do
    let rest ← bindParamsV ps as
    pure ((p, a) :: rest)
  | _, _ => throw (.crash .type)

/-- run the body of a function of a program on the arguments `args` (`recurse` is not used: stuck) -/
def callPV (H : PHandlers) (params : List String) (body : List Stmt) (args : List Val) (st : PState) :
    Res (Val × PState) :=
  match bindParamsV params args with
  | .error e => throw e
  | .ok env =>
    match execBlockP H [] (fun _ _ => throw stuck) body env st with
    | .normal _ st' => pure (Atom.none, st')
    | .cont _ st' => pure (Atom.none, st')
    | .ret v st' => pure (v, st')
    | .raise e => throw e

/-- handlers of a program: every call of a function of the table costs one unit of `fuel` (the depth of nested calls
    is bounded, as by Python's recursion limit); `prim` gives the library attributes their meaning -/
def progH (prim : String → List Atom → PState → Res Val) (tbl : FunTable) : Nat → PHandlers
  | 0 =>
    { clock := fun _ => 0
      call := fun _ _ _ => throw stuck
      newResource := fun _ => throw stuck
      prim := prim
      fnV := fun _ _ _ => throw (.crash .recursion) }
  | fuel + 1 =>
    { clock := fun _ => 0
      call := fun _ _ _ => throw stuck
      newResource := fun _ => throw stuck
      prim := prim
      fnV := fun k args st =>
        match tbl k with
        | some (params, body) => callPV (progH prim tbl fuel) params body args st
        | Option.none => throw stuck }

/-- call the k-th function of the program with at most `fuel` nested calls -/
def runProg (prim : String → List Atom → PState → Res Val) (tbl : FunTable) (fuel : Nat) (k : Nat)
    (args : List Val) (st : PState) : Res (Val × PState) :=
  (progH prim tbl fuel).fnV k args st

/-! ### facade constructs (tools/extract_facade.py, Extracted/FacadeSrc.lean, Lemmas/FacadeSrc*.lean)

  The methods of the list facades of task.py (`_ChildrenList`, `_PredecessorsList`, `_SuccessorsList`,
  `_ImmutableTaskList`) and the operators of `Task` are further functions of the PROGRAM task.py (`progH`); they add five
  expressions and use `nextComp` of the wbs constructs, all on list VALUES (interpreted by `Expr.evalP` only, `stuck` in the first two evaluators):

  * `listInsert l i e` / `listRemove l e` - the list after `l.insert(i, e)` (`pyInsertA`: Python's treatment of negative
    and out-of-range indexes) / `l.remove(e)` (`pyErase`; ValueError when `e` is missing).  The translator writes the
    result back to where the list lives: a fresh local (`x = listInsert x …`) or the attribute holding the raw list of
    a task (`setAttr o f (listInsert (attr o f) …)`);
  * `indexOf l e` - `l.index(e)` (ValueError when missing);
  * `nextComp elt x it cond` (the constructor shared with the wbs constructs; `nextLoopP`) - `next(elt for x in it if
    cond)`: the first element (lazily), StopIteration when none;
  * `sortedBy key x l rev` - `sorted(l, key=lambda x: key, reverse=rev)`: the keys of all items are computed first
    (`key` with `x` bound to the item, in its own scope like a comprehension variable), then `pySorted` sorts the
    items stably by `keyLe` (numbers, datetimes, abstract strings numbered in lexicographic order); keys that are not
    pairwise comparable leave the fragment;
  * `typeIsS e ty` - `type(e) is ty` as `typeIs`, where the value may also be a `str` and `ty` may also be `str`. -/

/-! ### critical-path constructs (tools/extract_critpath.py, Extracted/CritPathSrc.lean, Lemmas/CritPathSrc*.lean)

  alg/critical_path.py builds a network of objects of its own classes (`_PNode`, `_PLink`) that refer to one another and
  are changed in place.  They are objects of the store like the task objects (`ref i`, attributes read by `attr`, written by
  `setAttr`, list-valued attributes changed in place by `attrAppend`); five expressions are added (interpreted by
  `Expr.evalP` only, `stuck` in the first two evaluators):

  * `construct k args` - the instantiation `C(args...)` of a class of the program whose `__init__` is the k-th function:
    the arguments are evaluated (values, left to right), then a NEW object is allocated - convention of Model/PyLiteW.lean:
    the component `reads` of `PState` is the allocation pointer, the new object is `ref reads`, it has no attributes -,
    then `__init__(obj, args...)` is called (handler `fnV`, one unit of fuel); the value is the object;
  * `dictNil` / `dictSet d k v` / `dictHas k d` - `{}`, the dict after `d[k] = v` (an existing key keeps its position;
    evaluated in Python's order: value, dict, key), `k in d`.  A dict held by an attribute that nothing else refers to is
    changed by `setAttr o f (dictSet (attr o f) k v)`;
  * `abs e` - `abs(e)` on a number. -/

end Pj.PyLite

/-
  Model/Sched.lean — schedule.py: usage ledger, the availability/fill loops, the recursive forward and backward
  passes and the two `calc` entry points, as functions of an explicit input (`Env`) and clock.
  The WBS handed to `calc` is cloned first (wbs.clone(), C10); the model works on the uids of the input, the
  clone being isomorphic.  Tasks that are not members of the WBS ("outside" predecessors) are part of the
  universe with `member = false`.
-/
import PjVerif.Model.Calendar
import PjVerif.Model.Graph
import PjVerif.Extracted.Sched
namespace Pj

/-- static description of one task object -/
structure TaskInfo where
  tid : Int
  parent : Option Uid          -- public parent (none for root tasks and outside tasks without parent)
  children : List Uid
  preds : List Uid
  succs : List Uid
  member : Bool                -- member of the WBS being scheduled
  resource : Option Nat        -- key of the resource name (none = Python None)
  milestone : Bool             -- the *effective* flag: flagged and childless (a flagged task with children is a summary)
  minStart : Option Time
  deriving Inhabited

/-- the mutable fields the passes read and write -/
structure Fields where
  start : Option Time
  end_ : Option Time
  est : Option Rat
  spent : Option Rat
  deriving Inhabited, BEq, Repr

/-- one usage row: (resource name key, day, task, units) -/
structure Row where
  res : Option Nat
  day : Int
  task : Uid
  units : Rat
  deriving Inhabited, BEq, Repr

structure Env where
  n : Nat
  info : Uid → TaskInfo
  roots : List Uid
  balance : Bool
  defaultEst : Rat
  clock : Nat → Time           -- value of the k-th `datetime.now()` of this calc
  bound : Time                 -- project start (forward) / project end (backward)

structure SS where
  f : Uid → Fields
  rows : List Row
  done : List Uid              -- `calculated` (object identities, repaired)
  res : List (Option Nat × Cal)  -- the scheduler's name → resource table, in insertion order
  reads : Nat                  -- clock reads so far

def defaultCal : Cal :=
  .weekly none none ((List.range 7).map (fun (i : Nat) => if Extracted.defaultDays.contains (Int.ofNat i) then Extracted.defaultUnits else 0))

/-- `self.__resources.setdefault(name, Resource(name))` -/
def resLookup (res : List (Option Nat × Cal)) (k : Option Nat) : List (Option Nat × Cal) × Cal :=
  match res.find? (fun p => p.1 == k) with
  | some p => (res, p.2)
  | none => (res ++ [(k, defaultCal)], defaultCal)

/-- `_ResourceUsage.reserved(resource, date[, task])` -/
def reserved (rows : List Row) (r : Option Nat) (day : Int) (task : Option Uid) : Rat :=
  ((rows.filter (fun x => x.res == r && x.day == day && (match task with | some t => x.task == t | none => true))).map (·.units)).sum

def usedBy (env : Env) (rows : List Row) (r : Option Nat) (task : Uid) (day : Int) : Rat :=
  reserved rows r day (if env.balance then none else some task)

def now (env : Env) (σ : SS) : Time × SS := (env.clock σ.reads, { σ with reads := σ.reads + 1 })

def maxT (a b : Time) : Time := if a < b then b else a
def minT (a b : Time) : Time := if b < a then b else a

/-! ### forward loops (schedule.py:179-238) -/

/-- the `for i in range(max_steps)` loop of `__get_resource_nearest_available_date` (forward) -/
def nearestFwdLoop (cal : Cal) (used : Int → Rat) : Nat → Time → Res Time
  | 0, _ => throw .runtime
  | k + 1, d => do
    let c ← capR cal d
    let available := c - used (dayOf d)
    if 0 < available then
      if c = 0 then throw (.crash .zeroDivision)
      else pure (midnight d + (1 - available / c))
    else nearestFwdLoop cal used k (d + 1)

def nearestFwd (cal : Cal) (used : Int → Rat) (start : Time) : Res Time := do
  -- repaired: capacity is asked for at the day's midnight, as the ledger and the fill loop do
  let d ← search cal 1 Extracted.maxDays (midnight start)
  nearestFwdLoop cal used Extracted.fwdNearestMaxSteps d

/-- the `while left_hours > 0` loop of `__shift_by_resource_usage_and_calendar` (forward); `day` is the day
    *before* the one visited next; returns the new rows, the last visited day and its capacity -/
def fillFwd (cal : Cal) (used : Int → Rat) (maxSteps : Nat) : Nat → Nat → Int → Rat → Rat → List (Int × Rat) →
    Res (List (Int × Rat) × Int × Rat)
  | 0, _, _, _, _, _ => throw .runtime
  | fuel + 1, days, day, left, dau, acc =>
    if left ≤ 0 then pure (acc, day, dau)
    else do
      let d := day + 1
      let c ← capR cal (d : Rat)
      let avail := c - used d
      let (left', acc') := if 0 < avail then (left - min left avail, acc ++ [(d, min left avail)]) else (left, acc)
      if days + 1 > maxSteps then throw .runtime
      else fillFwd cal used maxSteps fuel (days + 1) d left' c acc'

/-- `__shift_by_resource_usage_and_calendar` (forward): returns the end date and the rows reserved -/
def shiftFwd (cal : Cal) (used : Int → Rat) (start : Time) (left : Rat) : Res (Time × List (Int × Rat)) :=
  if left = 0 then pure (start, [])
  else do
    let (rows, day, dau) ← fillFwd cal used Extracted.fwdShiftMaxSteps (Extracted.fwdShiftMaxSteps + 2) 0 (dayOf start - 1) left 0 []
    -- reserved on the last visited day, now including the rows just made
    let r := used day + ((rows.filter (fun p => p.1 == day)).map (·.2)).sum
    if dau = 0 then throw (.crash .zeroDivision)
    else pure ((day : Rat) + r / dau, rows)

/-! ### backward loops (schedule.py:353-410) -/

def nearestBwdLoop (cal : Cal) (used : Int → Rat) : Nat → Time → Res Time
  | 0, _ => throw .runtime
  | k + 1, d => do
    let c ← capR cal d
    let available := c - used (dayOf d)
    if 0 < available then
      if c = 0 then throw (.crash .zeroDivision)
      else pure (midnight d - (1 - available / c))
    else nearestBwdLoop cal used k (d - 1)

def nearestBwd (cal : Cal) (used : Int → Rat) (start : Time) : Res Time := do
  let d ← search cal (-1) Extracted.maxDays (midnight start)
  nearestBwdLoop cal used Extracted.bwdNearestMaxSteps (d - 1)

def fillBwd (cal : Cal) (used : Int → Rat) (maxSteps : Nat) : Nat → Nat → Int → Rat → List (Int × Rat) →
    Res (List (Int × Rat) × Int)
  | 0, _, _, _, _ => throw .runtime
  | fuel + 1, days, day, left, acc =>
    if left ≤ 0 then pure (acc, day)
    else do
      let d := day - 1
      let c ← capR cal (d : Rat)
      let avail := c - used d
      let (left', acc') := if 0 < avail then (left - min left avail, acc ++ [(d, min left avail)]) else (left, acc)
      if days + 1 > maxSteps then throw .runtime
      else fillBwd cal used maxSteps fuel (days + 1) d left' acc'

/-- `__shift_by_resource_usage_and_calendar` (backward); the final share is computed from `used`
    (repaired: the same notion of "reserved" as the loop uses) -/
def shiftBwd (cal : Cal) (used : Int → Rat) (end_ : Time) (left : Rat) : Res (Time × List (Int × Rat)) :=
  if left = 0 then pure (end_, [])
  else do
    let (rows, day) ← fillBwd cal used Extracted.bwdShiftMaxSteps (Extracted.bwdShiftMaxSteps + 2) 0 (dayOf end_) left []
    let r := used day + ((rows.filter (fun p => p.1 == day)).map (·.2)).sum
    let c ← capR cal (day : Rat)
    if c = 0 then throw (.crash .zeroDivision)
    else pure ((day : Rat) + 1 - r / c, rows)

/-! ### the recursive passes -/

def setF (σ : SS) (t : Uid) (g : Fields → Fields) : SS := { σ with f := upd σ.f t (g (σ.f t)) }

def passList (step : SS → Uid → Res SS) : SS → List Uid → Res SS
  | σ, [] => pure σ
  | σ, x :: xs => do
    let σ' ← step σ x
    passList step σ' xs

def epoch : Time := 0

/-- `max([t.end for t in preds if t.end is not None] + [min_date])` -/
def maxEnds (σ : SS) (l : List Uid) (minDate : Time) : Time :=
  (l.filterMap (fun t => (σ.f t).end_)).foldl maxT minDate

def minStarts (σ : SS) (l : List Uid) (minDate : Time) : Time :=
  (l.filterMap (fun t => (σ.f t).start)).foldl minT minDate

/-- `sum([ch.estimate for ch in children])`: TypeError when a child has none -/
def sumOpt (l : List (Option Rat)) : Res Rat :=
  l.foldlM (fun acc v => match v with | some x => pure (acc + x) | none => throw (.crash .type)) 0

def addRows (σ : SS) (r : Option Nat) (t : Uid) (rows : List (Int × Rat)) : SS :=
  { σ with rows := σ.rows ++ rows.map (fun p => { res := r, day := p.1, task := t, units := p.2 }) }

/-- `if _task.estimate is None … if _task.spent is None …` (schedule.py:280-290, 451-461): leaves get the default
    estimate / zero spent, summary tasks the sums over their children -/
def fillEst (env : Env) (t : Uid) (σ : SS) : Res SS := do
  let info := env.info t
  let isLeaf := info.children.isEmpty
  let σ ← (match (σ.f t).est with
    | some _ => pure σ
    | none =>
      if isLeaf then pure (setF σ t (fun g => { g with est := some env.defaultEst }))
      else do
        let e ← sumOpt (info.children.map (fun c => (σ.f c).est))
        pure (setF σ t (fun g => { g with est := some e })))
  match (σ.f t).spent with
  | some _ => pure σ
  | none =>
    if isLeaf then pure (setF σ t (fun g => { g with spent := some 0 }))
    else do
      let e ← sumOpt (info.children.map (fun c => (σ.f c).spent))
      pure (setF σ t (fun g => { g with spent := some e }))

/-- remaining work as the pass sees it -/
def leftOf (σ : SS) (t : Uid) : Rat :=
  let est := ((σ.f t).est).getD 0
  let sp := ((σ.f t).spent).getD 0
  if est - sp < 0 then 0 else est - sp

/-- forward: `if _task.start is None` (schedule.py:267-278) -/
def fwdStart (env : Env) (cal : Cal) (used : Int → Rat) (t : Uid) (maxPred : Time) (σ : SS) : Res SS :=
  let info := env.info t
  match (σ.f t).start with
  | some _ => pure σ
  | none =>
    if info.children.isEmpty then do
      let (nw, σ) := now env σ
      let s0 := maxT (maxT maxPred nw) (info.minStart.getD epoch)
      let s ← nearestFwd cal used s0
      pure (setF σ t (fun g => { g with start := some s }))
    else
      let cs := info.children.filterMap (fun c => (σ.f c).start)
      match cs with
      | [] => pure (setF σ t (fun g => { g with start := some epoch }))
      | c :: rest => pure (setF σ t (fun g => { g with start := some (rest.foldl minT c) }))

/-- forward: `if _task.end is None` (schedule.py:292-303); the only place where the forward pass reserves.
    Repaired (KF-S6): the second clock reading clamps the end only when it is later than the project start -/
def fwdEnd (env : Env) (cal : Cal) (used : Int → Rat) (t : Uid) (σ : SS) : Res SS :=
  let info := env.info t
  match (σ.f t).end_ with
  | some _ => pure σ
  | none =>
    if info.children.isEmpty then do
      let st := ((σ.f t).start).getD epoch
      let (nw, σ) := now env σ
      let (e, rows) ← shiftFwd cal used (maxT st nw) (leftOf σ t)
      let σ := addRows σ info.resource t rows
      let (nw2, σ) := now env σ
      pure (setF σ t (fun g => { g with end_ := some (maxT (if env.bound < nw2 then maxT e nw2 else e) st) }))
    else
      let ce := info.children.filterMap (fun c => (σ.f c).end_)
      match ce with
      | [] => throw (.crash .value)       -- max() of an empty sequence
      | c :: rest => pure (setF σ t (fun g => { g with end_ := some (rest.foldl maxT c) }))

def markDone (σ : SS) (t : Uid) : SS := { σ with done := σ.done ++ [t] }

/-- the body of `__forward_pass` after predecessors and children have been handled (schedule.py:258-305) -/
def fwdPlace (env : Env) (σ : SS) (t : Uid) (maxPred : Time) : Res SS := do
  let info := env.info t
  let (res', cal) := resLookup σ.res info.resource
  let σ := { σ with res := res' }
  if info.milestone then
    pure (markDone (setF σ t (fun _ => { start := some maxPred, end_ := some maxPred, est := some 0, spent := some 0 })) t)
  else do
    let used := usedBy env σ.rows info.resource t
    let σ ← fwdStart env cal used t maxPred σ
    let σ ← fillEst env t σ
    let σ ← fwdEnd env cal used t σ
    pure (markDone σ t)

/-- `__forward_pass` (schedule.py:240-305, repaired: identity bookkeeping, no descent into outside tasks).
    `stk` = tasks in progress; meeting one again is Python's unbounded recursion (RecursionError). -/
def fwdPass (env : Env) : Nat → List Uid → SS → Uid → Time → Res SS
  | 0, _, _, _, _ => throw (.crash .recursion)
  | fuel + 1, stk, σ, t, minDate =>
    if σ.done.contains t then pure σ
    else if stk.contains t then throw (.crash .recursion)
    else do
      let info := env.info t
      let σ ← passList (fun σ p => if (env.info p).member == info.member then fwdPass env fuel (t :: stk) σ p minDate else pure σ)
                 σ info.preds
      let maxPred := maxEnds σ info.preds minDate
      let σ ← passList (fun σ c => fwdPass env fuel (t :: stk) σ c maxPred) σ info.children
      fwdPlace env σ t maxPred

/-- backward: `if _task.end is None` (schedule.py:439-449) -/
def bwdEnd (env : Env) (cal : Cal) (used : Int → Rat) (t : Uid) (minDate minSucc : Time) (σ : SS) : Res SS :=
  let info := env.info t
  match (σ.f t).end_ with
  | some _ => pure σ
  | none =>
    if info.children.isEmpty then do
      let e ← nearestBwd cal used minSucc
      pure (setF σ t (fun g => { g with end_ := some (e + 1) }))
    else
      let ce := info.children.filterMap (fun c => (σ.f c).end_)
      match ce with
      | [] => pure (setF σ t (fun g => { g with end_ := some minDate }))
      | c :: rest => pure (setF σ t (fun g => { g with end_ := some (rest.foldl maxT c) }))

/-- backward: the start (schedule.py:463-473); the only place where the backward pass reserves -/
def bwdStart (env : Env) (cal : Cal) (used : Int → Rat) (t : Uid) (minDate : Time) (σ : SS) : Res SS :=
  let info := env.info t
  if info.children.isEmpty then do
    let en := minT (((σ.f t).end_).getD epoch) minDate
    let (s, rows) ← shiftBwd cal used en (leftOf σ t)
    let σ := addRows σ info.resource t rows
    let s' := match (σ.f t).start with | some old => minT old s | none => s
    pure (setF σ t (fun g => { g with start := some s' }))
  else
    let cs := info.children.filterMap (fun c => (σ.f c).start)
    match cs with
    | [] => throw (.crash .value)
    | c :: rest => pure (setF σ t (fun g => { g with start := some (rest.foldl minT c) }))

/-- body of `__backward_pass` after successors and children (schedule.py:430-475) -/
def bwdPlace (env : Env) (σ : SS) (t : Uid) (minDate minSucc : Time) : Res SS := do
  let info := env.info t
  let (res', cal) := resLookup σ.res info.resource
  let σ := { σ with res := res' }
  if info.milestone then
    pure (markDone (setF σ t (fun _ => { start := some minSucc, end_ := some minSucc, est := some 0, spent := some 0 })) t)
  else do
    let used := usedBy env σ.rows info.resource t
    let σ ← bwdEnd env cal used t minDate minSucc σ
    let σ ← fillEst env t σ
    let σ ← bwdStart env cal used t minDate σ
    pure (markDone σ t)

def bwdPass (env : Env) : Nat → List Uid → SS → Uid → Time → Res SS
  | 0, _, _, _, _ => throw (.crash .recursion)
  | fuel + 1, stk, σ, t, minDate =>
    if σ.done.contains t then pure σ
    else if stk.contains t then throw (.crash .recursion)
    else do
      let info := env.info t
      let σ ← passList (fun σ p => if (env.info p).member == info.member then bwdPass env fuel (t :: stk) σ p minDate else pure σ)
                 σ info.succs
      let minSucc := minStarts σ info.succs minDate
      let σ ← passList (fun σ c => bwdPass env fuel (t :: stk) σ c minSucc) σ info.children.reverse
      bwdPlace env σ t minDate minSucc

/-! ### pre-checks (schedule.py:11-44 repaired, 326-337) -/

/-- members of the WBS in `WBS.tasks` order -/
def members (env : Env) : Option (List Uid) :=
  (env.roots.mapM (fun r => subtreeF (fun u => (env.info u).children) (env.n + 1) r)).map List.flatten

/-- `_validate_graph_isolation`: a predecessor outside the WBS must have both dates -/
def isolationOk (env : Env) (f : Uid → Fields) (mem : List Uid) : Bool :=
  mem.all (fun t => (env.info t).preds.all (fun p =>
    mem.contains p || ((f p).start.isSome && (f p).end_.isSome)))

/-- `_check_loops_from_task`: depth-first search with an in-progress list and a validated set;
    returns the new validated set, `runtime` when it meets a task that is in progress -/
def loopsFrom (next : Uid → List Uid) : Nat → List Uid → List Uid → Uid → Res (List Uid)
  | 0, _, _, _ => throw (.crash .recursion)
  | fuel + 1, visiting, validated, t =>
    if validated.contains t then pure validated
    else if visiting.contains t then throw .runtime
    else do
      let v ← (next t).foldlM (fun val s => loopsFrom next fuel (t :: visiting) val s) validated
      pure (v ++ [t])

def leavesOf (env : Env) (t : Uid) : Option (List Uid) :=
  if (env.info t).children.isEmpty then some [t]
  else (descF (fun u => (env.info u).children) (env.n + 1) t).map (fun l => l.filter (fun x => (env.info x).children.isEmpty))

/-- non-hidden ancestors, nearest first (`all_parents`) -/
def ancestorsOf (env : Env) : Nat → Uid → List Uid
  | 0, _ => []
  | f + 1, t => match (env.info t).parent with
    | none => []
    | some p => p :: ancestorsOf env f p

/-- `_waits_for(leaf)` -/
def waitsFor (env : Env) (t : Uid) : List Uid :=
  ((t :: ancestorsOf env (env.n + 1) t).flatMap (fun x => (env.info x).preds)).flatMap (fun p => (leavesOf env p).getD [])

def checkLoops (env : Env) (mem : List Uid) : Res Unit := do
  let _ ← mem.foldlM (fun val t => loopsFrom (fun u => (env.info u).preds) (env.n + 2) [] val t) []
  let _ ← (mem.filter (fun t => (env.info t).children.isEmpty)).foldlM
            (fun val t => loopsFrom (waitsFor env) (env.n + 2) [] val t) []
  pure ()

/-- `__prepare_tasks`: summary tasks lose their own dates / estimate / spent -/
def prepare (env : Env) (f : Uid → Fields) (mem : List Uid) : Uid → Fields :=
  fun u => if mem.contains u && !(env.info u).children.isEmpty then { start := none, end_ := none, est := none, spent := none } else f u

structure Output where
  f : Uid → Fields
  rows : List Row
  res : List (Option Nat × Cal)

/-- the checks `ForwardScheduler.calc` makes on the WBS it is given, before it clones it -/
def fwdPrecheck (env : Env) (f0 : Uid → Fields) : Res Unit := do
  let mem ← (match members env with | some m => pure m | none => throw (.crash .recursion))
  if !isolationOk env f0 mem then throw .runtime
  checkLoops env mem
  -- __check_no_end_dates_in_future
  let nw := env.clock 0
  if mem.any (fun t => match (f0 t).end_ with | some e => decide (nw < e) | none => false) then throw .runtime
  pure ()

/-- prepare + the pass over the roots, on the clone -/
def fwdRun (env : Env) (f0 : Uid → Fields) (res0 : List (Option Nat × Cal)) : Res Output := do
  let mem ← (match members env with | some m => pure m | none => throw (.crash .recursion))
  let σ0 : SS := { f := prepare env f0 mem, rows := [], done := [], res := res0, reads := 1 }
  let σ ← passList (fun σ r => fwdPass env (env.n + 1) [] σ r env.bound) σ0 env.roots
  pure { f := σ.f, rows := σ.rows, res := σ.res }

/-- `ForwardScheduler.calc` (on one environment: the clone is isomorphic to the source, C10) -/
def forwardCalc (env : Env) (f0 : Uid → Fields) (res0 : List (Option Nat × Cal)) : Res Output := do
  fwdPrecheck env f0
  fwdRun env f0 res0

def bwdPrecheck (env : Env) (f0 : Uid → Fields) : Res Unit := do
  let mem ← (match members env with | some m => pure m | none => throw (.crash .recursion))
  if !isolationOk env f0 mem then throw .runtime
  checkLoops env mem

def bwdRun (env : Env) (f0 : Uid → Fields) (res0 : List (Option Nat × Cal)) : Res Output := do
  let mem ← (match members env with | some m => pure m | none => throw (.crash .recursion))
  let σ0 : SS := { f := prepare env f0 mem, rows := [], done := [], res := res0, reads := 0 }
  let σ ← passList (fun σ r => bwdPass env (env.n + 1) [] σ r env.bound) σ0 env.roots.reverse
  pure { f := σ.f, rows := σ.rows, res := σ.res }

/-- `BackwardScheduler.calc` -/
def backwardCalc (env : Env) (f0 : Uid → Fields) (res0 : List (Option Nat × Cal)) : Res Output := do
  bwdPrecheck env f0
  bwdRun env f0 res0

end Pj

/-
  Model/Clone.lean — `WBS.clone` / `WBS.subtree` (wbs.py:112-166), replayed through the real setters of
  Model/Graph.lean on freshly allocated uids; of `Task.clone` (task.py:916-927) the model keeps the copied id
  (the `tid` of `extend`).
-/
import PjVerif.Model.GraphOps
namespace Pj

/-- first-occurrence de-duplication (`{task.id: task for task in …}` on a WBS with unique ids keeps one entry per
    task, in the order of first appearance) -/
def dedupFirst (l : List Uid) : List Uid := l.eraseDups

/-- position of `x` in `sel`, i.e. the index of its clone -/
def cloneOf (n : Nat) (sel : List Uid) (x : Uid) : Option Uid :=
  match sel.idxOf? x with
  | some i => some (n + i)
  | none => none

/-- the universe extended by `k` fresh task objects (copies of `sel`) and one fresh hidden WBS root -/
def extend (s : G) (sel : List Uid) : G :=
  let k := sel.length
  let n := s.n
  { s with
    n := n + k + 1,
    tid := fun u => if u < n then s.tid u else if u < n + k then s.tid (sel.getD (u - n) 0) else if u = n + k then emptyId else s.tid u,
    owner := fun u => if u = n + k then some (n + k) else s.owner u }

/-- run a list of state transformers, stopping at the first error.  `norm` re-represents the state between two
    steps (the model uses `id`; the driver passes an array-backed copy, extensionally the same state, so that
    lookups stay cheap) -/
def seqOps (norm : G → G) : G → List (G → G × Option Err) → G × Option Err
  | s, [] => (s, none)
  | s, f :: fs =>
    match f s with
    | (s', some e) => (s', some e)
    | (s', none) => seqOps norm (norm s') fs

/-- `link_target`: members of the source WBS `w` are mapped to their clone (dropped when not selected), tasks that
    do not belong to `w` are shared -/
def linkTarget (s : G) (w : Uid) (n : Nat) (sel : List Uid) (x : Uid) : Option Uid :=
  if s.owner x = some w then cloneOf n sel x else some x

/-- `WBS.__clone(roots)`: returns the extended state and the uid of the new WBS root -/
def cloneSel (s : G) (w : Uid) (roots : List Uid) (norm : G → G := id) : G × Option Err × Uid :=
  match roots.mapM (fun r => subtreeF s.children s.fuel r) with
  | none => (s, some (.crash .recursion), 0)
  | some subs =>
    let sel := dedupFirst subs.flatten
    let n := s.n
    let s0 := extend s sel
    let newRoot := n + sel.length
    let perTask : List (G → G × Option Err) := sel.flatMap (fun t =>
      match cloneOf n sel t with
      | none => []
      | some c =>
        [ (fun g => setParent g c ((s.pubParent t).bind (cloneOf n sel))),
          (fun g => setChildren g c ((s.children t).filterMap (cloneOf n sel))),
          (fun g => setPreds g c ((s.preds t).filterMap (linkTarget s w n sel))),
          (fun g => setSuccs g c ((s.succs t).filterMap (linkTarget s w n sel))) ])
    let final : G → G × Option Err := fun g => setChildren g newRoot (roots.filterMap (cloneOf n sel))
    let r := seqOps norm s0 (perTask ++ [final])
    (r.1, r.2, newRoot)

/-- `WBS.clone()` -/
def cloneWbs (s : G) (w : Uid) (norm : G → G := id) : G × Option Err × Uid := cloneSel s w (s.children w) norm

end Pj

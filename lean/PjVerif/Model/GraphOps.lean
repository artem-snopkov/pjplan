/-
  Model/GraphOps.lean — list façades, operators, WBS-level mutators and the `step` function.
  Composite operations are *defined through* the primitive setters exactly as the code delegates.
-/
import PjVerif.Model.Graph
namespace Pj

/-- Python `list.insert(i, x)`: negative indexes count from the end, out-of-range indexes are clamped -/
def pyInsert (l : List Uid) (i : Int) (x : Uid) : List Uid :=
  let len : Int := l.length
  let j : Int := if i < 0 then (if i + len < 0 then 0 else i + len) else (if i > len then len else i)
  l.take j.toNat ++ [x] ++ l.drop j.toNat

/-! ### `_ChildrenList` (task.py:422-529) -/

def chAppend (s : G) (h t : Uid) : G × Option Err := setParent s t (some h)

def chRemove (s : G) (h t : Uid) : G × Option Err :=
  if (s.children h).contains t then setChildren s h ((s.children h).filter (fun x => x != t)) else (s, none)

/-- repaired `insert`: the sibling list without the task, the task inserted at `index`, assigned as a whole -/
def chInsert (s : G) (h : Uid) (i : Int) (t : Uid) : G × Option Err :=
  setChildren s h (pyInsert ((s.children h).filter (fun x => x != t)) i t)

/-- one iteration of the move loop: `list.remove(task)` then insert before / after the anchor -/
def moveOne (l : List Uid) (task : Uid) (before after : Option Uid) : List Uid :=
  let l1 := l.erase task
  match before, after with
  | some b, _ => let i := l1.idxOf b; l1.take i ++ [task] ++ l1.drop i
  | none, some a => let i := l1.idxOf a + 1; l1.take i ++ [task] ++ l1.drop i
  | none, none => l1

def chMove (s : G) (h : Uid) (ts : List Uid) (before after : Option Uid) : G × Option Err :=
  let l := s.children h
  if ts.any (fun t => !l.contains t) then (s, some .runtime)
  else if (match before with | some b => !l.contains b | none => false) then (s, some .runtime)
  else if (match after with | some a => !l.contains a | none => false) then (s, some .runtime)
  else if before.isSome && after.isSome then (s, some .runtime)
  else if before.isNone && after.isNone then (s, some .runtime)
  else if (match before with | some b => ts.contains b | none => false) ||
          (match after with | some a => ts.contains a | none => false) then (s, some .runtime)
  else ({ s with children := upd s.children h (ts.foldl (fun acc t => moveOne acc t before after) l) }, none)

/-- `sorted(list, key=…, reverse=…)`: stable; with `reverse` ties keep their original order too -/
def sortBy (key : Uid → Int) (rev : Bool) (l : List Uid) : List Uid :=
  if rev then l.mergeSort (fun a b => decide (key b ≤ key a)) else l.mergeSort (fun a b => decide (key a ≤ key b))

def chSort (s : G) (h : Uid) (key : Uid → Int) (rev : Bool) : G × Option Err :=
  ({ s with children := upd s.children h (sortBy key rev (s.children h)) }, none)

/-- the loop of `reorder` (task.py:512-529): `next(t for t in self if t.id == _id)` raises StopIteration for
    an unknown id, `_all.remove(ch)` raises ValueError for a repeated one -/
def reorderLoop (s : G) (l : List Uid) : List Int → List Uid → List Uid → Except Err (List Uid)
  | [], new, rest => pure (new ++ rest)
  | i :: ids, new, rest =>
    match l.find? (fun t => s.tid t == i) with
    | none => throw (.crash .stopIteration)
    | some ch => if rest.contains ch then reorderLoop s l ids (new ++ [ch]) (rest.erase ch) else throw (.crash .value)

def chReorder (s : G) (h : Uid) (ids : List Int) : G × Option Err :=
  match reorderLoop s (s.children h) ids [] (s.children h) with
  | .error e => (s, some e)
  | .ok l => ({ s with children := upd s.children h l }, none)

/-! ### `_PredecessorsList` / `_SuccessorsList` (task.py:532-587) and the operators (929-942) -/

def prAppend (s : G) (t x : Uid) : G × Option Err := setPreds s t (s.preds t ++ [x])
def prRemove (s : G) (t x : Uid) : G × Option Err :=
  if (s.preds t).contains x then setPreds s t ((s.preds t).filter (fun v => v != x)) else (s, none)
def suAppend (s : G) (t x : Uid) : G × Option Err := setSuccs s t (s.succs t ++ [x])
def suRemove (s : G) (t x : Uid) : G × Option Err :=
  if (s.succs t).contains x then setSuccs s t ((s.succs t).filter (fun v => v != x)) else (s, none)

def floordiv (s : G) (h : Uid) (l : List Uid) : G × Option Err := setChildren s h (s.children h ++ l)
def lshift (s : G) (t : Uid) (l : List Uid) : G × Option Err := setPreds s t (s.preds t ++ l)
def rshift (s : G) (t : Uid) (l : List Uid) : G × Option Err := setSuccs s t (s.succs t ++ l)

/-- element-by-element application used by the list-level `<<`, `>>` and bulk attribute assignment:
    stops at the first element that raises, earlier elements stay changed (not atomic) -/
def forEach (f : G → Uid → G × Option Err) : G → List Uid → G × Option Err
  | s, [] => (s, none)
  | s, t :: ts =>
    match f s t with
    | (s', some e) => (s', some e)
    | (s', none) => forEach f s' ts

/-! ### WBS (wbs.py:57-95) -/

/-- `WBS.__remove(task, current)`: depth-first search for the list that holds the task -/
def removeRec (t : Uid) : Nat → G → Uid → Option (G × Option Err × Bool)
  | 0, _, _ => none
  | f + 1, s, cur =>
    if (s.children cur).contains t then
      let r := chRemove s cur t
      some (r.1, r.2, true)
    else
      let rec go : List Uid → Option (G × Option Err × Bool)
        | [] => some (s, none, false)
        | c :: cs =>
          match removeRec t f s c with
          | none => none
          | some (s', some e, b) => some (s', some e, b)
          | some (s', none, true) => some (s', none, true)
          | some (_, none, false) => go cs
      go (s.children cur)

def wbsRemove (s : G) (w t : Uid) : G × Option Err :=
  match removeRec t s.fuel s w with
  | none => (s, some (.crash .recursion))
  | some (s', e, _) => (s', e)

/-! ### operations and `step` -/

inductive Op
  | setParent (t : Uid) (p : Option Uid)
  | setChildren (h : Uid) (l : List Uid)          -- also `WBS.roots = l` (h = the hidden root)
  | chAppend (h t : Uid)
  | chRemove (h t : Uid)
  | chInsert (h : Uid) (i : Int) (t : Uid)
  | chMove (h : Uid) (ts : List Uid) (before after : Option Uid)
  | chSort (h : Uid) (keys : List (Uid × Int)) (rev : Bool)
  | chReorder (h : Uid) (ids : List Int)
  | setPreds (t : Uid) (l : List Uid)
  | setSuccs (t : Uid) (l : List Uid)
  | prAppend (t x : Uid)
  | prRemove (t x : Uid)
  | suAppend (t x : Uid)
  | suRemove (t x : Uid)
  | floordiv (h : Uid) (l : List Uid)
  | lshift (t : Uid) (l : List Uid)
  | rshift (t : Uid) (l : List Uid)
  | listLshift (ts : List Uid) (l : List Uid)
  | listRshift (ts : List Uid) (l : List Uid)
  | listSetParent (ts : List Uid) (p : Option Uid)
  | wbsRemove (w t : Uid)
  | wbsRemoveAll (w : Uid) (ts : List Uid)
  | chRemoveAll (h : Uid) (ts : List Uid)
  deriving Repr, Inhabited

def keyOf (keys : List (Uid × Int)) (u : Uid) : Int :=
  match keys.find? (fun p => p.1 == u) with
  | some p => p.2
  | none => 0

def step (s : G) : Op → G × Option Err
  | .setParent t p => setParent s t p
  | .setChildren h l => setChildren s h l
  | .chAppend h t => chAppend s h t
  | .chRemove h t => chRemove s h t
  | .chInsert h i t => chInsert s h i t
  | .chMove h ts b a => chMove s h ts b a
  | .chSort h keys rev => chSort s h (keyOf keys) rev
  | .chReorder h ids => chReorder s h ids
  | .setPreds t l => setPreds s t l
  | .setSuccs t l => setSuccs s t l
  | .prAppend t x => prAppend s t x
  | .prRemove t x => prRemove s t x
  | .suAppend t x => suAppend s t x
  | .suRemove t x => suRemove s t x
  | .floordiv h l => floordiv s h l
  | .lshift t l => lshift s t l
  | .rshift t l => rshift s t l
  | .listLshift ts l => forEach (fun s t => lshift s t l) s ts
  | .listRshift ts l => forEach (fun s t => rshift s t l) s ts
  | .listSetParent ts p => forEach (fun s t => setParent s t p) s ts
  | .wbsRemove w t => wbsRemove s w t
  | .wbsRemoveAll w ts => forEach (fun s t => wbsRemove s w t) s ts
  | .chRemoveAll h ts => forEach (fun s t => chRemove s h t) s ts

/-- the state after a history: the operations one after the other, each on the state the previous one left
    (whether it returned or raised) -/
def run (s : G) (ops : List Op) : G := ops.foldl (fun s op => (step s op).1) s

end Pj

namespace Pj

/-- `WBS.tasks` = `root.all_children` (wbs.py:36-39) -/
def wbsTasks (s : G) (w : Uid) : Option (List Uid) := descF s.children s.fuel w

/-- `wbs[task_id]` (wbs.py:97-101): the first member with that id, RuntimeError when there is none -/
def wbsGet (s : G) (w : Uid) (i : Int) : Res Uid :=
  match wbsTasks s w with
  | none => .error (.crash .recursion)
  | some l =>
    match l.find? (fun t => s.tid t == i) with
    | some t => .ok t
    | none => .error .runtime

end Pj

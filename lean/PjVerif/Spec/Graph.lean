/-
  Spec/Graph.lean — what C01 / C05 / C11 / C15 say about a graph state, as `Prop`s for the theorems and as
  executable `Bool` monitors (evaluated by the driver on the implementation's observed states).
  The spec needs only the transitive and the reflexive-transitive closure, written out here so that no Mathlib
  import is needed.
-/
import PjVerif.Model.GraphOps
namespace Pj

/-- transitive closure (same shape as Mathlib's `Relation.TransGen`) -/
inductive TC {α : Type} (r : α → α → Prop) : α → α → Prop
  | single {a b} : r a b → TC r a b
  | tail {a b c} : TC r a b → r b c → TC r a c

/-- reflexive-transitive closure -/
inductive RTC {α : Type} (r : α → α → Prop) : α → α → Prop
  | refl {a} : RTC r a a
  | tail {a b c} : RTC r a b → r b c → RTC r a c

def par (s : G) (a b : Uid) : Prop := s.parent a = some b
def dep (s : G) (a b : Uid) : Prop := a ∈ s.preds b

/-- C01: the hierarchy is a forest stored consistently on both ends, dependency links are symmetric,
    acyclic and never connect a task with one of its ancestors or descendants -/
structure WF (s : G) : Prop where
  listed   : ∀ t p, s.parent t = some p ↔ t ∈ s.children p
  once     : ∀ p, (s.children p).Nodup
  forest   : ∀ t, ¬ TC (par s) t t
  rootsTop : ∀ r, s.hidden r = true → s.parent r = none ∧ s.preds r = [] ∧ s.succs r = []
  sym      : ∀ a b, a ∈ s.preds b ↔ b ∈ s.succs a
  dag      : ∀ t, ¬ TC (dep s) t t
  noAncDep : ∀ a b, dep s a b → ¬ TC (par s) a b ∧ ¬ TC (par s) b a

/-- C11 (local form): the owner is inherited along the parent edge, a WBS root owns itself, a parentless
    ordinary task has no owner -/
structure OwnerOK (s : G) : Prop where
  inherit : ∀ t p, s.parent t = some p → s.owner t = s.owner p
  root    : ∀ r, s.hidden r = true → s.owner r = some r
  free    : ∀ t, s.parent t = none → s.hidden t = false → s.owner t = none
  isRoot  : ∀ t w, s.owner t = some w → s.hidden w = true

/-- same tree = same top of the parent chain -/
def SameTree (s : G) (a b : Uid) : Prop := ∃ r, RTC (par s) a r ∧ RTC (par s) b r

/-- C05: two different (ordinary) tasks of one WBS or one detached tree never share an id -/
def UniqueIds (s : G) : Prop :=
  ∀ a b, a ≠ b → s.hidden a = false → s.hidden b = false → SameTree s a b → s.tid a ≠ s.tid b

/-! ### executable monitors over the uids `< n` -/

def uids (s : G) : List Uid := List.range s.n

def listedB (s : G) : Bool :=
  (uids s).all (fun t => (uids s).all (fun p => (s.parent t == some p) == (s.children p).contains t))
  && (uids s).all (fun p => (s.children p).all (fun c => decide (c < s.n)))
  && (uids s).all (fun t => match s.parent t with | some p => decide (p < s.n) | none => true)

def nodupB (l : List Uid) : Bool := l.eraseDups.length == l.length

def onceB (s : G) : Bool := (uids s).all (fun p => nodupB (s.children p))

def forestB (s : G) : Bool := (uids s).all (fun t => (rootF s s.fuel t).isSome)

def rootsTopB (s : G) : Bool :=
  (uids s).all (fun r => !s.hidden r || (s.parent r == none && (s.preds r).isEmpty && (s.succs r).isEmpty))

def symB (s : G) : Bool :=
  (uids s).all (fun a => (uids s).all (fun b => (s.preds b).contains a == (s.succs a).contains b))
  && (uids s).all (fun b => (s.preds b).all (fun a => decide (a < s.n)) && (s.succs b).all (fun a => decide (a < s.n)))

/-- `seen` together with everything reachable from `frontier` in at least one step, by at most `k` rounds of
    frontier expansion -/
def reachB (next : Uid → List Uid) : Nat → List Uid → List Uid → List Uid
  | 0, seen, _ => seen
  | k + 1, seen, frontier =>
    let new := (frontier.flatMap next).eraseDups.filter (fun x => !seen.contains x)
    if new.isEmpty then seen else reachB next k (seen ++ new) new

def reachFrom (next : Uid → List Uid) (n : Nat) (t : Uid) : List Uid := reachB next (n + 1) [] [t]

def dagB (s : G) : Bool := (uids s).all (fun t => !(reachFrom s.preds s.n t).contains t)

def ancestorsB (s : G) (t : Uid) : List Uid :=
  reachFrom (fun x => match s.parent x with | some p => [p] | none => []) s.n t

def noAncDepB (s : G) : Bool :=
  (uids s).all (fun b => (s.preds b).all (fun a => !(ancestorsB s b).contains a && !(ancestorsB s a).contains b))

def wfClauses (s : G) : List (String × Bool) :=
  [("listed", listedB s), ("once", onceB s), ("forest", forestB s), ("rootsTop", rootsTopB s),
   ("sym", symB s), ("dag", dagB s), ("noAncDep", noAncDepB s)]

def ownerOkB (s : G) : Bool :=
  (uids s).all (fun t =>
    match rootF s s.fuel t with
    | none => false
    | some r => s.owner t == (if s.hidden r then some r else none))

def uniqueIdsB (s : G) : Bool :=
  (uids s).all (fun a => (uids s).all (fun b =>
    a == b || s.hidden a || s.hidden b || rootF s s.fuel a != rootF s s.fuel b || s.tid a != s.tid b))

/-- extensional equality on the uids `< n` (C15) -/
def eqB (s s' : G) : Bool :=
  s.n == s'.n && (uids s).all (fun u =>
    s.tid u == s'.tid u && s.parent u == s'.parent u && s.children u == s'.children u &&
    s.preds u == s'.preds u && s.succs u == s'.succs u && s.owner u == s'.owner u)

/-- the members of a WBS in the order `WBS.tasks` must list them: depth first, siblings in list order -/
def preorder (s : G) (w : Uid) : Option (List Uid) := descF s.children s.fuel w

end Pj

namespace Pj

/-- uids that an operation names in *task* position.  Through the public API these are never hidden WBS roots
    (a root is reachable only as the holder of `WBS.roots` / `WBS //` / `WBS.remove`). -/
def Op.taskArgs : Op → List Uid
  | .setParent t p => t :: p.toList
  | .setChildren _ l => l
  | .chAppend _ t => [t]
  | .chRemove _ t => [t]
  | .chInsert _ _ t => [t]
  | .chMove _ ts b a => ts ++ b.toList ++ a.toList
  | .chSort _ _ _ => []
  | .chReorder _ _ => []
  | .setPreds t l => t :: l
  | .setSuccs t l => t :: l
  | .prAppend t x => [t, x]
  | .prRemove t x => [t, x]
  | .suAppend t x => [t, x]
  | .suRemove t x => [t, x]
  | .floordiv _ l => l
  | .lshift t l => t :: l
  | .rshift t l => t :: l
  | .listLshift ts l => ts ++ l
  | .listRshift ts l => ts ++ l
  | .listSetParent ts p => ts ++ p.toList
  | .wbsRemove _ t => [t]
  | .wbsRemoveAll _ ts => ts
  | .chRemoveAll _ ts => ts

def Op.visible (s : G) (op : Op) : Prop := ∀ u ∈ op.taskArgs, s.hidden u = false

/-- initial universe: `n` isolated objects; an object whose id is EMPTY_TASK_ID is a WBS root owning itself -/
def fresh (n : Nat) (tid : Uid → Int) : G :=
  { n := n, tid := tid, parent := fun _ => none, children := fun _ => [], preds := fun _ => [], succs := fun _ => [],
    owner := fun u => if tid u == emptyId then some u else none }

/-- every uid that occurs anywhere in the state is one of the `n` objects of the universe -/
structure Bounded (s : G) : Prop where
  parent : ∀ u p, s.parent u = some p → u < s.n ∧ p < s.n
  children : ∀ u c, c ∈ s.children u → u < s.n ∧ c < s.n
  preds : ∀ u v, v ∈ s.preds u → u < s.n ∧ v < s.n
  succs : ∀ u v, v ∈ s.succs u → u < s.n ∧ v < s.n
  owner : ∀ u w, s.owner u = some w → u < s.n ∧ w < s.n

/-- every uid an operation names (holders and WBSs included) -/
def Op.allUids : Op → List Uid
  | .setParent t p => t :: p.toList
  | .setChildren h l => h :: l
  | .chAppend h t => [h, t]
  | .chRemove h t => [h, t]
  | .chInsert h _ t => [h, t]
  | .chMove h ts b a => h :: ts ++ b.toList ++ a.toList
  | .chSort h _ _ => [h]
  | .chReorder h _ => [h]
  | .setPreds t l => t :: l
  | .setSuccs t l => t :: l
  | .prAppend t x => [t, x]
  | .prRemove t x => [t, x]
  | .suAppend t x => [t, x]
  | .suRemove t x => [t, x]
  | .floordiv h l => h :: l
  | .lshift t l => t :: l
  | .rshift t l => t :: l
  | .listLshift ts l => ts ++ l
  | .listRshift ts l => ts ++ l
  | .listSetParent ts p => ts ++ p.toList
  | .wbsRemove w t => [w, t]
  | .wbsRemoveAll w ts => w :: ts
  | .chRemoveAll h ts => h :: ts

/-- the operation is one the public API can express on this universe: all objects exist, task positions
    never name a hidden WBS root, and a WBS position names one -/
structure Op.legal (s : G) (op : Op) : Prop where
  inRange : ∀ u ∈ op.allUids, u < s.n
  visible : op.visible s
  wbs : ∀ w t, (op = .wbsRemove w t ∨ (∃ ts, op = .wbsRemoveAll w ts)) → s.hidden w = true

/-- the invariant of every reachable state -/
structure Inv (s : G) : Prop where
  wf : WF s
  own : OwnerOK s
  ids : UniqueIds s
  bnd : Bounded s

end Pj

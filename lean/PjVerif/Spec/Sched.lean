/-
  Spec/Sched.lean — what C02 C03 C04 C07 say about one `calc` and the outcome class of C14 (C08, C09 and the diagnoses of C14 are in
  Spec/Sched2.lean), as executable predicates over the
  input (`Env`, initial fields, supplied resources) and an observed result (`Output`).  The driver evaluates them on
  the implementation's observation; the theorems of Props/ are about the model's output.
-/
import PjVerif.Model.Sched
namespace Pj

/-- the calendar of a resource name in a result: supplied resources keep theirs, the others got the default -/
def calOf (res : List (Option Nat × Cal)) (k : Option Nat) : Cal :=
  match res.find? (fun p => p.1 == k) with
  | some p => p.2
  | none => defaultCal

/-- capacity at the day's midnight (the key the ledger uses); 0 when undefined -/
def capMid (res : List (Option Nat × Cal)) (k : Option Nat) (day : Int) : Rat :=
  match capR (calOf res k) (day : Rat) with
  | .ok v => v
  | .error _ => 0

def sumUnits (rows : List Row) : Rat := (rows.map (·.units)).sum

def rowsOf (rows : List Row) (t : Uid) : List Row := rows.filter (fun r => r.task == t)

def isLeaf (env : Env) (t : Uid) : Bool := (env.info t).children.isEmpty

def memberList (env : Env) : List Uid := (members env).getD []

/-! ### C03 -/

def c03Positive (o : Output) : Bool := o.rows.all (fun r => decide (0 < r.units))
def c03OwnResource (env : Env) (o : Output) : Bool := o.rows.all (fun r => r.res == (env.info r.task).resource)
def c03CapacityDay (o : Output) : Bool := o.rows.all (fun r => decide (0 < capMid o.res r.res r.day))
def c03NoOverAlloc (env : Env) (o : Output) : Bool :=
  o.rows.all (fun r =>
    let same := o.rows.filter (fun x => x.res == r.res && x.day == r.day && (env.balance || x.task == r.task))
    decide (sumUnits same ≤ capMid o.res r.res r.day))
/-- every resource named by a member task is present; the supplied ones come first, in the given order -/
def c03Resources (env : Env) (res0 : List (Option Nat × Cal)) (o : Output) : Bool :=
  (memberList env).all (fun t => (o.res.map (·.1)).contains (env.info t).resource) &&
  (o.res.map (·.1)).take res0.length == res0.map (·.1) &&
  (o.res.drop res0.length).all (fun p => (memberList env).any (fun t => (env.info t).resource == p.1))

/-! ### C04 -/

/-- remaining work of a leaf: missing estimate = default, missing spent = 0 -/
def remaining (env : Env) (f0 : Uid → Fields) (t : Uid) : Rat :=
  let e := ((f0 t).est).getD env.defaultEst
  let s := ((f0 t).spent).getD 0
  if e - s < 0 then 0 else e - s

/-- leaf, not a milestone, not already completed (no user-fixed end) -/
def works (env : Env) (f0 : Uid → Fields) (t : Uid) : Bool :=
  isLeaf env t && !(env.info t).milestone && (f0 t).end_.isNone

def c04Amount (env : Env) (f0 : Uid → Fields) (o : Output) : Bool :=
  (memberList env).all (fun t => !works env f0 t || sumUnits (rowsOf o.rows t) == remaining env f0 t)

def c04OncePerDay (o : Output) : Bool :=
  o.rows.all (fun r => (o.rows.filter (fun x => x.task == r.task && x.day == r.day)).length == 1)

def c04Window (env : Env) (fwd : Bool) (o : Output) : Bool :=
  o.rows.all (fun r =>
    match (o.f r.task).start, (o.f r.task).end_ with
    | some s, some e => decide (dayOf s ≤ r.day) && decide ((r.day : Rat) < e) &&
        (!fwd || decide (dayOf (env.clock 0) ≤ r.day))
    | _, _ => false)

def firstDay (rows : List Row) : Option Int := (rows.map (·.day)).foldl (fun m d => match m with | none => some d | some x => some (min x d)) none
def lastDay (rows : List Row) : Option Int := (rows.map (·.day)).foldl (fun m d => match m with | none => some d | some x => some (max x d)) none

/-- forward: a start chosen by the scheduler lies on the first reserved day -/
def c04StartFirstDay (env : Env) (f0 : Uid → Fields) (o : Output) : Bool :=
  (memberList env).all (fun t =>
    !works env f0 t || (f0 t).start.isSome ||
    match firstDay (rowsOf o.rows t), (o.f t).start with
    | some d, some s => dayOf s == d
    | none, _ => true
    | _, none => false)

/-- forward: the end lies within the 24 hours following the last reserved day's midnight -/
def c04EndLastDay (env : Env) (f0 : Uid → Fields) (o : Output) : Bool :=
  (memberList env).all (fun t =>
    !works env f0 t ||
    match lastDay (rowsOf o.rows t), (o.f t).end_ with
    | some d, some e => decide ((d : Rat) < e) && decide (e ≤ (d : Rat) + 1)
    | none, _ => true
    | _, none => false)

/-- backward: the start lies within the first reserved day -/
def c04BwdStartFirstDay (env : Env) (f0 : Uid → Fields) (o : Output) : Bool :=
  (memberList env).all (fun t =>
    !works env f0 t ||
    match firstDay (rowsOf o.rows t), (o.f t).start with
    | some d, some s => decide ((d : Rat) ≤ s) && decide (s < (d : Rat) + 1)
    | none, _ => true
    | _, none => false)

/-- milestones, completed tasks and summary tasks reserve nothing -/
def c04None (env : Env) (f0 : Uid → Fields) (o : Output) : Bool :=
  o.rows.all (fun r => works env f0 r.task && (memberList env).contains r.task)

/-- forward: user-fixed dates of non-milestone leaves are returned unchanged -/
def c04FixedKept (env : Env) (f0 : Uid → Fields) (o : Output) : Bool :=
  (memberList env).all (fun t =>
    !isLeaf env t || (env.info t).milestone ||
    ((match (f0 t).start with | some s => (o.f t).start == some s | none => true) &&
     (match (f0 t).end_ with | some e => (o.f t).end_ == some e | none => true)))

/-! ### C07 -/

def minOpt (l : List Time) : Option Time := match l with | [] => none | x :: xs => some (xs.foldl minT x)
def maxOpt (l : List Time) : Option Time := match l with | [] => none | x :: xs => some (xs.foldl maxT x)

/-- user-fixed dates are consistent: a fixed end comes with a fixed start not after it (domain of C07) -/
def consistentFixed (env : Env) (f0 : Uid → Fields) : Bool :=
  (memberList env).all (fun t => !isLeaf env t || (env.info t).milestone ||
    match (f0 t).end_ with
    | none => true
    | some e => match (f0 t).start with | some s => decide (s ≤ e) | none => false)

def c07StartLeEnd (env : Env) (o : Output) : Bool :=
  (memberList env).all (fun t => match (o.f t).start, (o.f t).end_ with
    | some s, some e => decide (s ≤ e)
    | _, _ => false)

def c07Rollup (env : Env) (o : Output) : Bool :=
  (memberList env).all (fun t =>
    isLeaf env t || (env.info t).milestone ||
    let ch := (env.info t).children
    (o.f t).start == minOpt (ch.filterMap (fun c => (o.f c).start)) &&
    (o.f t).end_ == maxOpt (ch.filterMap (fun c => (o.f c).end_)) &&
    (o.f t).est == some ((ch.map (fun c => ((o.f c).est).getD 0)).sum) &&
    (o.f t).spent == some ((ch.map (fun c => ((o.f c).spent).getD 0)).sum))

/-! ### C02 (forward) -/

/-- own and inherited prerequisites, expanded to leaves (the statement's definition; same walk as the repaired
    pre-check uses) -/
def prereqLeaves (env : Env) (t : Uid) : List Uid := waitsFor env t

def latestPrereqEnd (env : Env) (o : Output) (t : Uid) : Option Time :=
  maxOpt ((prereqLeaves env t).filterMap (fun p => (o.f p).end_))

/-- a leaf with unfixed start never starts, and never has work reserved, on a day earlier than a prerequisite's
    end day, the project start day, its own min_start day or the current day -/
def c02Leaf (env : Env) (f0 : Uid → Fields) (o : Output) : Bool :=
  (memberList env).all (fun t =>
    !isLeaf env t || (env.info t).milestone || (f0 t).start.isSome ||
    match (o.f t).start with
    | none => false
    | some s =>
      let lows : List Int :=
        [dayOf env.bound, dayOf (env.clock 0)] ++ ((env.info t).minStart.toList.map dayOf) ++
        ((prereqLeaves env t).filterMap (fun p => ((o.f p).end_).map dayOf))
      lows.all (fun d => decide (d ≤ dayOf s) && (rowsOf o.rows t).all (fun r => decide (d ≤ r.day))))

/-- a milestone has zero duration and sits exactly at the latest end among its own and inherited prerequisites,
    or at the project start when it has none (or when they all end before the project start) -/
def c02Milestone (env : Env) (o : Output) : Bool :=
  (memberList env).all (fun t =>
    !(env.info t).milestone || !isLeaf env t ||
    let target := match latestPrereqEnd env o t with | some e => maxT e env.bound | none => env.bound
    (o.f t).start == some target && (o.f t).end_ == some target)

/-- hypothesis of `C02_partial`: no task that has children carries a dependency link -/
def noSummaryLinks (env : Env) : Bool :=
  (memberList env).all (fun t => isLeaf env t || ((env.info t).preds.isEmpty && (env.info t).succs.isEmpty))

/-! ### C14 -/

/-- the outcome class C14 allows -/
def c14Outcome (r : Res Output) : Bool :=
  match r with
  | .ok _ => true
  | .error .runtime => true
  | .error (.crash _) => false

end Pj

namespace Pj

/-- the membership flags of the environment agree with reachability from the roots -/
def Env.flagsOK (env : Env) : Prop := ∀ t, (env.info t).member = true ↔ t ∈ memberList env

/-- a real clock: it never runs backwards, and one `calc` does not run across midnight -/
def Env.clockOK (env : Env) : Prop :=
  (∀ i j, i ≤ j → env.clock i ≤ env.clock j) ∧ ∀ k, dayOf (env.clock k) = dayOf (env.clock 0)

/-- no user-fixed dates on member leaves (the domain of the backward clauses) -/
def noFixedDates (env : Env) (f0 : Uid → Fields) : Bool :=
  (memberList env).all (fun t => !isLeaf env t || ((f0 t).start.isNone && (f0 t).end_.isNone))

/-- predecessors outside the WBS are plain leaves (their own dates stand for themselves) -/
def outsideLeaves (env : Env) : Bool :=
  (memberList env).all (fun t => (env.info t).preds.all (fun p => (memberList env).contains p || (env.info p).children.isEmpty))

end Pj

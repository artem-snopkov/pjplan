/-
  Spec/Sched2.lean — C08 (forward tightness), C09 (backward), C14 (diagnoses) and the clock hypothesis of C08's encoding
  clause as executable predicates, same conventions as Spec/Sched.lean.
-/
import PjVerif.Spec.Sched
import PjVerif.Spec.Graph
namespace Pj

/-- total booked on a resource and day in the final ledger (all tasks when balancing, else the task's own) -/
def booked (env : Env) (o : Output) (k : Option Nat) (d : Int) (t : Uid) : Rat :=
  reserved o.rows k d (if env.balance then none else some t)

def fullDay (env : Env) (o : Output) (k : Option Nat) (d : Int) (t : Uid) : Bool :=
  decide (capMid o.res k d ≤ booked env o k d t)

def daysBetween (a b : Int) : List Int := (List.range (b - a).toNat).map (fun (i : Nat) => a + (i : Int))

/-- index of the first row of `t` in the ledger -/
def firstRowIdx (rows : List Row) (t : Uid) : Option Nat := rows.findIdx? (fun r => r.task == t)

/-- booked on `(k, d)` by the rows that precede the first row of `t` (balancing) / nothing (not balancing:
    a task only sees its own bookings, and it has none before it is placed) -/
def bookedBefore (env : Env) (o : Output) (k : Option Nat) (d : Int) (t : Uid) : Rat :=
  if env.balance then
    match firstRowIdx o.rows t with
    | some i => reserved (o.rows.take i) k d none
    | none => reserved o.rows k d none
  else 0

/-- booked on `(k, d)` up to and including the rows of `t` -/
def bookedUpTo (env : Env) (o : Output) (k : Option Nat) (d : Int) (t : Uid) : Rat :=
  bookedBefore env o k d t + reserved o.rows k d (some t)

/-! ### C08 -/

/-- leaf, not a milestone, start not fixed by the user -/
def c08Subject (env : Env) (f0 : Uid → Fields) (t : Uid) : Bool :=
  isLeaf env t && !(env.info t).milestone && (f0 t).start.isNone && (f0 t).end_.isNone

/-- release day: latest of project start, clock, min_start and the ends of the prerequisites -/
def releaseDay (env : Env) (o : Output) (t : Uid) : Int :=
  ([dayOf env.bound, dayOf (env.clock 0)] ++ ((env.info t).minStart.toList.map dayOf) ++
    ((prereqLeaves env t).filterMap (fun p => ((o.f p).end_).map dayOf))).foldl max (dayOf env.bound)

/-- with balancing on the task's resource is fully booked on every day from the release day up to, excluding,
    the last work day (the start day when there is no work) -/
def c08NoIdle (env : Env) (f0 : Uid → Fields) (o : Output) : Bool :=
  !env.balance ||
  (memberList env).all (fun t =>
    !c08Subject env f0 t ||
    let k := (env.info t).resource
    let last : Int := match lastDay (rowsOf o.rows t) with
      | some d => d
      | none => match (o.f t).start with | some s => dayOf s | none => releaseDay env o t
    (daysBetween (releaseDay env o t) last).all (fun d => fullDay env o k d t))

/-- start = first work day's midnight + share booked before the task; end = last work day's midnight + share booked
    up to and including the task (claimed when the clock is not later than the project start) -/
def c08Encode (env : Env) (f0 : Uid → Fields) (o : Output) : Bool :=
  (memberList env).all (fun t =>
    !c08Subject env f0 t ||
    let k := (env.info t).resource
    match firstDay (rowsOf o.rows t), lastDay (rowsOf o.rows t), (o.f t).start, (o.f t).end_ with
    | some d1, some d2, some s, some e =>
      let c1 := capMid o.res k d1
      let c2 := capMid o.res k d2
      decide (0 < c1) && decide (0 < c2) &&
      s == (d1 : Rat) + bookedBefore env o k d1 t / c1 &&
      e == (d2 : Rat) + bookedUpTo env o k d2 t / c2
    | none, none, _, _ => true
    | _, _, _, _ => false)

/-- a leaf that takes part in no dependency, neither itself nor through an ancestor -/
def freeLeaf (env : Env) (t : Uid) : Bool :=
  isLeaf env t && (t :: ancestorsOf env (env.n + 1) t).all (fun x => (env.info x).preds.isEmpty && (env.info x).succs.isEmpty)

/-- among such leaves capacity is handed out in WBS order: all rows of an earlier one precede all rows of a later one -/
def c08Order (env : Env) (o : Output) : Bool :=
  let free := (memberList env).filter (freeLeaf env)
  let idxs (t : Uid) : List Nat := (List.range o.rows.length).filter (fun i => (o.rows.getD i default).task == t)
  (List.range free.length).all (fun i => (List.range free.length).all (fun j =>
    !(decide (i < j)) ||
    (idxs (free.getD i 0)).all (fun a => (idxs (free.getD j 0)).all (fun b => decide (a < b)))))

/-- the stronger hypothesis the encoding clause needed before the repair of finding S6 (`end = max(encoded end, now)`):
    every clock reading lies on a day before the project start day; kept for the harness -/
def clockBeforeStartDay (env : Env) (reads : Nat) : Bool :=
  (List.range (reads + 1)).all (fun k => decide (dayOf (env.clock k) < dayOf env.bound))

/-- the statement's own hypothesis of the encoding clause (and the first conjunct of C06's `ClockHyp`): no clock
    reading up to `reads` is later than the project start -/
def clockNotAfterStart (env : Env) (reads : Nat) : Bool :=
  (List.range (reads + 1)).all (fun k => decide (env.clock k ≤ env.bound))

/-! ### C09 (backward, no user-fixed dates) -/

def succLeaves (env : Env) (t : Uid) : List Uid :=
  ((t :: ancestorsOf env (env.n + 1) t).flatMap (fun x => (env.info x).succs)).flatMap (fun p => (leavesOf env p).getD [])

def c09Deadline (env : Env) (o : Output) : Bool :=
  (memberList env).all (fun t => match (o.f t).end_ with | some e => decide (e ≤ env.bound) | none => false)

/-- every dependency between tasks of the WBS, declared or inherited, at leaf level: predecessor's end ≤ successor's
    start (a backward schedule cannot move predecessors outside the WBS, whose dates are given) -/
def c09Deps (env : Env) (o : Output) : Bool :=
  (memberList env).all (fun t =>
    !isLeaf env t ||
    ((prereqLeaves env t).filter (fun p => (memberList env).contains p)).all (fun p =>
      match (o.f p).end_, (o.f t).start with
      | some e, some s => decide (e ≤ s)
      | _, _ => false))

def dueDate (env : Env) (o : Output) (t : Uid) : Time :=
  ((succLeaves env t).filterMap (fun s => (o.f s).start)).foldl minT env.bound

/-- late packing (balancing on): every day strictly after the day containing the end and before the day of the due
    date is full, and so is every day strictly between the first and last work day -/
def c09LatePacked (env : Env) (o : Output) : Bool :=
  !env.balance ||
  (memberList env).all (fun t =>
    !isLeaf env t || (env.info t).milestone ||
    let k := (env.info t).resource
    (match (o.f t).end_ with
     | some e => (daysBetween (dayOf e + 1) (dayOf (dueDate env o t))).all (fun d => fullDay env o k d t)
     | none => false) &&
    (match firstDay (rowsOf o.rows t), lastDay (rowsOf o.rows t) with
     | some d1, some d2 => (daysBetween (d1 + 1) d2).all (fun d => fullDay env o k d t)
     | _, _ => true))

/-- start = midnight following the first (earliest) work day − share booked up to and including the task;
    computed end = midnight following its day − share booked before the task was placed -/
def c09Encode (env : Env) (o : Output) : Bool :=
  (memberList env).all (fun t =>
    !isLeaf env t || (env.info t).milestone ||
    let k := (env.info t).resource
    match firstDay (rowsOf o.rows t), (o.f t).start, (o.f t).end_ with
    | some d1, some s, some e =>
      let c1 := capMid o.res k d1
      -- the end's day: the day whose following midnight the end is measured from
      let d0 : Int := if e == (dayOf e : Rat) then dayOf e - 1 else dayOf e
      let c0 := capMid o.res k d0
      decide (0 < c1) && s == (d1 : Rat) + 1 - bookedUpTo env o k d1 t / c1 &&
      decide (0 < c0) && e == (d0 : Rat) + 1 - bookedBefore env o k d0 t / c0
    | none, _, _ => true
    | _, _, _ => false)

/-! ### C14: the unschedulable classes must be diagnosed with RuntimeError -/

/-- the leaf-level waits-for relation has a cycle -/
def waitCycle (env : Env) : Bool :=
  ((memberList env).filter (isLeaf env)).any (fun t => (reachFrom (waitsFor env) env.n t).contains t)

/-- inputs C14 lists as unschedulable (except "a resource never becomes available", which is judged from the
    generator's tag): outside predecessor without both dates, fixed end in the future (forward), a cycle of
    the leaf-level waits-for relation (a dependency cycle, possibly closing through the hierarchy) -/
def c14MustDiagnose (env : Env) (f0 : Uid → Fields) (fwd : Bool) : Bool :=
  !isolationOk env f0 (memberList env) || waitCycle env ||
  (fwd && (memberList env).any (fun t => match (f0 t).end_ with | some e => decide (env.clock 0 < e) | none => false))

def c14Diagnosed (env : Env) (f0 : Uid → Fields) (fwd : Bool) (r : Res Output) : Bool :=
  !c14MustDiagnose env f0 fwd || (match r with | .error .runtime => true | _ => false)

end Pj

namespace Pj

/-- the parent pointer of a member agrees with the children lists: its parent is a member that lists it as a child
    (what C01's `listed` clause gives for every reachable graph) -/
def Env.parentsOK (env : Env) : Prop :=
  ∀ t p, t ∈ memberList env → (env.info t).parent = some p → p ∈ memberList env ∧ t ∈ (env.info p).children

/-- dependency links are stored on both ends (C01's `sym` clause) -/
def Env.linksSym (env : Env) : Prop :=
  ∀ a b, a ∈ (env.info b).preds ↔ b ∈ (env.info a).succs

end Pj

namespace Pj

/-- the children lists agree with the parent pointers (the other direction of C01's `listed` clause) -/
def Env.childrenOK (env : Env) : Prop :=
  ∀ t c, t ∈ memberList env → c ∈ (env.info t).children → (env.info c).parent = some t

/-- every member appears once in the depth-first list (forest: each child listed once, under one parent) -/
def Env.membersNodup (env : Env) : Prop := (memberList env).Nodup

end Pj

/-
  Lemmas/CritPathSrcA.lean — layer A of the tie for alg/critical_path.py, last part: `calc` and `WBS.critical_path`.
  Layer A: the translated source (Extracted/CritPathSrc.lean) REFINES, function by function, the store program of
  Lemmas/CritPathSrcNet.lean: `SimR (ofOpt (fA σ …)) (the call of f on mkSt B σ) …` (Lemmas/PyLogic.lean; a run that
  raises or leaves the typed store is `none` there and outside the claim).  No invariant of the network is needed.
  Each proof walks the unfolded source statement by statement beside the store program; a loop body is proved inside
  the loop rule (`Sim.forIn`, `Sim.forIn_iter` for the keys of a dict), so no intermediate state is ever stated; what
  a loop needs of its locals is an `Env.le`.  An equation
  for the successful run is `SimR.of_some` of the refinement.  Fuel: `cp_sim` needs `f + 5 ≤ F`.
-/
import PjVerif.Lemmas.CritPathSrcA2
import PjVerif.Lemmas.CritPathSrcA3
namespace Pj.CritPathSrc
open Pj.PyLite Pj.Extracted.CritPath
open Pj.TaskSrc (callPV_eq callPV_bound execP_assign execP_ifElse execBlockP_append execBlockP_cons execBlockP_nil execBlockP_one execP_forIn noRec Env.get?_set Env.get?_cons Env.get?_nil pyEq_num)
set_option linter.unusedSimpArgs false
set_option linter.unusedVariables false

theorem compLoopP_filterO (f : Atom → PState → Res (Option Atom × PState)) (c : Nat → Option Bool) (st : PState) :
    ∀ (l r : List Nat), filterO c l = some r →
      (∀ n ∈ l, ∀ b, c n = some b → f (.ref n) st = .ok (if b then some (.ref n) else none, st)) →
      compLoopP f (l.map Atom.ref) st = .ok (r.map Atom.ref, st) := by
  intro l
  induction l with
  | nil => intro r h _; simp only [filterO, Option.some.injEq] at h; subst h; rfl
  | cons n l ih =>
    intro r h hf
    simp only [filterO] at h
    cases hc : c n with
    | none => simp [hc] at h
    | some b =>
      simp only [hc] at h
      cases hl : filterO c l with
      | none => simp [hl] at h
      | some r' =>
        simp only [hl, Option.map_some, Option.some.injEq] at h
        subst h
        have h1 := hf n List.mem_cons_self b hc
        have h2 := ih r' hl (fun m hm => hf m (List.mem_cons_of_mem _ hm))
        simp only [List.map_cons, compLoopP, h1, h2, bind, Except.bind, pure, Except.pure]
        cases b <;> simp

theorem evalP_listComp_filterO (H : PHandlers) (self ρ : PyLite.Env) (st0 st : PState) (cond it : Expr) (x : String)
    (c : Nat → Option Bool) (l r : List Nat) (hit : it.evalP H self ρ st0 = .ok (.list (l.map Atom.ref), st))
    (hf : filterO c l = some r)
    (hc : ∀ n ∈ l, ∀ b, c n = some b → cond.evalP H self (ρ.set x (.atom (.ref n))) st = .ok (.atom (.bool b), st)) :
    (Expr.listComp (.var x) x it cond).evalP H self ρ st0 = .ok (.list (r.map Atom.ref), st) := by
  simp only [Expr.evalP, hit, bind, Except.bind, pure, Except.pure, iterOf]
  rw [compLoopP_filterO _ c st l r hf]
  intro n hn b hb
  cases b <;> simp [hc n hn _ hb, truthP, Env.get?_set, pure, Except.pure]

section calcsec
variable (e : CPEnv) (tid : Uid → Int) (B : Nat)

/-- `[n for n in self.__nodes if len(n.fld) == 0]`: `c` is the test as the store-level program takes it -/
theorem calc_select (fld : String) (c : Nat → Option Bool) (H : PHandlers) (ρ : PyLite.Env) (σ : Store)
    (nodes : List Nat) (links tasks : List (Atom × Atom)) (ed : Atom) (mem : List Atom) (r : List Nat)
    (hg : getO B σ B = some (.calc nodes links tasks ed mem)) (hf : filterO c nodes = some r)
    (hs : ρ.get? "self" = some (.atom (.ref B)))
    (hc : ∀ n b, c n = some b → ∃ l, (encHeap B σ n).get? fld = some (refsN l) ∧ b = decide (l.length = 0)) :
    (Expr.listComp (.var "n") "n" (.attr (.var "self") "__nodes")
        (.cmp .eq (.len (.attr (.var "n") fld)) (.num 0))).evalP H [] ρ (mkSt B σ) =
      .ok (.list (r.map Atom.ref), mkSt B σ) := by
  have hr := encHeap_get B hg
  refine evalP_listComp_filterO H [] ρ (mkSt B σ) (mkSt B σ) _ _ "n" c nodes r (by simp [pylite_step, hs, hr]) hf ?_
  intro n _ b hb
  obtain ⟨l, hl, rfl⟩ := hc n b hb
  simp [pylite_step, hl, pyEq_num]

theorem noBw_spec {σ : Store} {n : Nat} {b : Bool} (h : noBw B σ n = some b) :
    ∃ l, (encHeap B σ n).get? "backward_links" = some (refsN l) ∧ b = decide (l.length = 0) := by
  unfold noBw at h
  split at h
  next fw bw su eu hg => exact ⟨bw, by rw [encHeap_get B hg]; rfl, (Option.some.inj h).symm⟩
  next => simp at h

theorem noFw_spec {σ : Store} {n : Nat} {b : Bool} (h : noFw B σ n = some b) :
    ∃ l, (encHeap B σ n).get? "forward_links" = some (refsN l) ∧ b = decide (l.length = 0) := by
  unfold noFw at h
  split at h
  next fw bw su eu hg => exact ⟨fw, by rw [encHeap_get B hg]; rfl, (Option.some.inj h).symm⟩
  next => simp at h

theorem nodesOf_spec {σ : Store} {nodes : List Nat} (h : nodesOf B σ = some nodes) :
    (encHeap B σ B).get? "__nodes" = some (refsN nodes) := by
  unfold nodesOf at h
  split at h
  next _ links tasks ed mem hg => cases h; rw [encHeap_get B hg]; rfl
  next => simp at h

theorem calc_simR (f : Nat) (σ : Store) (F : Nat) (hF : f ≤ F + 2) :
    SimR (ofOpt (calcA B f σ)) ((Hc e tid (F + 3)).fnV fn_CPC_calc [.atom (.ref B)] (mkSt B σ))
      (fun p v st => v = .list p.1 ∧ st = mkSt B p.2) := by
  rw [fnV_succ _ _ _ _ _ _ cf_calc, callPV_bound rfl]
  unfold calcA src_CPC_calc
  refine Sim.retBy (ss := [_, _, _, _, _, _, _, _, _, _, _]) (Q := fun p ρ st => st = mkSt B p.2 ∧
    Env.le [("self", .atom (.ref B)), ("res", .list p.1)] ρ ∧
    ∃ n l t m, getO B p.2 B = some (.calc n l t .none m)) ?_ ?_
  · refine Sim.readCalc fun nodes links tasks ed mem hg => ?_
    split
    next sn en hsn hen =>
      simp only [newPNode]
      refine Sim.step (execP_assign (calc_select B "backward_links" (noBw B σ) _ _ σ nodes links tasks ed mem sn hg hsn
        rfl (fun _ _ => noBw_spec B))) ?_
      refine Sim.step (execP_assign (calc_select B "forward_links" (noFw B σ) _ _ σ nodes links tasks ed mem en hg hen
        (by simp [pylite_step]) (fun _ _ => noFw_spec B))) ?_
      refine Sim.step (execP_assign (construct_PNode e tid (F + 1) B [] _ σ)) ?_
      let I (bs : PyLite.Env) : Store → PyLite.Env → PState → Prop := fun σ ρ st => st = mkSt B σ ∧ Env.le bs ρ
      let bs : PyLite.Env := [("self", .atom (.ref B)), ("start_nodes", .list (sn.map Atom.ref)),
        ("end_nodes", .list (en.map Atom.ref)), ("begin", .atom (.ref (B + σ.length)))]
      split
      next => exact Sim.outside
      next σ1 h3 =>
        refine Sim.consEq (Q := I bs) h3 ?_ fun ρ4 _ h => ?_
        · unfold setSU
          refine Sim.readNode fun fw bw _ eu hgb => ?_
          have hw := mkSt_set B (f := "start_units") (v := .atom (.num 0)) hgb
            (o' := .node fw bw (some 0) eu) (by simp [encObj, Env.set, refsN, optNum])
          exact Sim.ok (by simp [pylite_step, hw]; rfl) ⟨rfl, Env.le.refl _⟩
        obtain ⟨rfl, hρ4⟩ := h
        split
        next => exact Sim.outside
        next σ2 h4 =>
          refine Sim.consEq (Q := I bs) h4 ?_ fun ρ5 _ h => ?_
          · rw [ofOpt_foldlM]
            refine Sim.forIn (g := Atom.ref) (by simp [pylite_step, hρ4.get "start_nodes"]) ?_ ⟨rfl, hρ4⟩
            rintro a n ρ _ _ ⟨rfl, hρ⟩
            have hρ' := hρ.set_ne "n" (.atom (.ref n))
            refine Sim.one (Sim.mapO (SimR.exprCall (by simp [pylite_step, hρ'.get "begin"]) (connect_simR e tid B a _ n 0 F)) ?_)
            rintro p _ _ ⟨rfl, _, _, rfl⟩
            exact ⟨rfl, hρ'⟩
          obtain ⟨rfl, hρ5⟩ := h
          refine Sim.step (execP_assign (construct_PNode e tid (F + 1) B [] _ σ2)) ?_
          let bs' : PyLite.Env := ("end", .atom (.ref (B + σ2.length))) :: bs
          have hρ6 : Env.le bs' (ρ5.set "end" (.atom (.ref (B + σ2.length)))) := .cons (by simp [pylite_step]) (hρ5.set_ne "end" _)
          split
          next => exact Sim.outside
          next σ3 h6 =>
            refine Sim.consEq (Q := I bs') h6 ?_ fun ρ7 _ h => ?_
            · rw [ofOpt_foldlM]
              refine Sim.forIn (g := Atom.ref) (by simp [pylite_step, hρ6.get "end_nodes"]) ?_ ⟨rfl, hρ6⟩
              rintro a n ρ _ _ ⟨rfl, hρ⟩
              have hρ' := hρ.set_ne "n" (.atom (.ref n))
              refine Sim.one (Sim.mapO (SimR.exprCall (by simp [pylite_step, hρ'.get "end"]) (connect_simR e tid B a n _ 0 F)) ?_)
              rintro p _ _ ⟨rfl, _, _, rfl⟩
              exact ⟨rfl, hρ'⟩
            obtain ⟨rfl, hρ7⟩ := h
            split
            next => exact Sim.outside
            next nodes3 hn3 =>
              split
              next => exact Sim.outside
              next σ4 h7 =>
                refine Sim.consEq (Q := I bs') h7 ?_ fun ρ8 _ h => ?_
                · rw [ofOpt_foldlM]
                  refine Sim.forIn (g := Atom.ref)
                    (by simp [pylite_step, hρ7.get "self", hρ7.get "end", nodesOf_spec B hn3]) ?_ ⟨rfl, hρ7⟩
                  rintro a n ρ _ _ ⟨rfl, hρ⟩
                  have hρ' := hρ.set_ne "n" (.atom (.ref n))
                  exact (Sim.one (SimR.exprCall (by simp [pylite_step, hρ'.get "self"]) (forward_simR e tid B f a n _ hF))).mono
                    fun _ _ _ ⟨h1, _, _, h2⟩ => ⟨h2, h1 ▸ hρ'⟩
                obtain ⟨rfl, hρ8⟩ := h
                split
                next => exact Sim.outside
                next nodes4 hn4 =>
                  split
                  next => exact Sim.outside
                  next σ5 h8 =>
                    refine Sim.consEq (Q := I bs') h8 ?_ fun ρ9 _ h => ?_
                    · rw [ofOpt_foldlM]
                      refine Sim.forIn (g := Atom.ref) (by simp [pylite_step, hρ8.get "self", nodesOf_spec B hn4]) ?_ ⟨rfl, hρ8⟩
                      rintro a n ρ _ _ ⟨rfl, hρ⟩
                      have hρ' := hρ.set_ne "n" (.atom (.ref n))
                      exact (Sim.one (SimR.exprCall (by simp [pylite_step, hρ'.get "self"])
                        (backward_simR e tid B f a n _ hF))).mono fun _ _ _ ⟨h1, _, _, h2⟩ => ⟨h2, h1 ▸ hρ'⟩
                    obtain ⟨rfl, hρ9⟩ := h
                    refine Sim.step (execP_assign (v := .list []) rfl) ?_
                    refine Sim.readCalc fun nodes5 links5 tasks5 ed5 mem5 hg5 => ?_
                    have hr5 := encHeap_get B hg5
                    let I10 : List Atom → PyLite.Env → PState → Prop := fun acc ρ st => st = mkSt B σ5 ∧
                      Env.le [("self", .atom (.ref B)), ("end", .atom (.ref (B + σ2.length))), ("res", .list acc)] ρ
                    split
                    next => exact Sim.outside
                    next res h10 =>
                      refine Sim.consEq (Q := I10) h10 ?_ fun ρ11 _ h => ?_
                      · rw [ofOpt_foldlM]
                        refine Sim.forIn_iter (g := id) (by simp [pylite_step, hρ9.get "self", hr5]) ?_
                          ⟨rfl, .cons (by simp [pylite_step, hρ9.get "self"]) (.cons (by simp [pylite_step, hρ9.get "end"]) (.cons (by simp [pylite_step]) (.nil _)))⟩
                        rintro acc k ρ _ _ ⟨rfl, hρ⟩
                        have hρ' := hρ.set_ne "k" (.atom k)
                        have hs := hρ'.get "self"
                        have he := hρ'.get "end"
                        have hres := hρ'.get "res"
                        unfold resStep
                        refine Sim.readCalc fun _ lk tk _ _ hgc => ?_
                        have hrc := encHeap_get B hgc
                        split
                        next v hd =>
                          refine Sim.readLink fun s t u hgl => ?_
                          have hrl := encHeap_get B hgl
                          split
                          next fw1 bw1 su1 teu fw2 bw2 ssu eu2 fw3 bw3 len eu3 hgt hgs hge =>
                            have hrt := encHeap_get B hgt
                            have hrs := encHeap_get B hgs
                            have hre := encHeap_get B hge
                            -- `v = self.__links[k]`, `r = v.end.end_units - v.start.start_units - v.units`, then the tolerance test
                            refine Sim.step (execP_assign (v := .atom (.ref v)) (st' := mkSt B σ5) (by simp [pylite_step, hs, hrc, hd])) ?_
                            refine Sim.step (execP_assign (v := .atom (.num (teu - ssu - u))) (st' := mkSt B σ5)
                              (by simp [pylite_step, hrl, hrt, hrs, optNum])) (Sim.one ?_)
                            by_cases hc : (if teu - ssu - u < 0 then -(teu - ssu - u) else teu - ssu - u) ≤
                                (1 / 1000000000 : Rat) * pyMaxR 1 len
                            · simp only [hc, if_true]
                              split
                              next tk' htk =>
                                exact Sim.ok (by simp [pylite_step, hs, he, hres, hrc, hre, optNum, pyMax_num, htk, hc]; rfl)
                                  ⟨rfl, ((hρ'.set_ne "v" _).set_ne "r" _).set "res" _⟩
                              next => exact Sim.outside
                            · simp only [hc, if_false]
                              exact Sim.ok (by simp [pylite_step, hs, he, hres, hre, optNum, pyMax_num, hc]; rfl)
                                ⟨rfl, (hρ'.set_ne "v" _).set_ne "r" _⟩
                          next => exact Sim.outside
                        next => exact Sim.outside
                      obtain ⟨rfl, hρ11⟩ := h
                      by_cases hed : ed5 = .none
                      · rw [if_pos hed]
                        subst hed
                        exact Sim.nil ⟨rfl, .cons (hρ11.get "self") (.cons (hρ11.get "res") (.nil _)), _, _, _, _, hg5⟩
                      · rw [if_neg hed]
                        exact Sim.outside
    next => exact Sim.outside
  · rintro ⟨res, σ5⟩ ρ _ ⟨rfl, hρ, _, _, _, _, hg5⟩
    have hr5 := encHeap_get B hg5
    exact ⟨_, _, by simp [pylite_step, hρ.get "self", hρ.get "res", hr5], rfl, rfl⟩

end calcsec

/-- the translated `WBS.critical_path` computes what the store-level program `cpA` computes -/
theorem cp_sim (e : CPEnv) (tid : Uid → Int) (B f F : Nat) (l : List Atom) (σ : Store)
    (h : cpA e tid B f = some (l, σ)) (hF : f + 5 ≤ F) :
    interp e tid F fn_WBS_critical_path [refs e.members] (initSt B) = .ok (.list l, mkSt B σ) := by
  obtain ⟨F, rfl⟩ : ∃ F', F = F' + 5 := ⟨F - 5, by omega⟩
  unfold cpA at h
  split at h
  next => simp at h
  next σ0 hinit =>
    show (Hc e tid (F + 4 + 1)).fnV fn_WBS_critical_path [refs e.members] (initSt B) = _
    rw [initSt_eq, fnV_succ _ _ _ _ _ _ cf_cp]
    have hc : ∀ ρ : PyLite.Env, ρ.get? "tasks" = some (refs e.members) →
        (Expr.construct fn_CPC_init (.listCons (.var "tasks") (.listCons .none .listNil))).evalP (Hc e tid (F + 4)) [] ρ
          (mkSt B []) = .ok (.atom (.ref B), mkSt B σ0) := fun ρ hρ =>
      construct_CPC e tid B f σ0 hinit (F + 3) (by omega) [] ρ (.var "tasks") (by simp [pylite_step, hρ])
    have hcalc : (Hc e tid (F + 4)).fnV fn_CPC_calc [.atom (.ref B)] (mkSt B σ0) = .ok (.list l, mkSt B σ) :=
      SimR.of_some (calc_simR e tid B f σ0 (F + 1) (by omega)) h
    have hc' := hc [("tasks", refs e.members)] (by simp [Env.get?_cons])
    simp [pylite_step, src_WBS_critical_path_params, src_WBS_critical_path, ↓hc', hcalc]

end Pj.CritPathSrc

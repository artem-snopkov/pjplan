/-
  Lemmas/CritPathSrcB.lean — the two passes of alg/critical_path.py on an ARBITRARY store: the memoised recursions
  `forwardA` / `backwardA` (Lemmas/CritPathSrcNet.lean) compute the plain recursions `lpF` (longest path into a node) /
  `ltF` (latest time of a node) over the arcs of the store.  See Lemmas/CritPathSrc.lean.
-/
import PjVerif.Lemmas.CritPathSrcStore
import PjVerif.Lemmas.Fuel
namespace Pj.CritPathSrc
open Pj.PyLite
set_option linter.unusedSimpArgs false
set_option linter.unusedVariables false

section store
variable (B : Nat)

def suOf (σ : Store) (a : Nat) : Option Rat :=
  match getO B σ a with
  | some (.node _ _ su _) => su
  | _ => none

def euOf (σ : Store) (a : Nat) : Option Rat :=
  match getO B σ a with
  | some (.node _ _ _ eu) => eu
  | _ => none

/-- the arc a link stands for, seen from its end / from its start -/
def resolveIn (σ : Store) (l : Nat) : Option (Nat × Rat) :=
  match getO B σ l with
  | some (.link s _ u) => some (s, u)
  | _ => none

def resolveOut (σ : Store) (l : Nat) : Option (Nat × Rat) :=
  match getO B σ l with
  | some (.link _ e u) => some (e, u)
  | _ => none

/-- the arcs into / out of a node: (other end, units), in the order of `backward_links` / `forward_links` -/
def inArcs (σ : Store) (a : Nat) : Option (List (Nat × Rat)) :=
  match getO B σ a with
  | some (.node _ bw _ _) => bw.mapM (resolveIn B σ)
  | _ => none

def outArcs (σ : Store) (a : Nat) : Option (List (Nat × Rat)) :=
  match getO B σ a with
  | some (.node fw _ _ _) => fw.mapM (resolveOut B σ)
  | _ => none

theorem inArcs_some {σ : Store} {a : Nat} {L : List (Nat × Rat)} (h : inArcs B σ a = some L) :
    ∃ fw bw su eu, getO B σ a = some (.node fw bw su eu) ∧ bw.mapM (resolveIn B σ) = some L := by
  unfold inArcs at h
  split at h
  · next fw bw su eu hg => exact ⟨fw, bw, su, eu, hg, h⟩
  · cases h

theorem outArcs_some {σ : Store} {a : Nat} {L : List (Nat × Rat)} (h : outArcs B σ a = some L) :
    ∃ fw bw su eu, getO B σ a = some (.node fw bw su eu) ∧ fw.mapM (resolveOut B σ) = some L := by
  unfold outArcs at h
  split at h
  · next fw bw su eu hg => exact ⟨fw, bw, su, eu, hg, h⟩
  · cases h

theorem resolveIn_some {σ : Store} {l : Nat} {p : Nat × Rat} (h : resolveIn B σ l = some p) :
    ∃ e, getO B σ l = some (.link p.1 e p.2) := by
  unfold resolveIn at h
  split at h
  · next s e u hg => cases h; exact ⟨e, hg⟩
  · cases h

theorem resolveOut_some {σ : Store} {l : Nat} {p : Nat × Rat} (h : resolveOut B σ l = some p) :
    ∃ s, getO B σ l = some (.link s p.1 p.2) := by
  unfold resolveOut at h
  split at h
  · next s e u hg => cases h; exact ⟨s, hg⟩
  · cases h

def Obj.eraseSU : Obj → Obj
  | .node fw bw _ eu => .node fw bw none eu
  | o => o

def Obj.eraseEU : Obj → Obj
  | .node fw bw su _ => .node fw bw su none
  | o => o

def SameF (σ0 σ : Store) : Prop := ∀ a, (getO B σ0 a).map Obj.eraseSU = (getO B σ a).map Obj.eraseSU

def SameB (σ0 σ : Store) : Prop := ∀ a, (getO B σ0 a).map Obj.eraseEU = (getO B σ a).map Obj.eraseEU

/-- `h` is `SameF` for `g = Obj.eraseSU`, `SameB` for `g = Obj.eraseEU`; `hf`: the reading `f` does not look at what `g`
    forgets -/
theorem read_congr {g : Obj → Obj} {σ0 σ : Store} (h : ∀ a, (getO B σ0 a).map g = (getO B σ a).map g) {α : Sort _}
    (f : Option Obj → α) (hf : ∀ o, f (some (g o)) = f (some o)) (a : Nat) : f (getO B σ0 a) = f (getO B σ a) := by
  have := h a
  match h0 : getO B σ0 a, h1 : getO B σ a with
  | none, none => rfl
  | some o0, some o =>
    rw [h0, h1] at this
    rw [← hf o0, ← hf o, Option.some.inj this]
  | none, some _ => rw [h0, h1] at this; cases this
  | some _, none => rw [h0, h1] at this; cases this

theorem SameF.refl (σ : Store) : SameF B σ σ := fun _ => rfl
theorem SameF.symm {σ0 σ : Store} (h : SameF B σ0 σ) : SameF B σ σ0 := fun a => (h a).symm
theorem SameF.trans {σ0 σ1 σ2 : Store} (h : SameF B σ0 σ1) (h' : SameF B σ1 σ2) : SameF B σ0 σ2 :=
  fun a => (h a).trans (h' a)

theorem SameF.link {σ0 σ : Store} (h : SameF B σ0 σ) {l s e : Nat} {u : Rat} :
    getO B σ0 l = some (.link s e u) ↔ getO B σ l = some (.link s e u) :=
  Iff.of_eq (read_congr B h (· = some (.link s e u)) (fun o => by cases o <;> simp [Obj.eraseSU]) l)

theorem SameF.calcObj {σ0 σ : Store} (h : SameF B σ0 σ) {a : Nat} {n : List Nat} {l t : List (Atom × Atom)} {ed : Atom}
    {m : List Atom} (h0 : getO B σ0 a = some (.calc n l t ed m)) : getO B σ a = some (.calc n l t ed m) :=
  (read_congr B h (· = some (.calc n l t ed m)) (fun o => by cases o <;> simp [Obj.eraseSU]) a).mp h0

theorem SameF.node {σ0 σ : Store} (h : SameF B σ0 σ) {a : Nat} {fw bw : List Nat} {su0 eu : Option Rat}
    (h0 : getO B σ0 a = some (.node fw bw su0 eu)) : ∃ su, getO B σ a = some (.node fw bw su eu) :=
  (read_congr B h (fun o => ∃ su, o = some (.node fw bw su eu)) (fun o => by cases o <;> simp [Obj.eraseSU]) a).mp
    ⟨_, h0⟩

theorem SameF.resolveIn_eq {σ0 σ : Store} (h : SameF B σ0 σ) (l : Nat) : resolveIn B σ0 l = resolveIn B σ l :=
  read_congr B h (fun o => match o with | some (.link s _ u) => some (s, u) | _ => none) (fun o => by cases o <;> rfl) l

theorem SameF.resolveOut_eq {σ0 σ : Store} (h : SameF B σ0 σ) (l : Nat) : resolveOut B σ0 l = resolveOut B σ l :=
  read_congr B h (fun o => match o with | some (.link _ e u) => some (e, u) | _ => none) (fun o => by cases o <;> rfl) l

theorem SameF.inArcs_eq {σ0 σ : Store} (h : SameF B σ0 σ) (a : Nat) : inArcs B σ0 a = inArcs B σ a := by
  unfold inArcs
  rw [funext (h.resolveIn_eq B)]
  exact read_congr B h (fun o => match o with | some (.node _ bw _ _) => bw.mapM (resolveIn B σ) | _ => none)
    (fun o => by cases o <;> rfl) a

theorem SameF.outArcs_eq {σ0 σ : Store} (h : SameF B σ0 σ) (a : Nat) : outArcs B σ0 a = outArcs B σ a := by
  unfold outArcs
  rw [funext (h.resolveOut_eq B)]
  exact read_congr B h (fun o => match o with | some (.node fw _ _ _) => fw.mapM (resolveOut B σ) | _ => none)
    (fun o => by cases o <;> rfl) a

theorem SameF.euOf_eq {σ0 σ : Store} (h : SameF B σ0 σ) (a : Nat) : euOf B σ0 a = euOf B σ a :=
  read_congr B h (fun o => match o with | some (.node _ _ _ eu) => eu | _ => none) (fun o => by cases o <;> rfl) a

theorem SameF.of_setSU {σ σ' : Store} {a : Nat} {v : Option Rat} (h : setSU B σ a v = some σ') : SameF B σ σ' := by
  unfold setSU at h
  split at h
  · next fw bw su eu hg =>
    cases h
    intro b
    by_cases hab : a = b
    · subst hab
      rw [getO_setO_same B _ hg, hg]; rfl
    · rw [getO_setO_ne B _ (getO_some_lt B hg).1 hab]
  · cases h

theorem suOf_setSU {σ σ' : Store} {a : Nat} {v : Option Rat} (h : setSU B σ a v = some σ') (b : Nat) :
    suOf B σ' b = if b = a then v else suOf B σ b := by
  unfold setSU at h
  split at h
  · next fw bw su eu hg =>
    cases h
    by_cases hab : b = a
    · subst hab
      simp only [suOf, getO_setO_same B _ hg, if_true]
    · simp only [suOf, getO_setO_ne B _ (getO_some_lt B hg).1 (Ne.symm hab), hab, if_false]
  · cases h

theorem setSU_node {σ : Store} {a : Nat} {fw bw : List Nat} {su eu : Option Rat}
    (hg : getO B σ a = some (.node fw bw su eu)) (v : Option Rat) :
    setSU B σ a v = some (setO B σ a (.node fw bw v eu)) := by
  simp only [setSU, hg]

theorem SameB.refl (σ : Store) : SameB B σ σ := fun _ => rfl
theorem SameB.symm {σ0 σ : Store} (h : SameB B σ0 σ) : SameB B σ σ0 := fun a => (h a).symm
theorem SameB.trans {σ0 σ1 σ2 : Store} (h : SameB B σ0 σ1) (h' : SameB B σ1 σ2) : SameB B σ0 σ2 :=
  fun a => (h a).trans (h' a)

theorem SameB.link {σ0 σ : Store} (h : SameB B σ0 σ) {l s e : Nat} {u : Rat} :
    getO B σ0 l = some (.link s e u) ↔ getO B σ l = some (.link s e u) :=
  Iff.of_eq (read_congr B h (· = some (.link s e u)) (fun o => by cases o <;> simp [Obj.eraseEU]) l)

theorem SameB.calcObj {σ0 σ : Store} (h : SameB B σ0 σ) {a : Nat} {n : List Nat} {l t : List (Atom × Atom)} {ed : Atom}
    {m : List Atom} (h0 : getO B σ0 a = some (.calc n l t ed m)) : getO B σ a = some (.calc n l t ed m) :=
  (read_congr B h (· = some (.calc n l t ed m)) (fun o => by cases o <;> simp [Obj.eraseEU]) a).mp h0

theorem SameB.node {σ0 σ : Store} (h : SameB B σ0 σ) {a : Nat} {fw bw : List Nat} {su eu0 : Option Rat}
    (h0 : getO B σ0 a = some (.node fw bw su eu0)) : ∃ eu, getO B σ a = some (.node fw bw su eu) :=
  (read_congr B h (fun o => ∃ eu, o = some (.node fw bw su eu)) (fun o => by cases o <;> simp [Obj.eraseEU]) a).mp
    ⟨_, h0⟩

theorem SameB.resolveIn_eq {σ0 σ : Store} (h : SameB B σ0 σ) (l : Nat) : resolveIn B σ0 l = resolveIn B σ l :=
  read_congr B h (fun o => match o with | some (.link s _ u) => some (s, u) | _ => none) (fun o => by cases o <;> rfl) l

theorem SameB.resolveOut_eq {σ0 σ : Store} (h : SameB B σ0 σ) (l : Nat) : resolveOut B σ0 l = resolveOut B σ l :=
  read_congr B h (fun o => match o with | some (.link _ e u) => some (e, u) | _ => none) (fun o => by cases o <;> rfl) l

theorem SameB.inArcs_eq {σ0 σ : Store} (h : SameB B σ0 σ) (a : Nat) : inArcs B σ0 a = inArcs B σ a := by
  unfold inArcs
  rw [funext (h.resolveIn_eq B)]
  exact read_congr B h (fun o => match o with | some (.node _ bw _ _) => bw.mapM (resolveIn B σ) | _ => none)
    (fun o => by cases o <;> rfl) a

theorem SameB.outArcs_eq {σ0 σ : Store} (h : SameB B σ0 σ) (a : Nat) : outArcs B σ0 a = outArcs B σ a := by
  unfold outArcs
  rw [funext (h.resolveOut_eq B)]
  exact read_congr B h (fun o => match o with | some (.node fw _ _ _) => fw.mapM (resolveOut B σ) | _ => none)
    (fun o => by cases o <;> rfl) a

theorem SameB.suOf_eq {σ0 σ : Store} (h : SameB B σ0 σ) (a : Nat) : suOf B σ0 a = suOf B σ a :=
  read_congr B h (fun o => match o with | some (.node _ _ su _) => su | _ => none) (fun o => by cases o <;> rfl) a

theorem SameB.of_setEU {σ σ' : Store} {a : Nat} {v : Option Rat} (h : setEU B σ a v = some σ') : SameB B σ σ' := by
  unfold setEU at h
  split at h
  · next fw bw su eu hg =>
    cases h
    intro b
    by_cases hab : a = b
    · subst hab
      rw [getO_setO_same B _ hg, hg]; rfl
    · rw [getO_setO_ne B _ (getO_some_lt B hg).1 hab]
  · cases h

theorem euOf_setEU {σ σ' : Store} {a : Nat} {v : Option Rat} (h : setEU B σ a v = some σ') (b : Nat) :
    euOf B σ' b = if b = a then v else euOf B σ b := by
  unfold setEU at h
  split at h
  · next fw bw su eu hg =>
    cases h
    by_cases hab : b = a
    · subst hab
      simp only [euOf, getO_setO_same B _ hg, if_true]
    · simp only [euOf, getO_setO_ne B _ (getO_some_lt B hg).1 (Ne.symm hab), hab, if_false]
  · cases h

theorem setEU_node {σ : Store} {a : Nat} {fw bw : List Nat} {su eu : Option Rat}
    (hg : getO B σ a = some (.node fw bw su eu)) (v : Option Rat) :
    setEU B σ a v = some (setO B σ a (.node fw bw su v)) := by
  simp only [setEU, hg]

end store

theorem pyMaxR_eq_max (a b : Rat) : pyMaxR a b = max a b := by
  unfold pyMaxR
  by_cases h : a < b
  · rw [if_pos h]; grind
  · rw [if_neg h]; grind

theorem pyMinR_eq_min (a b : Rat) : pyMinR a b = min a b := by
  unfold pyMinR
  by_cases h : b < a
  · rw [if_pos h]; grind
  · rw [if_neg h]; grind

/-! ### memoised passes

What `__forward` and `__backward` share: a call leaves the value `val k a` of a plain recursion on fuel in the memo
field `memo` of the node `a`, whatever was visited before (`Inv`: the memo entries so far are such values).  The three
parts of a call are proved once: the test-and-visit (`PassOK.visit`), the loop over the links (`PassOK.loop`), the write
of the result (`memo_write`); `PassOK.all` is the loop of calls in `calc`. -/

section pass
variable (Inv : Store → Prop) (memo : Store → Nat → Option Rat) (val : Nat → Nat → Option Rat)
  (run : Nat → Store → Nat → Option Store)

/-- memo entries are never removed -/
def Keeps (σ σ' : Store) : Prop := ∀ b, (memo σ b).isSome → (memo σ' b).isSome

def PassOK (k : Nat) : Prop :=
  ∀ a v σ, Inv σ → val k a = some v →
    ∃ σ', run k σ a = some σ' ∧ Inv σ' ∧ memo σ' a = some v ∧ Keeps memo σ σ'

def MemoSound : Prop :=
  (∀ σ, Inv σ → ∀ a v, memo σ a = some v → ∃ k, val k a = some v) ∧ ∀ k a v, val k a = some v → val (k + 1) a = some v

variable {Inv memo val run}

theorem Keeps.refl (σ : Store) : Keeps memo σ σ := fun _ h => h
theorem Keeps.trans {σ1 σ2 σ3 : Store} (h : Keeps memo σ1 σ2) (h' : Keeps memo σ2 σ3) : Keeps memo σ1 σ3 :=
  fun b hb => h' b (h b hb)

theorem MemoSound.eq (hs : MemoSound Inv memo val) {σ : Store} (hinv : Inv σ) {k a : Nat} {v : Rat}
    (hv : val k a = some v) (hm : (memo σ a).isSome) : memo σ a = some v := by
  obtain ⟨w, hw⟩ := Option.isSome_iff_exists.mp hm
  obtain ⟨k', hk'⟩ := hs.1 σ hinv a w hw
  rw [hw, fuel_agree hs.2 hk' hv]

theorem PassOK.visit {k : Nat} (hrec : PassOK Inv memo val run k) (hs : MemoSound Inv memo val) {σ : Store}
    (hinv : Inv σ) {p : Nat} {w : Rat} (hw : val k p = some w) :
    ∃ σ1, (if (memo σ p).isNone then run k σ p else some σ) = some σ1 ∧ Inv σ1 ∧ memo σ1 p = some w ∧
      Keeps memo σ σ1 := by
  cases hm : memo σ p with
  | none => simpa using hrec p w σ hinv hw
  | some w' => exact ⟨σ, by simp, hinv, hm ▸ hs.eq hinv hw (by rw [hm]; rfl), Keeps.refl σ⟩

theorem PassOK.all {k : Nat} (hrec : PassOK Inv memo val run k) (ns : List Nat) (σ : Store) (hinv : Inv σ)
    (hall : ∀ n ∈ ns, ∃ v, val k n = some v) :
    ∃ σ', ns.foldlM (run k) σ = some σ' ∧ Inv σ' ∧ Keeps memo σ σ' ∧ ∀ n ∈ ns, (memo σ' n).isSome := by
  refine foldlM_prefix (run k) (fun done σ' => Inv σ' ∧ Keeps memo σ σ' ∧ ∀ n ∈ done, (memo σ' n).isSome) ns
    (fun done n rest σ1 e ⟨hinv1, hk1, hset1⟩ => ?_) σ ⟨hinv, Keeps.refl σ, fun _ h => by cases h⟩
  obtain ⟨v, hv⟩ := hall n (by rw [e]; simp)
  obtain ⟨σ2, h2, hinv2, hm2, hk2⟩ := hrec n v σ1 hinv1 hv
  exact ⟨σ2, h2, hinv2, hk1.trans hk2, forall_mem_snoc (fun m hm => hk2 m (hset1 m hm)) (by rw [hm2]; rfl)⟩

/-- THE loop of a pass: each round resolves its link `l` to an arc `p` (`res`), visits `p.1` and folds `g` over
    `f (the value of p.1) p.2`.  `hstep`: what one round of the store program computes once the visit has run. -/
theorem PassOK.loop {A : Type} {k : Nat} (hrec : PassOK Inv memo val run k) (hs : MemoSound Inv memo val)
    {res : Nat → Option (Nat × Rat)} {f : Rat → Rat → Rat} {g : A → Rat → A}
    {step : Store × A → Nat → Option (Store × A)}
    (hstep : ∀ σ m l p w σ1, Inv σ → res l = some p → val k p.1 = some w →
      (if (memo σ p.1).isNone then run k σ p.1 else some σ) = some σ1 → Inv σ1 → memo σ1 p.1 = some w →
      step (σ, m) l = some (σ1, g m (f w p.2))) :
    ∀ (ls : List Nat) (L : List (Nat × Rat)) (vs : List Rat) (σ : Store) (m : A), Inv σ → ls.mapM res = some L →
      L.mapM (fun p => (val k p.1).map (fun x => f x p.2)) = some vs →
      ∃ σ', ls.foldlM step (σ, m) = some (σ', vs.foldl g m) ∧ Inv σ' ∧ Keeps memo σ σ' := by
  intro ls
  induction ls with
  | nil =>
    intro L vs σ m hinv hL hvs
    cases hL
    cases hvs
    exact ⟨σ, rfl, hinv, Keeps.refl σ⟩
  | cons l ls ih =>
    intro L vs σ m hinv hL hvs
    obtain ⟨p, L', hp, hL', rfl⟩ := (mapM_some_cons _ l ls L).mp hL
    obtain ⟨x, vs', hx, hvs', rfl⟩ := (mapM_some_cons _ p L' vs).mp hvs
    obtain ⟨w, hw, rfl⟩ := Option.map_eq_some_iff.1 hx
    obtain ⟨σ1, hσ1, hinv1, hm1, hk1⟩ := hrec.visit hs hinv hw
    obtain ⟨σ', hfold, hinv', hk'⟩ := ih L' vs' σ1 (g m (f w p.2)) hinv1 hL' hvs'
    refine ⟨σ', ?_, hinv', hk1.trans hk'⟩
    simp only [List.foldlM_cons, hstep σ m l p w σ1 hinv hp hw hσ1 hinv1 hm1, bind, Option.bind, List.foldl_cons]
    exact hfold

theorem memo_write {σ1 σ' : Store} {a k : Nat} {v : Rat}
    (hm : ∀ b, memo σ' b = if b = a then some v else memo σ1 b) (hv : val k a = some v)
    (h1 : ∀ b w, memo σ1 b = some w → ∃ k, val k b = some w) :
    (∀ b w, memo σ' b = some w → ∃ k, val k b = some w) ∧ memo σ' a = some v ∧ Keeps memo σ1 σ' := by
  refine ⟨fun b w hb => ?_, by rw [hm, if_pos rfl], fun b hb => ?_⟩
  · rw [hm] at hb
    by_cases hba : b = a
    · rw [if_pos hba, Option.some.injEq] at hb
      subst hba hb
      exact ⟨k, hv⟩
    · rw [if_neg hba] at hb
      exact h1 b w hb
  · rw [hm]
    by_cases hba : b = a
    · rw [if_pos hba]; rfl
    · rw [if_neg hba]; exact hb

end pass

/-- the longest path into a node, by plain recursion over the arcs: `max(0, …)` of source + units -/
def lpF (arcs : Nat → Option (List (Nat × Rat))) : Nat → Nat → Option Rat
  | 0, _ => none
  | k + 1, a =>
    match arcs a with
    | none => none
    | some L => (L.mapM (fun p => (lpF arcs k p.1).map (fun x => x + p.2))).map (fun vs => vs.foldl pyMaxR 0)

theorem lpF_mono (arcs : Nat → Option (List (Nat × Rat))) (k : Nat) (a : Nat) (v : Rat) (h : lpF arcs k a = some v) :
    lpF arcs (k + 1) a = some v := by
  induction k generalizing a v with
  | zero => simp [lpF] at h
  | succ k ih =>
    rw [lpF] at h ⊢
    cases hL : arcs a with
    | none => rw [hL] at h; cases h
    | some L =>
      rw [hL] at h
      simp only [Option.map_eq_some_iff] at h ⊢
      obtain ⟨vs, hvs, rfl⟩ := h
      refine ⟨vs, mapM_some_congr _ _ _ _ (fun p _ b hb => ?_) hvs, rfl⟩
      simp only [Option.map_eq_some_iff] at hb ⊢
      obtain ⟨x, hx, rfl⟩ := hb
      exact ⟨x, ih p.1 x hx, rfl⟩

theorem lpF_mono_le (arcs : Nat → Option (List (Nat × Rat))) (k k' : Nat) (hk : k ≤ k') (a : Nat) (v : Rat)
    (h : lpF arcs k a = some v) : lpF arcs k' a = some v := fuel_mono_le (lpF_mono arcs) hk h

theorem lpF_arcs {arcs : Nat → Option (List (Nat × Rat))} {k a : Nat} {v : Rat} (h : lpF arcs k a = some v) :
    ∃ L, arcs a = some L := by
  cases k with
  | zero => cases h
  | succ k =>
    rw [lpF] at h
    cases hA : arcs a with
    | none => rw [hA] at h; cases h
    | some L => exact ⟨L, rfl⟩

section forward
variable (B : Nat)

/-- the state of a forward pass over the store `σ0`: only `start_units` were written, and what was written is the
    longest path -/
structure FwdInv (σ0 σ : Store) : Prop where
  same : SameF B σ0 σ
  memo : ∀ a v, suOf B σ a = some v → ∃ k, lpF (inArcs B σ0) k a = some v

theorem fwd_sound (σ0 : Store) : MemoSound (FwdInv B σ0) (suOf B) (lpF (inArcs B σ0)) :=
  ⟨fun _ h => h.memo, lpF_mono _⟩

abbrev FwdOK (σ0 : Store) (k : Nat) : Prop := PassOK (FwdInv B σ0) (suOf B) (lpF (inArcs B σ0)) (forwardA B) k

theorem fwd_correct (σ0 : Store) : ∀ k, FwdOK B σ0 k := by
  intro k
  induction k with
  | zero => intro a v σ _ h; cases h
  | succ k ih =>
    intro a v σ hinv h
    obtain ⟨L, hA⟩ := lpF_arcs h
    have h' := h
    rw [lpF, hA] at h'
    obtain ⟨vs, hvs, rfl⟩ := Option.map_eq_some_iff.1 h'
    obtain ⟨fw, bw, su0, eu, hg0, hbw⟩ := inArcs_some B hA
    obtain ⟨su, hg⟩ := hinv.same.node B hg0
    cases su with
    | some w =>
      refine ⟨σ, ?_, hinv, (fwd_sound B σ0).eq hinv h (by simp only [suOf, hg]; rfl), Keeps.refl σ⟩
      simp only [forwardA, hg, Option.isNone_some, Bool.false_eq_true, if_false]
    | none =>
      obtain ⟨σ1, hfold, hinv1, hmono1⟩ := ih.loop (fwd_sound B σ0) (step := fwdStep B (forwardA B k))
        (f := fun x u => x + u) (g := pyMaxR) (fun σ ms l p w σ1 hinv hp hw hσ1 hinv1 hsu1 => by
          obtain ⟨e', hl0⟩ := resolveIn_some B hp
          -- the source of the arc is a node
          obtain ⟨L2, hL2⟩ := lpF_arcs hw
          obtain ⟨fws, bws, sus0, eus, hgs0, _⟩ := inArcs_some B hL2
          obtain ⟨sus, hgs⟩ := hinv.same.node B hgs0
          obtain ⟨sus1, hgs1⟩ := hinv1.same.node B hgs0
          simp only [suOf, hgs] at hσ1
          simp only [suOf, hgs1] at hsu1
          subst hsu1
          simp only [fwdStep, (hinv.same.link B).1 hl0, hgs, hσ1, (hinv1.same.link B).1 hl0, hgs1])
        bw L vs σ 0 hinv hbw hvs
      obtain ⟨su1, hg1⟩ := hinv1.same.node B hg0
      have hset := setSU_node B hg1 (some (vs.foldl pyMaxR 0))
      obtain ⟨hmemo, hsu, hk⟩ := memo_write (suOf_setSU B hset) h hinv1.memo
      exact ⟨_, by simp only [forwardA, hg, Option.isNone_none, if_true, hfold, hset],
        ⟨hinv1.same.trans B (SameF.of_setSU B hset), hmemo⟩, hsu, hmono1.trans hk⟩

theorem fwd_all (σ0 : Store) (k : Nat) :
    ∀ (ns : List Nat) (σ : Store), FwdInv B σ0 σ → (∀ n ∈ ns, ∃ v, lpF (inArcs B σ0) k n = some v) →
      ∃ σ', ns.foldlM (forwardA B k) σ = some σ' ∧ FwdInv B σ0 σ' ∧ Keeps (suOf B) σ σ' ∧
        ∀ n ∈ ns, (suOf B σ' n).isSome :=
  (fwd_correct B σ0 k).all

theorem FwdInv.su_eq {σ0 σ : Store} (h : FwdInv B σ0 σ) {k : Nat} {a : Nat} {v : Rat}
    (hv : lpF (inArcs B σ0) k a = some v) (hs : (suOf B σ a).isSome) : suOf B σ a = some v :=
  (fwd_sound B σ0).eq h hv hs

end forward

/-- one step of the running minimum of `__backward` (`min_end` starts as `None`) -/
def minStep (acc : Option Rat) (x : Rat) : Option Rat :=
  some (match acc with | none => x | some m => pyMinR m x)

/-- the latest time of a node, by plain recursion over the arcs: the minimum of target - units; a node without
    outgoing arcs gets its `start_units` (`su0`) -/
def ltF (arcs : Nat → Option (List (Nat × Rat))) (su0 : Nat → Option Rat) : Nat → Nat → Option Rat
  | 0, _ => none
  | k + 1, a =>
    match arcs a with
    | none => none
    | some L =>
      match L.mapM (fun p => (ltF arcs su0 k p.1).map (fun x => x - p.2)) with
      | none => none
      | some vs =>
        match vs.foldl minStep none with
        | some m => some m
        | none => su0 a

theorem ltF_mono (arcs : Nat → Option (List (Nat × Rat))) (su0 : Nat → Option Rat) (k : Nat) (a : Nat) (v : Rat)
    (h : ltF arcs su0 k a = some v) : ltF arcs su0 (k + 1) a = some v := by
  induction k generalizing a v with
  | zero => simp [ltF] at h
  | succ k ih =>
    rw [ltF] at h ⊢
    cases hL : arcs a with
    | none => rw [hL] at h; cases h
    | some L =>
      rw [hL] at h
      simp only at h ⊢
      cases hvs : L.mapM (fun p => (ltF arcs su0 k p.1).map (fun x => x - p.2)) with
      | none => rw [hvs] at h; cases h
      | some vs =>
        rw [hvs] at h
        have : L.mapM (fun p => (ltF arcs su0 (k + 1) p.1).map (fun x => x - p.2)) = some vs := by
          refine mapM_some_congr _ _ _ _ (fun p _ b hb => ?_) hvs
          simp only [Option.map_eq_some_iff] at hb ⊢
          obtain ⟨x, hx, rfl⟩ := hb
          exact ⟨x, ih p.1 x hx, rfl⟩
        rw [this]
        exact h

theorem ltF_mono_le (arcs : Nat → Option (List (Nat × Rat))) (su0 : Nat → Option Rat) (k k' : Nat) (hk : k ≤ k')
    (a : Nat) (v : Rat) (h : ltF arcs su0 k a = some v) : ltF arcs su0 k' a = some v :=
  fuel_mono_le (ltF_mono arcs su0) hk h

theorem ltF_arcs {arcs : Nat → Option (List (Nat × Rat))} {su0 : Nat → Option Rat} {k a : Nat} {v : Rat}
    (h : ltF arcs su0 k a = some v) : ∃ L, arcs a = some L := by
  cases k with
  | zero => cases h
  | succ k =>
    rw [ltF] at h
    cases hA : arcs a with
    | none => rw [hA] at h; cases h
    | some L => exact ⟨L, rfl⟩

section backward
variable (B : Nat)

/-- the state of a backward pass over the store `σ1`: only `end_units` were written, and what was written is the
    latest time -/
structure BwdInv (σ1 σ : Store) : Prop where
  same : SameB B σ1 σ
  memo : ∀ a v, euOf B σ a = some v → ∃ k, ltF (outArcs B σ1) (suOf B σ1) k a = some v

theorem bwd_sound (σ1 : Store) : MemoSound (BwdInv B σ1) (euOf B) (ltF (outArcs B σ1) (suOf B σ1)) :=
  ⟨fun _ h => h.memo, ltF_mono _ _⟩

abbrev BwdOK (σ1 : Store) (k : Nat) : Prop :=
  PassOK (BwdInv B σ1) (euOf B) (ltF (outArcs B σ1) (suOf B σ1)) (backwardA B) k

theorem bwd_correct (σ1 : Store) : ∀ k, BwdOK B σ1 k := by
  intro k
  induction k with
  | zero => intro a v σ _ h; cases h
  | succ k ih =>
    intro a v σ hinv h
    obtain ⟨L, hA⟩ := ltF_arcs h
    have h' := h
    rw [ltF, hA] at h'
    simp only at h'
    cases hvs : L.mapM (fun p => (ltF (outArcs B σ1) (suOf B σ1) k p.1).map (fun x => x - p.2)) with
    | none => rw [hvs] at h'; cases h'
    | some vs =>
      rw [hvs] at h'
      simp only at h'
      obtain ⟨fw, bw, su, eu0, hg0, hfw⟩ := outArcs_some B hA
      obtain ⟨eu, hg⟩ := hinv.same.node B hg0
      cases eu with
      | some w =>
        refine ⟨σ, ?_, hinv, (bwd_sound B σ1).eq hinv h (by simp only [euOf, hg]; rfl), Keeps.refl σ⟩
        simp only [backwardA, hg, Option.isNone_some, Bool.false_eq_true, if_false]
      | none =>
        obtain ⟨σ2, hfold, hinv2, hmono2⟩ := ih.loop (bwd_sound B σ1) (step := bwdStep B (backwardA B k))
          (f := fun x u => x - u) (g := minStep) (fun σ me l p w σ2 hinv hp hw hσ2 hinv2 heu2 => by
            obtain ⟨s', hl0⟩ := resolveOut_some B hp
            obtain ⟨L2, hL2⟩ := ltF_arcs hw
            obtain ⟨fwe, bwe, sue, eue0, hge0, _⟩ := outArcs_some B hL2
            obtain ⟨eue, hge⟩ := hinv.same.node B hge0
            obtain ⟨eue2, hge2⟩ := hinv2.same.node B hge0
            simp only [euOf, hge] at hσ2
            simp only [euOf, hge2] at heu2
            subst heu2
            simp only [bwdStep, (hinv.same.link B).1 hl0, hge, hσ2, (hinv2.same.link B).1 hl0, hge2, minStep]
            cases me <;> rfl)
          fw L vs σ none hinv hfw hvs
        obtain ⟨eu2, hg2⟩ := hinv2.same.node B hg0
        have hset := setEU_node B hg2 (some v)
        -- what is written is `v`: the minimum, or `start_units` where there is no arc
        have hrun : backwardA B (k + 1) σ a = setEU B σ2 a (some v) := by
          simp only [backwardA, hg, Option.isNone_none, if_true, hfold]
          cases hm : vs.foldl minStep none with
          | some m => rw [hm] at h'; cases h'; rfl
          | none =>
            rw [hm] at h'
            simp only [suOf, hg0] at h'
            subst h'
            simp only [hg2]
        obtain ⟨hmemo, heu, hk⟩ := memo_write (euOf_setEU B hset) h hinv2.memo
        exact ⟨_, hrun.trans hset, ⟨hinv2.same.trans B (SameB.of_setEU B hset), hmemo⟩, heu, hmono2.trans hk⟩

theorem bwd_all (σ1 : Store) (k : Nat) :
    ∀ (ns : List Nat) (σ : Store), BwdInv B σ1 σ →
      (∀ n ∈ ns, ∃ v, ltF (outArcs B σ1) (suOf B σ1) k n = some v) →
      ∃ σ', ns.foldlM (backwardA B k) σ = some σ' ∧ BwdInv B σ1 σ' ∧ Keeps (euOf B) σ σ' ∧
        ∀ n ∈ ns, (euOf B σ' n).isSome :=
  (bwd_correct B σ1 k).all

theorem BwdInv.eu_eq {σ1 σ : Store} (h : BwdInv B σ1 σ) {k : Nat} {a : Nat} {v : Rat}
    (hv : ltF (outArcs B σ1) (suOf B σ1) k a = some v) (hs : (euOf B σ a).isSome) : euOf B σ a = some v :=
  (bwd_sound B σ1).eq h hv hs

end backward

end Pj.CritPathSrc

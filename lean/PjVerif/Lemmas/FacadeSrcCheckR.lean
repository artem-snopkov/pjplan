/-
  Lemmas/FacadeSrcCheckR.lean — the translated tie for the list facades of task.py on concrete graphs, continued: every
  call of `_ChildrenList.remove` / `append` on the graphs `g1`, `g2` (`agreeChRemove`, `agreeChAppend` of
  Lemmas/FacadeSrcCheck.lean) and of the link facades (`agreeLinks` of Lemmas/FacadeSrcCheckA.lean) as instances of the
  general theorems, and the sweep `moveAgree` of Lemmas/FacadeSrcCheckB.lean, which holds on every graph
  (`interpChMove_eq`).
-/
import PjVerif.Lemmas.FacadeSrcRuns
import PjVerif.Lemmas.FacadeSrcCheckA
import PjVerif.Lemmas.FacadeSrcCheckB
namespace Pj.FacadeSrc
open Pj.PyLite Pj.Extracted Pj.Extracted.Facade Pj.TaskSrc Pj.TaskSrc.Check
namespace Check

-- on `g1`, `g2` no call ends in RecursionError (evaluated on the model)
example : allU g1 (fun h => allU g1 (fun t => decide (agreeChRemove g1 h t))) = true :=
  chRemoveAgree_of g1 (by decide) (by decide +kernel)
example : allU g2 (fun h => allU g2 (fun t => decide (agreeChRemove g2 h t))) = true :=
  chRemoveAgree_of g2 (by decide) (by decide +kernel)

example : allU g2 (fun h => allU g2 (fun t => decide (agreeChAppend g2 h t))) = true :=
  chAppendAgree_of g2 (by decide) (by decide +kernel)
example : allU g1 (fun h => allU g1 (fun t => decide (agreeChAppend g1 h t))) = true :=
  chAppendAgree_of g1 (by decide) (by decide +kernel)

/-- the link facades on every pair of tasks: `interpPrAppend_eq` … `interpSuRemove_eq`, when no call ends in
    RecursionError -/
theorem agreeLinks_of (s : G) (hF : s.n + 5 ≤ FF)
    (hrec : allU s (fun t => allU s (fun x => noRec (prAppend s t x) && noRec (prRemove s t x) &&
      noRec (suAppend s t x) && noRec (suRemove s t x))) = true) : allU s (fun t => allU s (fun x => agreeLinks s t x)) = true :=
  allU_imp (fun t => allU_imp fun x => and_imp (and_imp (and_imp
    (dec_imp (runE_of s (interpPrAppend_eq s _ rfl t x FF hF))) (dec_imp (runE_of s (interpPrRemove_eq s _ rfl t x FF hF))))
    (dec_imp (runE_of s (interpSuAppend_eq s _ rfl t x FF hF)))) (dec_imp (runE_of s (interpSuRemove_eq s _ rfl t x FF hF))))
    hrec

example : allU g1 (fun t => allU g1 (fun x => agreeLinks g1 t x)) = true := agreeLinks_of g1 (by decide) (by decide +kernel)
example : allU g2 (fun t => allU g2 (fun x => agreeLinks g2 t x)) = true := agreeLinks_of g2 (by decide) (by decide +kernel)

theorem moveAgree_all (s : G) : moveAgree s = true :=
  allU_intro fun h => allU_intro fun t => all_intro fun x => and_intro (and_intro (and_intro
    (decide_eq_true (move_run s h (valueOf_task t) x none)) (decide_eq_true (move_run s h (valueOf_refs _) none x)))
    (decide_eq_true (move_run s h (valueOf_refs _) x none))) (decide_eq_true (move_run s h (valueOf_refs _) x (some 2)))

example : moveAgree g6 = true := moveAgree_all g6
example : moveAgree g7 = true := moveAgree_all g7

end Check
end Pj.FacadeSrc

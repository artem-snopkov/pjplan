/-
  Lemmas/WbsSrcC.lean — stage 3 of the translated tie for wbs.py: `WBS.clone()` / `WBS.subtree(roots)`
  with `__clone`, `__clone_tasks` and its closure `link_target` = `cloneWbs` / `cloneSel` (Model/Clone.lean), for
  reachable states (`Inv`) and roots that are members of the WBS.  See Lemmas/WbsSrc.lean; the model-level part (the
  setters do not look at the not yet constructed WBS object) is Lemmas/WbsSrcM.lean, the dicts are Lemmas/WbsSrcC1.lean;
  `SelOK`, `Sound`, `perTask`, `IsClone`, `Outside`, `Lc`, `tgtP`, `tgtS` are the model's own run of `cloneSel`,
  Lemmas/CloneLemmas.lean.
-/
import PjVerif.Lemmas.WbsSrcC1
import PjVerif.Lemmas.WbsSrcM
import PjVerif.Lemmas.PyLogic
namespace Pj.WbsSrc
open Pj.PyLite Pj.Extracted Pj.TaskSrc
set_option linter.unusedSimpArgs false
set_option linter.unusedVariables false

variable (filt : List Atom → PState → List Uid)

/-- the Python state while the per-task setters run on the model state `g`: the object `X` (the hidden root of the
    new WBS) is not constructed yet, the allocation pointer stands at `X` -/
def stU (st : PState) (X : Uid) (v : Int) (g : G) : PState := setHR st (encHeap (unroot X v g)) X

/-- that state inside `__clone_tasks` for the selection `sel` of the universe `s`: the clones are the objects `s.n, …`,
    the new WBS object will be `s.n + sel.length` -/
abbrev stC (st : PState) (s : G) (sel : List Uid) (g : G) : PState :=
  stU st (s.n + sel.length) (s.tid (s.n + sel.length)) g

theorem stU_heap (st : PState) (X : Uid) (v : Int) (g : G) : (stU st X v g).heap = encHeap (unroot X v g) := rfl
theorem stU_reads (st : PState) (X : Uid) (v : Int) (g : G) : (stU st X v g).reads = X := rfl
theorem withG_stU (st : PState) (X : Uid) (v : Int) (g g' : G) :
    withG (stU st X v g) (unroot X v g') = stU st X v g' := rfl

theorem encTask_congr (a b : G) (u : Uid) (h1 : a.tid u = b.tid u) (h2 : a.parent u = b.parent u)
    (h3 : a.children u = b.children u) (h4 : a.preds u = b.preds u) (h5 : a.succs u = b.succs u)
    (h6 : a.owner u = b.owner u) : encTask a u = encTask b u := by
  simp only [encTask, h1, h2, h3, h4, h5, h6]

theorem newTask_eq (g : G) (u : Uid) (i : Int) (o : Option Uid) (h1 : g.tid u = i) (h2 : g.parent u = none)
    (h3 : g.children u = []) (h4 : g.preds u = []) (h5 : g.succs u = []) (h6 : g.owner u = o) :
    newTask (.atom (idA i)) (optRef o) = encTask g u := by
  simp only [encTask, newTask, h1, h2, h3, h4, h5, h6, refs, List.map_nil, optRef_none]

/-- after the clones are constructed the store is the encoding of the extended universe without its new root -/
theorem cloneHeap_extend (s : G) (hb : Bounded s) (sel : List Uid) :
    cloneHeap s (encHeap s) s.n sel =
      encHeap (unroot (s.n + sel.length) (s.tid (s.n + sel.length)) (extend s sel)) := by
  funext u
  simp only [cloneHeap, encHeap]
  by_cases h : s.n ≤ u ∧ u < s.n + sel.length
  · rw [if_pos h]
    obtain ⟨b1, b2, b3, b4, b5⟩ := hb.blank u h.1
    have hne : u ≠ s.n + sel.length := by uomega
    have hu : u = s.n + (u - s.n) := by uomega
    apply newTask_eq _ u _ none
    · rw [unroot_tid_ne _ _ _ _ hne]
      conv => lhs; rw [hu]
      exact extend_tid_clone s sel (u - s.n) (by uomega)
    · exact b1
    · exact b2
    · exact b3
    · exact b4
    · rw [unroot_owner_ne _ _ _ _ hne, extend_owner, if_neg hne]; exact b5
  · rw [if_neg h]
    by_cases hX : u = s.n + sel.length
    · subst hX
      obtain ⟨b1, b2, b3, b4, b5⟩ := hb.blank (s.n + sel.length) (by uomega)
      -- the blank cell: `unroot` puts the id back and `extend` touches no relation
      exact encTask_congr _ _ _ (upd_same _ _ _).symm rfl rfl rfl rfl (b5.trans (upd_same _ _ _).symm)
    · apply encTask_congr
      · rw [unroot_tid_ne _ _ _ _ hX]
        rcases Nat.lt_or_ge u s.n with h1 | h1
        · exact (extend_tid_lt s sel u h1).symm
        · exact (extend_tid_gt s sel u (by uomega)).symm
      · rfl
      · rfl
      · rfl
      · rfl
      · rw [unroot_owner_ne _ _ _ _ hX, extend_owner, if_neg hX]

/-- constructing the new WBS object turns the store into the encoding of the model's state -/
theorem rootHeap (X : Uid) (v : Int) (g : G) (hI : Isolated X g) (ht : g.tid X = emptyId) (ho : g.owner X = some X) :
    (fun j => if j = X then newTask (.atom (idA emptyId)) (.ref X) else encHeap (unroot X v g) j) = encHeap g := by
  funext u
  by_cases h : u = X
  · subst h
    rw [if_pos rfl]
    exact newTask_eq g u emptyId (some u) ht hI.parent hI.children hI.preds hI.succs ho
  · rw [if_neg h]
    exact encTask_congr _ _ u (unroot_tid_ne _ _ _ _ h) rfl rfl rfl rfl (unroot_owner_ne _ _ _ _ h)

section reads
variable {s : G} {w : Uid} {sel : List Uid} {g : G}

/-- while the setters run on the clones the objects of the source WBS stay as they were: what the source reads of them
    there is what the model reads in the initial state -/
theorem _root_.Pj.Sound.cell (h : Sound s w sel g) (st : PState) (u : Uid) (hu : u < s.n) (ho : s.owner u = some w) :
    (stC st s sel g).heap u = encTask s u :=
  encTask_congr _ _ u ((unroot_tid_ne _ _ _ _ (lt_ne_X s sel u hu)).trans (h.tid_lt u hu)) (h.fr.hier.parent u hu)
    (h.fr.hier.children u hu) (h.fr.links.member u hu ho).1 (h.fr.links.member u hu ho).2
    ((unroot_owner_ne _ _ _ _ (lt_ne_X s sel u hu)).trans (h.fr.hier.owner u hu))

/-- members of the WBS `w` have ids of their own -/
theorem idInj_of_member (ok : SelOK s w sel) (x : Uid) (hx : s.owner x = some w) (hxh : s.hidden x = false) :
    IdInjOn s sel x :=
  fun a ha e => Classical.byContradiction fun hne => ok.tid_ne a x ha hx hxh hne e

theorem idInj_of_mem (ok : SelOK s w sel) (x : Uid) (hx : x ∈ sel) : IdInjOn s sel x :=
  idInj_of_member ok x (ok.mem x hx).1 (ok.mem x hx).2.1

end reads

/-- what the loop of `__clone_tasks` reads of its locals -/
abbrev ctEnv (s : G) (w : Uid) (sel : List Uid) : PyLite.Env :=
  [("self", .atom (.ref w)), ("all_tasks", .dict (allDict s sel)), ("cloned_tasks", .dict (cloneDict s s.n sel))]

section evals
variable {s : G} {w : Uid} {sel : List Uid} {g : G} (st : PState)

/-- `e.id` for a source task -/
theorem ev_id (H : PHandlers) (h : Sound s w sel g) (ρ : PyLite.Env) (e : Expr) (t : Uid) (ht : t < s.n)
    (ho : s.owner t = some w) (he : e.evalP H [] ρ (stC st s sel g) = .ok (.atom (.ref t), stC st s sel g)) :
    (Expr.attr e "id").evalP H [] ρ (stC st s sel g) = .ok (.atom (idA (s.tid t)), stC st s sel g) :=
  evalP_attr he
    (by rw [h.cell st t ht ho]; rfl)

/-- `all_tasks[x.id]` is `x` itself -/
theorem ev_all (H : PHandlers) (h : Sound s w sel g) (ok : SelOK s w sel) (ρ : PyLite.Env) (hρ : Env.le (ctEnv s w sel) ρ)
    (x : String) (t : Uid) (ht : t ∈ sel) (hx : ρ.get? x = some (.atom (.ref t))) :
    (Expr.dictIndex (.var "all_tasks") (.attr (.var x) "id")).evalP H [] ρ (stC st s sel g) =
      .ok (.atom (.ref t), stC st s sel g) :=
  evalP_dictIndex (evalP_var _ _ _ _ _ _ (hρ.get "all_tasks"))
    (ev_id st H h ρ _ t (ok.mem t ht).2.2 (ok.mem t ht).1 (evalP_var _ _ _ _ _ _ hx)) (allDict_get s t sel ht (idInj_of_mem ok t ht))

/-- `cloned_tasks[x.id]` for a selected task `x`: its clone -/
theorem ev_cl (H : PHandlers) (h : Sound s w sel g) (ok : SelOK s w sel) (ρ : PyLite.Env) (hρ : Env.le (ctEnv s w sel) ρ)
    (x : String) (t c : Uid) (ht : t ∈ sel) (hc : cloneOf s.n sel t = some c)
    (hx : ρ.get? x = some (.atom (.ref t))) :
    (Expr.dictIndex (.var "cloned_tasks") (.attr (.var x) "id")).evalP H [] ρ (stC st s sel g) =
      .ok (.atom (.ref c), stC st s sel g) :=
  evalP_dictIndex (evalP_var _ _ _ _ _ _ (hρ.get "cloned_tasks"))
    (ev_id st H h ρ _ t (ok.mem t ht).2.2 (ok.mem t ht).1 (evalP_var _ _ _ _ _ _ hx))
    (by rw [cloneDict_get s t sel s.n (idInj_of_mem ok t ht), hc]; rfl)

end evals

section rhs
variable {s : G} {w : Uid} {sel : List Uid} {g : G} (st : PState)

/-- `all_tasks[t.id].parent` (the public parent of the source task) -/
theorem ev_pub (F : Nat) (h : Sound s w sel g) (ok : SelOK s w sel) (hI : Isolated (s.n + sel.length) g)
    (ρ : PyLite.Env) (hρ : Env.le (ctEnv s w sel) ρ) (t : Uid) (ht : t ∈ sel) (hx : ρ.get? "t" = some (.atom (.ref t))) :
    (Expr.callFn fn_Task_parent_get (.listCons (.dictIndex (.var "all_tasks") (.attr (.var "t") "id")) .listNil)).evalP
        (Hw filt (F + 2)) [] ρ (stC st s sel g) =
      .ok (.atom (optRef (s.pubParent t)), stC st s sel g) := by
  rw [evalP_callFn1 (ha := ev_all st _ h ok ρ hρ "t" t ht hx), fnW_base _ _ _ wf_base_parent_get,
    parent_get_spec progHd (unroot _ _ g) _ rfl (F + 1) t, unroot_pubParent _ _ _ hI, h.pub_lt ok t (ok.mem t ht).2.2]

def ctRhsParent : Expr :=
  .ite (.callFn fn_Task_parent_get (.listCons (.dictIndex (.var "all_tasks") (.attr (.var "t") "id")) .listNil))
    (.dictGet (.var "cloned_tasks") (.attr (.callFn fn_Task_parent_get
      (.listCons (.dictIndex (.var "all_tasks") (.attr (.var "t") "id")) .listNil)) "id"))
    .none

/-- `cloned_tasks.get(all_tasks[t.id].parent.id) if all_tasks[t.id].parent else None` -/
theorem ev_rhs_parent (F : Nat) (h : Sound s w sel g) (ok : SelOK s w sel) (hI : Isolated (s.n + sel.length) g)
    (ρ : PyLite.Env) (hρ : Env.le (ctEnv s w sel) ρ) (t : Uid) (ht : t ∈ sel) (hx : ρ.get? "t" = some (.atom (.ref t))) :
    ctRhsParent.evalP (Hw filt (F + 2)) [] ρ (stC st s sel g) =
      .ok (.atom (optRef ((s.pubParent t).bind (cloneOf s.n sel))), stC st s sel g) := by
  have hpg := ev_pub filt st F h ok hI ρ hρ t ht hx
  unfold ctRhsParent
  cases hp : s.pubParent t with
  | none =>
    rw [hp] at hpg
    rw [evalP_ite (hc := hpg) (ht := rfl), if_neg (by decide)]
    rfl
  | some p =>
    rw [hp] at hpg
    -- the public parent is a member of the same WBS: its id is its own among the selection
    obtain ⟨hpar, hph⟩ := (pubParent_eq_some_iff s t p).mp hp
    have hpo : s.owner p = some w := by rw [← ok.inv.own.inherit t p hpar]; exact (ok.mem t ht).1
    rw [evalP_ite (hc := hpg) (ht := rfl), if_pos rfl,
      evalP_dictGet (hd := evalP_var _ _ _ _ _ _ (hρ.get "cloned_tasks")) (hk := ev_id st _ h ρ _ p (ok.inv.bnd.parent t p hpar).2 hpo hpg),
      cloneDict_get s p sel s.n (idInj_of_member ok p hpo hph), Option.bind_some]
    cases cloneOf s.n sel p <;> rfl

theorem map_cloneOf (n : Nat) (sel l : List Uid) (hl : ∀ x ∈ l, x ∈ sel) :
    l.map (fun x => optRef (cloneOf n sel x)) = (l.filterMap (cloneOf n sel)).map Atom.ref := by
  induction l with
  | nil => rfl
  | cons a l ih =>
    obtain ⟨c, hc⟩ := cloneOf_mem n sel a (hl a List.mem_cons_self)
    simp only [List.map_cons, List.filterMap_cons, hc, optRef_some]
    rw [ih (fun x hx => hl x (List.mem_cons_of_mem _ hx))]

/-- `[cloned_tasks[x.id] for x in <selected tasks>]`: their clones (`hid`: the store still holds the ids of the
    source tasks) -/
theorem ev_clones (H : PHandlers) (ok : SelOK s w sel) (ρ : PyLite.Env) (st0 st' : PState) (it : Expr) (x : String)
    (l : List Uid) (hl : ∀ r ∈ l, r ∈ sel) (hx : x ≠ "cloned_tasks")
    (hcl : ρ.get? "cloned_tasks" = some (.dict (cloneDict s s.n sel)))
    (hid : ∀ r ∈ l, (st'.heap r).get? "id" = some (.atom (idA (s.tid r))))
    (hit : it.evalP H [] ρ st0 = .ok (refs l, st')) :
    (Expr.listComp (.dictIndex (.var "cloned_tasks") (.attr (.var x) "id")) x it (.bool true)).evalP H [] ρ st0 =
      .ok (refs (l.filterMap (cloneOf s.n sel)), st') := by
  rw [evalP_comp_refs H [] ρ st0 st' _ it x l (fun r => optRef (cloneOf s.n sel r)) hit
    (fun r hr => evalP_dictIndex (evalP_var _ _ _ _ _ _ (by rw [Env.get?_set, if_neg hx]; exact hcl))
      (evalP_attr (evalP_var _ _ _ _ _ _ (by rw [Env.get?_set, if_pos rfl])) (hid r hr))
      (by rw [cloneDict_get s r sel s.n (idInj_of_mem ok r (hl r hr))]
          obtain ⟨c, hc⟩ := cloneOf_mem s.n sel r (hl r hr)
          rw [hc]; rfl)),
    map_cloneOf _ _ _ hl]
  rfl

def ctRhsChildren : Expr :=
  .listComp (.dictIndex (.var "cloned_tasks") (.attr (.var "ch") "id")) "ch"
    (.attr (.dictIndex (.var "all_tasks") (.attr (.var "t") "id")) "children") (.bool true)

/-- `[cloned_tasks[ch.id] for ch in all_tasks[t.id].children]` -/
theorem ev_rhs_children (H : PHandlers) (h : Sound s w sel g) (ok : SelOK s w sel)
    (hclosed : ∀ t ∈ sel, ∀ ch ∈ s.children t, ch ∈ sel)
    (ρ : PyLite.Env) (hρ : Env.le (ctEnv s w sel) ρ) (t : Uid) (ht : t ∈ sel) (hx : ρ.get? "t" = some (.atom (.ref t))) :
    ctRhsChildren.evalP H [] ρ (stC st s sel g) =
      .ok (refs ((s.children t).filterMap (cloneOf s.n sel)),
        stC st s sel g) :=
  ev_clones H ok ρ _ _ _ "ch" (s.children t) (hclosed t ht) (by decide) (hρ.get "cloned_tasks")
    (fun r hr => by
      rw [h.cell st r (ok.mem r (hclosed t ht r hr)).2.2 (ok.mem r (hclosed t ht r hr)).1]; rfl)
    (evalP_attr (ev_all st H h ok ρ hρ "t" t ht hx)
      (by rw [h.cell st t (ok.mem t ht).2.2 (ok.mem t ht).1]; exact encTask_children s t))

end rhs

section links
variable {s : G} {w : Uid} {sel : List Uid} {g : G} (st : PState)

def ctRhsLinks (fld : String) : Expr :=
  .listComp (.var "v") "v"
    (.listComp (.callFn fn_WBS_clone_tasks_link_target (.listCons (.var "self") (.listCons (.var "cloned_tasks")
        (.listCons (.var "ch") .listNil)))) "ch"
      (.attr (.dictIndex (.var "all_tasks") (.attr (.var "t") "id")) fld) (.bool true))
    (.isNotNone (.var "v"))

theorem filter_linkTarget (f : Uid → Option Uid) (l : List Uid) :
    ((l.map (fun x => optRef (f x))).filter (fun a => !decide (Val.atom a = Val.atom Atom.none))).map (fun a => a) =
      (l.filterMap f).map Atom.ref := by
  induction l with
  | nil => rfl
  | cons a l ih =>
    simp only [List.map_cons, List.filter_cons, List.filterMap_cons]
    cases f a with
    | none => simpa using ih
    | some y => simpa using ih

/-- `link_target(x)` for a link end `x` of a source task = the model's `linkTarget` -/
theorem ev_link_target (F : Nat) (h : Sound s w sel g) (ok : SelOK s w sel) (ρ : PyLite.Env) (hρ : Env.le (ctEnv s w sel) ρ)
    (x : Uid) (hxn : x < s.n) (hxh : s.hidden x = false) (hx : ρ.get? "ch" = some (.atom (.ref x))) :
    (Expr.callFn fn_WBS_clone_tasks_link_target (.listCons (.var "self") (.listCons (.var "cloned_tasks")
        (.listCons (.var "ch") .listNil)))).evalP (Hw filt (F + 1)) [] ρ
        (stC st s sel g) =
      .ok (.atom (optRef (linkTarget s w s.n sel x)), stC st s sel g) := by
  rw [evalP_callFn3 (ha := evalP_var _ _ _ _ _ _ (hρ.get "self")) (hb := evalP_var _ _ _ _ _ _ (hρ.get "cloned_tasks"))
    (hc := evalP_var _ _ _ _ _ _ hx), link_target_spec filt (unroot _ _ g) _ rfl w x _ F,
    unroot_owner_ne _ _ _ _ (lt_ne_X s sel x hxn), unroot_tid_ne _ _ _ _ (lt_ne_X s sel x hxn),
    h.fr.hier.owner x hxn, h.tid_lt x hxn]
  unfold linkTarget
  by_cases ho : s.owner x = some w
  · rw [if_pos ho, if_pos ho, cloneDict_get s x sel s.n (idInj_of_member ok x ho hxh)]
    cases cloneOf s.n sel x <;> rfl
  · rw [if_neg ho, if_neg ho]
    rfl

/-- `[v for v in [link_target(ch) for ch in all_tasks[t.id].<links>] if v is not None]` -/
theorem ev_rhs_links {t : Uid} (F : Nat) (h : Sound s w sel g) (ok : SelOK s w sel) (fld : String) (l : List Uid)
    (hfld : (encTask s t).get? fld = some (refs l))
    (hl : ∀ x ∈ l, s.hidden x = false ∧ x < s.n)
    (ρ : PyLite.Env) (hρ : Env.le (ctEnv s w sel) ρ) (ht : t ∈ sel) (hx : ρ.get? "t" = some (.atom (.ref t))) :
    (ctRhsLinks fld).evalP (Hw filt (F + 1)) [] ρ (stC st s sel g) =
      .ok (refs (l.filterMap (linkTarget s w s.n sel)), stC st s sel g) := by
  unfold ctRhsLinks
  have hinner := evalP_listComp_pure (Hw filt (F + 1)) [] ρ
    (stC st s sel g) (stC st s sel g)
    (.callFn fn_WBS_clone_tasks_link_target (.listCons (.var "self") (.listCons (.var "cloned_tasks")
      (.listCons (.var "ch") .listNil)))) (.bool true)
    (.attr (.dictIndex (.var "all_tasks") (.attr (.var "t") "id")) fld) "ch" (l.map Atom.ref) (fun _ => true)
    (fun a => match a with | .ref x => optRef (linkTarget s w s.n sel x) | _ => Atom.none)
    (evalP_attr (ev_all st _ h ok ρ hρ "t" t ht hx) (by rw [h.cell st t (ok.mem t ht).2.2 (ok.mem t ht).1, hfld]; rfl))
    (by intro v _; simp only [Expr.evalP, pure, Except.pure])
    (by
      intro v hv _
      obtain ⟨x, hxl, rfl⟩ := List.mem_map.1 hv
      exact ev_link_target filt st F h ok _ (hρ.set_ne "ch" _) x (hl x hxl).2
        (hl x hxl).1 (by rw [Env.get?_set, if_pos rfl]))
  rw [filter_const_true, List.map_map] at hinner
  rw [evalP_listComp_pure (vs := l.map (fun x => optRef (linkTarget s w s.n sel x)))
    (st := stC st s sel g)
    (p := fun a => !decide (Val.atom a = Val.atom Atom.none)) (e := fun a => a)
    (hit := by rw [hinner]; rfl)
    (hc := by intro v _; simp only [Expr.evalP, Env.get?_set, if_true, bind, Except.bind, pure, Except.pure])
    (he := by intro v _ _; simp only [Expr.evalP, Env.get?_set, if_true, pure, Except.pure]),
    filter_linkTarget]
  rfl

end links

theorem ctBody_eq : ctBody =
    [.assign "c" (.dictIndex (.var "cloned_tasks") (.attr (.var "t") "id")),
     .expr (.callFn fn_Task_parent_set (.listCons (.var "c") (.listCons ctRhsParent .listNil))),
     .expr (.callFn fn_Task_children_set (.listCons (.var "c") (.listCons ctRhsChildren .listNil))),
     .expr (.callFn fn_Task_predecessors_set (.listCons (.var "c") (.listCons (ctRhsLinks "predecessors") .listNil))),
     .expr (.callFn fn_Task_successors_set (.listCons (.var "c") (.listCons (ctRhsLinks "successors") .listNil)))] := rfl

section step
variable {s : G} {w : Uid} {sel : List Uid} (st : PState)

/-- one statement `c.<relation> = rhs` of the loop body is one call `op` of `perTask` (`hop`, from `Mid.task_chain`);
    `hrun` is the theorem of Lemmas/TaskSrc*.lean about the setter -/
theorem Mid.assign {g g' : G} (hM : Mid s w sel g) {op : G → G × Option Err} (hop : Mid.Step s w sel op g g')
    {k : Nat} (hk : wbsFuns k = none) {rhs : Expr} {a : Val} {ρ : PyLite.Env} {c : Uid} {F : Nat}
    (hF : s.n + sel.length + 7 ≤ F + 1) (hc : ρ.get? "c" = some (.atom (.ref c)))
    (hrhs : rhs.evalP (Hw filt (F + 1)) [] ρ (stC st s sel g) = .ok (a, stC st s sel g))
    (hrun : g.n + 6 ≤ F + 1 →
      (op (unroot (s.n + sel.length) (s.tid (s.n + sel.length)) g)).2 ≠ some (.crash .recursion) →
      interp (F + 1) k [.atom (.ref c), a] (stC st s sel g) =
        setterResult (stC st s sel g) (op (unroot (s.n + sel.length) (s.tid (s.n + sel.length)) g))) :
    (Stmt.expr (.callFn k (.listCons (.var "c") (.listCons rhs .listNil)))).execP (Hw filt (F + 1)) [] noRec ρ
      (stC st s sel g) = .normal ρ (stC st s sel g') := by
  refine execP_expr (v := .atom .none) (he := ?_)
  rw [evalP_callFn2 (ha := evalP_var _ _ _ _ _ _ hc) (hb := hrhs), fnW_base _ _ _ hk, ← interp_eq,
    hrun (by rw [hM.sound.ci.n]; omega) (by rw [hop.blind]; simp), hop.blind]
  rfl

/-- one iteration of the loop for the task `sel[m]`: the four calls of `perTask`, each accepted by the model
    (`Mid.task_chain`, Lemmas/WbsSrcM.lean) -/
theorem ct_step (F : Nat) (hF : s.n + sel.length + 9 ≤ F) (ok : SelOK s w sel)
    (hclosed : ∀ t ∈ sel, ∀ ch ∈ s.children t, ch ∈ sel) (m : Nat) (hm : m < sel.length) (g : G)
    (hM : Mid s w sel g) (ρ : PyLite.Env) (hρ : Env.le (ctEnv s w sel) ρ) :
    ∃ ρ' g', Env.le (ctEnv s w sel) ρ' ∧ seqOps id g (perTask s w sel (sel.getD m 0)) = (g', none) ∧ Mid s w sel g' ∧
      execBlockP (Hw filt F) [] noRec ctBody (Env.set ρ "t" (.atom (.ref (sel.getD m 0)))) (stC st s sel g) =
        .normal ρ' (stC st s sel g') := by
  obtain ⟨F, rfl, hF⟩ := fuel_split 2 hF
  have ht : sel.getD m 0 ∈ sel := getD_mem sel m hm
  have hcl : cloneOf s.n sel (sel.getD m 0) = some (s.n + m) := ok.cloneOf_getD m hm
  obtain ⟨g1, g2, g3, g4, c1, c2, c3, c4⟩ := hM.task_chain ok m hm
  have hseq := ok.perTask_run m hm c1.run c2.run c3.run c4.run
  unfold Lc at c2
  unfold tgtP at c3
  unfold tgtS at c4
  generalize sel.getD m 0 = t at *
  -- the environment after `c = cloned_tasks[t.id]`
  have hρ1 : Env.le (ctEnv s w sel) (Env.set ρ "t" (.atom (.ref t))) := hρ.set_ne "t" _
  have hρ2 := hρ1.set_ne "c" (.atom (.ref (s.n + m)))
  have hgt : (Env.set (Env.set ρ "t" (.atom (.ref t))) "c" (.atom (.ref (s.n + m)))).get? "t" =
      some (.atom (.ref t)) := by
    rw [Env.get?_set, if_neg (by decide), Env.get?_set, if_pos rfl]
  have hgc : (Env.set (Env.set ρ "t" (.atom (.ref t))) "c" (.atom (.ref (s.n + m)))).get? "c" =
      some (.atom (.ref (s.n + m))) := by
    rw [Env.get?_set, if_pos rfl]
  have x1 := hM.assign filt st c1 wf_base_parent_set (by omega) hgc
    (ev_rhs_parent filt st F hM.sound ok hM.iso _ hρ2 t ht hgt)
    (fun hn => interpSetParent_eq _ _ rfl _ _ _ hn
      -- C01 on `g`: `unroot` leaves the children lists as they are
      (fun _ _ q _ _ => show (g.children q).count _ ≤ 1 from List.nodup_iff_count.1 (hM.sound.ci.inv.wf.once q) _))
  have x2 := c1.mid.assign filt st c2 wf_base_children_set (by omega) hgc
    (ev_rhs_children st (Hw filt (F + 2)) c1.mid.sound ok hclosed _ hρ2 t ht hgt)
    (fun hn => interpSetChildren_eq _ _ rfl _ _ _ (valueOf_refs _) _ hn)
  have x3 := c2.mid.assign filt st c3 wf_base_preds_set (by omega) hgc
    (ev_rhs_links filt st (F + 1) c2.mid.sound ok "predecessors" (s.preds t)
      (encTask_preds s t) (fun x hx => preds_ok s ok.inv t x hx) _ hρ2 ht hgt)
    (fun hn => interpSetPreds_eq _ _ rfl _ _ _ (valueOf_refs _) _ (Nat.le_of_add_right_le (k := 2) hn))
  have x4 := c3.mid.assign filt st c4 wf_base_succs_set (by omega) hgc
    (ev_rhs_links filt st (F + 1) c3.mid.sound ok "successors" (s.succs t)
      (encTask_succs s t) (fun x hx => succs_ok s ok.inv t x hx) _ hρ2 ht hgt)
    (fun hn => interpSetSuccs_eq _ _ rfl _ _ _ (valueOf_refs _) _ (Nat.le_of_add_right_le (k := 2) hn))
  refine ⟨_, g4, hρ2, hseq, c4.mid, ?_⟩
  rw [ctBody_eq, execBlockP_cons, execP_assign (he := ev_cl st _ hM.sound ok _ hρ1 "t" t (s.n + m) ht hcl
    (by rw [Env.get?_set, if_pos rfl]))]
  dsimp only
  rw [execBlockP_cons, x1]
  dsimp only
  rw [execBlockP_cons, x2]
  dsimp only
  rw [execBlockP_cons, x3]
  dsimp only
  rw [execBlockP_cons, x4]
  rfl

end step

section loop
variable {s : G} {w : Uid} {sel : List Uid} (st : PState)

theorem drop_cons_getD (l : List Uid) (m : Nat) (t : Uid) (l' : List Uid) (h : l.drop m = t :: l') :
    m < l.length ∧ t = l.getD m 0 ∧ l.drop (m + 1) = l' := by
  have hm : m < l.length := by
    apply Classical.byContradiction
    intro hge
    rw [List.drop_eq_nil_of_le (by omega)] at h
    cases h
  rw [List.drop_eq_getElem_cons hm] at h
  cases h
  exact ⟨hm, by rw [getD_eq_getElem l m hm], rfl⟩

theorem ct_loop (F : Nat) (hF : s.n + sel.length + 9 ≤ F) (ok : SelOK s w sel)
    (hclosed : ∀ t ∈ sel, ∀ ch ∈ s.children t, ch ∈ sel) :
    ∀ (l : List Uid) (m : Nat), sel.drop m = l → ∀ (g : G), Mid s w sel g → ∀ ρ, Env.le (ctEnv s w sel) ρ →
      ∃ ρ' g', Env.le (ctEnv s w sel) ρ' ∧ seqOps id g (l.flatMap (perTask s w sel)) = (g', none) ∧ Mid s w sel g' ∧
        forLoopP "t" (fun ρ st => execBlockP (Hw filt F) [] noRec ctBody ρ st) (l.map Atom.ref) ρ (stC st s sel g) =
          .normal ρ' (stC st s sel g') := by
  intro l
  induction l with
  | nil => intro m _ g hM ρ hρ; exact ⟨ρ, g, hρ, rfl, hM, rfl⟩
  | cons t l ih =>
    intro m hdrop g hM ρ hρ
    obtain ⟨hm, rfl, hdrop'⟩ := drop_cons_getD sel m t l hdrop
    obtain ⟨ρ1, g1, hρ1, e1, hM1, hbody⟩ := ct_step filt st F hF ok hclosed m hm g hM ρ hρ
    obtain ⟨ρ2, g2, hρ2, e2, hM2, hloop⟩ := ih (m + 1) hdrop' g1 hM1 ρ1 hρ1
    refine ⟨ρ2, g2, hρ2, ?_, hM2, ?_⟩
    · rw [List.flatMap_cons, seqOps_append_ok _ _ g (by rw [e1]), e1]
      exact e2
    · simp only [List.map_cons, forLoopP, hbody]
      exact hloop

end loop

section cloneTasks
variable {s : G} {w : Uid}

/-- one step of `{task.id: task.clone() for task in …}` -/
def cloneStepF (H : PHandlers) (ρ : PyLite.Env) : Atom → PState → Res (Option (Atom × Atom) × PState) :=
  fun a st => do
    let (c, st) ← (Expr.bool true).evalP H [] (Env.set ρ "task" (.atom a)) st
    if (← truthP c) then
      match (← (Expr.attr (.var "task") "id").evalP H [] (Env.set ρ "task" (.atom a)) st) with
      | (.atom kv, st) =>
        match (← (Expr.callVal (.fnRef pf_Task_clone) (.listCons (.var "task") .listNil)).evalP H []
            (Env.set ρ "task" (.atom a)) st) with
        | (.atom vv, st) => pure (some (kv, vv), st)
        | _ => throw stuck
      | _ => throw stuck
    else pure (Option.none, st)

theorem clone_step (H : PHandlers) (hfn : H.fn = wbsFn) (ρ : PyLite.Env) (t : Uid) (st : PState)
    (hid : (st.heap t).get? "id" = some (.atom (idA (s.tid t)))) :
    cloneStepF H ρ (.ref t) st =
      .ok (some (idA (s.tid t), .ref st.reads), alloc st (newTask (.atom (idA (s.tid t))) .none)) := by
  simp only [cloneStepF, Expr.evalP, Env.get?_set, if_true, hid, hfn, wbsFn, bind, Except.bind, pure, Except.pure,
    truthP]

theorem evalP_cloneComp (H : PHandlers) (ρ : PyLite.Env) (it : Expr) (st : PState) :
    (Expr.dictComp (.attr (.var "task") "id")
      (.callVal (.fnRef pf_Task_clone) (.listCons (.var "task") .listNil)) "task" it (.bool true)).evalP H [] ρ st =
    (do
      let (itv, st) ← it.evalP H [] ρ st
      let vs ← iterOf itv
      let (out, st) ← pairLoopP (cloneStepF H ρ) vs st
      pure (Val.dict (Dict.ofList out), st)) := by
  rw [Expr.evalP]
  rfl

theorem mem_flatten_sel (subs : List (List Uid)) (x : Uid) : x ∈ subs.flatten ↔ x ∈ dedupFirst subs.flatten := by
  unfold dedupFirst; rw [List.mem_eraseDups]

/-- `__clone_tasks(roots)`: the dict of the clones; the store holds the clones wired up by the per-task setter calls
    of the model, the new WBS object does not exist yet -/
theorem clone_tasks_spec (st : PState) (hh : st.heap = encHeap s) (hr : st.reads = s.n) (hi : Inv s)
    (hwbs : s.hidden w = true) (roots : List Uid) (hm : ∀ r ∈ roots, s.owner r = some w ∧ s.hidden r = false)
    (subs : List (List Uid)) (hsubs : roots.mapM (fun r => subtreeF s.children s.fuel r) = some subs)
    (F : Nat) (hF : s.n + (dedupFirst subs.flatten).length + 10 ≤ F) :
    ∃ gP, seqOps id (extend s (dedupFirst subs.flatten))
        ((dedupFirst subs.flatten).flatMap (perTask s w (dedupFirst subs.flatten))) = (gP, none) ∧
      Mid s w (dedupFirst subs.flatten) gP ∧
      (Hw filt F).fnV fn_WBS_clone_tasks [.atom (.ref w), refs roots] st =
        .ok (.dict (cloneDict s s.n (dedupFirst subs.flatten)),
          stC st s (dedupFirst subs.flatten) gP) := by
  have ok := SelOK.of_args s w roots subs hi hwbs hm hsubs
  generalize hsel : dedupFirst subs.flatten = sel at *
  obtain ⟨F, rfl, hF⟩ := fuel_split 1 hF
  have hclosed : ∀ t ∈ sel, ∀ ch ∈ s.children t, ch ∈ sel := hsel ▸ sel_closed s hi.wf roots subs hsubs
  rw [fnW_top _ _ _ _ _ wf_clone_tasks, callPV_eq]
  simp only [src_WBS_clone_tasks_params, ct_shape, bindParamsV, pure, Except.pure, bind, Except.bind]
  -- `all_tasks_list = []`
  rw [execBlockP_cons, execP_assign (v := .list []) (st' := st) (he := by simp only [Expr.evalP, pure, Except.pure])]
  dsimp only
  -- `for r in roots: …`
  obtain ⟨ρ2, hcol, hacc2, hρ2⟩ := ct_collect filt s st hh roots subs hsubs F (by omega) [("self", .atom (.ref w))]
    (Env.set [("self", .atom (.ref w)), ("roots", refs roots)] "all_tasks_list" (.list []))
    (.cons (by rw [Env.get?_set, if_neg (by decide)]; rfl) (.nil _))
    (by rw [Env.get?_set, if_neg (by decide)]; rfl) (by rw [Env.get?_set, if_pos rfl])
  rw [execBlockP_cons, hcol]
  dsimp only
  -- `all_tasks = {task.id: task for task in all_tasks_list}`
  have hinjL : ∀ x ∈ subs.flatten, IdInjOn s subs.flatten x := by
    intro x hx a ha e
    rw [mem_flatten_sel, hsel] at hx ha
    exact idInj_of_mem ok x hx a ha e
  have hall : (Expr.dictComp (.attr (.var "task") "id") (.var "task") "task" (.var "all_tasks_list")
      (.bool true)).evalP (Hw filt F) [] ρ2 st = .ok (.dict (allDict s sel), st) := by
    rw [evalP_dictComp_pure (vs := subs.flatten.map Atom.ref) (st := st)
      (ke := fun a => match a with | .ref t => idA (s.tid t) | _ => Atom.none) (ve := fun a => a)
      (hit := evalP_var _ _ _ _ _ _ hacc2)
      (hk := by
        intro a ha
        obtain ⟨t, _, rfl⟩ := List.mem_map.1 ha
        exact evalP_attr (evalP_var _ _ _ _ _ _ (by rw [Env.get?_set, if_pos rfl]))
          (by rw [hh, encHeap_apply, encTask_id]))
      (hv := by intro a _; exact evalP_var _ _ _ _ _ _ (by rw [Env.get?_set, if_pos rfl])),
      List.map_map]
    have := ofList_allDict s subs.flatten hinjL
    unfold dedupFirst at hsel
    rw [hsel] at this
    rw [← this]
    rfl
  rw [execBlockP_cons, execP_assign (he := hall)]
  dsimp only
  -- `cloned_tasks = {task.id: task.clone() for task in all_tasks.values()}`
  have hcl : (Expr.dictComp (.attr (.var "task") "id")
      (.callVal (.fnRef pf_Task_clone) (.listCons (.var "task") .listNil)) "task" (.dictValues (.var "all_tasks"))
      (.bool true)).evalP (Hw filt F) [] (Env.set ρ2 "all_tasks" (.dict (allDict s sel))) st =
      .ok (.dict (cloneDict s s.n sel),
        stC st s sel (extend s sel)) := by
    have hval : (Expr.dictValues (.var "all_tasks")).evalP (Hw filt F) []
        (Env.set ρ2 "all_tasks" (.dict (allDict s sel))) st = .ok (.list (sel.map Atom.ref), st) := by
      simp only [Expr.evalP, Env.get?_set, if_true, bind, Except.bind, pure, Except.pure, allDict_values]
    have hloop := pairLoopP_clone s (cloneStepF (Hw filt F) (Env.set ρ2 "all_tasks" (.dict (allDict s sel))))
      (fun t st' hid =>
      clone_step (s := s) (Hw filt F) (Hw_fn filt F) (Env.set ρ2 "all_tasks" (.dict (allDict s sel))) t st' hid) sel st
      (by
        intro t ht
        have := (ok.mem t ht).2.2
        exact ⟨by rw [hr]; exact this, by rw [hh, encHeap_apply, encTask_id]⟩)
    rw [evalP_cloneComp]
    simp only [hval, bind, Except.bind, pure, Except.pure, iterOf]
    rw [hloop]
    simp only [ofList_cloneDict' s sel _ ok.nodup (fun x hx => idInj_of_mem ok x hx), hr, hh,
      cloneHeap_extend s hi.bnd sel]
    rfl
  rw [execBlockP_cons, execP_assign (he := hcl)]
  dsimp only
  -- `for t in all_tasks.values(): …`
  have hρ4 : Env.le (ctEnv s w sel) _ :=
    (hρ2.set "all_tasks" (.dict (allDict s sel))).set "cloned_tasks" (.dict (cloneDict s s.n sel))
  obtain ⟨ρL, gP, hρL, hacc, hM, hloop⟩ := ct_loop filt st F (by omega) ok hclosed sel 0 rfl (extend s sel)
    ⟨Sound.extend ok, isolated_extend s hi.bnd sel⟩ _ hρ4
  refine ⟨gP, hacc, hM, ?_⟩
  rw [execBlockP_cons, ctLoop_eq, execP_forIn (vs := sel.map Atom.ref)
    (st' := stC st s sel (extend s sel))
    (hit := by simp only [Expr.evalP, (hρ4.get "all_tasks"), bind, Except.bind, pure, Except.pure, allDict_values]), hloop]
  dsimp only
  rw [execBlockP_cons, execP_ret (he := evalP_var _ _ _ _ _ _ (hρL.get "cloned_tasks"))]

end cloneTasks

/-- `WBS()` after the setters have run -/
theorem alloc_root (st : PState) (X : Uid) (v : Int) (g : G) (hI : Isolated X g) (ht : g.tid X = emptyId)
    (ho : g.owner X = some X) :
    alloc (stU st X v g) (newTask (.atom (idA emptyId)) (.ref X)) = setHR st (encHeap g) (X + 1) := by
  have := rootHeap X v g hI ht ho
  unfold alloc stU setHR
  dsimp only
  rw [this]

section cloneRec
variable {s : G} {w : Uid}

theorem wf_clone_rec : wbsFuns fn_WBS_clone_rec = some (src_WBS_clone_rec_params, src_WBS_clone_rec) := rfl
theorem wf_clone : wbsFuns fn_WBS_clone = some (src_WBS_clone_params, src_WBS_clone) := rfl
theorem wf_subtree : wbsFuns fn_WBS_subtree = some (src_WBS_subtree_params, src_WBS_subtree) := rfl

/-- the new WBS object (its hidden root), the store of the model's new state, the allocation pointer at its universe
    size; or the model's error -/
def cloneResult (st : PState) (r : G × Option Err × Uid) : Res (Val × PState) :=
  match r with
  | (s', none, nw) => .ok (.atom (.ref nw), setHR st (encHeap s') s'.n)
  | (_, some e, _) => .error e

/-- `self.__clone(roots)` = `cloneSel`, for a reachable state and roots that are members of the WBS -/
theorem clone_rec_spec (st : PState) (hh : st.heap = encHeap s) (hr : st.reads = s.n) (hi : Inv s)
    (hwbs : s.hidden w = true) (roots : List Uid) (hm : ∀ r ∈ roots, s.owner r = some w ∧ s.hidden r = false)
    (F : Nat) (hF : (cloneSel s w roots).1.n + 11 ≤ F) :
    (Hw filt F).fnV fn_WBS_clone_rec [.atom (.ref w), refs roots] st = cloneResult st (cloneSel s w roots) := by
  obtain ⟨subs, hsubs⟩ := mapM_total (fun r => subtreeF s.children s.fuel r) roots
    (fun a _ => subtreeF_children_total s hi.wf hi.bnd a)
  have ok := SelOK.of_args s w roots subs hi hwbs hm hsubs
  have hn' : (cloneSel s w roots).1.n = s.n + (dedupFirst subs.flatten).length + 1 := by
    rw [cloneSel_eq s w roots subs hsubs]
    exact (seqOps_n_tid s w roots _ _).1
  rw [hn'] at hF
  obtain ⟨F, rfl, hF⟩ := fuel_split 1 hF
  obtain ⟨gP, hacc, ⟨hS, hIso⟩, hct⟩ := clone_tasks_spec filt st hh hr hi hwbs roots hm subs hsubs F (by omega)
  -- the model: the final call on the state before it
  have hroots : ∀ r ∈ roots, r ∈ dedupFirst subs.flatten := by
    intro r hr'
    exact (mem_sel_iff s hi.wf roots subs hsubs r).mpr ⟨r, hr', RTC.refl⟩
  have hfin := hS.final_ok ok (roots.filterMap (cloneOf s.n (dedupFirst subs.flatten)))
    (filterMap_cloneOf_isClone s _ roots)
  rw [cloneSel_eq s w roots subs hsubs, cloneOps, seqOps_append_ok _ _ _ (by rw [hacc]), hacc, seqOps_singleton,
    finalOp, eq_of_ok _ hfin]
  generalize hsel : dedupFirst subs.flatten = sel at *
  -- the source: the callees and the comprehension, in whatever locals hold their arguments
  have htid : gP.tid (s.n + sel.length) = emptyId := by rw [hS.ci.tid]; exact extend_tid_root s sel
  have hown : gP.owner (s.n + sel.length) = some (s.n + sel.length) := hS.ci.inv.own.root _ hS.hidden_root
  have hgn : gP.n = s.n + sel.length + 1 := hS.ci.n
  simp only [refs] at hct ⊢
  have hcomp := fun ρ' (h1 : ρ'.get? "cloned_tasks" = some (.dict (cloneDict s s.n sel)))
      (h2 : ρ'.get? "roots" = some (.list (roots.map Atom.ref))) =>
    ev_clones (Hw filt F) ok ρ' _ _ (.var "roots") "r" roots hroots (by decide) h1
      (fun r hr' => by rw [setHR_heap, encHeap_apply, encTask_id, hS.tid_lt r (ok.mem r (hroots r hr')).2.2])
      (evalP_var _ _ _ (setHR st (encHeap gP) (s.n + sel.length + 1)) _ _ h2)
  have hset := roots_set_spec filt gP (setHR st (encHeap gP) (s.n + sel.length + 1)) rfl (s.n + sel.length)
    (refs (roots.filterMap (cloneOf s.n sel))) _ (valueOf_refs _) F (by omega) (by rw [hfin]; simp)
  rw [← Prod.eta (setChildren gP _ _), hfin] at hset
  rw [fnW_top _ _ _ _ _ wf_clone_rec]
  simp [pylite_step, src_WBS_clone_rec_params, src_WBS_clone_rec, hct, ↓hcomp, hset, stU_reads,
    alloc_root st _ _ gP hIso htid hown, pf_WBS_new, pf_Task_clone, wbsFn, wbsPrim, setterResult, cloneResult, withG_setHR, setChildren_n, hgn]

end cloneRec

/-- STAGE 3, `WBS.subtree(v)` (`_to_list(v)` = the tasks `roots`) = `cloneSel s w roots`: for every reachable state
    (`Inv`), every WBS `w` of it and roots that are members of that WBS; `st` any Python state with the store
    `encHeap s` and the allocation pointer `s.n`.  The result: the new WBS object is the hidden root the model
    allocates, the store is the encoding of the model's new state, the allocation pointer its universe size.
    (The model never fails on such inputs - `cloneSel_accepted` - so there is no recursion proviso.) -/
theorem interpSubtree_eq (s : G) (st : PState) (hh : st.heap = encHeap s) (hr : st.reads = s.n) (hi : Inv s) (w : Uid)
    (hwbs : s.hidden w = true) (v : Val) (roots : List Uid) (hv : ValueOf v roots)
    (hm : ∀ r ∈ roots, s.owner r = some w ∧ s.hidden r = false) (F : Nat) (hF : (cloneSel s w roots).1.n + 12 ≤ F) :
    interpSubtree F w v st = cloneResult st (cloneSel s w roots) := by
  obtain ⟨F, rfl, hF⟩ := fuel_split 2 hF
  unfold interpSubtree
  rw [interpW_eq, fnW_top _ _ _ _ _ wf_subtree, callPV_bound rfl, src_WBS_subtree, blockRes_ret,
    evalP_callFn2 (ha := evalP_var _ _ _ _ "self" _ rfl) (hb := by
      rw [evalP_callFn1 (ha := evalP_var _ _ _ _ "roots" _ rfl), fnW_base _ _ _ wf_base_to_list, hv st F])]
  exact clone_rec_spec noFilt st hh hr hi hwbs roots hm (F + 1) (by omega)

/-- STAGE 3, `WBS.clone()` = `cloneWbs s w`, for every reachable state and every WBS `w` of it -/
theorem interpClone_eq (s : G) (st : PState) (hh : st.heap = encHeap s) (hr : st.reads = s.n) (hi : Inv s) (w : Uid)
    (hwbs : s.hidden w = true) (F : Nat) (hF : (cloneWbs s w).1.n + 12 ≤ F) :
    interpClone F w st = cloneResult st (cloneWbs s w) := by
  obtain ⟨F, rfl, hF⟩ := fuel_split 2 hF
  unfold interpClone cloneWbs
  unfold cloneWbs at hF
  have hm : ∀ r ∈ s.children w, s.owner r = some w ∧ s.hidden r = false := by
    intro r hr'
    refine ⟨?_, (children_ok s hi w r hr').1⟩
    rw [hi.own.inherit r w ((hi.wf.listed r w).mpr hr')]
    exact hi.own.root w hwbs
  rw [interpW_eq, fnW_top _ _ _ _ _ wf_clone, callPV_bound rfl, src_WBS_clone, blockRes_ret,
    evalP_callFn2 (ha := evalP_var _ _ _ _ "self" _ rfl) (hb := by
      rw [evalP_callFn1 (ha := evalP_var _ _ _ _ "self" _ rfl)]
      exact interpRootsGet_eq s st hh w (F + 1) (by omega))]
  exact clone_rec_spec noFilt st hh hr hi hwbs (s.children w) hm (F + 1) (by omega)

section axioms
#print axioms interpTasks_eq
#print axioms interpGetitem_eq
#print axioms interpRootsGet_eq
#print axioms interpRootsSet_eq
#print axioms interpFloordiv_eq
#print axioms interpRemove_eq
#print axioms interpRemoveAll_eq
#print axioms interpSubtree_eq
#print axioms interpClone_eq
end axioms

/-!
  ## Negative check (each mutation was applied to a scratch copy of wbs.py / task.py, the translator run on it, the
  generated Extracted/WbsSrc.lean put into a scratch copy of the lean tree, and WbsSrcCheck, WbsSrcCheckC, WbsSrcA,
  WbsSrcB, WbsSrcC1, WbsSrcM, WbsSrcC, WbsSrcRuns built).  Every semantic mutation is a Miss of the
  translator, a failing example or a failing lemma.  The examples on the cyclic g3 and with the hidden root or foreign
  roots (WbsSrcCheck.lean, WbsSrcCheckC.lean) are evaluated and fail by themselves; the examples on g1, g2 and with
  member roots on g5 (WbsSrcRuns.lean) are instances of `interpTasks_eq` … `interpSubtree_eq`: their statements become
  false, and they fall with the lemma named beside them, on which their theorem rests:

  semantic mutations
   M1  `__getitem__` walks `_collect_subtree(self.__root)` (the hidden root included)
         translated; examples FAIL (`getAgree g1`, `getAgree g2`: `wbs[EMPTY_TASK_ID]` finds the hidden root); lemma
         `getitem_spec` FAILS.
   M2  `__clone_tasks` skips plain leaves: `… if len(t.children) > 0`            Miss (a facade may only be iterated …);
         `… if [c for c in t.children] != []`   translated; examples FAIL (`cloneAgree`, `subtreeAgree`, CheckC);
         lemma `ctCollectBody_eq` FAILS.    `… if t.parent is not None` (skips top-level tasks): examples FAIL
         (`subtreeAgree g5 0 [0]` / `[6]`), the same lemma FAILS.
   M3  `link_target` looks the id up in `cloned_tasks` BEFORE testing `task.wbs != self`
         translated; examples FAIL (`cloneAgree g5 0`, `g5 6`: the outside task t7 shares its id with t2 - the clone
         gets linked to the clone of t2 instead of t7; `subtreeAgree`); lemma `link_target_spec` FAILS.
   M4  `subtree` without `_to_list`        translated; examples FAIL (a single task / a list with `None`s as the
         argument: CheckC); lemma `interpSubtree_eq` FAILS.
   M5  `remove_all` returns only the tasks that were found: `return _ImmutableTaskList(found)`   Miss;
         `return found`   translated; examples FAIL (`removeAllAgree g1 0 [1, 2, 3]`, `[9, 1]`: a chosen task that
         is gone / foreign is missing from the value); lemma `ra_shape` FAILS.
   M6  `__remove` does not recurse         translated; examples FAIL (`removeAgree g1`, `g2`, `g3`, `removeAllAgree`);
         lemmas `rm_shape`, `rm_loop`, `remove_rec_spec` FAIL.
   M7  `__clone` takes the roots of the copy from `self.__root.children` instead of `roots`
         translated; examples FAIL (`subtreeAgree g5 0 [1]`, `[2]`, …); lemma `clone_rec_spec` FAILS.
   M8  the parent of a clone from `_raw_parent()` instead of the public `parent`          Miss (receiver).
   M9  the successors are not copied       translated; examples FAIL (`cloneAgree`, `subtreeAgree`); lemma `ctBody_eq`
         / `ct_step` FAIL.
   M10 `__floordiv__` returns `self.__root`                                                Miss (expression statement).
   M11 `remove` without the `isinstance` test    translated; examples FAIL (`wbs.remove(None)`, `wbs.remove([…])`
         must raise RuntimeError); lemmas `interpRemove_none`, `interpRemove_list` FAIL.
   M13 `_ChildrenList.remove` filters by id (`t.id != task.id`) instead of identity      Miss (attribute of a facade).
   M14 `Task.clone` passes `parent=self.parent`                                           Miss (Task.clone: the text of
         the constructor primitive is pinned);    M15 `WBS.__init__` without `_attach(self)`   Miss (WBS.__init__).
   M16 the `roots` setter appends (`self.__root.children += value`)                       Miss (augmented assignment).
   M17 `link_target` shares detached tasks only (`if task.wbs is None: return task`; tasks of OTHER WBS are looked up
         by id)   translated; examples FAIL (`cloneAgree g5 0`, `g5 6`, …); lemma `link_target_spec` FAILS.
   M12 `__remove` goes on searching after the task was found and removed (`found = …remove(t); for ch …: if
         self.__remove(t, ch): found = True; return found`): NOT observable - a forest holds a task once, and on
         the cyclic g3 both versions end in RecursionError - all examples pass; the lemmas `rm_shape`, `rm_loop`,
         `remove_rec_spec` FAIL (the proof is about the changed control flow), i.e. the change is noticed, as a failing
         lemma.
  harmless rewrites
   H1  docstrings, comments, return annotations, redundant parentheses;  H2  `self._root()` for `self.__root`;
   H5  `if len(tasks_to_delete) == 0` for `if not tasks_to_delete`:   the SAME generated term - everything checks.
   H3  a local renamed (`cloned_project` → `copy`): all examples pass, WbsSrcA / B / C1 pass; `clone_rec_spec` (which
       names the variable) needs the new name.   H4  `task_id == t.id` for `t.id == task_id`: all examples pass;
       `getitem_spec` (which names the expression) needs the flipped comparison.
-/

end Pj.WbsSrc

/- Lemmas/PrintLemmas.lean — for Props/C20.lean: the column widths, what the terminal shows of a coloured row (`Emits`), the
   rendered text as lines, the number of rows of a sheet -/
import PjVerif.Model.Print
import PjVerif.Lemmas.Emits
import PjVerif.Lemmas.ListFacts
namespace Pj.Print

theorem le_foldl_max_of_mem (l : List Nat) (a x : Nat) (h : x ∈ l) : x ≤ l.foldl max a :=
  (natMax_selects.foldl l a).2.2 x h

theorem widths_length (rows : List (List Cell)) : (widths rows).length = (rows.map List.length).foldl max 0 := by
  simp [widths]

theorem length_le_widths_length (rows : List (List Cell)) (r : List Cell) (hr : r ∈ rows) :
    r.length ≤ (widths rows).length := by
  rw [widths_length]
  exact le_foldl_max_of_mem _ _ _ (List.mem_map.2 ⟨r, hr, rfl⟩)

theorem widths_getD (rows : List (List Cell)) (i : Nat) (hi : i < (rows.map List.length).foldl max 0) :
    (widths rows).getD i 0 =
      (rows.map (fun r => match r[i]? with | some c => c.text.length | none => 0)).foldl max 0 := by
  simp only [widths, List.getD_eq_getElem?_getD, List.getElem?_map, List.getElem?_range hi, Option.map_some,
    Option.getD_some]
  rfl

theorem text_le_widths (rows : List (List Cell)) (r : List Cell) (hr : r ∈ rows) (i : Nat) (c : Cell)
    (hc : r[i]? = some c) : c.text.length ≤ (widths rows).getD i 0 := by
  have hi : i < r.length := by
    rcases List.getElem?_eq_some_iff.1 hc with ⟨h, _⟩
    exact h
  have hn : i < (rows.map List.length).foldl max 0 :=
    Nat.lt_of_lt_of_le hi (le_foldl_max_of_mem _ _ _ (List.mem_map.2 ⟨r, hr, rfl⟩))
  rw [widths_getD rows i hn]
  apply le_foldl_max_of_mem
  refine List.mem_map.2 ⟨r, hr, ?_⟩
  simp [hc]

/-! ### `visibleAux`: a two-state machine; the pieces after which it is back in its start state (`Emits`) -/

theorem emits_plain (p : Str) (h : esc ∉ p) : Emits (visibleAux false) p p := by
  intro rest
  induction p with
  | nil => rfl
  | cons c cs ih =>
    have hc : c ≠ esc := fun e => h (by simp [e])
    have hcs : esc ∉ cs := fun e => h (List.mem_cons_of_mem _ e)
    simp [visibleAux, hc, ih hcs]

theorem visibleAux_body (b rest : Str) (h : 'm' ∉ b) :
    visibleAux true (b ++ rest) = visibleAux true rest := by
  induction b with
  | nil => rfl
  | cons c cs ih =>
    have hc : c ≠ 'm' := fun e => h (by simp [e])
    have hcs : 'm' ∉ cs := fun e => h (List.mem_cons_of_mem _ e)
    simp [visibleAux, hc, ih hcs]

theorem emits_colorSeq (body : Str) (h : 'm' ∉ body) : Emits (visibleAux false) ([esc, '['] ++ (body ++ ['m'])) [] := by
  intro rest
  have := visibleAux_body body ('m' :: rest) h
  simp only [List.cons_append, List.nil_append, List.append_assoc] at this ⊢
  have hne : ('[' == 'm') = false := by decide
  simp [visibleAux, this, hne]

theorem emits_resetSeq : Emits (visibleAux false) resetSeq [] := emits_colorSeq ['0'] (by decide)

/-- no colour, or a code whose only `m` is its last character -/
def ColorSeq (k : Str) : Prop := k = [] ∨ ∃ body, k = body ++ ['m'] ∧ 'm' ∉ body

def padded (text : Str) (width : Nat) : Str := text ++ List.replicate (width - text.length) ' '

theorem esc_not_mem_padded (text : Str) (width : Nat) (h : esc ∉ text) : esc ∉ padded text width := by
  intro e
  rcases List.mem_append.1 e with e | e
  · exact h e
  · have := (List.mem_replicate.1 e).2
    exact absurd this (by decide)

theorem length_padded (text : Str) (width : Nat) (h : text.length ≤ width) : (padded text width).length = width := by
  simp [padded]; omega

theorem emits_coloredText (text : Str) (width : Nat) (color : Option Str)
    (hp : esc ∉ text) (hc : ∀ k, color = some k → ColorSeq k) :
    Emits (visibleAux false) (coloredText text width color) (padded text width) := by
  have hpad := emits_plain _ (esc_not_mem_padded text width hp)
  cases color with
  | none => exact hpad
  | some k =>
    rcases hc k rfl with rfl | ⟨body, rfl, hb⟩
    · exact hpad
    · have hne : (body ++ ['m']).isEmpty = false := by cases body <;> rfl
      have := ((emits_colorSeq body hb).append hpad).append emits_resetSeq
      rw [List.nil_append, List.append_nil] at this
      show Emits _ (if (body ++ ['m']).isEmpty then padded text width
          else [esc, '['] ++ (body ++ ['m']) ++ padded text width ++ resetSeq) _
      rw [hne]
      exact this

theorem visible_coloredText (text : Str) (width : Nat) (color : Option Str)
    (hp : esc ∉ text) (hc : ∀ k, color = some k → ColorSeq k) :
    visible (coloredText text width color) = padded text width :=
  (emits_coloredText text width color hp hc).out rfl

/-- strings after which the machine is back in its start state -/
def Closed (s : Str) : Prop := Emits (visibleAux false) s (visible s)

theorem closed_coloredText (text : Str) (width : Nat) (color : Option Str)
    (hp : esc ∉ text) (hc : ∀ k, color = some k → ColorSeq k) : Closed (coloredText text width color) := by
  rw [Closed, visible_coloredText text width color hp hc]
  exact emits_coloredText text width color hp hc

theorem visible_flatten_length (l : List Str) (h : ∀ s ∈ l, Closed s) :
    (visible l.flatten).length = (l.map (fun s => (visible s).length)).sum := by
  have := (Emits.flatten l id visible h).out rfl
  rw [List.map_id] at this
  rw [visible, this, List.length_flatMap]

theorem map_add_two_eq_range (ws : List Nat) :
    ws.map (· + 2) = (List.range ws.length).map (fun i => ws.getD i 0 + 2) := by
  apply List.ext_getElem
  · simp
  · intro i h1 h2
    have hi : i < ws.length := by simpa using h1
    simp [List.getD_eq_getElem?_getD, List.getElem?_eq_getElem hi]

theorem row_width (ws : List Nat) (rowColor : Option Str) (cells : List Cell)
    (hfit : ∀ i c, cells[i]? = some c → c.text.length ≤ ws.getD i 0)
    (hp : ∀ c ∈ cells, esc ∉ c.text) (hcol : ∀ c ∈ cells, ∀ k, c.color = some k → ColorSeq k)
    (hrc : ∀ k, rowColor = some k → ColorSeq k) :
    (visible (renderRow ws rowColor cells)).length = (ws.map (· + 2)).sum := by
  have key : ∀ i, Closed (match cells[i]? with
        | some c => coloredText (' ' :: c.text ++ [' ']) (ws.getD i 0 + 2) c.color
        | none => coloredText [' ', ' '] (ws.getD i 0 + 2) rowColor) ∧
      (visible (match cells[i]? with
        | some c => coloredText (' ' :: c.text ++ [' ']) (ws.getD i 0 + 2) c.color
        | none => coloredText [' ', ' '] (ws.getD i 0 + 2) rowColor)).length = ws.getD i 0 + 2 := by
    intro i
    cases hci : cells[i]? with
    | none =>
      have hpl : esc ∉ [' ', ' '] := by decide
      refine ⟨closed_coloredText _ _ _ hpl hrc, ?_⟩
      show (visible (coloredText [' ', ' '] (ws.getD i 0 + 2) rowColor)).length = _
      rw [visible_coloredText _ _ _ hpl hrc, length_padded]
      simp
    | some c =>
      have hmem : c ∈ cells := List.mem_of_getElem? hci
      have hpl : esc ∉ ' ' :: c.text ++ [' '] := by
        intro e
        simp only [List.cons_append, List.mem_cons, List.mem_append, List.not_mem_nil, or_false] at e
        rcases e with e | e | e
        · exact absurd e (by decide)
        · exact hp c hmem e
        · exact absurd e (by decide)
      refine ⟨closed_coloredText _ _ _ hpl (hcol c hmem), ?_⟩
      show (visible (coloredText (' ' :: c.text ++ [' ']) (ws.getD i 0 + 2) c.color)).length = _
      rw [visible_coloredText _ _ _ hpl (hcol c hmem), length_padded]
      have := hfit i c hci
      have hl : (' ' :: c.text ++ [' ']).length = c.text.length + 2 := by simp
      rw [hl]; omega
  unfold renderRow
  rw [visible_flatten_length]
  · rw [List.map_map, map_add_two_eq_range]
    congr 1
    apply List.map_congr_left
    intro i _
    exact (key i).2
  · intro s hs
    rcases List.mem_map.1 hs with ⟨i, _, rfl⟩
    exact (key i).1

theorem coloredText_ne_nil (text : Str) (width : Nat) (color : Option Str) (h : text ≠ []) :
    coloredText text width color ≠ [] := by
  cases text with
  | nil => exact absurd rfl h
  | cons a as =>
    cases color with
    | none => simp [coloredText]
    | some k =>
      simp only [coloredText]
      split <;> simp

theorem renderRow_ne_nil (ws : List Nat) (rowColor : Option Str) (cells : List Cell) (h : ws ≠ []) :
    renderRow ws rowColor cells ≠ [] := by
  cases ws with
  | nil => exact absurd rfl h
  | cons w ws' =>
    intro e
    unfold renderRow at e
    rw [List.flatten_eq_nil_iff] at e
    have h0 : (0 : Nat) ∈ List.range (w :: ws').length := by simp
    have := e _ (List.mem_map.2 ⟨0, h0, rfl⟩)
    revert this
    cases cells[0]? with
    | none => exact coloredText_ne_nil _ _ _ (by simp)
    | some c => exact coloredText_ne_nil _ _ _ (by simp)

theorem flatten_intersperse_cons (sep x : Str) (xs : List Str) :
    ((x :: xs).intersperse sep).flatten = x ++ (xs.map (fun y => sep ++ y)).flatten := by
  induction xs generalizing x with
  | nil => simp
  | cons y ys ih =>
    rw [List.intersperse_cons_cons, List.flatten_cons, List.flatten_cons, ih]
    simp

theorem foldl_sep {α : Type} (g : α → Str) (rows : List α) (acc : Str) (hacc : acc ≠ []) :
    rows.foldl (fun acc r => (if acc.isEmpty then acc else acc ++ ['\n']) ++ g r) acc
      = acc ++ (rows.map (fun r => ['\n'] ++ g r)).flatten := by
  induction rows generalizing acc with
  | nil => simp
  | cons r rs ih =>
    have hne : acc.isEmpty = false := by cases acc with
      | nil => exact absurd rfl hacc
      | cons _ _ => rfl
    simp only [List.foldl_cons, hne, Bool.false_eq_true, if_false]
    rw [ih]
    · simp [List.append_assoc]
    · cases acc with
      | nil => exact absurd rfl hacc
      | cons _ _ => simp

theorem foldl_lines {α : Type} (g : α → Str) (rows : List α) (hg : ∀ r ∈ rows, g r ≠ []) :
    rows.foldl (fun acc r => (if acc.isEmpty then acc else acc ++ ['\n']) ++ g r) []
      = ((rows.map g).intersperse ['\n']).flatten := by
  cases rows with
  | nil => simp
  | cons r rs =>
    rw [List.map_cons, flatten_intersperse_cons, List.foldl_cons]
    simp only [List.isEmpty_nil, if_true, List.nil_append]
    rw [foldl_sep g rs (g r) (hg r (by simp)), List.map_map]
    rfl

theorem subtreeRows_length (ts : Nat → PTask) (fields : List Str) (children : Bool) (theme : Theme)
    (fuel level t : Nat) :
    (subtreeRows ts fields children theme fuel level t).length = shownCount ts children fuel t := by
  induction fuel generalizing level t with
  | zero => simp [subtreeRows, shownCount]
  | succ n ih =>
    simp only [subtreeRows, shownCount, List.length_cons]
    cases children with
    | false => simp
    | true =>
      simp only [if_true, List.length_flatten, List.map_map]
      have : (List.length ∘ subtreeRows ts fields true theme n (level + 1)) = shownCount ts true n := by
        funext x; exact ih (level + 1) x
      rw [this]; omega

end Pj.Print

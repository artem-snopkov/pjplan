/-
  Lemmas/TaskSrcA.lean — stage A of the translated tie for task.py: the helpers.  Every tie is stated for any program
  that contains task.py (`TaskProg`), so the ties whose table extends it (FacadeSrc, PrintSrc, RenderSrc) use them as
  they stand; the layered program of wbs.py leaves its layer for a call into task.py (`WbsSrc.fnW_base`) and uses them
  at `progHd`.  See Lemmas/TaskSrc.lean for the setting and the list of results.
-/
import PjVerif.Lemmas.TaskSrc
import PjVerif.Lemmas.GraphTasks
import PjVerif.Lemmas.PyLiteSteps
namespace Pj.TaskSrc
open Pj.PyLite Pj.Extracted
set_option linter.unusedSimpArgs false
set_option linter.unusedVariables false

abbrev Hd (F : Nat) : PHandlers := progH taskPrim taskFuns F

theorem interp_eq (F k : Nat) (args : List Val) (st : PState) : interp F k args st = (Hd F).fnV k args st := rfl

theorem fnV_succ (F k : Nat) (params : List String) (body : List Stmt) (h : taskFuns k = some (params, body))
    (args : List Val) (st : PState) :
    (Hd (F + 1)).fnV k args st = callPV (Hd F) params body args st :=
  progH_fnV_succ taskPrim taskFuns F k params body h args st

theorem fnV_zero (k : Nat) (args : List Val) (st : PState) : (Hd 0).fnV k args st = .error (.crash .recursion) := rfl

theorem Hd_prim (F : Nat) : (Hd F).prim = taskPrim := progH_prim taskPrim taskFuns F

/-- a program that contains task.py: handlers that run its functions, a call costing one unit of fuel, and give
    `wbs._root()` its meaning.  The ties below hold in every such program (`progHd`: task.py itself) -/
structure TaskProg where
  H : Nat → PHandlers
  call : ∀ F k params body, taskFuns k = some (params, body) → ∀ args st,
    (H (F + 1)).fnV k args st = callPV (H F) params body args st
  root : ∀ F w st, (H F).prim "_root" [.ref w] st = .ok (.atom (.ref w))

abbrev progHd : TaskProg := ⟨Hd, fnV_succ, fun F w st => by rw [Hd_prim]; rfl⟩

variable (P : TaskProg)

@[simp] theorem optRef_none : optRef none = .none := rfl
@[simp] theorem optRef_some (u : Uid) : optRef (some u) = .ref u := rfl

section attrs
variable (s : G) (u : Uid)
theorem encHeap_apply : encHeap s u = encTask s u := rfl
theorem encTask_id : (encTask s u).get? "id" = some (.atom (idA (s.tid u))) := rfl
theorem encTask_parent : (encTask s u).get? "parent" = some (.atom (optRef (s.parent u))) := by
  simp [encTask, Env.get?]
theorem encTask_children : (encTask s u).get? "children" = some (refs (s.children u)) := by simp [encTask, Env.get?]
theorem encTask_preds : (encTask s u).get? "predecessors" = some (refs (s.preds u)) := by simp [encTask, Env.get?]
theorem encTask_succs : (encTask s u).get? "successors" = some (refs (s.succs u)) := by simp [encTask, Env.get?]
theorem encTask_wbs : (encTask s u).get? "wbs" = some (.atom (optRef (s.owner u))) := by simp [encTask, Env.get?]
end attrs

attribute [pylite_step] encHeap_apply encTask_id encTask_parent encTask_children encTask_preds encTask_succs encTask_wbs

theorem flatMap_refs (l : List Uid) (g : Uid → List Uid) :
    (l.map Atom.ref).flatMap (fun v => match v with | .ref c => (g c).map Atom.ref | _ => []) =
      (l.flatMap g).map Atom.ref := by
  induction l with
  | nil => rfl
  | cons x l ih => simp [ih]

theorem forLoopP_foldM {σ : Type} (x : String) (body : PyLite.Env → PState → OutcomeP)
    (R : σ → PyLite.Env → PState → Prop) (m : σ → Atom → Except Err σ) :
    ∀ (vs : List Atom),
      (∀ a v ρ st, v ∈ vs → R a ρ st →
        match m a v with
        | .ok a' => ∃ ρ' st', body (ρ.set x v) st = .normal ρ' st' ∧ R a' ρ' st'
        | .error e => body (ρ.set x v) st = .raise e) →
      ∀ a ρ st, R a ρ st →
        match vs.foldlM m a with
        | .ok a' => ∃ ρ' st', forLoopP x body vs ρ st = .normal ρ' st' ∧ R a' ρ' st'
        | .error e => forLoopP x body vs ρ st = .raise e := by
  intro vs hb a ρ st hR
  have h := forLoopP_foldlM x body id R m (fun _ => False) vs
    (fun a v ρ st hv hR => by have := hb a v ρ st hv hR; split <;> simp_all) a ρ st hR
  rw [List.map_id] at h
  split <;> simp_all

theorem forLoopP_findRet (x : String) (body : PyLite.Env → PState → OutcomeP) (P : PyLite.Env → Prop)
    (p : Uid → Bool) (val : Val) (st : PState) :
    ∀ (l : List Uid),
      (∀ ρ c, c ∈ l → P ρ →
        if p c then body (ρ.set x (.atom (.ref c))) st = .ret val st
        else ∃ ρ', P ρ' ∧ body (ρ.set x (.atom (.ref c))) st = .normal ρ' st) →
      ∀ ρ, P ρ →
        if l.any p then forLoopP x body (l.map Atom.ref) ρ st = .ret val st
        else ∃ ρ', P ρ' ∧ forLoopP x body (l.map Atom.ref) ρ st = .normal ρ' st := by
  intro l
  induction l with
  | nil => intro _ ρ hP; exact ⟨ρ, hP, rfl⟩
  | cons c l ih =>
    intro hb ρ hP
    have h1 := hb ρ c List.mem_cons_self hP
    simp only [List.any_cons, List.map_cons]
    cases hc : p c with
    | true =>
      rw [hc, if_pos rfl] at h1
      simp only [forLoopP, h1, Bool.true_or, if_true]
    | false =>
      rw [hc, if_neg (by decide)] at h1
      obtain ⟨ρ', hP', hbody⟩ := h1
      simp only [forLoopP, hbody, Bool.false_or]
      exact ih (fun ρ c hc => hb ρ c (List.mem_cons_of_mem _ hc)) ρ' hP'

theorem forLoopP_acc (x acc : String) (body : PyLite.Env → PState → OutcomeP) (P : PyLite.Env → Prop)
    (g : Atom → List Atom) (st : PState) (vs : List Atom)
    (hb : ∀ ρ a v, v ∈ vs → P ρ → ρ.get? acc = some (.list a) →
      ∃ ρ', P ρ' ∧ ρ'.get? acc = some (.list (a ++ g v)) ∧ body (ρ.set x v) st = .normal ρ' st)
    (ρ : PyLite.Env) (a : List Atom) (hP : P ρ) (ha : ρ.get? acc = some (.list a)) :
    ∃ ρ', P ρ' ∧ ρ'.get? acc = some (.list (a ++ vs.flatMap g)) ∧ forLoopP x body vs ρ st = .normal ρ' st := by
  simpa only [foldl_snoc, List.map_id] using forLoopP_local id .list (fun a v => a ++ g v) x acc body P st vs hb ρ a hP ha

theorem evalP_setOf (H : PHandlers) (self ρ : PyLite.Env) (st st' : PState) (l : Expr) (vs : List Atom)
    (h : l.evalP H self ρ st = .ok (.list vs, st')) :
    (Expr.setOf l).evalP H self ρ st = .ok (.list (pyDedup vs), st') := by
  simp only [Expr.evalP, h, bind, Except.bind, pure, Except.pure]

theorem evalP_setInter (H : PHandlers) (self ρ : PyLite.Env) (st st' st'' : PState) (a b : Expr) (xs ys : List Atom)
    (ha : a.evalP H self ρ st = .ok (.list xs, st')) (hb : b.evalP H self ρ st' = .ok (.list ys, st'')) :
    (Expr.setInter a b).evalP H self ρ st =
      .ok (.list (xs.filter (fun x => ys.any (fun y => y.pyEq x))), st'') := by
  simp only [Expr.evalP, ha, hb, bind, Except.bind, pure, Except.pure]

theorem execP_forIn_acc (H : PHandlers) (self : PyLite.Env) (rec : List Atom → PState → Res (Val × PState))
    (x acc : String) (it : Expr) (body : List Stmt) (P : PyLite.Env → Prop) (g : Uid → List Uid) (st : PState)
    (l : List Uid) (ρ : PyLite.Env) (a : List Uid) (hit : it.evalP H self ρ st = .ok (refs l, st))
    (hb : ∀ ρ a c, c ∈ l → P ρ → ρ.get? acc = some (.list a) →
      ∃ ρ', P ρ' ∧ ρ'.get? acc = some (.list (a ++ (g c).map Atom.ref)) ∧
        execBlockP H self rec body (ρ.set x (.atom (.ref c))) st = .normal ρ' st)
    (hP : P ρ) (ha : ρ.get? acc = some (refs a)) :
    ∃ ρ', P ρ' ∧ ρ'.get? acc = some (refs (a ++ (l.map g).flatten)) ∧
      (Stmt.forIn x it body).execP H self rec ρ st = .normal ρ' st := by
  obtain ⟨ρ', hP', hacc, hl⟩ := forLoopP_acc x acc (fun ρ st => execBlockP H self rec body ρ st) P
    (fun v => match v with | .ref c => (g c).map Atom.ref | _ => []) st (l.map Atom.ref)
    (by
      intro ρ a v hv hP ha
      obtain ⟨c, hc, rfl⟩ := List.mem_map.1 hv
      exact hb ρ a c hc hP ha)
    ρ (a.map Atom.ref) hP ha
  rw [flatMap_refs, List.flatMap_def, ← List.map_append] at hacc
  exact ⟨ρ', hP', hacc, by rw [execP_forIn (hit := hit), hl]⟩


/-! ### `_raw_parent`, `_find_root` -/

theorem raw_parent_spec (s : G) (st : PState) (hh : st.heap = encHeap s) (F : Nat) (t : Uid) :
    (P.H (F + 1)).fnV fn_Task_raw_parent [.atom (.ref t)] st = .ok (.atom (optRef (s.parent t)), st) := by
  rw [P.call _ fn_Task_raw_parent _ _ rfl]
  simp [pylite_step, src_Task_raw_parent_params, src_Task_raw_parent, hh]

theorem find_root_spec (s : G) (st : PState) (hh : st.heap = encHeap s) :
    ∀ (f : Nat) (t r : Uid), rootF s f t = some r → ∀ F, f + 1 ≤ F →
      (P.H F).fnV fn_find_root [.atom (.ref t)] st = .ok (.atom (.ref r), st) := by
  intro f
  induction f with
  | zero => intro t r h; simp [rootF] at h
  | succ f ih =>
    intro t r h F hF
    obtain ⟨F, rfl, hF⟩ := fuel_split 2 hF
    rw [P.call _ fn_find_root _ _ rfl]
    have hrp := raw_parent_spec P s st hh F t
    cases hp : s.parent t with
    | none =>
      simp only [rootF, hp] at h
      cases h
      simp [pylite_step, src_find_root_params, src_find_root, hrp, hp, optRef_none, optRef_some]
    | some p =>
      simp only [rootF, hp] at h
      have := ih p r h (F + 1) (by omega)
      simp [pylite_step, src_find_root_params, src_find_root, hrp, hp, optRef_none, optRef_some, this]

/-! ### `_collect_subtree`, the generators `get_children` / `get_predecessor` / `get_successor` -/


def csLoop : Stmt := match src_collect_subtree with | [_, l, _] => l | _ => .pass
def csBody : List Stmt := match csLoop with | .forIn _ _ b => b | _ => []

theorem cs_shape : src_collect_subtree = [.assign "res" (.listCons (.var "task") .listNil), csLoop, .ret (.var "res")] := rfl
theorem csLoop_eq : csLoop = .forIn "ch" (.attr (.var "task") "children") csBody := rfl

theorem collect_subtree_spec (s : G) (st : PState) (hh : st.heap = encHeap s) :
    ∀ (f : Nat) (t : Uid) (r : List Uid), descF s.children f t = some r → ∀ F, f ≤ F →
      (P.H F).fnV fn_collect_subtree [.atom (.ref t)] st = .ok (refs (t :: r), st) := by
  intro f
  induction f with
  | zero => intro t r h; simp [descF] at h
  | succ f ih =>
    intro t r h F hF
    obtain ⟨F, rfl, hF⟩ := fuel_split 1 hF
    obtain ⟨hch, rfl⟩ := descF_succ_eq s.children f t r h
    rw [P.call _ fn_collect_subtree _ _ rfl]
    obtain ⟨ρ', -, hacc, hfor⟩ := execP_forIn_acc (P.H F) [] noRec "ch" "res" (.attr (.var "task") "children") csBody
      (fun _ => True) (fun c => c :: dsc s.children f c) st (s.children t)
      (Env.set [("task", .atom (.ref t))] "res" (.list [.ref t])) [t] (by simp [pylite_step, hh, refs])
      (by
        intro ρ a c hc _ ha
        have hcall := ih c _ (hch c hc) F (by omega)
        refine ⟨Env.set (Env.set ρ "ch" (.atom (.ref c))) "res"
          (.list (a ++ (c :: dsc s.children f c).map Atom.ref)), trivial, ?_, ?_⟩
        · simp [Env.get?_set]
        · simp [pylite_step, csBody, csLoop, src_collect_subtree, ha, hcall, refs])
      trivial (by simp [Env.get?_set, refs])
    simp [pylite_step, src_collect_subtree_params, cs_shape, csLoop_eq, ↓hfor, hacc, refs]

/-- the translated form of the three generators `get_children` / `get_predecessor` / `get_successor`: the list of
    everything reachable through the attribute `fld`, depth first (function number `k`, loop variable `x`) -/
def genLoopBody (k : Nat) (x : String) : List Stmt :=
  [.aug "_yielded" .add (.listCons (.var x) .listNil),
   .aug "_yielded" .add (.callFn k (.listCons (.var x) .listNil))]
def genLoop (k : Nat) (fld x : String) : Stmt := .forIn x (.attr (.var "t") fld) (genLoopBody k x)
def genBody (k : Nat) (fld x : String) : List Stmt :=
  [.assign "_yielded" .listNil, genLoop k fld x, .ret (.var "_yielded")]

theorem src_get_children_shape : src_Task_get_all_children_get_children =
    genBody fn_Task_get_all_children_get_children "children" "ch" := rfl
theorem src_get_predecessor_shape : src_Task_get_all_predecessors_get_predecessor =
    genBody fn_Task_get_all_predecessors_get_predecessor "predecessors" "pr" := rfl
theorem src_get_successor_shape : src_Task_get_all_successors_get_successor =
    genBody fn_Task_get_all_successors_get_successor "successors" "pr" := rfl

theorem generator_spec (s : G) (st : PState) (hh : st.heap = encHeap s) (k : Nat) (fld x : String)
    (next : Uid → List Uid) (htf : taskFuns k = some (["t"], genBody k fld x))
    (hfld : ∀ u, (encTask s u).get? fld = some (refs (next u))) (hx1 : x ≠ "_yielded") (hx2 : x ≠ "t") :
    ∀ (f : Nat) (t : Uid) (r : List Uid), descF next f t = some r → ∀ F, f ≤ F →
      (P.H F).fnV k [.atom (.ref t)] st = .ok (refs r, st) := by
  intro f
  induction f with
  | zero => intro t r h; simp [descF] at h
  | succ f ih =>
    intro t r h F hF
    obtain ⟨F, rfl, hF⟩ := fuel_split 1 hF
    obtain ⟨hch, rfl⟩ := descF_succ_eq next f t r h
    rw [P.call _ _ _ _ htf]
    have hx1' : ¬ "_yielded" = x := fun e => hx1 e.symm
    have hx2' : ¬ "t" = x := fun e => hx2 e.symm
    obtain ⟨ρ', -, hacc, hfor⟩ := execP_forIn_acc (P.H F) [] noRec x "_yielded" (.attr (.var "t") fld) (genLoopBody k x)
      (fun _ => True) (fun c => c :: dsc next f c) st (next t)
      (Env.set [("t", .atom (.ref t))] "_yielded" (.list [])) [] (by simp [pylite_step, hh, hfld, refs])
      (by
        intro ρ a c hc _ ha
        have hcall := ih c _ (hch c hc) F (by omega)
        refine ⟨Env.set (Env.set (Env.set ρ x (.atom (.ref c))) "_yielded" (.list (a ++ [.ref c])))
          "_yielded" (.list (a ++ (c :: dsc next f c).map Atom.ref)), trivial, ?_, ?_⟩
        · simp [Env.get?_set]
        · simp [pylite_step, genLoopBody, ha, hcall, refs, hx1, hx1', hx2, hx2', List.append_assoc])
      trivial (by simp [Env.get?_set, refs])
    simp only [genBody, genLoop]
    simp [pylite_step, ↓hfor, hacc, refs]


theorem get_children_spec (s : G) (st : PState) (hh : st.heap = encHeap s) (f : Nat) (t : Uid) (r : List Uid)
    (h : descF s.children f t = some r) (F : Nat) (hF : f ≤ F) :
    (P.H F).fnV fn_Task_get_all_children_get_children [.atom (.ref t)] st = .ok (refs r, st) :=
  generator_spec P s st hh _ "children" "ch" s.children rfl (encTask_children s) (by decide) (by decide) f t r h F hF

theorem get_predecessor_spec (s : G) (st : PState) (hh : st.heap = encHeap s) (f : Nat) (t : Uid) (r : List Uid)
    (h : descF s.preds f t = some r) (F : Nat) (hF : f ≤ F) :
    (P.H F).fnV fn_Task_get_all_predecessors_get_predecessor [.atom (.ref t)] st = .ok (refs r, st) :=
  generator_spec P s st hh _ "predecessors" "pr" s.preds rfl (encTask_preds s) (by decide) (by decide) f t r h F hF

theorem get_successor_spec (s : G) (st : PState) (hh : st.heap = encHeap s) (f : Nat) (t : Uid) (r : List Uid)
    (h : descF s.succs f t = some r) (F : Nat) (hF : f ≤ F) :
    (P.H F).fnV fn_Task_get_all_successors_get_successor [.atom (.ref t)] st = .ok (refs r, st) :=
  generator_spec P s st hh _ "successors" "pr" s.succs rfl (encTask_succs s) (by decide) (by decide) f t r h F hF

/-- `return [t for t in gen(a)]`: the properties `all_children`, `all_parents` -/
theorem ret_comp_spec (F k g : Nat) (a : Expr)
    (htf : taskFuns k = some (["self"], [.ret (.listComp (.var "t") "t" (.callFn g (.listCons a .listNil)) (.bool true))]))
    (t : Uid) (st : PState) (v : Val) (r : List Uid)
    (ha : a.evalP (P.H F) [] [("self", .atom (.ref t))] st = .ok (v, st))
    (hg : (P.H F).fnV g [v] st = .ok (refs r, st)) :
    (P.H (F + 1)).fnV k [.atom (.ref t)] st = .ok (refs r, st) := by
  rw [P.call _ _ _ _ htf, callPV_eq]
  simp only [bindParamsV, pure, Except.pure, bind, Except.bind]
  rw [execBlockP_cons, execP_ret (he := evalP_listComp_id _ _ _ _ _ _ _ _ (by rw [evalP_callFn1 (ha := ha)]; exact hg))]
  rfl

theorem get_all_children_spec (s : G) (st : PState) (hh : st.heap = encHeap s) (f : Nat) (t : Uid) (r : List Uid)
    (h : descF s.children f t = some r) (F : Nat) (hF : f + 1 ≤ F) :
    (P.H F).fnV fn_Task_get_all_children [.atom (.ref t)] st = .ok (refs r, st) := by
  obtain ⟨F, rfl, hF⟩ := fuel_split 1 hF
  exact ret_comp_spec P F _ _ _ rfl t st _ r (evalP_var _ _ _ _ _ _ rfl) (get_children_spec P s st hh f t r h F (by omega))

/-! ### the `parent` getter, `__get_all_parents` -/

theorem idA_emptyId : idA emptyId = .num 9223372036854775807 := by
  unfold idA emptyId
  congr 1

theorem pyEq_idA (i j : Int) : (idA i).pyEq (idA j) = decide (i = j) := by
  unfold idA Atom.pyEq Atom.norm
  simp [Rat.intCast_inj]

theorem pyEq_idA_empty (i : Int) : (idA i).pyEq (.num 9223372036854775807) = (i == emptyId) := by
  rw [← idA_emptyId, pyEq_idA]
  rfl


theorem parent_get_spec (s : G) (st : PState) (hh : st.heap = encHeap s) (F : Nat) (t : Uid) :
    (P.H (F + 1)).fnV fn_Task_parent_get [.atom (.ref t)] st = .ok (.atom (optRef (s.pubParent t)), st) := by
  rw [P.call _ fn_Task_parent_get _ _ rfl]
  unfold G.pubParent G.hidden
  cases hp : s.parent t with
  | none => simp [pylite_step, src_Task_parent_get_params, src_Task_parent_get, hh, hp, optRef_none, optRef_some]
  | some p =>
    cases hid : (s.tid p == emptyId) <;>
      simp [pylite_step, src_Task_parent_get_params, src_Task_parent_get, hh, hp, optRef_none, optRef_some, pyEq_idA_empty, hid]


theorem get_parent_spec (s : G) (st : PState) (hh : st.heap = encHeap s) :
    ∀ (f : Nat) (o : Option Uid) (r : List Uid), ancF s f o = some r → ∀ F, f + 1 ≤ F →
      (P.H F).fnV fn_Task_get_all_parents_get_parent [.atom (optRef o)] st = .ok (refs r, st) := by
  intro f
  induction f with
  | zero => intro o r h; simp [ancF] at h
  | succ f ih =>
    intro o r h F hF
    obtain ⟨F, rfl, hF⟩ := fuel_split 2 hF
    rw [P.call _ fn_Task_get_all_parents_get_parent _ _ rfl]
    cases o with
    | none =>
      simp only [ancF, Option.some.injEq] at h
      subst h
      simp [pylite_step, src_Task_get_all_parents_get_parent_params, src_Task_get_all_parents_get_parent, optRef_none, optRef_some, refs]
    | some p =>
      simp only [ancF, G.hidden] at h
      cases hid : (s.tid p == emptyId) with
      | true =>
        simp only [hid, if_true, Option.some.injEq] at h
        subst h
        simp [pylite_step, src_Task_get_all_parents_get_parent_params, src_Task_get_all_parents_get_parent, optRef_none, optRef_some, refs, hh,
          pyEq_idA_empty, hid]
      | false =>
        simp only [hid, Bool.false_eq_true, if_false, Option.map_eq_some_iff] at h
        obtain ⟨r', hr', rfl⟩ := h
        have hpg := parent_get_spec P s st hh F p
        have hrec := ih _ _ hr' (F + 1) (by omega)
        simp [pylite_step, src_Task_get_all_parents_get_parent_params, src_Task_get_all_parents_get_parent, optRef_none, optRef_some, refs, hh,
          pyEq_idA_empty, hid, hpg, hrec]

theorem get_all_parents_spec (s : G) (st : PState) (hh : st.heap = encHeap s) (f : Nat) (t : Uid) (r : List Uid)
    (h : ancF s f (s.parent t) = some r) (F : Nat) (hF : f + 2 ≤ F) :
    (P.H F).fnV fn_Task_get_all_parents [.atom (.ref t)] st = .ok (refs r, st) := by
  obtain ⟨F, rfl, hF⟩ := fuel_split 1 hF
  exact ret_comp_spec P F _ _ _ rfl t st _ r (by simp [pylite_step, hh]) (get_parent_spec P s st hh f _ r h F (by omega))

/-! ### `_unique_objects`, `__get_all_predecessors`, `__get_all_successors` -/

/-- `id(task)` of the task object `ref u` -/
def oidA (u : Uid) : Atom := .num ((u : Nat) : Rat)

theorem oidA_pyEq (a b : Uid) : (oidA a).pyEq (oidA b) = decide (a = b) := pyEq_natCast a b

theorem any_oidA (l : List Uid) (p : Uid) : (l.map oidA).any (fun v => v.pyEq (oidA p)) = l.contains p :=
  any_map_contains oidA _ p (fun a => oidA_pyEq a p) l

theorem foldlM_ok {σ α : Type} (m : σ → α → σ) (l : List α) (a : σ) :
    l.foldlM (fun a v => (Except.ok (m a v) : Except Err σ)) a = .ok (l.foldl m a) :=
  List.foldlM_pure (m := Except Err) (f := m)

/-- `eraseDups` as the fold `_unique_objects` performs: `bs` = the objects seen so far, last first -/
def uniqStep (bs : List Uid) (a : Uid) : List Uid := if bs.contains a then bs else a :: bs

theorem eraseDups_loop_eq (as bs : List Uid) :
    List.eraseDupsBy.loop (· == ·) as bs = (as.foldl uniqStep bs).reverse := by
  induction as generalizing bs with
  | nil => simp [List.eraseDupsBy.loop]
  | cons a as ih =>
    unfold List.eraseDupsBy.loop
    have hc : bs.any (fun x => a == x) = bs.contains a := List.contains_eq_any_beq.symm
    cases h : bs.contains a with
    | true => simp only [hc, h, List.foldl_cons, uniqStep, if_true]; exact ih bs
    | false => simp only [hc, h, List.foldl_cons, uniqStep, Bool.false_eq_true, if_false]; exact ih (a :: bs)

theorem eraseDups_eq_fold (l : List Uid) : l.eraseDups = (l.foldl uniqStep []).reverse := by
  unfold List.eraseDups List.eraseDupsBy
  exact eraseDups_loop_eq l []


def uoLoop : Stmt := match src_unique_objects with | [_, _, l, _] => l | _ => .pass
def uoBody : List Stmt := match uoLoop with | .forIn _ _ b => b | _ => []
theorem uo_shape : src_unique_objects = [.assign "seen" .listNil, .assign "res" .listNil, uoLoop, .ret (.var "res")] := rfl
theorem uoLoop_eq : uoLoop = .forIn "t" (.var "tasks") uoBody := rfl

theorem unique_objects_spec (st : PState) (F : Nat) (l : List Uid) :
    (P.H (F + 1)).fnV fn_unique_objects [refs l] st = .ok (refs l.eraseDups, st) := by
  rw [P.call _ fn_unique_objects _ _ rfl]
  obtain ⟨ρ', st', hl, rfl, -, hacc⟩ := forLoopP_foldl "t" (fun ρ st => execBlockP (P.H F) [] noRec uoBody ρ st) Atom.ref
    (fun (bs : List Uid) ρ st' => st' = st ∧ ρ.get? "seen" = some (.list (bs.reverse.map oidA)) ∧
      ρ.get? "res" = some (refs bs.reverse))
    uniqStep l
    (by
      intro bs c ρ st' _ hR
      obtain ⟨rfl, hseen, hres⟩ := hR
      have hany : ((bs.reverse.map oidA).any fun v => v.pyEq (Atom.num ((c : Nat) : Rat))) = bs.contains c := by
        rw [← List.contains_reverse]; exact any_oidA bs.reverse c
      simp only [refs] at hres
      generalize hS : bs.reverse.map oidA = S at hseen hany
      generalize hRs : bs.reverse.map Atom.ref = Rs at hres
      cases hcon : bs.contains c with
      | true =>
        rw [hcon] at hany
        refine ⟨Env.set ρ "t" (.atom (.ref c)), st', ?_, rfl, ?_, ?_⟩
        · simp [pylite_step, uoBody, uoLoop, src_unique_objects, hseen, hres, hany]
        · simp only [uniqStep, hcon, if_true, Env.get?_set, hS]
          simpa using hseen
        · simp only [uniqStep, hcon, if_true, Env.get?_set, refs, hRs]
          simpa using hres
      | false =>
        rw [hcon] at hany
        have hcon' : c ∉ bs := by simpa using hcon
        refine ⟨Env.set (Env.set (Env.set ρ "t" (.atom (.ref c))) "seen" (.list (S ++ [Atom.num ((c : Nat) : Rat)])))
          "res" (.list (Rs ++ [.ref c])), st', ?_, rfl, ?_, ?_⟩
        · simp [pylite_step, uoBody, uoLoop, src_unique_objects, hseen, hres, hany]
        · simp [Env.get?_set, uniqStep, hcon', ← hS, oidA]
        · simp [Env.get?_set, uniqStep, hcon', refs, ← hRs])
    [] (Env.set (Env.set [("tasks", refs l)] "seen" (.list [])) "res" (.list [])) st
    ⟨rfl, by simp [Env.get?_set], by simp [Env.get?_set, refs]⟩
  have hfor : uoLoop.execP (P.H F) [] noRec (Env.set (Env.set [("tasks", refs l)] "seen" (.list [])) "res" (.list []))
      st' = .normal ρ' st' := by
    rw [uoLoop_eq, execP_forIn (vs := l.map Atom.ref) (st' := st') (hit := by simp [pylite_step, refs]), hl]
  simp [pylite_step, src_unique_objects_params, uo_shape, hfor, hacc, eraseDups_eq_fold]

/-- `return _unique_objects(gen(self))`: the properties `all_predecessors`, `all_successors` -/
theorem ret_unique_spec (F k g : Nat)
    (htf : taskFuns k = some (["self"],
      [.ret (.callFn fn_unique_objects (.listCons (.callFn g (.listCons (.var "self") .listNil)) .listNil))]))
    (t : Uid) (st : PState) (r : List Uid) (hg : (P.H (F + 1)).fnV g [.atom (.ref t)] st = .ok (refs r, st)) :
    (P.H (F + 2)).fnV k [.atom (.ref t)] st = .ok (refs r.eraseDups, st) := by
  rw [P.call _ _ _ _ htf, callPV_eq]
  simp only [bindParamsV, pure, Except.pure, bind, Except.bind]
  rw [execBlockP_cons, execP_ret (he := by
    rw [evalP_callFn1 (ha := by rw [evalP_callFn1 (ha := evalP_var _ _ _ _ _ _ rfl)]; exact hg)]
    exact unique_objects_spec P st F r)]

theorem descF_fuel_pos (next : Uid → List Uid) (f : Nat) (t : Uid) (r : List Uid) (h : descF next f t = some r) :
    1 ≤ f := by
  cases f with
  | zero => simp [descF] at h
  | succ f => omega

theorem get_all_predecessors_spec (s : G) (st : PState) (hh : st.heap = encHeap s) (f : Nat) (t : Uid) (r : List Uid)
    (h : descF s.preds f t = some r) (F : Nat) (hF : f + 1 ≤ F) :
    (P.H F).fnV fn_Task_get_all_predecessors [.atom (.ref t)] st = .ok (refs r.eraseDups, st) := by
  have := descF_fuel_pos _ _ _ _ h
  obtain ⟨F, rfl⟩ : ∃ F', F = F' + 2 := ⟨F - 2, by omega⟩
  exact ret_unique_spec P F _ _ rfl t st r (get_predecessor_spec P s st hh f t r h (F + 1) (by omega))

theorem get_all_successors_spec (s : G) (st : PState) (hh : st.heap = encHeap s) (f : Nat) (t : Uid) (r : List Uid)
    (h : descF s.succs f t = some r) (F : Nat) (hF : f + 1 ≤ F) :
    (P.H F).fnV fn_Task_get_all_successors [.atom (.ref t)] st = .ok (refs r.eraseDups, st) := by
  have := descF_fuel_pos _ _ _ _ h
  obtain ⟨F, rfl⟩ : ∃ F', F = F' + 2 := ⟨F - 2, by omega⟩
  exact ret_unique_spec P F _ _ rfl t st r (get_successor_spec P s st hh f t r h (F + 1) (by omega))

theorem eraseDupsBy_loop_map {α β : Type} (f : α → β) (r : β → β → Bool) (r' : α → α → Bool)
    (h : ∀ a b, r (f a) (f b) = r' a b) (l bs : List α) :
    List.eraseDupsBy.loop r (l.map f) (bs.map f) = (List.eraseDupsBy.loop r' l bs).map f := by
  induction l generalizing bs with
  | nil => simp [List.eraseDupsBy.loop]
  | cons a l ih =>
    simp only [List.map_cons]
    unfold List.eraseDupsBy.loop
    have : (bs.map f).any (r (f a)) = bs.any (r' a) := by
      rw [List.any_map]; congr 1; funext b; exact h a b
    rw [this]
    cases bs.any (r' a) with
    | true => exact ih bs
    | false => simpa using ih (a :: bs)

theorem eraseDupsBy_map {α β : Type} (f : α → β) (r : β → β → Bool) (r' : α → α → Bool)
    (h : ∀ a b, r (f a) (f b) = r' a b) (l : List α) :
    (l.map f).eraseDupsBy r = (l.eraseDupsBy r').map f := by
  simpa [List.eraseDupsBy] using eraseDupsBy_loop_map f r r' h l []

/-- `set([id(t) for t in l])` -/
theorem pyDedup_oidA (l : List Uid) : pyDedup (l.map oidA) = l.eraseDups.map oidA := by
  unfold pyDedup List.eraseDups
  exact eraseDupsBy_map oidA _ _ (fun a b => by rw [oidA_pyEq]; rfl) l

/-- `set([t.id for t in l])` -/
theorem pyDedup_idA (l : List Int) : pyDedup (l.map idA) = l.eraseDups.map idA := by
  unfold pyDedup List.eraseDups
  exact eraseDupsBy_map idA _ _ (fun a b => by rw [pyEq_idA]; rfl) l

theorem contains_eraseDups (l : List Uid) (a : Uid) : l.eraseDups.contains a = l.contains a := by
  rw [Bool.eq_iff_iff]; simp

theorem filter_const_true {α : Type} (l : List α) : l.filter (fun _ => true) = l := by
  induction l with
  | nil => rfl
  | cons a l ih => simp [ih]

/-- `[elt for x in <tasks>]` with an element that only reads -/
theorem evalP_comp_refs (H : PHandlers) (self ρ : PyLite.Env) (st0 st : PState) (elt it : Expr) (x : String)
    (l : List Uid) (e : Uid → Atom) (hit : it.evalP H self ρ st0 = .ok (refs l, st))
    (he : ∀ c ∈ l, elt.evalP H self (ρ.set x (.atom (.ref c))) st = .ok (.atom (e c), st)) :
    (Expr.listComp elt x it (.bool true)).evalP H self ρ st0 = .ok (.list (l.map e), st) := by
  rw [evalP_listComp_pure (vs := l.map Atom.ref) (st := st) (p := fun _ => true)
    (e := fun v => match v with | .ref c => e c | _ => .none)
    (hit := hit)
    (hc := fun v _ => evalP_bool _ _ _ _ true)
    (he := by
      intro v hv _
      obtain ⟨c, hc, rfl⟩ := List.mem_map.1 hv
      exact he c hc)]
  rw [filter_const_true, List.map_map]
  rfl

def refP (p : Uid → Bool) : Atom → Bool
  | .ref c => p c
  | _ => false

theorem filter_refP (p : Uid → Bool) (l : List Uid) :
    (l.map Atom.ref).filter (refP p) = (l.filter p).map Atom.ref := by
  induction l with
  | nil => rfl
  | cons a l ih => cases hp : p a <;> simp [List.filter_cons, refP, hp, ih]

theorem find?_refP (p : Uid → Bool) (l : List Uid) :
    (l.map Atom.ref).find? (refP p) = (l.find? p).map Atom.ref := by
  induction l with
  | nil => rfl
  | cons a l ih => cases hp : p a <;> simp [List.find?_cons, refP, hp, ih]

/-- `[x for x in <tasks> if cond]` with a condition that only reads -/
theorem evalP_filter_refs (H : PHandlers) (self ρ : PyLite.Env) (st0 st : PState) (cond it : Expr) (x : String)
    (l : List Uid) (p : Uid → Bool) (hit : it.evalP H self ρ st0 = .ok (refs l, st))
    (hc : ∀ c ∈ l, cond.evalP H self (ρ.set x (.atom (.ref c))) st = .ok (.atom (.bool (p c)), st)) :
    (Expr.listComp (.var x) x it cond).evalP H self ρ st0 = .ok (refs (l.filter p), st) := by
  rw [evalP_listComp_pure (vs := l.map Atom.ref) (st := st) (p := refP p) (e := fun v => v) (hit := hit)
    (hc := by
      intro v hv
      obtain ⟨c, hc', rfl⟩ := List.mem_map.1 hv
      exact hc c hc')
    (he := fun v _ _ => evalP_var _ _ _ _ _ _ (by rw [Env.get?_set, if_pos rfl]))]
  rw [List.map_id', filter_refP, refs]

/-- `set([id(x) for x in <tasks>])` -/
theorem evalP_set_oid (H : PHandlers) (self ρ : PyLite.Env) (st0 st : PState) (it : Expr) (x : String) (l : List Uid)
    (hit : it.evalP H self ρ st0 = .ok (refs l, st)) :
    (Expr.setOf (.listComp (.idOf (.var x)) x it (.bool true))).evalP H self ρ st0 =
      .ok (.list (l.eraseDups.map oidA), st) := by
  rw [evalP_setOf (h := evalP_comp_refs H self ρ st0 st _ it x l oidA hit
    (by intro c _; simp [Expr.evalP, Env.get?_set, pure, Except.pure, bind, Except.bind, oidA])), pyDedup_oidA]

/-- `id(c) in set([id(x) for x in l])` -/
theorem any_oidSet (l : List Uid) (c : Uid) :
    (l.eraseDups.map oidA).any (fun v => v.pyEq (Atom.num ((c : Nat) : Rat))) = l.contains c :=
  (any_oidA l.eraseDups c).trans (contains_eraseDups l c)

/-- `set([x.id for x in <tasks>])` -/
theorem evalP_set_tid (s : G) (H : PHandlers) (self ρ : PyLite.Env) (st0 st : PState) (hh : st.heap = encHeap s)
    (it : Expr) (x : String) (l : List Uid) (hit : it.evalP H self ρ st0 = .ok (refs l, st)) :
    (Expr.setOf (.listComp (.attr (.var x) "id") x it (.bool true))).evalP H self ρ st0 =
      .ok (.list ((l.map s.tid).eraseDups.map idA), st) := by
  rw [evalP_setOf (h := evalP_comp_refs H self ρ st0 st _ it x l (idA ∘ s.tid) hit
    (by intro c _; simp [Expr.evalP, Env.get?_set, pure, Except.pure, bind, Except.bind, hh, encHeap_apply, encTask_id])),
    ← List.map_map, pyDedup_idA]

/-! ### `_linked_with_any` -/


def lwOuter : Stmt := match src_linked_with_any with | [_, l, _] => l | _ => .pass
def lwInner : Stmt := match lwOuter with | .forIn _ _ [l] => l | _ => .pass
def lwBody : List Stmt := match lwInner with | .forIn _ _ b => b | _ => []
theorem lw_shape : src_linked_with_any =
    [.assign "other_ids" (.setOf (.listComp (.idOf (.var "o")) "o" (.var "others") (.bool true))), lwOuter,
     .ret (.bool false)] := rfl
theorem lwOuter_eq : lwOuter = .forIn "t" (.var "tasks") [lwInner] := rfl
theorem lwInner_eq : lwInner = .forIn "linked"
    (.bin .add (.listOf (.attr (.var "t") "predecessors")) (.listOf (.attr (.var "t") "successors"))) lwBody := rfl

theorem linked_with_any_spec (s : G) (st : PState) (hh : st.heap = encHeap s) (F : Nat) (ts os : List Uid) :
    (P.H (F + 1)).fnV fn_linked_with_any [refs ts, refs os] st = .ok (.atom (.bool (linkedWithAny s ts os)), st) := by
  rw [P.call _ fn_linked_with_any _ _ rfl, callPV_bound rfl, lw_shape, execBlockP_cons,
    execP_assign (he := evalP_set_oid _ _ _ _ _ _ "o" os (evalP_var _ _ _ _ _ _ rfl))]
  dsimp only
  generalize hO : os.eraseDups.map oidA = O
  have hOany : ∀ c : Uid, O.any (fun v => v.pyEq (Atom.num ((c : Nat) : Rat))) = os.contains c :=
    fun c => hO ▸ any_oidSet os c
  -- both loops return `True` at the first hit; the outer body is the inner loop
  have outer := forLoopP_findRet "t" (fun ρ st => execBlockP (P.H F) [] noRec [lwInner] ρ st)
    (fun ρ => ρ.get? "other_ids" = some (.list O)) (fun t => (s.preds t ++ s.succs t).any (fun l => os.contains l))
    (.atom (.bool true)) st ts
    (fun ρ t _ hρ => by
      rw [execBlockP_one, lwInner_eq, execP_forIn (vs := (s.preds t ++ s.succs t).map Atom.ref) (st' := st)
        (hit := by simp [pylite_step, hh, refs])]
      refine forLoopP_findRet "linked" _ (fun ρ => ρ.get? "other_ids" = some (.list O)) (fun c => os.contains c) _ st _
        (fun ρ c _ hP => ?_) _ (by rw [Env.get?_set, if_neg (by decide)]; exact hρ)
      have h1 := hOany c
      cases hc : os.contains c <;> rw [hc] at h1
      · exact ⟨Env.set ρ "linked" (.atom (.ref c)), by rw [Env.get?_set, if_neg (by decide)]; exact hP,
          by simp [pylite_step, lwBody, lwInner, lwOuter, src_linked_with_any, hP, h1]⟩
      · simp [pylite_step, lwBody, lwInner, lwOuter, src_linked_with_any, hP, h1])
    (Env.set [("tasks", refs ts), ("others", refs os)] "other_ids" (.list O)) (by rw [Env.get?_set, if_pos rfl])
  rw [execBlockP_cons, lwOuter_eq, execP_forIn (vs := ts.map Atom.ref) (st' := st) (hit := by simp [pylite_step, refs])]
  change if linkedWithAny s ts os = true then _ else _ at outer
  cases hl : linkedWithAny s ts os <;> rw [hl] at outer
  · obtain ⟨ρ', -, outer⟩ := outer
    rw [outer]
    rfl
  · rw [if_pos rfl] at outer
    rw [outer]
    rfl

/-! ### `_has_id_intersection` -/

theorem inter_pos (A B : List Int) :
    decide (0 < ((A.eraseDups.map idA).filter (fun x => (B.eraseDups.map idA).any (fun y => y.pyEq x))).length) =
      B.any (fun i => A.contains i) := by
  rw [Bool.eq_iff_iff]
  simp only [decide_eq_true_eq, List.length_pos_iff_exists_mem, List.mem_filter, List.mem_map, List.mem_eraseDups,
    List.any_eq_true, List.contains_iff_mem]
  constructor
  · rintro ⟨x, ⟨a, ha, rfl⟩, y, ⟨b, hb, rfl⟩, hxy⟩
    rw [pyEq_idA] at hxy
    have : b = a := by simpa using hxy
    exact ⟨b, hb, this ▸ ha⟩
  · rintro ⟨b, hb, ha⟩
    exact ⟨idA b, ⟨b, ha, rfl⟩, idA b, ⟨b, hb, rfl⟩, by rw [pyEq_idA]; simp⟩

def hiLoop : Stmt := match src_has_id_intersection with | _ :: _ :: _ :: l :: _ => l | _ => .pass
def hiBody : List Stmt := match hiLoop with | .forIn _ _ b => b | _ => []
def hiTail : List Stmt := src_has_id_intersection.drop 4
theorem hi_shape : src_has_id_intersection =
    [.assign "parent_root" (.callFn fn_find_root (.listCons (.var "parent") .listNil)),
     .assign "parent_tree" (.callFn fn_collect_subtree (.listCons (.var "parent_root") .listNil)),
     .assign "all_children_tasks" .listNil, hiLoop] ++ hiTail := rfl
theorem hiLoop_eq : hiLoop = .forIn "ch" (.var "children") hiBody := rfl

/-- the statements of `_has_id_intersection` after the three enumerations -/
theorem hiTail_ok (s : G) (st : PState) (hh : st.heap = encHeap s) (F : Nat) (tree all : List Uid) (ρ : PyLite.Env)
    (h1 : ρ.get? "parent_tree" = some (refs tree)) (h2 : ρ.get? "all_children_tasks" = some (refs all)) :
    execBlockP (P.H (F + 1)) [] noRec hiTail ρ st = .ret (.atom (.bool (idClash s.tid tree all))) st := by
  generalize hnew : (all.filter (fun t => !tree.contains t)).eraseDups = new
  simp only [refs] at h1 h2
  have hO := any_oidSet tree
  -- what the comprehensions compute, in whatever locals hold their lists (with `refs` unfolded, as the lookups of `simp`
  -- leave it: given `refs`, `simp` would rewrite the facts' own hypotheses and they would not fire):
  -- `set([id(t) for t in parent_tree])`
  have eOid := fun ρ' (h : ρ'.get? "parent_tree" = some (.list (tree.map Atom.ref))) =>
    evalP_set_oid (P.H (F + 1)) [] ρ' st st (.var "parent_tree") "t" tree (evalP_var _ _ _ _ _ _ h)
  -- `_unique_objects([t for t in all_children_tasks if id(t) not in parent_tree_object_ids])`
  have eNew : ∀ ρ', ρ'.get? "all_children_tasks" = some (.list (all.map Atom.ref)) →
      ρ'.get? "parent_tree_object_ids" = some (.list (tree.eraseDups.map oidA)) →
      (Expr.callFn fn_unique_objects (.listCons (.listComp (.var "t") "t" (.var "all_children_tasks")
        (.not (.isIn (.idOf (.var "t")) (.var "parent_tree_object_ids")))) .listNil)).evalP (P.H (F + 1)) [] ρ' st =
        .ok (.list (new.map Atom.ref), st) := fun ρ' ha ho => by
    rw [evalP_callFn1 (ha := evalP_filter_refs _ _ _ _ _ _ _ "t" all (fun t => !tree.contains t) (evalP_var _ _ _ _ _ _ ha)
      fun c _ => by
        have := hO c
        cases hc : tree.contains c <;> (rw [hc] at this; simp [pylite_step, ho, this])), ← hnew]
    exact unique_objects_spec P st F _
  -- `set([t.id for t in new_tasks])`, `set([t.id for t in parent_tree])`
  have eTidN := fun ρ' (h : ρ'.get? "new_tasks" = some (.list (new.map Atom.ref))) =>
    evalP_set_tid s (P.H (F + 1)) [] ρ' st st hh (.var "new_tasks") "t" new (evalP_var _ _ _ _ _ _ h)
  have eTidT := fun ρ' (h : ρ'.get? "parent_tree" = some (.list (tree.map Atom.ref))) =>
    evalP_set_tid s (P.H (F + 1)) [] ρ' st st hh (.var "parent_tree") "t" tree (evalP_var _ _ _ _ _ _ h)
  unfold hiTail idClash
  simp only [src_has_id_intersection, List.drop, hnew]
  rw [← inter_pos (tree.map s.tid) (new.map s.tid)]
  -- the three exits: no new task, two new tasks with one id, the intersection of the two sets of ids
  by_cases hne : new = []
  · simp [pylite_step, ↓eOid, ↓eNew, ↓eTidN, ↓eTidT, h1, h2, hne, pyEq_num]
  · by_cases hdup : (new.map s.tid).eraseDups.length = new.length <;>
      simp [pylite_step, ↓eOid, ↓eNew, ↓eTidN, ↓eTidT, h1, h2, hne, hdup, pyEq_num, Rat.natCast_inj, Rat.natCast_pos]

theorem has_id_intersection_spec (s : G) (st : PState) (hh : st.heap = encHeap s) (p : Uid) (chs : List Uid) (b : Bool)
    (h : hasIdIntersection s p chs = some b) (F : Nat) (hF : s.fuel + 2 ≤ F) :
    (P.H F).fnV fn_has_id_intersection [.atom (.ref p), refs chs] st = .ok (.atom (.bool b), st) := by
  obtain ⟨F, rfl, hF⟩ := fuel_split 2 hF
  rw [hasIdIntersection_eq] at h
  simp only [Option.bind_eq_some_iff, Option.some.injEq] at h
  obtain ⟨root, hroot, tree, htree, subs, hsubs, rfl⟩ := h
  simp only [subtreeF, Option.map_eq_some_iff] at htree
  obtain ⟨dr, hdr, rfl⟩ := htree
  have hsub : ∀ c ∈ chs, descF s.children s.fuel c = some (dsc s.children s.fuel c) := by
    intro c hc
    obtain ⟨b, _, hb⟩ := mapM_some_mem _ _ _ hsubs c hc
    simp only [subtreeF, Option.map_eq_some_iff] at hb
    obtain ⟨d, hd, _⟩ := hb
    simp [dsc, hd]
  have hsubs' : subs = chs.map (fun c => c :: dsc s.children s.fuel c) := by
    refine mapM_some_eq_map _ _ _ _ hsubs ?_
    intro c hc b hb
    simp only [subtreeF, hsub c hc, Option.map_some, Option.some.injEq] at hb
    exact hb.symm
  have hfr := find_root_spec P s st hh _ _ _ hroot (F + 1) (by omega)
  have hcs := collect_subtree_spec P s st hh _ _ _ hdr (F + 1) (by omega)
  -- the loop, in the locals the first three statements leave
  obtain ⟨ρ', hP, hacc, hl⟩ := execP_forIn_acc (P.H (F + 1)) [] noRec "ch" "all_children_tasks" (.var "children") hiBody
    (fun ρ => ρ.get? "parent_tree" = some (refs (root :: dr))) (fun c => c :: dsc s.children s.fuel c) st chs
    (Env.set (Env.set (Env.set [("parent", .atom (.ref p)), ("children", refs chs)] "parent_root" (.atom (.ref root)))
      "parent_tree" (refs (root :: dr))) "all_children_tasks" (.list [])) []
    (by simp [pylite_step])
    (by
      intro ρ a c hc hP ha
      have hcall := collect_subtree_spec P s st hh _ _ _ (hsub c hc) (F + 1) (by omega)
      refine ⟨Env.set (Env.set ρ "ch" (.atom (.ref c))) "all_children_tasks"
        (.list (a ++ (c :: dsc s.children s.fuel c).map Atom.ref)), ?_, ?_, ?_⟩
      · simpa [Env.get?_set] using hP
      · simp [Env.get?_set]
      · simp [pylite_step, hiBody, hiLoop, src_has_id_intersection, ha, hcall, refs])
    (by simp [Env.get?_set]) (by simp [Env.get?_set, refs])
  rw [List.nil_append, ← hsubs'] at hacc
  rw [P.call _ fn_has_id_intersection _ _ rfl]
  simp [pylite_step, src_has_id_intersection_params, hi_shape, hiLoop_eq, hfr, hcs, ↓hl,
    hiTail_ok P s st hh F (root :: dr) subs.flatten ρ' hP hacc]

/-! ### `_to_list`, `_check_not_none`, `_check_no_nones_in_list` -/

theorem tf_check_not_none : taskFuns fn_check_not_none = some (src_check_not_none_params, src_check_not_none) := rfl

theorem to_list_none (st : PState) (F : Nat) :
    (P.H (F + 1)).fnV fn_to_list [.atom .none] st = .ok (refs [], st) := by
  rw [P.call _ fn_to_list _ _ rfl]
  simp [pylite_step, src_to_list_params, src_to_list, refs]

theorem to_list_task (st : PState) (F : Nat) (t : Uid) :
    (P.H (F + 1)).fnV fn_to_list [.atom (.ref t)] st = .ok (refs [t], st) := by
  rw [P.call _ fn_to_list _ _ rfl]
  simp [pylite_step, src_to_list_params, src_to_list, refs, pyTypeIs]

def notNone (a : Atom) : Bool := !decide (a = .none)

theorem to_list_body_list (H : PHandlers) (st : PState) (vs : List Atom) :
    callPV H src_to_list_params src_to_list [.list vs] st = .ok (.list (vs.filter notNone), st) := by
  have hcomp : (Expr.listComp (.var "t") "t" (.var "val") (.isNotNone (.var "t"))).evalP H []
      [("val", .list vs)] st = .ok (.list (vs.filter notNone), st) := by
    rw [evalP_listComp_pure (vs := vs) (st := st) (p := notNone) (e := fun v => v) (hit := evalP_var _ _ _ _ _ _ rfl)
      (hc := by intro v _; simp [Expr.evalP, Env.get?_set, pure, Except.pure, bind, Except.bind, notNone])
      (he := by intro v _ _; simp [Expr.evalP, Env.get?_set, pure, Except.pure])]
    rw [List.map_id']
  simp [pylite_step, src_to_list_params, src_to_list, pyTypeIs, ↓hcomp]

theorem to_list_list (st : PState) (F : Nat) (vs : List Atom) :
    (P.H (F + 1)).fnV fn_to_list [.list vs] st = .ok (.list (vs.filter notNone), st) := by
  rw [P.call _ fn_to_list _ _ rfl]
  exact to_list_body_list _ st vs

theorem filter_notNone_refs (l : List Uid) : (l.map Atom.ref).filter notNone = l.map Atom.ref := by
  induction l with
  | nil => rfl
  | cons a l ih => simp [notNone, ih]

theorem to_list_refs (st : PState) (F : Nat) (l : List Uid) :
    (P.H (F + 1)).fnV fn_to_list [refs l] st = .ok (refs l, st) := by
  unfold refs
  rw [to_list_list P, filter_notNone_refs]

/-- the Python value `v` is an admissible right-hand side of a relation setter and stands for the list of tasks `l`:
    `_to_list(v)` is `l` (see `valueOf_refs`, `valueOf_none`, `valueOf_task`, `valueOf_list`) -/
def ValueOf (v : Val) (l : List Uid) : Prop :=
  ∀ (st : PState) (F : Nat), (Hd (F + 1)).fnV fn_to_list [v] st = .ok (refs l, st)

theorem valueOf_refs (l : List Uid) : ValueOf (refs l) l := fun st F => to_list_refs progHd st F l
theorem valueOf_none : ValueOf (.atom .none) [] := fun st F => to_list_none progHd st F
theorem valueOf_task (t : Uid) : ValueOf (.atom (.ref t)) [t] := fun st F => to_list_task progHd st F t
theorem valueOf_list (os : List (Option Uid)) : ValueOf (.list (os.map optRef)) (os.filterMap id) := by
  intro st F
  show (progHd.H (F + 1)).fnV _ _ _ = _
  rw [to_list_list progHd]
  congr 2
  unfold refs
  congr 1
  induction os with
  | nil => rfl
  | cons o os ih => cases o <;> simp [notNone, ih, optRef]

/-- `_to_list` calls nothing: its run does not depend on the handlers -/
theorem to_list_indep (H H' : PHandlers) (v : Val) (st : PState) :
    callPV H src_to_list_params src_to_list [v] st = callPV H' src_to_list_params src_to_list [v] st := by
  cases v with
  | atom a => cases a <;> simp [pylite_step, src_to_list_params, src_to_list, pyTypeIs]
  | list vs => rw [to_list_body_list, to_list_body_list]
  | dict kvs => simp [pylite_step, src_to_list_params, src_to_list, pyTypeIs]

theorem ValueOf.run {v : Val} {l : List Uid} (hv : ValueOf v l) (st : PState) (F : Nat) :
    (P.H (F + 1)).fnV fn_to_list [v] st = .ok (refs l, st) := by
  rw [P.call _ fn_to_list _ _ rfl, to_list_indep (P.H F) (Hd F), ← fnV_succ _ fn_to_list _ _ rfl]
  exact hv st F

theorem check_not_none_spec (st : PState) (F : Nat) (t : Uid) :
    (P.H (F + 1)).fnV fn_check_not_none [.atom (.ref t)] st = .ok (.atom .none, st) := by
  rw [P.call _ _ _ _ tf_check_not_none]
  simp [pylite_step, src_check_not_none_params, src_check_not_none]

theorem check_no_nones_spec (st : PState) (F : Nat) (l : List Uid) :
    (P.H (F + 1)).fnV fn_check_no_nones_in_list [refs l] st = .ok (.atom .none, st) := by
  rw [P.call _ fn_check_no_nones_in_list _ _ rfl, callPV_eq]
  simp only [src_check_no_nones_in_list_params, src_check_no_nones_in_list, bindParamsV, pure, Except.pure, bind,
    Except.bind]
  have hnone : l.findSome? (fun _ => (none : Option Err)) = none := by simp
  have := forLoopP_findSome "v" (fun ρ st => execBlockP (P.H F) [] noRec
      [.ifElse (.isNone (.var "v")) [.raiseRuntime] []] ρ st) Atom.ref (fun _ => True) (fun _ => none) (fun _ => False)
    st l (fun ρ c _ _ => ⟨Env.set ρ "v" (.atom (.ref c)), trivial, by simp [pylite_step]⟩) [("lst", refs l)] trivial
  rw [hnone] at this
  obtain ⟨ρ', -, hl⟩ := this
  rw [execBlockP_cons, execP_forIn (vs := l.map Atom.ref) (st' := st) (hit := evalP_var _ _ _ _ _ _ rfl), hl]
  simp only [execBlockP_nil]

def withG (st : PState) (s : G) : PState := { st with heap := encHeap s }

@[simp] theorem withG_heap (st : PState) (s : G) : (withG st s).heap = encHeap s := rfl
theorem withG_withG (st : PState) (s s' : G) : withG (withG st s) s' = withG st s' := rfl
theorem withG_self (st : PState) (s : G) (hh : st.heap = encHeap s) : withG st s = st := by
  cases st; simp only [withG] at *; simp [hh]

theorem exists_withG {st : PState} {s : G} (hh : st.heap = encHeap s) : ∃ st0, st = withG st0 s :=
  ⟨st, (withG_self st s hh).symm⟩

theorem setHeap_eq (st : PState) (h : Nat → PyLite.Env) (s : G) (e : h = encHeap s) :
    ({ st with heap := h } : PState) = withG st s := by rw [e]; rfl

section heapSet
variable (s : G) (t : Uid)

theorem heapSet_wbs (o : Option Uid) :
    heapSet (encHeap s) t "wbs" (.atom (optRef o)) = encHeap { s with owner := upd s.owner t o } :=
  heapSet_eq_of (by simp [encHeap, encTask, Env.set, upd]) fun u h => by simp [encHeap, encTask, upd, h]

theorem heapSet_parent (o : Option Uid) :
    heapSet (encHeap s) t "parent" (.atom (optRef o)) = encHeap { s with parent := upd s.parent t o } :=
  heapSet_eq_of (by simp [encHeap, encTask, Env.set, upd]) fun u h => by simp [encHeap, encTask, upd, h]

theorem heapSet_children (l : List Uid) :
    heapSet (encHeap s) t "children" (refs l) = encHeap { s with children := upd s.children t l } :=
  heapSet_eq_of (by simp [encHeap, encTask, Env.set, upd]) fun u h => by simp [encHeap, encTask, upd, h]

theorem heapSet_preds (l : List Uid) :
    heapSet (encHeap s) t "predecessors" (refs l) = encHeap { s with preds := upd s.preds t l } :=
  heapSet_eq_of (by simp [encHeap, encTask, Env.set, upd]) fun u h => by simp [encHeap, encTask, upd, h]

theorem heapSet_succs (l : List Uid) :
    heapSet (encHeap s) t "successors" (refs l) = encHeap { s with succs := upd s.succs t l } :=
  heapSet_eq_of (by simp [encHeap, encTask, Env.set, upd]) fun u h => by simp [encHeap, encTask, upd, h]
end heapSet

/-! ### `_attach`, `_detach` -/

theorem setOwners_setOwners (s : G) (A B : List Uid) (w : Option Uid) :
    setOwners (setOwners s A w) B w = setOwners s (A ++ B) w := by
  unfold setOwners
  congr 1
  funext x
  simp only [List.contains_append]
  cases hB : B.contains x <;> cases hA : A.contains x <;> simp

theorem setOwners_single (s : G) (t : Uid) (w : Option Uid) :
    ({ s with owner := upd s.owner t w } : G) = setOwners s [t] w := by
  unfold setOwners
  congr 1
  funext x
  by_cases h : x = t
  · subst h; simp [upd]
  · have h' : ¬ t = x := fun e => h e.symm
    simp [upd, h, h', List.contains_cons]

theorem setOwners_children (s : G) (A : List Uid) (w : Option Uid) : (setOwners s A w).children = s.children := rfl

theorem foldl_setOwners (sub : Uid → List Uid) (w : Option Uid) (l : List Uid) (s : G) :
    l.foldl (fun s c => setOwners s (sub c) w) s = setOwners s ((l.map sub).flatten) w := by
  induction l generalizing s with
  | nil =>
    unfold setOwners
    simp
  | cons a l ih =>
    simp only [List.map_cons, List.foldl_cons, ih, setOwners_setOwners, List.flatten_cons]


/-- `self.__wbs = e` where `e` is the WBS `o` or `None` -/
theorem execP_set_wbs (H : PHandlers) (s : G) (st : PState) (hh : st.heap = encHeap s) (ρ : PyLite.Env) (t : Uid)
    (o : Option Uid) (e : Expr) (hself : ρ.get? "self" = some (.atom (.ref t)))
    (he : e.evalP H [] ρ st = .ok (.atom (optRef o), st)) :
    (Stmt.setAttr (.var "self") "wbs" e).execP H [] noRec ρ st = .normal ρ (withG st (setOwners s [t] o)) := by
  simp only [Stmt.execP, Expr.evalP, hself, he, bind, Except.bind, pure, Except.pure]
  congr 1
  apply setHeap_eq
  rw [hh, ← setOwners_single]
  exact heapSet_wbs s t o

/-- the loop of `_attach` / `_detach`, `for ch in self.__children: <body>`, after `self.__wbs` was set: the body does
    for the child `c` what the whole call does for it (`hbody`: the induction hypothesis of `attach_spec` /
    `detach_spec`); `P` = what the body needs of the local environment -/
theorem owners_loop (H : PHandlers) (o : Option Uid) (f : Nat) (s : G) (st : PState) (t : Uid) (body : List Stmt)
    (P : PyLite.Env → Prop)
    (hbody : ∀ s' c ρ, c ∈ s.children t → s'.children = s.children → P ρ →
      P (ρ.set "ch" (.atom (.ref c))) ∧
      execBlockP H [] noRec body (ρ.set "ch" (.atom (.ref c))) (withG st s') =
        .normal (ρ.set "ch" (.atom (.ref c))) (withG st (setOwners s' (c :: dsc s.children f c) o)))
    (ρ : PyLite.Env) (hP : P ρ) (hself : ρ.get? "self" = some (.atom (.ref t))) :
    ∃ ρ', (Stmt.forIn "ch" (.attr (.var "self") "children") body).execP H [] noRec ρ (withG st (setOwners s [t] o)) =
      .normal ρ' (withG st (setOwners s (t :: ((s.children t).map fun c => c :: dsc s.children f c).flatten) o)) := by
  obtain ⟨ρ', st', hl, rfl, -, -⟩ := forLoopP_foldl "ch" (fun ρ st => execBlockP H [] noRec body ρ st) Atom.ref
    (fun (s' : G) ρ st' => st' = withG st s' ∧ s'.children = s.children ∧ P ρ)
    (fun s' c => setOwners s' (c :: dsc s.children f c) o) (s.children t)
    (by
      rintro s' c ρ st' hc ⟨rfl, hc', hP⟩
      obtain ⟨hP', hb⟩ := hbody s' c ρ hc hc' hP
      exact ⟨_, _, hb, rfl, hc', hP'⟩)
    (setOwners s [t] o) ρ _ ⟨rfl, rfl, hP⟩
  rw [foldl_setOwners, setOwners_setOwners] at hl
  refine ⟨ρ', ?_⟩
  rw [execP_forIn (vs := (s.children t).map Atom.ref) (st' := withG st (setOwners s [t] o))
    (hit := evalP_attr (evalP_var _ _ _ _ _ _ hself)
      (by rw [withG_heap, encHeap_apply, encTask_children]; rfl)), hl]
  rfl

def atLoop : Stmt := match src_Task_attach with | [_, _, l] => l | _ => .pass
def atBody : List Stmt := match atLoop with | .forIn _ _ b => b | _ => []
theorem at_shape : src_Task_attach =
    [.ifElse (.isNone (.var "wbs")) [.ret .none] [], .setAttr (.var "self") "wbs" (.var "wbs"), atLoop] := rfl
theorem atLoop_eq : atLoop = .forIn "ch" (.attr (.var "self") "children") atBody := rfl

theorem attach_none (st : PState) (F : Nat) (t : Uid) :
    (P.H (F + 1)).fnV fn_Task_attach [.atom (.ref t), .atom .none] st = .ok (.atom .none, st) := by
  rw [P.call _ fn_Task_attach _ _ rfl]
  simp [pylite_step, src_Task_attach_params, at_shape]

theorem attach_spec (w : Uid) :
    ∀ (f : Nat) (s : G) (st : PState), st.heap = encHeap s → ∀ (t : Uid) (r : List Uid),
      descF s.children f t = some r → ∀ F, f ≤ F →
      (P.H F).fnV fn_Task_attach [.atom (.ref t), .atom (.ref w)] st =
        .ok (.atom .none, withG st (setOwners s (t :: r) (some w))) := by
  intro f
  induction f with
  | zero => intro s st _ t r h; simp [descF] at h
  | succ f ih =>
    intro s st hh t r h F hF
    obtain ⟨F, rfl, hF⟩ := fuel_split 1 hF
    obtain ⟨hch, rfl⟩ := descF_succ_eq s.children f t r h
    have hset := execP_set_wbs (P.H F) s st hh [("self", .atom (.ref t)), ("wbs", .atom (.ref w))] t (some w) (.var "wbs")
      rfl (evalP_var _ _ _ _ _ _ rfl)
    obtain ⟨ρ', hl⟩ := owners_loop (P.H F) (some w) f s st t atBody (fun ρ => ρ.get? "wbs" = some (.atom (.ref w)))
      (by
        intro s' c ρ hc hc' hw
        have hw' : (Env.set ρ "ch" (.atom (.ref c))).get? "wbs" = some (.atom (.ref w)) := by
          simpa [Env.get?_set] using hw
        have hrec := ih s' (withG st s') rfl c _ (by rw [hc']; exact hch c hc) F (by omega)
        exact ⟨hw', by simp [pylite_step, atBody, atLoop, src_Task_attach, hw', hrec, hc', withG_withG]⟩)
      [("self", .atom (.ref t)), ("wbs", .atom (.ref w))] rfl rfl
    rw [P.call _ fn_Task_attach _ _ rfl]
    simp [pylite_step, src_Task_attach_params, at_shape, atLoop_eq, ↓hset, ↓hl]

/-- the owner of the subtree `sub` after `_attach(w)`, `w` a WBS or `None` -/
def attachTo (s : G) (sub : List Uid) : Option Uid → G
  | none => s
  | some w => setOwners s sub (some w)

theorem attachTo_children (s : G) (sub : List Uid) (o : Option Uid) : (attachTo s sub o).children = s.children := by
  cases o <;> rfl

theorem attach_opt_spec (o : Option Uid) (f : Nat) (s : G) (st : PState) (hh : st.heap = encHeap s) (t : Uid)
    (r : List Uid) (h : descF s.children f t = some r) (F : Nat) (hF : f ≤ F) :
    (P.H F).fnV fn_Task_attach [.atom (.ref t), .atom (optRef o)] st =
      .ok (.atom .none, withG st (attachTo s (t :: r) o)) := by
  cases o with
  | none =>
    have := descF_fuel_pos _ _ _ _ h
    obtain ⟨F, rfl⟩ : ∃ F', F = F' + 1 := ⟨F - 1, by omega⟩
    rw [attachTo, withG_self st s hh]
    exact attach_none P st F t
  | some w => exact attach_spec P w f s st hh t r h F hF

def dtLoop : Stmt := match src_Task_detach with | [_, l] => l | _ => .pass
def dtBody : List Stmt := match dtLoop with | .forIn _ _ b => b | _ => []
theorem dt_shape : src_Task_detach = [.setAttr (.var "self") "wbs" .none, dtLoop] := rfl
theorem dtLoop_eq : dtLoop = .forIn "ch" (.attr (.var "self") "children") dtBody := rfl

theorem detach_spec :
    ∀ (f : Nat) (s : G) (st : PState), st.heap = encHeap s → ∀ (t : Uid) (r : List Uid),
      descF s.children f t = some r → ∀ F, f ≤ F →
      (P.H F).fnV fn_Task_detach [.atom (.ref t)] st = .ok (.atom .none, withG st (setOwners s (t :: r) none)) := by
  intro f
  induction f with
  | zero => intro s st _ t r h; simp [descF] at h
  | succ f ih =>
    intro s st hh t r h F hF
    obtain ⟨F, rfl, hF⟩ := fuel_split 1 hF
    obtain ⟨hch, rfl⟩ := descF_succ_eq s.children f t r h
    have hset := execP_set_wbs (P.H F) s st hh [("self", .atom (.ref t))] t none .none rfl rfl
    obtain ⟨ρ', hl⟩ := owners_loop (P.H F) none f s st t dtBody (fun _ => True)
      (by
        intro s' c ρ hc hc' _
        have hrec := ih s' (withG st s') rfl c _ (by rw [hc']; exact hch c hc) F (by omega)
        exact ⟨trivial, by simp [pylite_step, dtBody, dtLoop, src_Task_detach, hrec, hc', withG_withG]⟩)
      [("self", .atom (.ref t))] trivial rfl
    rw [P.call _ fn_Task_detach _ _ rfl]
    simp [pylite_step, src_Task_detach_params, dt_shape, dtLoop_eq, ↓hset, ↓hl]

end Pj.TaskSrc

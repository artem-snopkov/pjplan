/- Lemmas/Res.lean — reading a successful `bind` / `map` in `Res`, and updates of a function at one uid. -/
import PjVerif.Model.Graph
namespace Pj

theorem bind_ok {α β : Type} {x : Res α} {f : α → Res β} {b : β} (h : x >>= f = .ok b) :
    ∃ a, x = .ok a ∧ f a = .ok b := by
  cases x with
  | error e => cases h
  | ok a => exact ⟨a, rfl, h⟩

theorem Res.map_ok {α β : Type} {r : Res α} {g : α → β} {b : β} (h : r.map g = .ok b) : ∃ a, r = .ok a ∧ b = g a := by
  cases r with
  | error e => cases h
  | ok a => cases h; exact ⟨a, rfl, rfl⟩

theorem upd_self {β : Type} (f : Uid → β) (k : Uid) : upd f k (f k) = f := by
  funext x; by_cases h : x = k <;> simp [upd, h]

theorem upd_upd {β : Type} (f : Uid → β) (k : Uid) (a b : β) : upd (upd f k a) k b = upd f k b := by
  funext x; by_cases h : x = k <;> simp [upd, h]

end Pj

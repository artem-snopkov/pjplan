/-
  Lemmas/CritPathSrcD.lean — the translated tie for alg/critical_path.py: the theorems and, at the end, the negative
  check.  See Lemmas/CritPathSrc.lean.
-/
import PjVerif.Lemmas.CritPathSrcA
import PjVerif.Lemmas.CritPathSrcC5
import PjVerif.Props.C12
namespace Pj.CritPathSrc
open Pj.PyLite Pj.CPEnv Pj.Extracted.CritPath

/-- a run returns the list the store program returns -/
theorem interpCriticalPath_of_cpA {e : CPEnv} {tid : Uid → Int} {F : Nat} {r : List Uid}
    (h : (cpA e tid e.n (2 * (e.n + 1) + 2)).map (·.1) = some (r.map Atom.ref)) (hF : 2 * e.n + 9 ≤ F) :
    interpCriticalPath F e tid = .ok (refs r) := by
  obtain ⟨⟨l, σ⟩, hcp, hl⟩ := Option.map_eq_some_iff.mp h
  cases hl
  unfold interpCriticalPath
  rw [cp_sim e tid e.n _ F _ σ hcp (by omega)]
  rfl

/-- Stage 3.  On an acyclic WBS whose member leaves have ids of their own, `wbs.critical_path()` - the interpretation of
    the translated source of `CriticalPathCalculator(wbs.tasks, None).calc()` - returns the leaves of zero float
    (`critOf`, Lemmas/CritPath.lean: the test `criticalPath` of Model/CritPath.lean applies) in SOME order: `order` lists
    every leaf of the calculated set once, and nothing more is said of it.  (The proof's witness is the order in which
    `__init__` inserted the leaves, a depth-first walk along the prerequisites.) -/
theorem interpCriticalPath_eq (e : CPEnv) (tid : Uid → Int) (hid : IdInj e tid) (hdesc : DescOK e)
    (hac : acyclicB e = true) (htol : TolExact e) (F : Nat) (hF : 2 * e.n + 9 ≤ F) :
    ∃ (order : List Uid) (len : Rat), projectLen e = some len ∧ order.Nodup ∧ (∀ t, t ∈ order ↔ t ∈ leaves e) ∧
      interpCriticalPath F e tid = .ok (refs (order.filter (critOf e len))) := by
  obtain ⟨done, σ, len, hlen, hdone, hnd, hcp⟩ :=
    cpA_ok e tid e.n hid hdesc hac htol (2 * (e.n + 1) + 2) (Nat.le_refl _)
  exact ⟨done, len, hlen, hnd, hdone, interpCriticalPath_of_cpA (by rw [hcp]; rfl) hF⟩

/-- … which is the result of the model as a SET of tasks, each once (the model lists them in WBS order) -/
theorem interpCriticalPath_set (e : CPEnv) (tid : Uid → Int) (hid : IdInj e tid) (hdesc : DescOK e)
    (hac : acyclicB e = true) (htol : TolExact e) (F : Nat) (hF : 2 * e.n + 9 ≤ F) :
    ∃ (r l : List Uid), interpCriticalPath F e tid = .ok (refs r) ∧ criticalPath e = .ok l ∧ r.Nodup ∧
      ∀ t, t ∈ r ↔ t ∈ l := by
  obtain ⟨order, len, hlen, hnd, hord, hrun⟩ := interpCriticalPath_eq e tid hid hdesc hac htol F hF
  refine ⟨order.filter (critOf e len), _, hrun, (criticalPath_ok_iff e _).mpr ⟨len, hlen, rfl⟩,
    List.Nodup.sublist List.filter_sublist hnd, fun t => ?_⟩
  rw [List.mem_filter, List.mem_filter, hord]

/-- … a permutation of it when the WBS lists every member once -/
theorem interpCriticalPath_perm (e : CPEnv) (tid : Uid → Int) (hid : IdInj e tid) (hdesc : DescOK e)
    (hac : acyclicB e = true) (htol : TolExact e) (hmem : e.members.Nodup) (F : Nat) (hF : 2 * e.n + 9 ≤ F) :
    ∃ (r l : List Uid), interpCriticalPath F e tid = .ok (refs r) ∧ criticalPath e = .ok l ∧ r.Perm l := by
  obtain ⟨r, l, hrun, hl, hnd, hrl⟩ := interpCriticalPath_set e tid hid hdesc hac htol F hF
  exact ⟨r, l, hrun, hl, (List.perm_ext_iff_of_nodup hnd (C12_members e l hl hmem).1).mpr hrl⟩

/-- the grid form: every length `max(estimate - spent, 0)` is a multiple of 1/8 and the project is shorter than 10^8 -/
theorem interpCriticalPath_grid (e : CPEnv) (tid : Uid → Int) (hid : IdInj e tid) (hdesc : DescOK e)
    (hac : acyclicB e = true) (hg : OnGrid e) (hlt : ∀ len, projectLen e = some len → len < 100000000)
    (F : Nat) (hF : 2 * e.n + 9 ≤ F) :
    ∃ (r l : List Uid), interpCriticalPath F e tid = .ok (refs r) ∧ criticalPath e = .ok l ∧ r.Nodup ∧
      ∀ t, t ∈ r ↔ t ∈ l :=
  interpCriticalPath_set e tid hid hdesc hac (tolExact_of_grid e hg hlt) F hF

/-- `DescOK` holds in particular when `all_children` is defined for every task (the children lists have no cycle) -/
theorem descOK_of_forall (e : CPEnv) (h : ∀ p, descF e.children (e.n + 1) p ≠ none) : DescOK e :=
  fun _ _ p _ => h p

end Pj.CritPathSrc

/-
  NEGATIVE CHECK (scratch copies of src/pjplan/alg/critical_path.py; for every mutation: tools/extract_critpath.py, then
  the WBSs of Lemmas/CritPathSrcCheck*.lean - `agree` with the model and equality with the list the UNMUTATED Python
  returns - and `lake build PjVerif.Lemmas.CritPathSrcA`, the simulation layer, in a copy of the project).  "examples" = the WBSs on which the mutated program, evaluated by that driver, and
  the model disagree.  The runs of CritPathSrcCheckB.lean themselves go through `cp_sim`, so in the build of a mutant the
  simulation layer fails first.

  Semantic mutations that change the result - failing examples (and the simulation lemmas fail to build):
    `max` -> `min` in `__forward`                              14 of 16: chain, diamond, ties, zeros, summaries, … order
    `min` -> `max` in `__backward`                             diamond, ties, summaries, eighths, deep
    `if min_end is None: min_end = node.start_units` dropped   15 of 16 (a sink keeps `end_units = None`)
    `min_end = node.start_units` -> `min_end = 0`              14 of 16
    predecessors of ancestors not collected (`for owner in [task]`)           summaries
    `pred.all_children` dropped (summary predecessors not expanded)           summaries, deep
    membership by id (`set([t.id …])`, `p.id in self.__members`)              sharedid
    the membership test dropped                                               outside, sharedid
    zero-length tasks aliased to their start node (`end = … if units > 0 else start`)   zeros, overspent, onlysummary
                                                                              (a self-loop: RecursionError)
    units of the task arc dropped (`__connect(start, end, 0)`)                10 of 16
    `max(estimate - spent, 0)` -> `estimate - spent`                          overspent
    spent ignored (`max(estimate, 0)`)                                        ties, overspent, nolinks, eighths
    `if len(task.children) > 0: return` dropped (summaries inserted)          summaries, onlysummary
    `if task.id in self.__tasks: return` dropped                              ties, summaries, eighths, order
    arrow from the START node of the predecessor (`link.start`)               12 of 16
    float without `- v.units`                                                 14 of 16
  Semantic mutations that do NOT change the result on acyclic WBSs - all examples still check, the LEMMAS fail (the
  simulation layer `CritPathSrcA` does not build: `insertStep` / `calcA` / `resStep` mirror the statements; and the
  network they build violates `Built` / `Wired`):
    de-duplication dropped (`and p.id not in p_ids`)        several arrows between the same nodes: maximum / minimum unchanged
    the begin node connected to every node                  `max_start` starts at 0: an arc of length 0 from time 0 adds nothing
    the end node connected from every node                  every latest time is at most the project length anyway
  The float test:
    tolerance `1e-9` -> `1e-1`                              changes the result where a float lies below 0.1 * max(1, length)
                                                            (on the grid too: 1/8 at length 2); no example has one, all
                                                            examples check; the lemma layer fails (`TolExact` would be a
                                                            different hypothesis)
    `abs(r) <= …` -> `r == 0`                               all examples check (the two tests agree on the grid: `TolExact`);
                                                            differs from the unmutated program on `offgrid` only; lemma layer fails
    `1e-9 * max(1.0, length)` -> `1e-9 * length`            all examples on the grid check; differs from the unmutated program on
                                                            an off-grid WBS of length 1/2 with a float of 8e-10; lemma layer fails
  Outside the fragment - a Miss: the translator refuses the edited source (it leaves the translatable fragment), which the
  check reports as a broken tie:
    the loop over `self.__nodes` written as a `while` loop           Miss: While
    the out-of-scope branch of `__init__` edited                     Miss: the branch `end_date is not None` changed
    `_PLink.units` renamed to `estimate` (a Task attribute)          Miss: attribute names shared with Task
    `q = p_ids` (the fresh list aliased)                             Miss: use of the list p_ids
  Harmless rewrites - all examples check (same lists as the unmutated Python):
    docstrings / comments added                                      identical terms; everything builds
    `estimate = 0 if task.estimate is None else task.estimate`       another term; the simulation layer still builds
    a local renamed (`p_ids` -> `pids`); `len(task.children) != 0`; the two dict initialisations of `__init__` swapped;
    `max_start = 0 * 1`                                              other terms: the examples check, the simulation proofs
                                                                     (tied to the names / the shape of the terms) need adapting
-/

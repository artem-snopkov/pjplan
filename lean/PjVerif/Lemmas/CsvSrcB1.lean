/-
  Lemmas/CsvSrcB1.lean — CSV I/O, the cells and the header, for every library `L`, every input and any fuel ≥ the depth
  of calls: the cell functions of csv_io.py other than `__parse_str` = the model's cell functions, on any store
  (`parse_*_run`: they do not touch it) and on the empty one (`parse_*_eq`); `__parse_header`.
-/
import PjVerif.Lemmas.CsvSrcA
import PjVerif.Lemmas.PyLogic
import PjVerif.Lemmas.ListFacts
namespace Pj.CsvSrc
open Pj.PyLite Pj.Extracted.Csv Pj.Csv
open Pj.TaskSrc (Env.get?_cons Env.get?_set execP_assign execP_expr execP_ret forLoopP_foldl)

theorem prim_lit_date (L : IOLib) (st : PState) : ioPrim L "lit:%d.%m.%y" [] st = .ok (.atom (strA dateFormat)) :=
  prim_lit L "%d.%m.%y" (by simp) [] st
theorem prim_lit_semi (L : IOLib) (st : PState) : ioPrim L "lit:;" [] st = .ok (.atom (strA [';'])) :=
  prim_lit L ";" (by simp) [] st

theorem prim_strptime (L : IOLib) (st : PState) (s : List Char) :
    ioPrim L "strptime" [strA s, strA dateFormat] st = (L.strptime s).map (fun t => Val.atom (Atom.time t)) := by
  unfold ioPrim; rw [if_neg (by decide +kernel)]
  simp only [String.reduceEq, ↓reduceIte]
  simp only [strA, strDecode_code, if_true]

theorem prim_strftime (L : IOLib) (st : PState) (t : Time) :
    ioPrim L "strftime" [.time t, strA dateFormat] st = .ok (.atom (strA (L.strftime t))) := by
  unfold ioPrim; rw [if_neg (by decide +kernel)]
  simp only [String.reduceEq, ↓reduceIte]
  simp only [strA, strDecode_code, if_true]; rfl

theorem prim_float (L : IOLib) (st : PState) (s : List Char) :
    ioPrim L "float" [strA s] st = (L.toFloat s).map (fun q => Val.atom (Atom.num q)) := by
  unfold ioPrim; rw [if_neg (by decide +kernel)]
  simp only [String.reduceEq, ↓reduceIte]
  simp only [strA, strDecode_code]

theorem prim_int (L : IOLib) (st : PState) (s : List Char) :
    ioPrim L "int" [strA s] st = (L.toInt s).map (fun q => Val.atom (Atom.num q)) := by
  unfold ioPrim; rw [if_neg (by decide +kernel)]
  simp only [String.reduceEq, ↓reduceIte]
  simp only [strA, strDecode_code]

theorem prim_split_semi (L : IOLib) (st : PState) (s : List Char) :
    ioPrim L "split" [strA s, strA [';']] st = .ok (.list (atomsOf (Csv.splitOn ';' s))) := by
  unfold ioPrim; rw [if_neg (by decide +kernel)]
  simp only [String.reduceEq, ↓reduceIte]
  simp only [strA, strDecode_code]; rfl

theorem prim_isdt (L : IOLib) (st : PState) (a : Atom) :
    ioPrim L "isinstance_datetime" [a] st =
      match a with
      | .time _ => .ok (.atom (.bool true))
      | .ref _ => .error stuck
      | _ => .ok (.atom (.bool false)) := by
  unfold ioPrim; rw [if_neg (by decide +kernel)]
  simp only [String.reduceEq, ↓reduceIte]
  cases a <;> rfl

theorem eval_strlen_zero (L : IOLib) (F : Nat) (env : PyLite.Env) (x : String) (s : List Char) (st : PState)
    (hx : env.get? x = some (.atom (strA s))) :
    (Expr.cmp .eq (.prim "strlen" (.listCons (.var x) .listNil)) (.num 0)).evalP (HH L F) [] env st
      = .ok (.atom (.bool (decide (s = []))), st) := by
  simp only [Expr.evalP, hx, HH_prim, prim_strlen, pure, Except.pure, bind, Except.bind, PyLite.compare, Atom.pyEq,
    Atom.norm]
  congr 3
  by_cases h : s = []
  · subst h; rfl
  · have : ¬ (((s.length : Nat) : Rat) = 0) := fun e => h (List.length_eq_zero_iff.1 (Rat.natCast_eq_zero_iff.1 e))
    simp [h, this]

/-! ### the cell functions, on any store (they do not touch it) -/

/-- a cell through a parser: '' ↦ None, anything else through `f` (its error is the error of the cell) -/
def cellParse {α} (f : Str → Res α) (g : α → Atom) (s : Str) : Res Val :=
  match nonEmpty s with
  | none => .ok (.atom .none)
  | some s => (f s).map (fun a => Val.atom (g a))

def withSt (st : PState) (r : Res Val) : Res (Val × PState) := r.map (fun v => (v, st))

theorem interpCell_of_run {L : IOLib} {F k : Nat} {a : Atom} {r : Res Val}
    (h : runIO L csvFuns F k [.atom a] emptySt = withSt emptySt r) : interpCell L F k a = r := by
  rw [interpCell, h]
  cases r <;> rfl

/-- the common shape `if len(x) == 0: return d` / `return e` -/
theorem cell_shape (L : IOLib) (F k : Nat) (x : String) (d e : Expr) (s : List Char) (st : PState)
    (h : csvFuns k = some ([x], [.ifElse (.cmp .eq (.prim "strlen" (.listCons (.var x) .listNil)) (.num 0)) [.ret d] [],
      .ret e])) :
    runIO L csvFuns (F + 1) k [.atom (strA s)] st =
      (if s = [] then d else e).evalP (HH L F) [] [(x, .atom (strA s))] st := by
  rw [runIO_fn L F k _ _ _ _ h, call_ifRet, eval_strlen_zero L F _ x s _ (env1_get x _)]
  by_cases hs : s = [] <;> simp only [hs, Except.bind, truthP, pure, Except.pure, decide_true, decide_false, if_true,
    if_false, Bool.false_eq_true]

theorem nonEmpty_nil : nonEmpty ([] : Str) = none := rfl
theorem nonEmpty_ne {s : Str} (h : s ≠ []) : nonEmpty s = some s := by
  cases s with
  | nil => exact absurd rfl h
  | cons c cs => rfl

theorem parse_bool_run (L : IOLib) (F : Nat) (s : List Char) (st : PState) :
    runIO L csvFuns (F + 1) fn_parse_bool [.atom (strA s)] st = .ok (.atom (.bool (s == "True".toList)), st) := by
  rw [cell_shape L F fn_parse_bool "_val" _ _ s st rfl]
  by_cases hs : s = []
  · subst hs; rfl
  · simp only [hs, if_false, Expr.evalP, env1_get, HH_prim, prim_lit_True, pure, Except.pure, bind, Except.bind,
      PyLite.compare, litA, pyEq_strA]
    congr 4
    by_cases h : s = "True".toList
    · subst h; rfl
    · have : (s == "True".toList) = false := by simpa using h
      rw [this]; exact decide_eq_false h

theorem parse_bool_eq (L : IOLib) (F : Nat) (s : List Char) :
    interpCell L (F + 1) fn_parse_bool (strA s) = .ok (.atom (.bool (s == "True".toList))) :=
  interpCell_of_run (r := .ok _) (parse_bool_run L F s emptySt)

/-- the parsers of the shape `if len(x) == 0: return None` / `return e`, where `e` is a conversion `f` of the library
    applied to the cell: '' ↦ None, any other text through `f` -/
theorem cell_parse_run {α} (L : IOLib) (F k : Nat) (x : String) (e : Expr) (f : Str → Res α) (g : α → Atom)
    (s : List Char) (st : PState)
    (h : csvFuns k = some ([x], [.ifElse (.cmp .eq (.prim "strlen" (.listCons (.var x) .listNil)) (.num 0))
      [.ret .none] [], .ret e]))
    (he : e.evalP (HH L F) [] [(x, .atom (strA s))] st = (f s).map (fun a => (Val.atom (g a), st))) :
    runIO L csvFuns (F + 1) k [.atom (strA s)] st = withSt st (cellParse f g s) := by
  rw [cell_shape L F k x _ _ s st h]
  by_cases hs : s = []
  · subst hs; rfl
  · rw [if_neg hs, he]
    simp only [cellParse, nonEmpty_ne hs, withSt]
    cases f s <;> rfl

theorem parse_int_run (L : IOLib) (F : Nat) (s : List Char) (st : PState) :
    runIO L csvFuns (F + 1) fn_parse_int [.atom (strA s)] st = withSt st (cellParse L.toInt Atom.num s) :=
  cell_parse_run L F fn_parse_int "_val" _ _ _ s st rfl (by
    simp only [Expr.evalP, env1_get, HH_prim, prim_int, pure, Except.pure, bind, Except.bind]
    cases L.toInt s <;> rfl)

theorem parse_float_run (L : IOLib) (F : Nat) (s : List Char) (st : PState) :
    runIO L csvFuns (F + 1) fn_parse_float [.atom (strA s)] st = withSt st (cellParse L.toFloat Atom.num s) :=
  cell_parse_run L F fn_parse_float "_val" _ _ _ s st rfl (by
    simp only [Expr.evalP, env1_get, HH_prim, prim_float, pure, Except.pure, bind, Except.bind]
    cases L.toFloat s <;> rfl)

theorem parse_date_run (L : IOLib) (F : Nat) (s : List Char) (st : PState) :
    runIO L csvFuns (F + 1) fn_parse_date [.atom (strA s)] st = withSt st (cellParse L.strptime Atom.time s) :=
  cell_parse_run L F fn_parse_date "_date" _ _ _ s st rfl (by
    simp only [Expr.evalP, env1_get, HH_prim, prim_lit_date, prim_strptime, pure, Except.pure, bind, Except.bind]
    cases L.strptime s <;> rfl)

theorem parse_int_eq (L : IOLib) (F : Nat) (s : List Char) :
    interpCell L (F + 1) fn_parse_int (strA s) = cellParse L.toInt Atom.num s :=
  interpCell_of_run (parse_int_run L F s emptySt)

theorem parse_float_eq (L : IOLib) (F : Nat) (s : List Char) :
    interpCell L (F + 1) fn_parse_float (strA s) = cellParse L.toFloat Atom.num s :=
  interpCell_of_run (parse_float_run L F s emptySt)

theorem parse_date_eq (L : IOLib) (F : Nat) (s : List Char) :
    interpCell L (F + 1) fn_parse_date (strA s) = cellParse L.strptime Atom.time s :=
  interpCell_of_run (parse_date_run L F s emptySt)

/-! ### comprehensions; `__parse_predecessors`, `__format_custom` -/

theorem mapM_cons_res {α β} (g : α → Res β) (a : α) (l : List α) :
    (a :: l).mapM g = (match g a with
      | .error e => .error e
      | .ok b => match l.mapM g with
        | .error e => .error e
        | .ok bs => .ok (b :: bs)) := by
  rw [List.mapM_cons]
  cases g a with
  | error e => rfl
  | ok b => cases l.mapM g <;> rfl

/-- a comprehension over the items `l.map enc` that never filters and keeps the store: its element at `enc a` is `g a` -/
theorem compLoopP_pure {α : Type} (f : Atom → PState → Res (Option Atom × PState)) (enc : α → Atom) (g : α → Res Atom)
    (st : PState) : ∀ l : List α, (∀ a ∈ l, f (enc a) st = (g a).map (fun b => (some b, st))) →
      compLoopP f (l.map enc) st = (l.mapM g).map (fun out => (out, st))
  | [], _ => rfl
  | a :: l, h => by
    have ha := h a (List.mem_cons_self ..)
    have ih := compLoopP_pure f enc g st l (fun w hw => h w (List.mem_cons_of_mem _ hw))
    rw [List.map_cons, compLoopP, ha, mapM_cons_res]
    cases g a with
    | error e => rfl
    | ok b =>
      simp only [Except.map, bind, Except.bind, ih]
      cases l.mapM g <;> rfl

/-- the same for the expression, over any iterable -/
theorem listComp_pure' {α : Type} (H : PHandlers) (env : PyLite.Env) (elt it : Expr) (x : String) (st : PState) (itv : Val)
    (enc : α → Atom) (l : List α) (g : α → Res Atom) (hit : it.evalP H [] env st = .ok (itv, st))
    (hvs : iterOf itv = .ok (l.map enc))
    (helt : ∀ a ∈ l, elt.evalP H [] (env.set x (enc a)) st = (g a).map (fun b => (Val.atom b, st))) :
    (Expr.listComp elt x it (.bool true)).evalP H [] env st = (l.mapM g).map (fun out => (Val.list out, st)) := by
  simp only [Expr.evalP, hit, hvs, pure, Except.pure, bind, Except.bind, truthP, if_true]
  rw [compLoopP_pure _ enc g st l]
  · cases l.mapM g <;> rfl
  · intro a ha
    rw [helt a ha]
    cases g a <;> rfl

theorem listComp_pure (H : PHandlers) (env : PyLite.Env) (elt it : Expr) (x : String) (st : PState) (vs : List Atom)
    (g : Atom → Res Atom) (hit : it.evalP H [] env st = .ok (.list vs, st))
    (helt : ∀ v ∈ vs, elt.evalP H [] (env.set x v) st = (g v).map (fun a => (Val.atom a, st))) :
    (Expr.listComp elt x it (.bool true)).evalP H [] env st = (vs.mapM g).map (fun out => (Val.list out, st)) :=
  listComp_pure' H env elt it x st (.list vs) id vs g hit (by rw [List.map_id]; rfl) helt

/-- when nothing can fail -/
theorem listComp_map {α : Type} (H : PHandlers) (env : PyLite.Env) (elt it : Expr) (x : String) (st : PState) (itv : Val)
    (enc g : α → Atom) (l : List α) (hit : it.evalP H [] env st = .ok (itv, st)) (hvs : iterOf itv = .ok (l.map enc))
    (helt : ∀ a ∈ l, elt.evalP H [] (env.set x (enc a)) st = .ok (.atom (g a), st)) :
    (Expr.listComp elt x it (.bool true)).evalP H [] env st = .ok (.list (l.map g), st) := by
  rw [listComp_pure' H env elt it x st itv enc l (fun a => .ok (g a)) hit hvs helt, mapM_ok]; rfl

theorem parse_predecessors_run (L : IOLib) (F : Nat) (s : List Char) (st : PState) :
    runIO L csvFuns (F + 1) fn_parse_predecessors [.atom (strA s)] st =
      withSt st (if s = [] then .ok (.list []) else
        ((splitOn ';' s).mapM L.toInt).map (fun qs => Val.list (qs.map Atom.num))) := by
  rw [cell_shape L F fn_parse_predecessors "_val" _ _ s st rfl]
  by_cases hs : s = []
  · subst hs; rfl
  · simp only [hs, if_false]
    rw [listComp_pure' (HH L F) _ _ _ "v" st (.list (atomsOf (splitOn ';' s))) strA (splitOn ';' s)
      (fun p => (L.toInt p).map Atom.num) _ rfl, mapM_comp_map]
    · cases (splitOn ';' s).mapM L.toInt <;> rfl
    · intro p _
      simp only [Expr.evalP, Env.get?_set, if_true, HH_prim, prim_int, pure, Except.pure, bind, Except.bind]
      cases L.toInt p <;> rfl
    · simp only [Expr.evalP, env1_get, HH_prim, prim_lit_semi, prim_split_semi, pure, Except.pure, bind, Except.bind]

theorem parse_predecessors_eq (L : IOLib) (F : Nat) (s : List Char) :
    interpCell L (F + 1) fn_parse_predecessors (strA s) =
      if s = [] then .ok (.list []) else ((splitOn ';' s).mapM L.toInt).map (fun qs => Val.list (qs.map Atom.num)) :=
  interpCell_of_run (parse_predecessors_run L F s emptySt)

theorem format_custom_call (L : IOLib) (F : Nat) (a : Atom) (st : PState) :
    callPV (HH L F) src_format_custom_params src_format_custom [.atom a] st =
      match a with
      | .time t => .ok (.atom (strA (L.strftime t)), st)
      | .ref _ => .error stuck
      | a => .ok (.atom a, st) := by
  have hx := env1_get "_val" (.atom a)
  rw [src_format_custom_params, src_format_custom, call_ifRet]
  simp only [Expr.evalP, hx, HH_prim, prim_isdt, pure, Except.pure, bind, Except.bind]
  cases a <;> simp only [truthP, if_true, Bool.false_eq_true, if_false, Expr.evalP, hx, HH_prim, prim_lit_date,
    prim_strftime, pure, Except.pure, bind, Except.bind]

/-- `__format_custom`: a datetime ↦ `strftime`, anything else is passed on, None too (the `''` of the file is made by
    the csv writer, `IOLib.cell`); an object is outside the fragment -/
theorem format_custom_eq (L : IOLib) (F : Nat) (a : Atom) :
    interpCell L (F + 1) fn_format_custom a =
      match a with
      | .time t => .ok (.atom (strA (L.strftime t)))
      | .ref _ => .error stuck
      | a => .ok (.atom a) := by
  rw [interpCell, runIO_fn L F fn_format_custom _ _ _ _ rfl, format_custom_call]
  cases a <;> rfl

section stmts
variable {H : PHandlers} {self : PyLite.Env} {rec : List Atom → PState → Res (Val × PState)}

theorem block_cons_normal {s : Stmt} {ss : List Stmt} {env env' : PyLite.Env} {st st' : PState}
    (h : s.execP H self rec env st = .normal env' st') :
    execBlockP H self rec (s :: ss) env st = execBlockP H self rec ss env' st' := by
  rw [execBlockP, h]

theorem exec_forIn {x : String} {e : Expr} {body : List Stmt} {env : PyLite.Env} {st st' : PState} {v : Val}
    {vs : List Atom} (hev : e.evalP H self env st = .ok (v, st')) (hit : iterOf v = .ok vs) :
    (Stmt.forIn x e body).execP H self rec env st =
      forLoopP x (fun env' st'' => execBlockP H self rec body env' st'') vs env st' := by
  rw [Stmt.execP, hev]
  simp only [bind, Except.bind, hit, pure, Except.pure]

theorem block_ret {e : Expr} {ss : List Stmt} {env : PyLite.Env} {st st' : PState} {v : Val}
    (hev : e.evalP H self env st = .ok (v, st')) :
    execBlockP H self rec (.ret e :: ss) env st = .ret v st' := by
  rw [execBlockP, execP_ret hev]

end stmts

/-! ### `__parse_header` -/

def bom : Char := '﻿'

theorem prim_lit_bom (L : IOLib) (st : PState) : ioPrim L "lit:﻿" [] st = .ok (.atom (strA [bom])) :=
  prim_lit L "﻿" (by simp) [] st

theorem prim_replace (L : IOLib) (st : PState) (s : List Char) (c : Char) :
    ioPrim L "replace" [strA s, strA [c], strA []] st = .ok (.atom (strA (s.filter (fun x => x != c)))) := by
  unfold ioPrim; rw [if_neg (by decide +kernel)]
  simp only [String.reduceEq, ↓reduceIte]
  simp only [strA, strDecode_code]; rfl

def numI (i : Nat) : Atom := .num (((i : Nat) : Int) : Rat)

theorem asInt_numI (i : Nat) : (numI i).asInt? = some (i : Int) := Atom.asInt?_int i

theorem rangeList_up (n : Nat) : (rangeList 0 (n : Int) 1).map (fun (k : Int) => Atom.num (k : Rat)) = (List.range n).map numI := by
  have hc : (((n : Int) - 0 + 1 - 1) / 1).toNat = n := by
    rw [Int.ediv_one]
    have : (n : Int) - 0 + 1 - 1 = (n : Int) := by omega
    rw [this]; exact Int.toNat_natCast n
  unfold rangeList
  rw [if_pos (by decide), hc, List.map_map]
  apply List.map_congr_left
  intro i _
  show Atom.num ((0 + (i : Int) * 1 : Int) : Rat) = numI i
  have : (0 + (i : Int) * 1 : Int) = (i : Int) := by omega
  rw [this]; rfl

/-- `row[i].replace('\ufeff', '')` -/
def cleanAt (cells : List Str) (i : Nat) : Str := (cells.getD i []).filter (fun x => x != bom)

def hdrStep (cells : List Str) (D : List (Atom × Atom)) (i : Nat) : List (Atom × Atom) :=
  Dict.insert D (strA (cleanAt cells i)) (numI i)

/-- the dict `__parse_header` builds -/
def hdrDict (cells : List Str) : List (Atom × Atom) := (List.range cells.length).foldl (hdrStep cells) []

def hdrBody : List Stmt :=
  [.assign "name" (.prim "replace" (.listCons (.listIndex (.items (.var "row")) (.var "i")) (.listCons (.prim "lit:﻿" .listNil) (.listCons (.prim "lit:" .listNil) .listNil)))),
   .assign "res" (.dictSet (.var "res") (.var "name") (.var "i"))]

theorem hdr_body (L : IOLib) (F : Nat) (rec) (cells : List Str) (b : Nat) (D : List (Atom × Atom)) (i : Nat)
    (env : PyLite.Env) (st : PState)
    (hrow : env.get? "row" = some (.atom (.box b))) (hb : st.boxes[b]? = some (atomsOf cells))
    (hres : env.get? "res" = some (.dict D)) (hi : env.get? "i" = some (.atom (numI i))) (hlt : i < cells.length) :
    execBlockP (HH L F) [] rec hdrBody env st =
      .normal ((env.set "name" (.atom (strA (cleanAt cells i)))).set "res" (.dict (hdrStep cells D i))) st := by
  have hcell : (atomsOf cells)[i]? = some (strA (cells.getD i [])) := by
    simp [atomsOf, List.getD, List.getElem?_map, List.getElem?_eq_getElem hlt]
  have hneg : ¬ ((i : Int) < 0) := by omega
  simp only [hdrBody, execBlockP, Stmt.execP, Expr.evalP, hrow, hb, hi, asInt_numI, hneg, if_false, Int.toNat_natCast,
    hcell, HH_prim, prim_lit_bom, prim_lit_empty, prim_replace, pure, Except.pure, bind, Except.bind]
  simp only [Env.get?_set, hres, hi, (by decide : ("name" = "res") = False), (by decide : ("name" = "i") = False),
    (by decide : ("name" = "name") = True), if_true, if_false]
  rfl

theorem hdr_loop (L : IOLib) (F : Nat) (rec) (cells : List Str) (b : Nat) (st : PState)
    (hb : st.boxes[b]? = some (atomsOf cells)) :
    ∀ (is : List Nat) (D : List (Atom × Atom)) (env : PyLite.Env), (∀ i ∈ is, i < cells.length) →
      env.get? "row" = some (.atom (.box b)) → env.get? "res" = some (.dict D) →
      ∃ env', forLoopP "i" (fun e s => execBlockP (HH L F) [] rec hdrBody e s) (is.map numI) env st = .normal env' st ∧
        env'.get? "res" = some (.dict (is.foldl (hdrStep cells) D)) := by
  intro is D env hlt hrow hres
  obtain ⟨env', _, h1, rfl, h2⟩ := forLoopP_foldl "i" _ numI
    (fun D env st' => st' = st ∧ Env.le [("row", .atom (.box b)), ("res", .dict D)] env) (hdrStep cells) is
    (fun D i env st' hi ⟨hst, h⟩ => by
      subst hst
      have h1 := h.set_ne "i" (.atom (numI i))
      exact ⟨_, _, hdr_body L F rec cells b D i _ st' (h1.get "row") hb (h1.get "res")
        (by rw [Env.get?_set, if_pos rfl]) (hlt i hi), rfl, (h1.set_ne "name" _).set "res" _⟩)
    D env st ⟨rfl, .cons hrow (.cons hres (.nil _))⟩
  exact ⟨env', h1, h2.get "res"⟩

/-- `__parse_header(row)` on a list object holding the cells `cells`: the dict `hdrDict cells`, the store unchanged -/
theorem parse_header_run (L : IOLib) (F : Nat) (cells : List Str) (b : Nat) (st : PState)
    (hb : st.boxes[b]? = some (atomsOf cells)) :
    runIO L csvFuns (F + 1) fn_parse_header [.atom (.box b)] st = .ok (.dict (hdrDict cells), st) := by
  rw [runIO_fn L F fn_parse_header _ _ _ _ rfl]
  obtain ⟨env', h1, h2⟩ := hdr_loop L F (fun _ _ => throw stuck) cells b st hb (List.range cells.length) []
    (PyLite.Env.set [("row", .atom (.box b))] "res" (.dict [])) (fun i hi => List.mem_range.1 hi) rfl rfl
  have hlen : (atomsOf cells).length = cells.length := by simp [atomsOf]
  have hrange : (Expr.range3 (.num 0) (.len (.items (.var "row"))) (.num 1)).evalP (HH L F) []
      (PyLite.Env.set [("row", .atom (.box b))] "res" (.dict [])) st
      = .ok (.list ((List.range cells.length).map numI), st) := by
    simp only [Expr.evalP, Env.get?_set, env1_get, hb, hlen, TaskSrc.asInt?_nat, pure, Except.pure, bind, Except.bind,
      (by decide : ("res" = "row") = False), if_false]
    rw [show Atom.asInt? (.num 0) = some 0 from rfl, show Atom.asInt? (.num 1) = some 1 from rfl]
    simp only [(by decide : ¬ ((1 : Int) = 0)), if_false, rangeList_up]
  have hshape : src_parse_header = [.assign "res" .dictNil,
      .forIn "i" (.range3 (.num 0) (.len (.items (.var "row"))) (.num 1)) hdrBody, .ret (.var "res")] := rfl
  rw [hshape]
  simp only [callPV, bindParamsV, src_parse_header_params, pure, Except.pure, bind, Except.bind]
  rw [block_cons_normal (execP_assign (v := .dict []) (st' := st) rfl),
    block_cons_normal ((exec_forIn hrange rfl).trans h1),
    block_ret (v := .dict (hdrDict cells)) (st' := st) (by simp only [Expr.evalP, h2, hdrDict]; rfl)]

/-! ### the dict of `__parse_header` = the model's `headerIndex` -/

theorem pyEq_iff (a b : Atom) : a.pyEq b = true ↔ a.norm = b.norm := Atom.pyEq_iff a b

theorem dictGet_cons (p : Atom × Atom) (d : List (Atom × Atom)) (k : Atom) :
    Dict.get? (p :: d) k = if p.1.pyEq k then some p.2 else Dict.get? d k := Dict.get?_cons p d k

theorem dictGet_insert (d : List (Atom × Atom)) (k v k' : Atom) :
    Dict.get? (Dict.insert d k v) k' = if k.pyEq k' then some v else Dict.get? d k' := Dict.get?_insert d k v k'

theorem hdr_get_fold (cells : List Str) (name : Str) : ∀ (is : List Nat) (D : List (Atom × Atom)),
    Dict.get? (is.foldl (hdrStep cells) D) (strA name) =
      is.foldl (fun acc i => if cleanAt cells i == name then some (numI i) else acc) (Dict.get? D (strA name))
  | [], _ => rfl
  | i :: is, D => by
    rw [List.foldl_cons, hdr_get_fold cells name is, List.foldl_cons, hdrStep, dictGet_insert, pyEq_strA]
    congr 1
    by_cases h : cleanAt cells i = name <;> simp [h]

theorem fold_map_numI (c : Nat → Bool) : ∀ (is : List Nat) (a : Option Nat),
    (is.foldl (fun acc i => if c i then some i else acc) a).map numI =
      is.foldl (fun acc i => if c i then some (numI i) else acc) (a.map numI)
  | [], _ => rfl
  | i :: is, a => by
    rw [List.foldl_cons, fold_map_numI c is, List.foldl_cons]
    congr 1
    cases c i <;> simp

theorem clean_getD (cells : List Str) (i : Nat) :
    (cells.map (fun h => h.filter (fun c => c != '﻿'))).getD i [] = cleanAt cells i := by
  unfold cleanAt
  simp only [List.getD, List.getElem?_map]
  cases cells[i]? <;> rfl

/-- `header[name]` = the model's `headerIndex`: BOM stripped from every name, a repeated name keeps the LAST index -/
theorem hdrDict_get (cells : List Str) (name : Str) :
    Dict.get? (hdrDict cells) (strA name) = (headerIndex cells name).map numI := by
  unfold hdrDict headerIndex
  rw [hdr_get_fold]
  simp only [List.length_map, clean_getD]
  rw [fold_map_numI (fun i => cleanAt cells i == name)]
  rfl

end Pj.CsvSrc

/-
  Lemmas/TaskSrcCheckB.lean — the translated tie for task.py on concrete graphs, stage B: runs of the `parent` setter
  (Extracted/TaskSrc.lean) against the graph model.  The graphs and the comparison are defined in
  Lemmas/TaskSrcCheck.lean; see Lemmas/TaskSrc.lean for the setting.  A run on a well-formed graph is an instance of the
  general theorem (Lemmas/TaskSrcRuns.lean; the sweeps over `g1`, `g2`: Lemmas/TaskSrcCheckA.lean); on the cyclic `g3`
  both sides end in RecursionError, which is evaluated.
-/
import PjVerif.Lemmas.TaskSrcCheck
import PjVerif.Lemmas.TaskSrcRuns
namespace Pj.TaskSrc
open Pj.PyLite Pj.Extracted
namespace Check

/-! #### stage B: the `parent` setter -/

def agreeParent (s : G) (t : Uid) (p : Option Uid) : Prop :=
  observe s.n (interpSetParent F t p (encSt s)) = expect s.n (setParent s t p)
instance (s t p) : Decidable (agreeParent s t p) := by unfold agreeParent; infer_instance

/-- EVERY call `t.parent = p` on the three graphs (13 × 14 + 7 × 8 + 3 × 4 calls): accepted calls (a move inside the
    WBS, a detached task entering a WBS, `None` for a member / a detached task / a root task, the same parent again,
    the hidden root as the new parent) and every rejection reason (ids shared between the trees, another WBS, the task
    itself, a descendant, a task linked with the new ancestors, the hidden root as the task); on `g3` the runs end in
    RecursionError on both sides -/
def parentAgree (s : G) : Bool :=
  allU s (fun t => decide (agreeParent s t none) && allU s (fun p => decide (agreeParent s t (some p))))

-- (`g1`, `g2`: Lemmas/TaskSrcCheckA.lean)
example : parentAgree g3 = true := by decide +kernel

-- some of them one by one (what the model says is checked too)
example : (setParent g1 3 (some 1)).2 = none ∧ agreeParent g1 3 (some 1) :=  -- a move inside the WBS
  ⟨by decide +kernel, parent_run g1 (by decide) 3 1 (by decide +kernel)⟩
example : (setParent g1 10 (some 3)).2 = none ∧ (setParent g1 10 (some 3)).1.owner 10 = some 0 ∧
    agreeParent g1 10 (some 3) :=  -- entering a WBS
  ⟨by decide +kernel, by decide +kernel, parent_run g1 (by decide) 10 3 (by decide +kernel)⟩
-- a member: a root task
example : (setParent g1 2 none).2 = none ∧ (setParent g1 2 none).1.parent 2 = some 0 ∧ agreeParent g1 2 none :=
  ⟨by decide +kernel, by decide +kernel, parent_none_run g1 (by decide) 2 (by decide +kernel)⟩
-- a detached task
example : (setParent g1 5 none).2 = none ∧ (setParent g1 5 none).1.parent 5 = none ∧ agreeParent g1 5 none :=
  ⟨by decide +kernel, by decide +kernel, parent_none_run g1 (by decide) 5 (by decide +kernel)⟩
example : (setParent g1 2 (some 3)).2 = some .runtime ∧ agreeParent g1 2 (some 3) :=  -- linked
  ⟨by decide +kernel, parent_run g1 (by decide) 2 3 (by decide +kernel)⟩
example : (setParent g1 1 (some 2)).2 = some .runtime ∧ agreeParent g1 1 (some 2) :=  -- a descendant
  ⟨by decide +kernel, parent_run g1 (by decide) 1 2 (by decide +kernel)⟩
example : (setParent g1 9 (some 1)).2 = some .runtime ∧ agreeParent g1 9 (some 1) :=  -- another WBS
  ⟨by decide +kernel, parent_run g1 (by decide) 9 1 (by decide +kernel)⟩
example : (setParent g1 5 (some 1)).2 = some .runtime ∧ agreeParent g1 5 (some 1) :=  -- shared id
  ⟨by decide +kernel, parent_run g1 (by decide) 5 1 (by decide +kernel)⟩
example : (setParent g1 7 (some 12)).2 = some .runtime ∧ agreeParent g1 7 (some 12) :=  -- shared id, no WBS
  ⟨by decide +kernel, parent_run g1 (by decide) 7 12 (by decide +kernel)⟩
example : (setParent g1 0 none).2 = some .runtime ∧ agreeParent g1 0 none :=  -- the hidden root
  ⟨by decide +kernel, parent_none_run g1 (by decide) 0 (by decide +kernel)⟩
example : (setParent g3 2 (some 0)).2 = some (.crash .recursion) ∧ agreeParent g3 2 (some 0) := by decide +kernel


/-! a state that violates `WF.once` - the children list of 1 names 2 twice - shows that the hypothesis `honce` of
    `interpSetParent_eq` cannot be dropped: for `2.parent = None` (2 a member of the WBS) Python removes 2 from the list
    of 1 twice (once before, once inside the inner `root.children.append(2)`), the model once.  The state is not
    reachable (C01); everywhere else on this graph the two agree. -/
def g4 : G := mk [
  { tid := emptyId, children := [1], owner := some 0 },
  { tid := 10, parent := some 0, children := [2, 2], owner := some 0 },
  { tid := 20, parent := some 1, owner := some 0 }]

example : ¬ agreeParent g4 2 none := by decide +kernel
example : ((setParent g4 2 none).1.children 1 = [2]) ∧
    (observe 3 (interpSetParent F 2 none (encSt g4))).map (fun r => r.2[1]?.bind (fun o => Env.get? o "children")) =
      .ok (some (refs [])) := by decide +kernel
example : allU g4 (fun t => allU g4 (fun p => decide (agreeParent g4 t (some p)))) = true := by
  have hrec : allU g4 (fun t => allU g4 (fun p => noRec (setParent g4 t (some p)))) = true := by decide +kernel
  exact allU_imp (fun t => allU_imp fun p => dec_imp (parent_run g4 (by decide) t p)) hrec
example : agreeParent g4 1 none ∧ agreeParent g4 0 none :=
  ⟨parent_none_run g4 (by decide) 1 (by decide +kernel), parent_none_run g4 (by decide) 0 (by decide +kernel)⟩

end Check
end Pj.TaskSrc

/-
  Lemmas/FacadeSrcMono.lean — extending a PROGRAM keeps what was proved about it.

  The list facades of task.py are translated as FURTHER functions of the program task.py (Extracted/FacadeSrc.lean:
  `facadeFuns`), and the library primitives get more meanings (`__getattribute__`, `str`, `join`).  What holds of a run
  of a program holds of the run of every extension:

      `progH_mono`   if the table `tbl'` extends `tbl` and `prim'` refines `prim`, then every call that does not end
                     STUCK under `progH prim tbl F` has the same result under `progH prim' tbl' F`.

  (`stuck` = `.crash .other` is how a run leaves the modelled fragment - in particular the call of a function that the
  table does not define, and a primitive without meaning.)  The proof is one induction over the pass layer of PyLite:
  `RLe r r'` ("`r` is stuck or `r' = r`") is preserved by every construct (`evalP_mono`, `execP_mono`).

  One construct (of the wbs constructs) does NOT preserve it: `tryExcept body exc handler` with
  `exc = stuck` would CATCH the run that leaves the fragment and turn it into an ordinary result, which an extension of
  the program need not reproduce.  `Stmt.noCatchStuck` / `noCatchStuckL` (a decidable syntactic predicate: no
  `try … except` of the statement names `stuck` = `.crash .other` as the exception it handles) excludes that; the
  theorems about statements and programs are stated for bodies with this property (`TblOk`).  No translator emits such
  a handler (`except StopIteration` is the only one of wbs.py), and for a concrete program the check is evaluated (`tblOk`, Lemmas/FacadeSrcA.lean).
-/
import PjVerif.Lemmas.PyLiteEqns
namespace Pj.FacadeSrc
open Pj.PyLite
set_option linter.unusedSimpArgs false
set_option linter.unusedVariables false

/-- `r'` refines `r`: the same result, unless `r` is stuck -/
def RLe {α : Type} (r r' : Res α) : Prop := r = .error stuck ∨ r' = r

theorem RLe.refl {α : Type} (r : Res α) : RLe r r := Or.inr rfl

theorem RLe.bind {α β : Type} {x x' : Res α} {f f' : α → Res β} (hx : RLe x x') (hf : ∀ a, RLe (f a) (f' a)) :
    RLe (x >>= f) (x' >>= f') := by
  rcases hx with hx | hx
  · left; rw [hx]; rfl
  · rw [hx]
    cases x with
    | error e => exact Or.inr rfl
    | ok a => exact hf a

/-- `RLe.bind` for a continuation that takes its argument apart (`let (v, st) ← x; …`): `f (a, s)` reduces, `f p` for
    a variable `p` does not -/
theorem RLe.bindP {α σ β : Type} {x x' : Res (α × σ)} {f f' : α × σ → Res β} (hx : RLe x x')
    (hf : ∀ a s, RLe (f (a, s)) (f' (a, s))) : RLe (x >>= f) (x' >>= f') :=
  hx.bind fun p => hf p.1 p.2

/-- `a if v else b` -/
theorem RLe.ifTruth {β : Type} {v : Val} {a a' b b' : Res β} (ha : RLe a a') (hb : RLe b b') :
    RLe (do if (← truthP v) then a else b) (do if (← truthP v) then a' else b') :=
  (RLe.refl _).bind fun
    | true => ha
    | false => hb

/-- the handlers `H'` refine the handlers `H` -/
structure HLe (H H' : PHandlers) : Prop where
  clock : H'.clock = H.clock
  call : ∀ m as L, RLe (H.call m as L) (H'.call m as L)
  newResource : ∀ a, RLe (H.newResource a) (H'.newResource a)
  prim : ∀ n as st, RLe (H.prim n as st) (H'.prim n as st)
  fn : ∀ k as st, RLe (H.fn k as st) (H'.fn k as st)
  fnV : ∀ k as st, RLe (H.fnV k as st) (H'.fnV k as st)

theorem compLoopP_mono {f f' : Atom → PState → Res (Option Atom × PState)} (hf : ∀ v st, RLe (f v st) (f' v st)) :
    ∀ vs st, RLe (compLoopP f vs st) (compLoopP f' vs st)
  | [], _ => .refl _
  | v :: vs, st => (hf v st).bindP fun _ _ => (compLoopP_mono hf vs _).bind fun _ => .refl _

theorem flatLoopP_mono {f f' : Atom → PState → Res (List Atom × PState)} (hf : ∀ v st, RLe (f v st) (f' v st)) :
    ∀ vs st, RLe (flatLoopP f vs st) (flatLoopP f' vs st)
  | [], _ => .refl _
  | v :: vs, st => (hf v st).bindP fun _ _ => (flatLoopP_mono hf vs _).bind fun _ => .refl _

theorem pairLoopP_mono {f f' : Atom → PState → Res (Option (Atom × Atom) × PState)}
    (hf : ∀ v st, RLe (f v st) (f' v st)) : ∀ vs st, RLe (pairLoopP f vs st) (pairLoopP f' vs st)
  | [], _ => .refl _
  | v :: vs, st => (hf v st).bindP fun _ _ => (pairLoopP_mono hf vs _).bind fun _ => .refl _

theorem anyLoopP_mono {f f' : Atom → PState → Res (Bool × PState)} (hf : ∀ v st, RLe (f v st) (f' v st)) :
    ∀ vs st, RLe (anyLoopP f vs st) (anyLoopP f' vs st)
  | [], _ => .refl _
  | v :: vs, st => (hf v st).bindP fun
    | true, _ => .refl _
    | false, _ => anyLoopP_mono hf vs _

theorem nextLoopP_mono {f f' : Atom → PState → Res (Option Atom × PState)} (hf : ∀ v st, RLe (f v st) (f' v st)) :
    ∀ vs st, RLe (nextLoopP f vs st) (nextLoopP f' vs st)
  | [], _ => .refl _
  | v :: vs, st => (hf v st).bindP fun
    | some _, _ => .refl _
    | none, _ => nextLoopP_mono hf vs _

/-! ### expressions

  Every construct evaluates its parts in a fixed order and combines the results without looking at the handlers: the
  arms below are grouped by that shape; the handlers enter in `now`, `resSetdefault`, `callSelf`, `prim`, `callVal`,
  `callFn` and `construct` only.  No equation of `Expr.evalP` is used: unifying `x >>= f` with the goal unfolds `Expr.evalP` at the
  constructor, which is much cheaper to check than rewriting with its equations (the statements, further down, do use
  the equations of `Stmt.execP`, from PyLiteEqns). -/

theorem evalP_mono {H H' : PHandlers} (h : HLe H H') (self : Env) (e : Expr) :
    (∀ env st, RLe (e.evalP H self env st) (e.evalP H' self env st)) ∧
    (∀ env st, RLe (e.evalArgsP H self env st) (e.evalArgsP H' self env st)) := by
  induction e with
  | none | num | bool | var | self | field | rows | datetime | listNil | fnRef | dictNil
  | units | dayStart | weekday | index | timedeltaHours | app | mkRow | nearest | reserved =>
    exact ⟨fun _ _ => RLe.refl _, fun _ _ => RLe.refl _⟩
  | isNone _ ih | isNotNone _ ih | not _ ih | attr _ _ ih | len _ ih | maxList _ ih | minList _ ih | calcHas _ ih
  | reversed _ ih | timedelta _ ih | idOf _ ih | items _ ih | listOf _ ih | typeIs _ _ ih | setOf _ ih | dictValues _ ih
  | typeIsS _ _ ih | abs _ ih | newBox _ ih =>
    exact ⟨fun _ _ => (ih.1 _ _).bind fun _ => RLe.refl _, fun _ _ => RLe.refl _⟩
  | cmp _ _ _ ih1 ih2 | bin _ _ _ ih1 ih2 | isIn _ _ ih1 ih2 | sum _ _ ih1 ih2 | max _ _ ih1 ih2 | min _ _ ih1 ih2
  | isSame _ _ ih1 ih2 | listIndex _ _ ih1 ih2 | setInter _ _ ih1 ih2 | dictGet _ _ ih1 ih2 | dictIndex _ _ ih1 ih2
  | listRemove _ _ ih1 ih2 | indexOf _ _ ih1 ih2 | dictHas _ _ ih1 ih2 =>
    exact ⟨fun _ _ => (ih1.1 _ _).bindP fun _ _ => (ih2.1 _ _).bind fun _ => RLe.refl _, fun _ _ => RLe.refl _⟩
  | max3 _ _ _ ih1 ih2 ih3 | range3 _ _ _ ih1 ih2 ih3 | listInsert _ _ _ ih1 ih2 ih3 | dictSet _ _ _ ih2 ih3 ih1 =>
    exact ⟨fun _ _ => (ih1.1 _ _).bindP fun _ _ => (ih2.1 _ _).bindP fun _ _ => (ih3.1 _ _).bind fun _ => RLe.refl _,
      fun _ _ => RLe.refl _⟩
  | listCons _ _ iha ihl =>
    exact ⟨fun _ _ => (iha.1 _ _).bindP fun _ _ => (ihl.1 _ _).bind fun _ => RLe.refl _,
      fun _ _ => (iha.1 _ _).bindP fun _ _ => (ihl.2 _ _).bind fun _ => RLe.refl _⟩
  | and _ _ iha ihb => exact ⟨fun _ _ => (iha.1 _ _).bindP fun _ _ => .ifTruth (ihb.1 _ _) (.refl _), fun _ _ => .refl _⟩
  | or _ _ iha ihb => exact ⟨fun _ _ => (iha.1 _ _).bindP fun _ _ => .ifTruth (.refl _) (ihb.1 _ _), fun _ _ => .refl _⟩
  | ite _ _ _ ihc iha ihb =>
    exact ⟨fun _ _ => (ihc.1 _ _).bindP fun _ _ => .ifTruth (iha.1 _ _) (ihb.1 _ _), fun _ _ => .refl _⟩
  | now =>
    refine ⟨fun _ st => ?_, fun _ _ => RLe.refl _⟩
    show RLe (pure (_, _)) (pure (_, _))
    rw [h.clock]
    exact RLe.refl _
  | resSetdefault _ ih =>
    refine ⟨fun _ _ => (ih.1 _ _).bindP fun v _ => ?_, fun _ _ => RLe.refl _⟩
    cases v with
    | atom a =>
      show RLe (if a.isName = true then _ else _) (if a.isName = true then _ else _)
      split
      · exact (h.newResource a).bind fun _ => RLe.refl _
      · exact RLe.refl _
    | _ => exact RLe.refl _
  | callSelf m _ ih =>
    refine ⟨fun _ _ => (ih.1 _ _).bindP fun v _ => ?_, fun _ _ => RLe.refl _⟩
    cases v with
    | list as => exact (h.call m as _).bind fun _ => RLe.refl _
    | _ => exact RLe.refl _
  | prim n _ ih =>
    refine ⟨fun _ _ => (ih.1 _ _).bindP fun v _ => ?_, fun _ _ => RLe.refl _⟩
    cases v with
    | list as => exact (h.prim n as _).bind fun _ => RLe.refl _
    | _ => exact RLe.refl _
  | callVal _ _ ihf iha =>
    refine ⟨fun _ _ => (ihf.1 _ _).bindP fun fv _ => (iha.1 _ _).bindP fun av _ => ?_, fun _ _ => RLe.refl _⟩
    dsimp only
    split
    · exact h.fn _ _ _
    · exact RLe.refl _
    · exact RLe.refl _
  | callFn _ _ ih => exact ⟨fun _ _ => (ih.2 _ _).bindP fun _ _ => h.fnV _ _ _, fun _ _ => RLe.refl _⟩
  | construct _ _ ih =>
    exact ⟨fun _ _ => (ih.2 _ _).bindP fun _ _ => (h.fnV _ _ _).bind fun _ => RLe.refl _, fun _ _ => RLe.refl _⟩
  | listComp _ _ _ _ ihe ihi ihc =>
    refine ⟨fun _ _ => (ihi.1 _ _).bindP fun _ _ => (RLe.refl _).bind fun _ =>
      RLe.bind (compLoopP_mono (fun _ _ => ?_) _ _) fun _ => RLe.refl _, fun _ _ => RLe.refl _⟩
    exact (ihc.1 _ _).bindP fun _ _ => .ifTruth ((ihe.1 _ _).bind fun _ => .refl _) (.refl _)
  | flatComp _ _ _ _ ihe ihi ihc =>
    refine ⟨fun _ _ => (ihi.1 _ _).bindP fun _ _ => (RLe.refl _).bind fun _ =>
      RLe.bind (flatLoopP_mono (fun _ _ => ?_) _ _) fun _ => RLe.refl _, fun _ _ => RLe.refl _⟩
    exact (ihc.1 _ _).bindP fun _ _ => .ifTruth ((ihe.1 _ _).bind fun _ => .refl _) (.refl _)
  | anyComp _ _ _ _ ihe ihi ihc =>
    refine ⟨fun _ _ => (ihi.1 _ _).bindP fun _ _ => (RLe.refl _).bind fun _ =>
      RLe.bind (anyLoopP_mono (fun _ _ => ?_) _ _) fun _ => RLe.refl _, fun _ _ => RLe.refl _⟩
    exact (ihc.1 _ _).bindP fun _ _ => .ifTruth ((ihe.1 _ _).bind fun _ => .refl _) (.refl _)
  | nextComp _ _ _ _ ihe ihi ihc =>
    refine ⟨fun _ _ => (ihi.1 _ _).bindP fun _ _ => (RLe.refl _).bind fun _ =>
      RLe.bind (nextLoopP_mono (fun _ _ => ?_) _ _) fun _ => RLe.refl _, fun _ _ => RLe.refl _⟩
    exact (ihc.1 _ _).bindP fun _ _ => .ifTruth ((ihe.1 _ _).bind fun _ => .refl _) (.refl _)
  | dictComp _ _ _ _ _ ihk ihv ihi ihc =>
    refine ⟨fun _ _ => (ihi.1 _ _).bindP fun _ _ => (RLe.refl _).bind fun _ =>
      RLe.bind (pairLoopP_mono (fun _ _ => ?_) _ _) fun _ => RLe.refl _, fun _ _ => RLe.refl _⟩
    refine (ihc.1 _ _).bindP fun _ _ => .ifTruth ((ihk.1 _ _).bind fun r => ?_) (.refl _)
    split
    · exact (ihv.1 _ _).bind fun _ => .refl _
    · exact .refl _
  | sortedBy _ _ _ _ ihk ihl ihr =>
    refine ⟨fun _ _ => (ihl.1 _ _).bindP fun _ _ => (ihr.1 _ _).bindP fun _ _ => (RLe.refl _).bind fun _ =>
      (RLe.refl _).bind fun _ => RLe.bind (compLoopP_mono (fun _ _ => ?_) _ _) fun _ => RLe.refl _, fun _ _ => RLe.refl _⟩
    exact (ihk.1 _ _).bind fun _ => .refl _

theorem evalP_le {H H' : PHandlers} (h : HLe H H') (self : Env) (e : Expr) (env : Env) (st : PState) :
    RLe (e.evalP H self env st) (e.evalP H' self env st) := (evalP_mono h self e).1 env st

def OLe (o o' : OutcomeP) : Prop := o = .raise stuck ∨ o' = o

theorem OLe.refl (o : OutcomeP) : OLe o o := Or.inr rfl

theorem forLoopP_mono (x : String) {body body' : Env → PState → OutcomeP} (hb : ∀ env st, OLe (body env st) (body' env st)) :
    ∀ vs env st, OLe (forLoopP x body vs env st) (forLoopP x body' vs env st) := by
  intro vs
  induction vs with
  | nil => intro env st; exact OLe.refl _
  | cons v vs ih =>
    intro env st
    simp only [forLoopP]
    rcases hb (env.set x v) st with hs | he
    · left; rw [hs]
    · rw [he]
      cases body (env.set x v) st with
      | normal env' st' => exact ih env' st'
      | cont env' st' => exact ih env' st'
      | ret v st' => exact OLe.refl _
      | raise e => exact OLe.refl _

/-- the loop of `forLive`: the checks of the live list read the same states on both sides -/
theorem forLiveLoopP_mono (x : String) (i : Nat) (f : String) (snap : List Atom) {body body' : Env → PState → OutcomeP}
    (hb : ∀ env st, OLe (body env st) (body' env st)) :
    ∀ vs env st, OLe (forLiveLoopP x i f snap body vs env st) (forLiveLoopP x i f snap body' vs env st) := by
  intro vs
  induction vs with
  | nil => intro env st; exact OLe.refl _
  | cons v vs ih =>
    intro env st
    simp only [forLiveLoopP]
    split
    · rcases hb (env.set x v) st with hs | he
      · left; rw [hs]
      · rw [he]
        cases body (env.set x v) st with
        | normal env' st' => exact ih env' st'
        | cont env' st' => exact ih env' st'
        | ret v st' => exact OLe.refl _
        | raise e => exact OLe.refl _
    · exact OLe.refl _

/-! `try … except <exc>` with `exc = stuck` is the one construct that does not preserve `OLe` (it catches the run that
    leaves the fragment): the syntactic predicate "no handler of the statement handles `stuck`" -/
mutual
def _root_.Pj.PyLite.Stmt.noCatchStuck : Stmt → Bool
  | .ifElse _ t e => noCatchStuckL t && noCatchStuckL e
  | .forIn _ _ body => noCatchStuckL body
  | .while _ body => noCatchStuckL body
  | .forRange _ _ _ body => noCatchStuckL body
  | .tryExcept body exc handler => !(decide (exc = stuck)) && noCatchStuckL body && noCatchStuckL handler
  | .forLive _ _ _ body => noCatchStuckL body
  | _ => true
def noCatchStuckL : List Stmt → Bool
  | [] => true
  | s :: ss => s.noCatchStuck && noCatchStuckL ss
end

mutual
theorem execP_mono {H H' : PHandlers} (h : HLe H H') (self : Env) (rec : List Atom → PState → Res (Val × PState)) :
    ∀ (s : Stmt), s.noCatchStuck = true → ∀ (env : Env) (st : PState),
      OLe (s.execP H self rec env st) (s.execP H' self rec env st)
  | .while .., _, _, _ | .raiseRuntime, _, _, _ | .continue, _, _, _ | .pass, _, _, _ | .forRange .., _, _, _
  | .rowsAppend _, _, _, _ | .resReserve .., _, _, _ | .augReserve .., _, _, _ | .ledgerNew, _, _, _
  | .calcNew, _, _, _ => OLe.refl _
  -- one expression, then a case analysis of its result that passes an error on
  | .assign _ e, _, env, st | .ret e, _, env, st | .calcAppend e, _, env, st | .expr e, _, env, st
  | .boxPop e, _, env, st | .attrClear e _, _, env, st | .recurse e, _, env, st => by
    rcases evalP_le h self e env st with hs | he
    · left; simp only [Stmt.execP, hs, bind, Except.bind]
    · right; simp only [Stmt.execP, he]
  | .aug x op e, _, env, st => by
    simp only [Stmt.execP]
    split
    · exact OLe.refl _
    · rcases evalP_le h self e env st with hs | he
      · left; simp only [hs]
      · right; simp only [he]
  -- two expressions
  | .setAttr e2 _ e1, _, env, st | .boxAppend e1 e2, _, env, st | .attrAppend e1 _ e2, _, env, st
  | .attrRemove e1 _ e2, _, env, st => by
    have key : RLe (do let (a, st) ← e1.evalP H self env st; let (b, st) ← e2.evalP H self env st; pure (a, b, st))
        (do let (a, st) ← e1.evalP H' self env st; let (b, st) ← e2.evalP H' self env st; pure (a, b, st)) :=
      (evalP_le h self e1 env st).bindP fun _ _ => (evalP_le h self e2 env _).bind fun _ => .refl _
    rcases key with hs | he
    · left; simp only [Stmt.execP, hs]
    · right; simp only [Stmt.execP, he]
  | .ifElse c t e, hnc, env, st => by
    simp only [Stmt.noCatchStuck, Bool.and_eq_true] at hnc
    have key : RLe (do let (v, st') ← c.evalP H self env st; pure ((← truthP v), st'))
        (do let (v, st') ← c.evalP H' self env st; pure ((← truthP v), st')) :=
      (evalP_le h self c env st).bind fun _ => .refl _
    rcases key with hs | he
    · left; simp only [Stmt.execP, hs]
    · simp only [Stmt.execP, he]
      split
      · split
        · exact execBlockP_mono h self rec t hnc.1 _ _
        · exact execBlockP_mono h self rec e hnc.2 _ _
      · exact OLe.refl _
  | .forIn x e body, hnc, env, st => by
    have key : RLe (do let (v, st') ← e.evalP H self env st; pure ((← iterOf v), st'))
        (do let (v, st') ← e.evalP H' self env st; pure ((← iterOf v), st')) :=
      (evalP_le h self e env st).bind fun _ => .refl _
    rcases key with hs | he
    · left; simp only [Stmt.execP, hs]
    · simp only [Stmt.execP, he]
      split
      · exact forLoopP_mono x (execBlockP_mono h self rec body hnc) _ _ _
      · exact OLe.refl _
  | .tryExcept body exc handler, hnc, env, st => by
    simp only [Stmt.noCatchStuck, Bool.and_eq_true, Bool.not_eq_true', decide_eq_false_iff_not] at hnc
    obtain ⟨⟨hexc, hb⟩, hh⟩ := hnc
    simp only [Stmt.execP]
    rcases execBlockP_mono h self rec body hb env st with hs | he
    · left
      rw [hs]
      exact if_neg fun hc => hexc hc.symm
    · rw [he]
      split
      · split
        · exact execBlockP_mono h self rec handler hh env st
        · exact OLe.refl _
      · exact OLe.refl _
  | .forLive x o f body, hnc, env, st => by
    simp only [Stmt.execP]
    rcases evalP_le h self o env st with hs | he
    · left; simp only [hs]
    · simp only [he]
      split
      · split
        · exact forLiveLoopP_mono x _ f _ (execBlockP_mono h self rec body hnc) _ _ _
        · exact OLe.refl _
        · exact OLe.refl _
        · exact OLe.refl _
      · exact OLe.refl _
      · exact OLe.refl _
      · exact OLe.refl _

theorem execBlockP_mono {H H' : PHandlers} (h : HLe H H') (self : Env) (rec : List Atom → PState → Res (Val × PState)) :
    ∀ (ss : List Stmt), noCatchStuckL ss = true → ∀ (env : Env) (st : PState),
      OLe (execBlockP H self rec ss env st) (execBlockP H' self rec ss env st)
  | [], hnc, env, st => OLe.refl _
  | s :: ss, hnc, env, st => by
    simp only [noCatchStuckL, Bool.and_eq_true] at hnc
    simp only [execBlockP]
    rcases execP_mono h self rec s hnc.1 env st with hs | he
    · left; rw [hs]
    · rw [he]
      cases s.execP H self rec env st with
      | normal env' st' => exact execBlockP_mono h self rec ss hnc.2 env' st'
      | _ => exact OLe.refl _
end

theorem callPV_mono {H H' : PHandlers} (h : HLe H H') (params : List String) (body : List Stmt)
    (hnc : noCatchStuckL body = true) (args : List Val)
    (st : PState) : RLe (callPV H params body args st) (callPV H' params body args st) := by
  unfold callPV
  split
  · exact RLe.refl _
  · rcases execBlockP_mono h [] (fun _ _ => throw stuck) body hnc _ st with hs | he
    · left; rw [hs]; rfl
    · rw [he]; exact RLe.refl _

def TblLe (tbl tbl' : FunTable) : Prop := ∀ k x, tbl k = some x → tbl' k = some x

/-- no function of the table handles `stuck` in a `try … except` (`Stmt.noCatchStuck`) -/
def TblOk (tbl : FunTable) : Prop := ∀ k params body, tbl k = some (params, body) → noCatchStuckL body = true

def PrimLe (prim prim' : String → List Atom → PState → Res Val) : Prop :=
  ∀ n as st, RLe (prim n as st) (prim' n as st)

theorem progH_HLe {prim prim' : String → List Atom → PState → Res Val} {tbl tbl' : FunTable}
    (hp : PrimLe prim prim') (ht : TblLe tbl tbl') (hok : TblOk tbl) : ∀ F, HLe (progH prim tbl F) (progH prim' tbl' F)
  | 0 =>
    { clock := rfl, call := fun _ _ _ => RLe.refl _, newResource := fun _ => RLe.refl _, prim := hp,
      fn := fun _ _ _ => RLe.refl _, fnV := fun _ _ _ => RLe.refl _ }
  | F + 1 =>
    { clock := rfl, call := fun _ _ _ => RLe.refl _, newResource := fun _ => RLe.refl _, prim := hp,
      fn := fun _ _ _ => RLe.refl _,
      fnV := fun k args st => by
        simp only [progH]
        cases hk : tbl k with
        | none => exact Or.inl rfl
        | some x =>
          obtain ⟨params, body⟩ := x
          rw [ht k _ hk]
          exact callPV_mono (progH_HLe hp ht hok F) params body (hok k params body hk) args st }

/-- EXTENDING A PROGRAM: a call that is not stuck in the program `tbl` with the primitives `prim` has the same result
    in every extension (`hok`: no `try … except` of `tbl` handles `stuck`) -/
theorem progH_mono {prim prim' : String → List Atom → PState → Res Val} {tbl tbl' : FunTable}
    (hp : PrimLe prim prim') (ht : TblLe tbl tbl') (hok : TblOk tbl) (F k : Nat) (args : List Val) (st : PState) (r : Res (Val × PState))
    (hr : (progH prim tbl F).fnV k args st = r) (hns : r ≠ .error stuck) :
    (progH prim' tbl' F).fnV k args st = r := by
  rcases (progH_HLe hp ht hok F).fnV k args st with hs | he
  · rw [hr] at hs; exact absurd hs hns
  · rw [he, hr]

end Pj.FacadeSrc

/-
  Lemmas/WbsSrcRuns.lean — the concrete runs of WbsSrcCheck.lean / WbsSrcCheckC.lean on the well-formed graphs as
  corollaries of the general theorems of WbsSrcA / WbsSrcB / WbsSrcC: a sweep of the translated source over a graph
  agrees with the model as soon as the MODEL does not end in RecursionError on any call of the sweep, which is
  evaluated on the model alone.  `clone` / `subtree` have no such proviso; evaluated there: that the graph is a
  reachable state (`Inv_mk`, Lemmas/TaskSrcRuns.lean), that the roots are members, and the fuel bound, which runs the model's `cloneSel`.  The sweep combinators
  are those of Lemmas/TaskSrcRuns.lean.
-/
import PjVerif.Lemmas.WbsSrcC
import PjVerif.Lemmas.WbsSrcCheck
import PjVerif.Lemmas.WbsSrcCheckC
import PjVerif.Lemmas.TaskSrcRuns
namespace Pj.WbsSrc
open Pj.PyLite Pj.Extracted Pj.TaskSrc Pj.TaskSrc.Check

theorem observe_ok (s : G) (st : PState) (hh : st.heap = encHeap s) (v : Val) :
    observe s.n (.ok (v, st)) = expectV s (some v) := by
  simp only [observe, expectV, Except.map, hh]

open Check

theorem observe_resultV (n : Nat) (st : PState) (v : Val) (r : G × Option Err) :
    observe n (resultV st v r) = expectR n v r := by
  rcases r with ⟨s', _ | e⟩ <;> rfl

theorem observe_getResult (s : G) (st : PState) (hh : st.heap = encHeap s) (r : Res Uid) :
    observe s.n (getResult st r) = expectGet s r := by
  rcases r with e | t
  · rfl
  · simp only [getResult, expectGet, observe, Except.map, hh, refV]

theorem observe_wbsRemoveResult (s : G) (st : PState) (w t : Uid) :
    observe s.n (wbsRemoveResult st s w t) = expectRemove s w t := by
  unfold wbsRemoveResult expectRemove
  rw [removeRecS_eq]
  rcases removeRec t s.fuel s w with _ | ⟨s', _ | e, b⟩ <;> rfl

theorem tasksAgree_of (s : G) (hF : s.n + 3 ≤ FW) (h : allU s (fun w => (wbsTasks s w).isSome) = true) :
    tasksAgree s = true := by
  refine allU_imp (fun w hw => ?_) h
  obtain ⟨r, hr⟩ := Option.isSome_iff_exists.1 hw
  rw [hr]
  refine and_intro (decide_eq_true ?_) (decide_eq_true ?_)
  · exact (congrArg (observe s.n) (interpTasks_eq s (encStN s) rfl w r hr FW hF)).trans (observe_ok s _ rfl _)
  · exact (congrArg (observe s.n) (interpRootsGet_eq s (encStN s) rfl w FW (by omega))).trans (observe_ok s _ rfl _)

theorem getAgree_of (s : G) (ids : List Int) (hF : s.n + 3 ≤ FW)
    (h : allU s (fun w => (wbsTasks s w).isSome) = true) : getAgree s ids = true := by
  refine allU_imp (fun w hw => all_intro fun i => decide_eq_true ?_) h
  obtain ⟨r, hr⟩ := Option.isSome_iff_exists.1 hw
  have hrec : wbsGet s w i ≠ .error (.crash .recursion) := by
    simp only [wbsGet, hr]
    split <;> simp
  exact (congrArg (observe s.n) (interpGetitem_eq s (encStN s) rfl w i FW hF hrec)).trans
    (observe_getResult s _ rfl _)

theorem rootsSetAgree_of (s : G) (w : Uid) (hF : s.n + 8 ≤ FW)
    (h : allU s (fun a => noRec (setChildren s w [a]) && noRec (setChildren s w [a, 10]) && noRec (setChildren s w []) &&
      noRec (floordiv s w [a]) && noRec (floordiv s w [11, a])) = true) : rootsSetAgree s w = true :=
  have rootsSet (l : List Uid) (hl : noRec (setChildren s w l) = true) :
      runW noFilt s fn_WBS_roots_set [refV w, refs l] = expect s.n (setChildren s w l) :=
    (congrArg (observe s.n) (interpRootsSet_eq s (encStN s) rfl w _ l (valueOf_refs l) FW (by omega)
      (of_decide_eq_true hl))).trans (observe_setterResult _ _ _)
  have floorDiv (v : Val) (l : List Uid) (hv : ValueOf v l) (hl : noRec (floordiv s w l) = true) :
      runW noFilt s fn_WBS_floordiv [refV w, v] = expectR s.n v (floordiv s w l) :=
    (congrArg (observe s.n) (interpFloordiv_eq s (encStN s) rfl w v l hv FW hF (of_decide_eq_true hl))).trans
      (observe_resultV _ _ _ _)
  allU_imp (fun a => and_imp (and_imp (and_imp (and_imp (dec_imp (rootsSet _)) (dec_imp (rootsSet _)))
    (dec_imp (rootsSet _))) (dec_imp (floorDiv _ _ (valueOf_task a)))) (dec_imp (floorDiv _ _ (valueOf_refs _)))) h

theorem removeAgree_of (s : G) (hF : 2 * s.n + 12 ≤ FW)
    (h : allU s (fun w => allU s (fun t => noRec (wbsRemoveS s w t))) = true) : removeAgree s = true := by
  refine allU_imp (fun w => allU_imp fun t => dec_imp fun hrec => ?_) h
  have hrec := of_decide_eq_true hrec
  rw [wbsRemoveS_eq] at hrec
  exact (congrArg (observe s.n) (interpRemove_eq s (encStN s) rfl w t FW hF hrec)).trans
    (observe_wbsRemoveResult s _ w t)

theorem removeAllAgree_of (s : G) (w : Uid) (ts : List Uid) (hF : 2 * s.n + 12 ≤ FW)
    (h : noRec (forEach (fun s t => wbsRemoveS s w t) s ts) = true) : removeAllAgree s w ts = true := by
  have hS : (fun s t => wbsRemoveS s w t) = fun s t => wbsRemove s w t := by
    funext s t
    exact wbsRemoveS_eq s w t
  have h := of_decide_eq_true h
  rw [hS] at h
  refine decide_eq_true ?_
  rw [hS]
  exact (congrArg (observe s.n)
    (interpRemoveAll_eq (fun _ _ => ts) s (encStN s) rfl w .none .none FW hF h)).trans (observe_resultV _ _ _ _)

/-! ### the runs on g1 and g2 (g3 is cyclic, the model ends in RecursionError there: WbsSrcCheck.lean) -/

namespace Check

-- `wbsTasks` does not run out of fuel on any object (evaluated on the model)
example : tasksAgree g1 = true := tasksAgree_of g1 (by decide) (by decide +kernel)
example : tasksAgree g2 = true := tasksAgree_of g2 (by decide) (by decide +kernel)

example : getAgree g1 [10, 20, 30, 40, 7, emptyId] = true := getAgree_of g1 _ (by decide) (by decide +kernel)
example : getAgree g2 [1, 4, 6, 9] = true := getAgree_of g2 _ (by decide) (by decide +kernel)

-- no `setChildren` of the sweep ends in RecursionError (evaluated on the model)
example : rootsSetAgree g1 0 = true := rootsSetAgree_of g1 0 (by decide) (by decide +kernel)
example : rootsSetAgree g1 8 = true := rootsSetAgree_of g1 8 (by decide) (by decide +kernel)

-- no `removeRec` of the sweep runs out of fuel (evaluated on the model)
example : removeAgree g1 = true := removeAgree_of g1 (by decide) (by decide +kernel)
example : removeAgree g2 = true := removeAgree_of g2 (by decide) (by decide +kernel)

/-- `wbs.remove(None)` / `wbs.remove([...])`: RuntimeError (not a Task) -/
example : runW noFilt g1 fn_WBS_remove [refV 0, .atom .none] = .error .runtime :=
  congrArg (observe g1.n) (interpRemove_none (encStN g1) 0 (FW - 1))
example : runW noFilt g1 fn_WBS_remove [refV 0, refs [1]] = .error .runtime :=
  congrArg (observe g1.n) (interpRemove_list (encStN g1) 0 [.ref 1] (FW - 1))

example : removeAllAgree g1 0 [] = true := removeAllAgree_of g1 0 _ (by decide) (by decide +kernel)
example : removeAllAgree g1 0 [2, 3] = true := removeAllAgree_of g1 0 _ (by decide) (by decide +kernel)
example : removeAllAgree g1 0 [1, 2, 3] = true :=      -- 2 is gone with 1: not found, goes on
  removeAllAgree_of g1 0 _ (by decide) (by decide +kernel)
example : removeAllAgree g1 0 [9, 1] = true :=         -- a task of another WBS is not found
  removeAllAgree_of g1 0 _ (by decide) (by decide +kernel)
example : removeAllAgree g2 0 [4, 1, 6] = true := removeAllAgree_of g2 0 _ (by decide) (by decide +kernel)
example : removeAllAgree g2 0 [2, 5, 3] = true := removeAllAgree_of g2 0 _ (by decide) (by decide +kernel)

end Check

open CheckC

theorem observeC_cloneResult (st : PState) (r : G × Option Err × Uid) :
    observeC (cloneResult st r) = expectClone r := by
  rcases r with ⟨s', _ | e, nw⟩ <;> rfl

theorem runC_clone (s : G) (w : Uid) (hi : Inv s) (hw : s.hidden w = true) (hF : (cloneWbs s w).1.n + 12 ≤ FC) :
    runC s fn_WBS_clone [refV w] = expectClone (cloneWbs s w) :=
  (congrArg observeC (interpClone_eq s (encStN s) rfl rfl hi w hw FC hF)).trans (observeC_cloneResult _ _)

theorem runC_subtree (s : G) (w : Uid) (v : Val) (roots : List Uid) (hv : ValueOf v roots) (hi : Inv s)
    (hw : s.hidden w = true) (hm : ∀ r ∈ roots, s.owner r = some w ∧ s.hidden r = false)
    (hF : (cloneSel s w roots).1.n + 12 ≤ FC) :
    runC s fn_WBS_subtree [refV w, v] = expectClone (cloneSel s w roots) :=
  (congrArg observeC (interpSubtree_eq s (encStN s) rfl rfl hi w hw v roots hv hm FC hF)).trans
    (observeC_cloneResult _ _)

theorem cloneAgree_of (s : G) (w : Uid) (hi : Inv s) (hw : s.hidden w = true) (hF : (cloneWbs s w).1.n + 12 ≤ FC) :
    cloneAgree s w = true :=
  decide_eq_true (runC_clone s w hi hw hF)

theorem subtreeAgree_of (s : G) (w : Uid) (roots : List Uid) (hi : Inv s) (hw : s.hidden w = true)
    (hm : ∀ r ∈ roots, s.owner r = some w ∧ s.hidden r = false) (hF : (cloneSel s w roots).1.n + 12 ≤ FC) :
    subtreeAgree s w roots = true :=
  decide_eq_true (runC_subtree s w _ roots (valueOf_refs roots) hi hw hm hF)

theorem g5_Inv : Inv g5 := Inv_mk _ (by decide +kernel)

namespace CheckC

-- `clone()`: the whole WBS (links inside are copied, the link into the other WBS / from the detached task is shared)
example : cloneAgree g5 0 = true := cloneAgree_of g5 0 g5_Inv rfl (by decide +kernel)
example : cloneAgree g5 6 = true := cloneAgree_of g5 6 g5_Inv rfl (by decide +kernel)
example : cloneAgree g2 0 = true :=        -- the diamond of links of TaskSrcCheck.g2
  cloneAgree_of g2 0 g2_Inv rfl (by decide +kernel)
example : cloneAgree g1 0 = true := cloneAgree_of g1 0 g1_Inv rfl (by decide +kernel)
/-- the copy succeeds and is new: 4 clones and a root on top of the 10 objects -/
example : (runC g5 fn_WBS_clone [refV 0]).map (·.2.1) = .ok 15 := by
  rw [runC_clone g5 0 g5_Inv rfl (by decide +kernel)]
  decide +kernel

-- `subtree(roots)`: a summary task, a leaf whose links go to members that are not selected (dropped) and outside
-- (shared), nested roots, a repeated root, roots in another order, no root, all of it
example : subtreeAgree g5 0 [1] = true := subtreeAgree_of g5 0 _ g5_Inv rfl (by decide) (by decide +kernel)
example : subtreeAgree g5 0 [2] = true := subtreeAgree_of g5 0 _ g5_Inv rfl (by decide) (by decide +kernel)
example : subtreeAgree g5 0 [1, 2] = true := subtreeAgree_of g5 0 _ g5_Inv rfl (by decide) (by decide +kernel)
example : subtreeAgree g5 0 [2, 1] = true := subtreeAgree_of g5 0 _ g5_Inv rfl (by decide) (by decide +kernel)
example : subtreeAgree g5 0 [2, 2] = true := subtreeAgree_of g5 0 _ g5_Inv rfl (by decide) (by decide +kernel)
example : subtreeAgree g5 0 [2, 3] = true := subtreeAgree_of g5 0 _ g5_Inv rfl (by decide) (by decide +kernel)
example : subtreeAgree g5 0 [5, 1] = true := subtreeAgree_of g5 0 _ g5_Inv rfl (by decide) (by decide +kernel)
example : subtreeAgree g5 0 [3, 2, 5] = true := subtreeAgree_of g5 0 _ g5_Inv rfl (by decide) (by decide +kernel)
example : subtreeAgree g5 0 [] = true := subtreeAgree_of g5 0 _ g5_Inv rfl (by decide) (by decide +kernel)
example : subtreeAgree g2 0 [2, 3] = true := subtreeAgree_of g2 0 _ g2_Inv rfl (by decide) (by decide +kernel)
example : subtreeAgree g2 0 [4, 5] = true := subtreeAgree_of g2 0 _ g2_Inv rfl (by decide) (by decide +kernel)
/-- a single task as the argument (`_to_list`) -/
example : runC g5 fn_WBS_subtree [refV 0, refV 1] = expectClone (cloneSel g5 0 [1]) :=
  runC_subtree g5 0 _ _ (valueOf_task 1) g5_Inv rfl (by decide) (by decide +kernel)
/-- `None`s in the list are skipped (`_to_list`) -/
example : runC g5 fn_WBS_subtree [refV 0, .list [.none, .ref 2, .none]] = expectClone (cloneSel g5 0 [2]) :=
  runC_subtree g5 0 _ _ (valueOf_list [none, some 2, none]) g5_Inv rfl (by decide) (by decide +kernel)

end CheckC

end Pj.WbsSrc

/-
  Lemmas/PrintSrcA.lean — stage 1 of the translated tie for the sheet printer (general theorems): the cell texts.
  `__get_linked_task_id` = `linkedId`, `__get_linked_tasks_id` = the comma-joined `linkedId`s, `__get_field_value` =
  `fieldValue` (the six computed fields and the `__dict__` part: unknown names, `lower()`, None, datetimes, `str()`),
  for every task, field name and string library.  See Lemmas/PrintSrc.lean for the setting.
-/
import PjVerif.Lemmas.PrintSrc
import PjVerif.Lemmas.StrLibLemmas
import PjVerif.Lemmas.PyUpd
namespace Pj.PrintSrc
open Pj.PyLite Pj.Print Pj.Extracted.Print
open Pj.TaskSrc (callPV_eq execBlockP_cons execBlockP_nil execBlockP_append noRec)
set_option linter.unusedVariables false

variable (S : Lib) (pts : Nat → PyTask) (th : PyTheme)

/-- the model's view of the tasks -/
abbrev tsOf (S : Lib) (pts : Nat → PyTask) : Nat → PTask := fun u => toPTask S (pts u)

theorem pfnV_succ (F k : Nat) (params : List String) (body : List Stmt) (h : printFuns k = some (params, body))
    (args : List Val) (st : PState) :
    (Hp S pts th (F + 1)).fnV k args st = callPV (Hp S pts th F) params body args st :=
  Pj.TaskSrc.progH_fnV_succ _ _ F k params body h args st

theorem Hp_prim (F : Nat) : (Hp S pts th F).prim = printPrim S pts th := Pj.TaskSrc.progH_prim _ _ F

theorem prim_lit (name : String) (x : Str) (st : PState) (h1 : name.startsWith "lit:" = true)
    (h2 : (name.drop 4).toString.toList = x) : printPrim S pts th name [] st = .ok (.atom (S.s x)) := by
  unfold printPrim
  rw [if_pos h1, h2]; rfl

theorem nl (name : String) (h : name.startsWith "lit:" = false) :
    (if name.startsWith "lit:" = true then (none : Option Nat) else some 0) = some 0 := by simp [h]

macro "litp" : tactic => `(tactic| exact prim_lit _ _ _ _ _ _ (by decide +kernel) (by decide +kernel))

theorem lit_preds (st : PState) : printPrim S pts th "lit:predecessors" [] st = .ok (.atom (S.s "predecessors".toList)) := by litp
theorem lit_succs (st : PState) : printPrim S pts th "lit:successors" [] st = .ok (.atom (S.s "successors".toList)) := by litp
theorem lit_parent (st : PState) : printPrim S pts th "lit:parent" [] st = .ok (.atom (S.s "parent".toList)) := by litp
theorem lit_id (st : PState) : printPrim S pts th "lit:id" [] st = .ok (.atom (S.s "id".toList)) := by litp
theorem lit_estimate (st : PState) : printPrim S pts th "lit:estimate" [] st = .ok (.atom (S.s "estimate".toList)) := by litp
theorem lit_spent (st : PState) : printPrim S pts th "lit:spent" [] st = .ok (.atom (S.s "spent".toList)) := by litp

/-- `simp` decides the hypothesis on a literal name.  Low priority: the names of the computed fields and the keys have
    lemmas of their own, tried first. -/
@[pylite_step low] theorem prim_lit_name (name : String) (st : PState) (h : "lit:".toList.isPrefixOf name.toList = true) :
    printPrim S pts th name [] st = .ok (.atom (S.s (name.toList.drop 4))) :=
  prim_lit S pts th name _ st (litName name h).1 (litName name h).2

theorem lit_empty (st : PState) : printPrim S pts th "lit:" [] st = .ok (.atom (S.s [])) :=
  prim_lit_name S pts th _ st (by simp)
theorem lit_dash (st : PState) : printPrim S pts th "lit:-" [] st = .ok (.atom (S.s ['-'])) :=
  prim_lit_name S pts th _ st (by simp)

theorem prim_empty (st : PState) : printPrim S pts th "EMPTY_TASK_ID" [] st = .ok (.atom S.emptyId) := by prim_of printPrim
theorem prim_name (t : Nat) (st : PState) : printPrim S pts th "name" [.ref t] st = .ok (.atom (S.os (pts t).name)) := by prim_of printPrim
theorem prim_id (t : Nat) (st : PState) : printPrim S pts th "id" [.ref t] st = .ok (.atom (pts t).id) := by prim_of printPrim
theorem prim_wbs (t : Nat) (st : PState) : printPrim S pts th "wbs" [.ref t] st = .ok (.atom (optRefA (pts t).wbs)) := by prim_of printPrim
theorem prim_parent (t : Nat) (st : PState) : printPrim S pts th "parent" [.ref t] st = .ok (.atom (optRefA (pts t).parent)) := by prim_of printPrim
theorem prim_children (t : Nat) (st : PState) : printPrim S pts th "children" [.ref t] st = .ok (refsA (pts t).children) := by prim_of printPrim
theorem prim_preds (t : Nat) (st : PState) : printPrim S pts th "predecessors" [.ref t] st = .ok (refsA (pts t).preds) := by prim_of printPrim
theorem prim_succs (t : Nat) (st : PState) : printPrim S pts th "successors" [.ref t] st = .ok (refsA (pts t).succs) := by prim_of printPrim
theorem prim_estimate (t : Nat) (st : PState) : printPrim S pts th "estimate" [.ref t] st = .ok (.atom (pts t).estimate) := by prim_of printPrim
theorem prim_spent (t : Nat) (st : PState) : printPrim S pts th "spent" [.ref t] st = .ok (.atom (pts t).spent) := by prim_of printPrim
theorem prim_dict (t : Nat) (st : PState) :
    printPrim S pts th "__dict__" [.ref t] st = .ok (.list ((pts t).dict.map (fun p => S.s p.1))) := by prim_of printPrim
theorem prim_getattr (t k : Nat) (st : PState) :
    printPrim S pts th "__getattribute__" [.ref t, .str k] st =
      (match lookupA (pts t).dict (S.D k) with
       | some v => .ok (.atom v)
       | none => .error (.crash .attribute)) := by
  prim_of printPrim
  cases lookupA (pts t).dict (S.D k) <;> rfl
theorem prim_str (a : Atom) (st : PState) : printPrim S pts th "str" [a] st = .ok (.atom (S.s (S.text a))) := by prim_of printPrim
theorem prim_strlen (k : Nat) (st : PState) :
    printPrim S pts th "strlen" [.str k] st = .ok (.atom (.num (((S.D k).length : Nat) : Rat))) := by prim_of printPrim
theorem prim_lower (k : Nat) (st : PState) :
    printPrim S pts th "lower" [.str k] st = .ok (.atom (S.s ((S.D k).map asciiLower))) := by prim_of printPrim
theorem prim_concat (a b : Nat) (st : PState) :
    printPrim S pts th "concat" [.str a, .str b] st = .ok (.atom (S.s (S.D a ++ S.D b))) := by prim_of printPrim
theorem prim_join (l : List Atom) (ks : List Nat) (h : keysOfStrs l = some ks) (st : PState) :
    printPrim S pts th "join:," l st = .ok (.atom (S.s (joinComma (ks.map S.D)))) := by
  unfold printPrim
  rw [if_neg (by decide +kernel)]
  simp [h, pure, Except.pure]
theorem prim_isdt (a : Atom) (st : PState) :
    printPrim S pts th "isinstance:datetime" [a] st = .ok (.atom (.bool (isTimeA a))) := by
  prim_of printPrim
theorem prim_strftime (t : Time) (st : PState) :
    printPrim S pts th "strftime:%d.%m.%Y %H:%M" [.time t] st = .ok (.atom (S.s (S.fmt t))) := by prim_of printPrim

variable {S}

theorem prim_concat' (hS : S.OK) (x y : Str) (st : PState) :
    printPrim S pts th "concat" [S.s x, S.s y] st = .ok (.atom (S.s (x ++ y))) := by
  simp only [Lib.s, prim_concat, hS x, hS y]
theorem prim_strlen' (hS : S.OK) (x : Str) (st : PState) :
    printPrim S pts th "strlen" [S.s x] st = .ok (.atom (.num ((x.length : Nat) : Rat))) := by
  simp only [Lib.s, prim_strlen, hS x]
theorem prim_lower' (hS : S.OK) (x : Str) (st : PState) :
    printPrim S pts th "lower" [S.s x] st = .ok (.atom (S.s (x.map asciiLower))) := by
  simp only [Lib.s, prim_lower, hS x]
theorem prim_getattr' (hS : S.OK) (t : Nat) (x : Str) (st : PState) :
    printPrim S pts th "__getattribute__" [.ref t, S.s x] st =
      (match lookupA (pts t).dict x with
       | some v => .ok (.atom v)
       | none => .error (.crash .attribute)) := by
  simp only [Lib.s, prim_getattr, hS x]

theorem keysOfStrs_map (l : List Str) : keysOfStrs (l.map S.s) = some (l.map S.I) := by
  induction l with
  | nil => rfl
  | cons a l ih => simp [keysOfStrs, Lib.s, ih]

theorem prim_join' (hS : S.OK) (l : List Str) (st : PState) :
    printPrim S pts th "join:," (l.map S.s) st = .ok (.atom (S.s (joinComma l))) := by
  rw [prim_join S pts th _ _ (keysOfStrs_map l)]
  congr 4
  rw [List.map_map]
  conv => rhs; rw [← List.map_id l]
  apply List.map_congr_left
  intro a _
  exact hS a

attribute [pylite_step] Hp_prim lit_preds lit_succs lit_parent lit_id lit_estimate lit_spent
  prim_empty prim_name prim_id prim_wbs prim_parent prim_children prim_preds prim_succs prim_estimate prim_spent prim_dict
  prim_str prim_isdt prim_strftime

/-! ### `__get_linked_task_id` -/

theorem pf_linked : printFuns fn_get_linked_task_id = some (src_get_linked_task_id_params, src_get_linked_task_id) := rfl

theorem linked_id_spec (hS : S.OK) (F t : Nat) (l : Option Nat) (st : PState) :
    (Hp S pts th (F + 1)).fnV fn_get_linked_task_id [.atom (.ref t), .atom (optRefA l)] st =
      .ok (.atom (S.s (match l with | none => [] | some l => linkedId (tsOf S pts) t l)), st) := by
  rw [pfnV_succ _ _ _ _ _ _ _ pf_linked]
  cases l with
  | none => simp [pylite_step, src_get_linked_task_id_params, src_get_linked_task_id, optRefA]
  | some l =>
    have ho : optRefA (some l) = Atom.ref l := rfl
    rw [ho]
    cases hr : (pts l).id.pyEq S.emptyId
    · by_cases hw : (pts l).wbs = (pts t).wbs <;>
        simp [pylite_step, src_get_linked_task_id_params, src_get_linked_task_id, hr, linkedId, toPTask, pyEq_optRefA, hw,
          prim_concat' pts th hS, text_s hS]
    · simp [pylite_step, src_get_linked_task_id_params, src_get_linked_task_id, hr, linkedId, toPTask]

/-! ### `__get_linked_tasks_id` -/

theorem pf_linkeds : printFuns fn_get_linked_tasks_id = some (src_get_linked_tasks_id_params, src_get_linked_tasks_id) := rfl

def ltLoop : Stmt := match src_get_linked_tasks_id with | [_, l, _] => l | _ => .pass
def ltBody : List Stmt := match ltLoop with | .forIn _ _ b => b | _ => []
theorem lt_shape : src_get_linked_tasks_id = [.assign "res" .listNil, ltLoop, .ret (.prim "join:," (.var "res"))] := rfl
theorem ltLoop_eq : ltLoop = .forIn "t" (.var "linked_tasks") ltBody := rfl

theorem linked_ids_spec (hS : S.OK) (F t : Nat) (ls : List Nat) (st : PState) :
    (Hp S pts th (F + 2)).fnV fn_get_linked_tasks_id [.atom (.ref t), refsA ls] st =
      .ok (.atom (S.s (joinComma (ls.map (linkedId (tsOf S pts) t)))), st) := by
  rw [pfnV_succ _ _ _ _ _ _ _ pf_linkeds]
  refine (Upd.forIn_le (pl := inLocal "res" .list) (bs := [("task", .atom (.ref t)), ("linked_tasks", refsA ls)]) Atom.ref
    (fun l a => a ++ [S.s (linkedId (tsOf S pts) t l)]) ls "t" (.var "linked_tasks") ltBody (inLocal_set (by decide))
    (fun ρ st h => by simp [pylite_step, h.get "linked_tasks", refsA])
    fun c _ => Upd.of_set (fun ρ v h => h.set_ne "res" v) fun ρ a st hρ ha => by
      have hcall := linked_id_spec pts th hS F t (some c) st
      simp only [optRefA] at hcall
      simp [pylite_step, ltBody, ltLoop, src_get_linked_tasks_id, ha, hρ.get "t", hρ.get "task", hcall]).returns
    (pre := [.assign "res" .listNil]) (a := []) (ρ1 := Env.set [("task", .atom (.ref t)), ("linked_tasks", refsA ls)] "res" (.list []))
    rfl (by simp [pylite_step]) ((Env.le.refl _).set_ne "res" _)
    (by simp [Pj.TaskSrc.Env.get?_set]) fun ρ _ ha => ?_
  have hj := prim_join' pts th hS (ls.map (linkedId (tsOf S pts) t)) st
  rw [List.map_map, Function.comp_def] at hj
  rw [foldl_snoc, ← List.map_eq_flatMap, List.nil_append] at ha
  simp [pylite_step, ha, hj]

def cellText (S : Lib) (v : Atom) : Str := match valText S v with | some s => s | none => ['-']

theorem cellText_str {v : Atom} (hn : v ≠ .none) (ht : isTimeA v = false) : cellText S v = S.text v := by
  cases v <;> simp_all [cellText, valText, isTimeA]

theorem find?_map_val (S : Lib) (d : List (Str × Atom)) (x : Str) :
    List.find? (fun p => p.1 == x) (d.map (fun kv => (kv.1, valText S kv.2))) =
      (d.find? (fun p => p.1 == x)).map (fun kv => (kv.1, valText S kv.2)) := by
  induction d with
  | nil => rfl
  | cons p d ih =>
    simp only [List.map_cons, List.find?_cons]
    cases p.1 == x <;> simp [ih]

/-! ### `__get_field_value` -/

theorem pf_field : printFuns fn_get_field_value = some (src_get_field_value_params, src_get_field_value) := rfl

def stdFields : List Str := ["predecessors", "successors", "parent", "id", "estimate", "spent"].map String.toList

theorem optText_none {a : Atom} (h : a = .none) : optText S a = none := by simp [optText, h]
theorem optText_some {a : Atom} (h : a ≠ .none) : optText S a = some (S.text a) := by simp [optText, h]

theorem fieldValue_dict (t : Nat) (field : Str) (hf : field ∉ stdFields) :
    fieldValue (tsOf S pts) t field =
      match (match lookupA (pts t).dict field with
             | some v => some v
             | none => lookupA (pts t).dict (field.map asciiLower)) with
      | none => []
      | some v => cellText S v := by
  simp only [stdFields, List.map_cons, List.map_nil, List.mem_cons, List.not_mem_nil, or_false, not_or] at hf
  simp only [fieldValue, toPTask, beq_iff_eq, hf, if_false, find?_map_val, lookupA, cellText]
  cases (pts t).dict.find? (fun p => p.1 == field) with
  | some p => simp only [Option.map_some]; cases valText S p.2 <;> rfl
  | none =>
    cases (pts t).dict.find? (fun p => p.1 == field.map asciiLower) with
    | some p => simp only [Option.map_some, Option.map_none]; cases valText S p.2 <;> rfl
    | none => simp

def fvHead : List Stmt := src_get_field_value.take 6
def fvLook : Stmt := match src_get_field_value.drop 6 with | s :: _ => s | _ => .pass
def fvVal : List Stmt := src_get_field_value.drop 7
theorem fv_shape : src_get_field_value = fvHead ++ (fvLook :: fvVal) := rfl

def FvEnv (S : Lib) (ρ : PyLite.Env) (t : Nat) (x : Str) : Prop :=
  ρ.get? "t" = some (.atom (.ref t)) ∧ ρ.get? "field" = some (.atom (S.s x))

theorem fvTest_cons (hS : S.OK) (F : Nat) (name : String) (x field : Str) (e : Expr) (rest : List Stmt)
    (ρ : PyLite.Env) (st : PState) (hlit : printPrim S pts th name [] st = .ok (.atom (S.s x)))
    (hfd : ρ.get? "field" = some (.atom (S.s field))) :
    execBlockP (Hp S pts th F) [] noRec (.ifElse (.cmp .eq (.var "field") (.prim name .listNil)) [.ret e] [] :: rest) ρ st =
      if field = x then (Stmt.ret e).execP (Hp S pts th F) [] noRec ρ st
      else execBlockP (Hp S pts th F) [] noRec rest ρ st := by
  by_cases h : field = x
  · simp [pylite_step, hfd, hlit, pyEq_s hS, h]
    rcases e.evalP (Hp S pts th F) [] ρ st with _ | ⟨v, st'⟩ <;> rfl
  · simp [pylite_step, hfd, hlit, pyEq_s hS, h]

/-- `return '[' + __get_linked_tasks_id(t, t.<p>) + ']'` -/
theorem fvLinks_ret (hS : S.OK) (F t : Nat) (p : String) (ls : List Nat) (ρ : PyLite.Env) (st : PState)
    (ht : ρ.get? "t" = some (.atom (.ref t))) (hp : printPrim S pts th p [.ref t] st = .ok (refsA ls)) :
    (Stmt.ret (.prim "concat" (.listCons (.prim "concat" (.listCons (.prim "lit:[" .listNil) (.listCons
        (.callFn fn_get_linked_tasks_id (.listCons (.var "t") (.listCons (.prim p (.listCons (.var "t") .listNil)) .listNil)))
        .listNil))) (.listCons (.prim "lit:]" .listNil) .listNil)))).execP (Hp S pts th (F + 2)) [] noRec ρ st =
      .ret (.atom (S.s ('[' :: joinComma (ls.map (linkedId (tsOf S pts) t)) ++ [']']))) st := by
  simp [pylite_step, ht, hp, linked_ids_spec pts th hS F t ls st, prim_concat' pts th hS]

/-- `return '-' if t.<p> is None else str(t.<p>)` -/
theorem fvOpt_ret (F t : Nat) (p : String) (a : Atom) (ρ : PyLite.Env) (st : PState)
    (ht : ρ.get? "t" = some (.atom (.ref t))) (hp : printPrim S pts th p [.ref t] st = .ok (.atom a)) :
    (Stmt.ret (.ite (.isNone (.prim p (.listCons (.var "t") .listNil))) (.prim "lit:-" .listNil)
        (.prim "str" (.listCons (.prim p (.listCons (.var "t") .listNil)) .listNil)))).execP (Hp S pts th F) [] noRec ρ st =
      .ret (.atom (S.s (match optText S a with | some e => e | none => ['-']))) st := by
  by_cases he : a = .none <;> simp [pylite_step, ht, hp, he, optText]

theorem fvHead_exec (hS : S.OK) (F t : Nat) (field : Str) (ρ : PyLite.Env) (st : PState) (hρ : FvEnv S ρ t field) :
    execBlockP (Hp S pts th (F + 2)) [] noRec fvHead ρ st =
      if field ∈ stdFields then .ret (.atom (S.s (fieldValue (tsOf S pts) t field))) st else .normal ρ st := by
  obtain ⟨ht, hfd⟩ := hρ
  simp only [fvHead, src_get_field_value, List.take, execBlockP_nil,
    fvTest_cons pts th hS _ _ _ _ _ _ _ _ (lit_preds S pts th st) hfd,
    fvTest_cons pts th hS _ _ _ _ _ _ _ _ (lit_succs S pts th st) hfd,
    fvTest_cons pts th hS _ _ _ _ _ _ _ _ (lit_parent S pts th st) hfd,
    fvTest_cons pts th hS _ _ _ _ _ _ _ _ (lit_id S pts th st) hfd,
    fvTest_cons pts th hS _ _ _ _ _ _ _ _ (lit_estimate S pts th st) hfd,
    fvTest_cons pts th hS _ _ _ _ _ _ _ _ (lit_spent S pts th st) hfd]
  by_cases hf : field ∈ stdFields
  · rw [if_pos hf]
    simp only [stdFields, List.map_cons, List.map_nil, List.mem_cons, List.not_mem_nil, or_false] at hf
    rcases hf with rfl | rfl | rfl | rfl | rfl | rfl <;>
      simp only [fieldValue, toPTask, beq_iff_eq, String.toList_inj, String.reduceEq, if_false, if_true]
    · exact fvLinks_ret pts th hS F t _ _ ρ st ht (prim_preds S pts th t st)
    · exact fvLinks_ret pts th hS F t _ _ ρ st ht (prim_succs S pts th t st)
    · have h3 := linked_id_spec pts th hS (F + 1) t (pts t).parent st
      cases hp : (pts t).parent <;> (rw [hp] at h3; simp [pylite_step, ht, h3, hp])
    · simp [pylite_step, ht]
    · exact fvOpt_ret pts th _ t _ _ ρ st ht (prim_estimate S pts th t st)
    · exact fvOpt_ret pts th _ t _ _ ρ st ht (prim_spent S pts th t st)
  · rw [if_neg hf]
    simp only [stdFields, List.map_cons, List.map_nil, List.mem_cons, List.not_mem_nil, or_false, not_or] at hf
    simp only [hf, if_false]

theorem fvLook_exec (hS : S.OK) (F t : Nat) (x : Str) (ρ : PyLite.Env) (st : PState) (hρ : FvEnv S ρ t x) :
    fvLook.execP (Hp S pts th F) [] noRec ρ st =
      if (lookupA (pts t).dict x).isSome then .normal ρ st
      else if (lookupA (pts t).dict (x.map asciiLower)).isSome then .normal (ρ.set "field" (.atom (S.s (x.map asciiLower)))) st
      else .ret (.atom (S.s [])) st := by
  obtain ⟨ht, hfd⟩ := hρ
  cases hv : (lookupA (pts t).dict x).isSome
  · cases hl : (lookupA (pts t).dict (x.map asciiLower)).isSome <;>
      simp [pylite_step, fvLook, src_get_field_value, hfd, ht, any_dict hS, hv, hl, prim_lower' pts th hS]
  · simp [pylite_step, fvLook, src_get_field_value, hfd, ht, any_dict hS, hv]

theorem fvVal_spec (hS : S.OK) (F t : Nat) (x : Str) (v : Atom) (ρ : PyLite.Env) (st : PState)
    (hρ : FvEnv S ρ t x) (hv : lookupA (pts t).dict x = some v) :
    execBlockP (Hp S pts th F) [] noRec fvVal ρ st = .ret (.atom (S.s (cellText S v))) st := by
  obtain ⟨ht, hfd⟩ := hρ
  have hg := prim_getattr' pts th hS t x st
  rw [hv] at hg
  by_cases hn : v = .none
  · subst hn
    simp [pylite_step, fvVal, src_get_field_value, hfd, ht, hg, cellText, valText, isTimeA]
  · cases htm : isTimeA v
    · simp [pylite_step, fvVal, src_get_field_value, hfd, ht, hg, cellText_str hn htm, htm, hn]
    · obtain ⟨d, rfl⟩ : ∃ d, v = .time d := by cases v <;> simp_all [isTimeA]
      simp [pylite_step, fvVal, src_get_field_value, hfd, ht, hg, cellText, valText, isTimeA]

theorem FvEnv_set (ρ : PyLite.Env) (t : Nat) (x y : Str) (h : FvEnv S ρ t x) :
    FvEnv S (ρ.set "field" (.atom (S.s y))) t y := by
  obtain ⟨ht, hfd⟩ := h
  constructor <;> simp [Pj.TaskSrc.Env.get?_set, ht]

theorem field_value_spec (hS : S.OK) (F t : Nat) (field : Str) (st : PState) :
    (Hp S pts th (F + 3)).fnV fn_get_field_value [.atom (.ref t), .atom (S.s field)] st =
      .ok (.atom (S.s (fieldValue (tsOf S pts) t field)), st) := by
  rw [pfnV_succ _ _ _ _ _ _ _ pf_field, callPV_eq]
  have hb : bindParamsV src_get_field_value_params [.atom (.ref t), .atom (S.s field)] =
      .ok [("t", .atom (.ref t)), ("field", .atom (S.s field))] := rfl
  have hρ : FvEnv S [("t", .atom (.ref t)), ("field", .atom (S.s field))] t field := by
    constructor <;> simp [Pj.TaskSrc.Env.get?_cons]
  rw [hb]
  simp only [fv_shape, execBlockP_append, fvHead_exec pts th hS F t field _ st hρ]
  by_cases hf : field ∈ stdFields
  · simp only [if_pos hf]
  · simp only [if_neg hf, fieldValue_dict pts t field hf, execBlockP_cons, fvLook_exec pts th hS (F + 2) t field _ st hρ]
    cases h1 : lookupA (pts t).dict field with
    | some v => simp only [Option.isSome_some, if_true, fvVal_spec pts th hS (F + 2) t field v _ st hρ h1]
    | none =>
      cases h2 : lookupA (pts t).dict (field.map asciiLower) with
      | some v =>
        simp only [Option.isSome_none, Option.isSome_some, if_true, Bool.false_eq_true, if_false,
          fvVal_spec pts th hS (F + 2) t _ v _ st (FvEnv_set _ t field _ hρ) h2]
      | none => simp only [Option.isSome_none, Bool.false_eq_true, if_false]

theorem field_value_std (hS : S.OK) (F t : Nat) (field : Str) (hf : field ∈ stdFields) (st : PState) :
    (Hp S pts th (F + 3)).fnV fn_get_field_value [.atom (.ref t), .atom (S.s field)] st =
      .ok (.atom (S.s (fieldValue (tsOf S pts) t field)), st) :=
  field_value_spec pts th hS F t field st

theorem interp_eq {n F k : Nat} {args : List Val} {st : PState} {r : Res (Val × PState)} (hF : n ≤ F)
    (h : ∀ F', (Hp S pts th (F' + n)).fnV k args st = r) : interp S pts th F k args st = r :=
  Pj.TaskSrc.runProg_of_le hF h

theorem interpFieldValue_eq_all (hS : S.OK) (F t : Nat) (field : Str) (hF : 3 ≤ F) :
    interpFieldValue S pts F t field = .ok (.atom (S.s (fieldValue (tsOf S pts) t field))) := by
  rw [interpFieldValue, interp_eq pts noTheme hF fun F => field_value_spec pts noTheme hS F t field st0]; rfl

theorem interpFieldValue_eq (hS : S.OK) (F t : Nat) (field : Str) (hf : field ∈ stdFields) (hF : 3 ≤ F) :
    interpFieldValue S pts F t field = .ok (.atom (S.s (fieldValue (tsOf S pts) t field))) :=
  interpFieldValue_eq_all pts hS F t field hF

theorem interpLinkedId_eq (hS : S.OK) (F t : Nat) (l : Option Nat) (hF : 1 ≤ F) :
    interpLinkedId S pts F t l = .ok (.atom (S.s (match l with | none => [] | some l => linkedId (tsOf S pts) t l))) := by
  rw [interpLinkedId, interp_eq pts noTheme hF fun F => linked_id_spec pts noTheme hS F t l st0]; rfl

theorem interpLinkedIds_eq (hS : S.OK) (F t : Nat) (ls : List Nat) (hF : 2 ≤ F) :
    interpLinkedIds S pts F t ls = .ok (.atom (S.s (joinComma (ls.map (linkedId (tsOf S pts) t))))) := by
  rw [interpLinkedIds, interp_eq pts noTheme hF fun F => linked_ids_spec pts noTheme hS F t ls st0]; rfl

/-
  The theorems hold for every string library `S` with `S.OK`, every task description `pts`, theme, state and enough fuel.
  Concrete runs beside them (PrintSrcCheckB.lean, on the WBS of PrintSrcCheck.lean: instances of the theorems through
  PrintSrcRuns.lean, the model evaluated where a run is compared with a literal text; WBS `w1`: nested tasks, a hidden root, None
  names, links inside / outside the WBS and to a task without WBS, an id that is a str, custom attributes (str, number, None,
  datetime, upper-case key), unknown / differently-cased / empty field names, a `print_color` (str and None), three themes (too
  few level colours, no level colours, header colour missing / None)):
    stage 1  `__get_field_value` = `fieldValue` (7 tasks x 17 fields), `linkedId` (7 x 7)
    stage 2  `__calc_max_title_len` = `titleLen`, `__max_field_len` = `maxFieldLen` (specifications of Lemmas/PrintSrc.lean)
    stage 3  the log of `__print_task_subtree` = `logOfRows (subtreeRows …)` appended to the log so far; `repr`: the log =
             header row + rows of `sheet`, the value = `sheet` (primitive "text_repr" = `render ∘ rowsOfLog`),
             `rowsOfLog (logOfRows rows) = rows`.
  Not done: stage 4 (`TextTable` / `colored_text` are the primitive "text_repr").
  Disagreements between the model and the translated source inside the model's domain: none found.

  NEGATIVE CHECK (scratch copies of task.py, translated by tools/extract_print.py; the statements of the four families of
  checks of PrintSrcCheckB.lean evaluated on the mutant program: fv = field values, tl = title length, mf = max field length,
  sub = rows of a subtree.  In the build those checks are instances of `field_value_spec`, `title_len_spec`,
  `max_field_len_spec`, `subtree_spec`, whose proofs are about the unmutated term: on a mutant the theorem of the family
  fails first.  MISS = the translator refuses the edited source (it leaves the translatable fragment), which the check
  reports as a broken tie):
    the external marker dropped                     fv, mf, sub FAIL        the marker keyed on `id` instead of `wbs`   fv, mf, sub FAIL
    `field.lower()` dropped                         fv, sub FAIL            '' instead of '-' for a None value          fv FAIL
    indentation by 2 blanks (rows)                  sub FAIL                indentation by 2 blanks (title length)      tl FAIL
    `max_len = len(field)` (no `+ 1`)               mf FAIL                 level colour index off by one               sub FAIL
    children printed when `children=False`          sub FAIL                row order reversed (`reversed(children)`)   MISS
    de-duplication of linked ids (`set(…)`)         MISS
  (the first two and `lower` / '-' break `linked_id_spec` / `fvHead_exec` / `fvLook_exec` / `fvVal_spec`.)
  Harmless rewrites that still pass all four families: the conditional expression of `estimate` written the other way round
  (`str(e) if e is not None else '-'`), `name_len = 0 if task.name is None else len(task.name)`, the local `res` renamed (the
  last one changes the term: `lt_shape` and `linked_ids_spec` name the local and have to be re-stated).
-/

end Pj.PrintSrc

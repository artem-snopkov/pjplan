/-
  Lemmas/FacadeSrcCheckB.lean — stage 2 of the translated tie for the list facades of task.py: concrete
  runs of `_ChildrenList.move` and `_ChildrenList.reorder` (Extracted/FacadeSrc.lean) against `chMove` / `chReorder`
  (Model/GraphOps.lean).  See Lemmas/FacadeSrcCheck.lean / Lemmas/FacadeSrc.lean.
-/
import PjVerif.Lemmas.FacadeSrcCheck
import PjVerif.Lemmas.FacadeSrcRuns
namespace Pj.FacadeSrc
open Pj.PyLite Pj.Extracted Pj.Extracted.Facade Pj.TaskSrc Pj.TaskSrc.Check
namespace Check

/-- a detached task 0 with the children 1 … 5 (3 and 5 share their id), and a stranger 6 -/
def g6 : G := mk [
  { tid := 100, children := [1, 2, 3, 4, 5] },
  { tid := 10, parent := some 0 },
  { tid := 20, parent := some 0 },
  { tid := 30, parent := some 0 },
  { tid := 40, parent := some 0 },
  { tid := 30, parent := some 0 },
  { tid := 60 }]

/-- NOT well formed: the children list of 0 names 1 twice -/
def g7 : G := mk [
  { tid := 100, children := [1, 2, 1, 3] },
  { tid := 10, parent := some 0 },
  { tid := 20, parent := some 0 },
  { tid := 30, parent := some 0 }]

/-! #### `h.children.move(v, before=b, after=a)` = `chMove` -/

def agreeMove (s : G) (h : Uid) (v : Val) (ts : List Uid) (b a : Option Uid) : Prop :=
  runE s (interpChMove FF h v b a) = expectR s.n noneV (chMove s h ts b a)
instance (s h v ts b a) : Decidable (agreeMove s h v ts b a) := by unfold agreeMove; infer_instance

def anchors (s : G) : List (Option Uid) := none :: (List.range s.n).map some

/-- every owner, one task / two tasks / a repeated task / no task, every `before` and every `after` (also both, also none) -/
def moveAgree (s : G) : Bool :=
  allU s (fun h => allU s (fun t => (anchors s).all (fun x =>
    decide (agreeMove s h (refV t) [t] x none) && decide (agreeMove s h (refs [t, 4]) [t, 4] none x) &&
    decide (agreeMove s h (refs [t, 2, t]) [t, 2, t] x none) && decide (agreeMove s h (refs [t]) [t] x (some 2)))))

-- `move` has no proviso: every run is `interpChMove_eq`, on every graph (`moveAgree g6`, `moveAgree g7`:
-- FacadeSrcCheckR.lean)
example : allU g2 (fun h => allU g2 (fun t => (anchors g2).all (fun x =>
    decide (agreeMove g2 h (refV t) [t] x none) && decide (agreeMove g2 h (refV t) [t] none x)))) = true :=
  allU_intro fun h => allU_intro fun t => all_intro fun x => and_intro
    (decide_eq_true (move_run g2 h (valueOf_task t) x none)) (decide_eq_true (move_run g2 h (valueOf_task t) none x))
example : (chMove g6 0 [4] (some 1) none).2 = none ∧ (chMove g6 0 [4] (some 1) none).1.children 0 = [4, 1, 2, 3, 5] := by
  decide +kernel                                                               -- before, not after
example : (chMove g6 0 [1] none (some 4)).2 = none ∧ (chMove g6 0 [1] none (some 4)).1.children 0 = [2, 3, 4, 1, 5] := by
  decide +kernel
example : (chMove g6 0 [1, 2] none (some 5)).2 = none ∧
    (chMove g6 0 [1, 2] none (some 5)).1.children 0 = [3, 4, 5, 2, 1] := by decide +kernel
example : (chMove g6 0 [5, 4] (some 2) none).2 = none ∧
    (chMove g6 0 [5, 4] (some 2) none).1.children 0 = [1, 5, 4, 2, 3] := by decide +kernel
example : (chMove g6 0 [6] (some 1) none).2 = some .runtime ∧ (chMove g6 0 [1] (some 6) none).2 = some .runtime ∧
    (chMove g6 0 [1] (some 1) none).2 = some .runtime ∧ (chMove g6 0 [1] (some 2) (some 3)).2 = some .runtime ∧
    (chMove g6 0 [1] none none).2 = some .runtime := by decide +kernel
example : agreeMove g6 0 noneV [] (some 1) none ∧ agreeMove g6 0 (.list [.ref 3, .none, .ref 1]) [3, 1] none (some 5) :=
  ⟨move_run g6 0 valueOf_none _ _, move_run g6 0 (valueOf_list [some 3, none, some 1]) _ _⟩

/-! #### `h.children.reorder(ids)` = `chReorder`: StopIteration for an unknown id, ValueError for a repeated one -/

def agreeReorder (s : G) (h : Uid) (ids : List Int) : Prop :=
  runE s (interpChReorder FF h ids) = expectR s.n noneV (chReorder s h ids)
instance (s h ids) : Decidable (agreeReorder s h ids) := by unfold agreeReorder; infer_instance

def reorderAgree (s : G) (idss : List (List Int)) : Bool :=
  allU s (fun h => idss.all (fun ids => decide (agreeReorder s h ids)))

-- `reorder` has no proviso: every run is `interpChReorder_eq`, on every graph
example : reorderAgree g6 [[], [40], [40, 10], [30, 30], [30, 30, 30], [20, 77], [10, 10], [40, 30, 20, 10, 30]] = true :=
  allU_intro fun h => all_intro fun ids => decide_eq_true (reorder_run g6 h ids)
example : reorderAgree g7 [[], [10], [10, 10], [10, 10, 10], [30, 20]] = true :=
  allU_intro fun h => all_intro fun ids => decide_eq_true (reorder_run g7 h ids)
example : reorderAgree g1 [[], [30], [30, 10], [10, 10], [20]] = true :=
  allU_intro fun h => all_intro fun ids => decide_eq_true (reorder_run g1 h ids)
example : reorderAgree g2 [[], [3, 2], [6], [2, 2]] = true :=
  allU_intro fun h => all_intro fun ids => decide_eq_true (reorder_run g2 h ids)
example : (chReorder g6 0 [40, 10]).2 = none ∧ (chReorder g6 0 [40, 10]).1.children 0 = [4, 1, 2, 3, 5] := by decide +kernel
/-- two children share the id 30: the id always finds the FIRST of them, so naming it twice is a ValueError -/
example : (chReorder g6 0 [30]).1.children 0 = [3, 1, 2, 4, 5] ∧ (chReorder g6 0 [30, 30]).2 = some (.crash .value) := by
  decide +kernel
example : (chReorder g6 0 [20, 77]).2 = some (.crash .stopIteration) := by decide +kernel
/-- on the list that names 1 twice the second `10` removes the second entry: no error -/
example : (chReorder g7 0 [10, 10]).2 = none ∧ (chReorder g7 0 [10, 10]).1.children 0 = [1, 1, 2, 3] := by decide +kernel

end Check
end Pj.FacadeSrc

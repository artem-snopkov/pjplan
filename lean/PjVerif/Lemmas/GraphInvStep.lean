/-
  Lemmas/GraphInvStep.lean — every operation preserves the full invariant; which errors are possible; which
  operations are atomic.  What a call on a reachable state guarantees (`Kept`: the state it leaves is reachable, a
  rejection is a RuntimeError that has touched nothing) holds for the four setters and, since on legal arguments every
  operation that is not list-level is one call (`Call`, Lemmas/GraphPerm.lean) on ordinary tasks of the universe, for
  `step` (`step_kept`).  A state given as a table is reachable, hence satisfies `Inv`, when a legal history replays to it
  (evaluated for the tables of the concrete runs).
-/
import PjVerif.Lemmas.GraphInv
namespace Pj

/-- the list-level operations that can raise after earlier elements have been changed (known finding G12: not atomic);
    the other two (`remove_all` on a list or a WBS) never raise -/
def Op.elementwise : Op → Bool
  | .listLshift _ _ => true
  | .listRshift _ _ => true
  | .listSetParent _ _ => true
  | _ => false

/-! ### congruence: `OwnerOK` and `UniqueIds` only read parent / owner / tid -/

theorem par_eq_of_parent_eq {s s' : G} (hp : s'.parent = s.parent) : par s' = par s := by
  funext a b; simp only [par, hp]

theorem OwnerOK_of_fields_eq {s s' : G} (hp : s'.parent = s.parent) (ho : s'.owner = s.owner) (ht : s'.tid = s.tid)
    (h : OwnerOK s) : OwnerOK s' := by
  have hh : ∀ u, s'.hidden u = s.hidden u := hidden_of_tid s s' ht
  constructor
  · intro t p; rw [hp, ho]; exact h.inherit t p
  · intro r; rw [hh, ho]; exact h.root r
  · intro t; rw [hp, hh, ho]; exact h.free t
  · intro t w; rw [ho, hh]; exact h.isRoot t w

theorem UniqueIds_of_fields_eq {s s' : G} (hp : s'.parent = s.parent) (ht : s'.tid = s.tid)
    (h : UniqueIds s) : UniqueIds s' := by
  have hh : ∀ u, s'.hidden u = s.hidden u := hidden_of_tid s s' ht
  intro a b hab ha hb hst
  rw [hh] at ha hb
  rw [ht]
  refine h a b hab ha hb ?_
  unfold SameTree at hst ⊢
  rw [par_eq_of_parent_eq hp] at hst
  exact hst

theorem setPreds_result (s : G) (t : Uid) (l : List Uid) :
    (∃ e, chkLinks s s.preds t l = some e ∧ setPreds s t l = (s, some e)) ∨ setPreds s t l = (mutPreds s t l, none) := by
  unfold setPreds
  split
  · rename_i e hc; exact Or.inl ⟨e, hc, rfl⟩
  · exact Or.inr rfl

theorem setPreds_hier (s : G) (t : Uid) (l : List Uid) :
    (setPreds s t l).1.parent = s.parent ∧ (setPreds s t l).1.children = s.children ∧
    (setPreds s t l).1.owner = s.owner := by
  rcases setPreds_result s t l with ⟨_, _, h⟩ | h <;> rw [h] <;> exact ⟨rfl, rfl, rfl⟩

theorem setSuccs_hier (s : G) (t : Uid) (l : List Uid) :
    (setSuccs s t l).1.parent = s.parent ∧ (setSuccs s t l).1.children = s.children ∧
    (setSuccs s t l).1.owner = s.owner := by
  rw [setSuccs_eq_rev]
  exact setPreds_hier s.rev t l

theorem Inv.rev {s : G} (hi : Inv s) : Inv s.rev :=
  ⟨hi.wf.rev, ⟨hi.own.inherit, hi.own.root, hi.own.free, hi.own.isRoot⟩, hi.ids, hi.bnd.rev⟩

theorem permChildren_Inv (s : G) (h : Uid) (l : List Uid) (hi : Inv s) (hp : l.Perm (s.children h)) :
    Inv { s with children := upd s.children h l } :=
  ⟨permChildren_WF s h l hi.wf hp, OwnerOK_of_fields_eq (s := s) rfl rfl rfl hi.own,
    UniqueIds_of_fields_eq (s := s) rfl rfl hi.ids, permChildren_Bounded s h l hi.bnd hp⟩

theorem legal_of_same (s s' : G) (op : Op) (hn : s'.n = s.n) (ht : s'.tid = s.tid) (hl : op.legal s) :
    op.legal s' := by
  refine ⟨?_, visible_of_tid s s' ht op hl.visible, ?_⟩
  · intro u hu; rw [hn]; exact hl.inRange u hu
  · intro w t h; rw [hidden_of_tid s s' ht]; exact hl.wbs w t h

theorem children_ok (s : G) (hi : Inv s) (h v : Uid) (hv : v ∈ s.children h) : s.hidden v = false ∧ v < s.n :=
  ⟨child_not_hidden s hi.wf h v hv, (hi.bnd.children h v hv).2⟩

theorem preds_ok (s : G) (hi : Inv s) (t v : Uid) (hv : v ∈ s.preds t) : s.hidden v = false ∧ v < s.n :=
  ⟨pred_not_hidden s hi.wf t v hv, (hi.bnd.preds t v hv).2⟩

theorem succs_ok (s : G) (hi : Inv s) (t v : Uid) (hv : v ∈ s.succs t) : s.hidden v = false ∧ v < s.n :=
  ⟨succ_not_hidden s hi.wf t v hv, (hi.bnd.succs t v hv).2⟩

theorem ite_runtime {c : Prop} [Decidable c] {e : Err} (h : (if c then some Err.runtime else none) = some e) :
    e = .runtime := by
  split at h
  · exact (Option.some.inj h).symm
  · cases h

theorem chkParentSome_err (s : G) (t p : Uid) (hi : Inv s) (e : Err) (h : chkParentSome s t p = some e) :
    e = .runtime := by
  obtain ⟨b, hb⟩ := hasIdIntersection_total s hi.wf hi.bnd p [t]
  obtain ⟨desc, hdesc⟩ := descF_children_total s hi.wf hi.bnd t
  obtain ⟨anc, hanc⟩ := ancF_parent_total s hi.wf hi.bnd p
  unfold chkParentSome at h
  simp only [hb, hdesc, hanc] at h
  split at h
  · rename_i c1 e' hc1
    cases h
    split at hc1
    · split at hc1
      · cases b
        · cases hc1
        · cases hc1; rfl
      · cases hc1
    · exact ite_runtime hc1
  · split at h
    · cases h; rfl
    · exact ite_runtime h

theorem chkChildren_err (s : G) (h : Uid) (l : List Uid) (hi : Inv s) (e : Err) (hc : chkChildren s h l = some e) :
    e = .runtime := by
  obtain ⟨b, hb⟩ := hasIdIntersection_total s hi.wf hi.bnd h l
  obtain ⟨anc, hanc⟩ := ancF_parent_total s hi.wf hi.bnd h
  rw [chkChildren_eq] at hc
  simp only [hb, hanc] at hc
  split at hc
  · rename_i e' hc1
    cases hc
    unfold chkC1 at hc1
    split at hc1 <;> exact ite_runtime hc1
  · cases b
    case true => cases hc; rfl
    case false =>
      obtain ⟨ch, _, hch⟩ := List.exists_of_findSome?_eq_some hc
      obtain ⟨desc, hdesc⟩ := descF_children_total s hi.wf hi.bnd ch
      simp only [hdesc] at hch
      split at hch
      · cases hch; rfl
      · exact ite_runtime hch

theorem chkLinks_err (s : G) (next : Uid → List Uid) (hn : ∀ v, ∃ r, descF next s.fuel v = some r)
    (t : Uid) (l : List Uid) (hi : Inv s) (e : Err) (hc : chkLinks s next t l = some e) : e = .runtime := by
  obtain ⟨anc, hanc⟩ := ancF_parent_total s hi.wf hi.bnd t
  obtain ⟨desc, hdesc⟩ := descF_children_total s hi.wf hi.bnd t
  unfold chkLinks at hc
  simp only [hanc, hdesc] at hc
  split at hc
  · cases hc; rfl
  · obtain ⟨v, _, hv⟩ := List.exists_of_findSome?_eq_some hc
    obtain ⟨r, hr⟩ := hn v
    simp only [hr] at hv
    split at hv
    · cases hv; rfl
    · exact ite_runtime hv

/-- what a call on a reachable state guarantees: the state it leaves is reachable, and a rejection is a RuntimeError (or
    `Q`) that has touched nothing -/
structure Kept (Q : Prop) (s : G) (r : G × Option Err) : Prop where
  inv : Inv r.1
  err : ∀ e, r.2 = some e → (e = .runtime ∨ Q) ∧ r.1 = s

theorem Kept.accepted {Q : Prop} {s s' : G} (hi : Inv s') : Kept Q s (s', none) := ⟨hi, nofun⟩

theorem Kept.rejected {Q : Prop} {s : G} {e : Err} (hi : Inv s) (he : e = .runtime ∨ Q) : Kept Q s (s, some e) :=
  ⟨hi, fun _ h => by cases h; exact ⟨he, rfl⟩⟩

theorem Kept.rev {Q : Prop} {s : G} {r : G × Option Err} (k : Kept Q s.rev r) : Kept Q s (r.1.rev, r.2) :=
  ⟨k.inv.rev, fun e he => ⟨(k.err e he).1, congrArg G.rev (k.err e he).2⟩⟩

/-- the second way to reject, a subtree that cannot be enumerated, does not occur -/
theorem setParentSome_kept {Q : Prop} (s : G) (t p : Uid) (hi : Inv s) (ht : s.hidden t = false) (htn : t < s.n) (hpn : p < s.n) :
    Kept Q s (setParentSome s t p) := by
  have hi' := setParentSome_Inv s t p hi ht htn hpn
  rcases setParentSome_result s t p with ⟨e, h, hc | hsub⟩ | ⟨_, _, _, h⟩ <;> rw [h] at hi' ⊢
  · exact .rejected hi (Or.inl (chkParentSome_err s t p hi e hc))
  · obtain ⟨sub, hs⟩ := subtreeF_children_total s hi.wf hi.bnd t
    rw [hs] at hsub; cases hsub
  · exact .accepted hi'

theorem setParent_kept {Q : Prop} (s : G) (t : Uid) (p : Option Uid) (hi : Inv s) (ht : s.hidden t = false) (htn : t < s.n)
    (hpn : ∀ q, p = some q → q < s.n) : Kept Q s (setParent s t p) := by
  rcases setParent_cases s t p with ⟨q, hq, e⟩ | ⟨_, _, _, e, _⟩
  · rw [e]
    exact setParentSome_kept s t q hi ht htn (hq.elim (hpn q) (fun h => (hi.bnd.owner t q h.2).2))
  · have hi' := setParent_Inv s t p hi ht htn hpn
    rw [e] at hi' ⊢
    exact .accepted hi'

/-- a rejected children assignment is rejected by the up-front validation, i.e. before anything is touched -/
theorem setChildren_kept {Q : Prop} (s : G) (h : Uid) (l : List Uid) (hi : Inv s) (hv : ∀ v ∈ l, s.hidden v = false) (hh : h < s.n)
    (hl : ∀ v ∈ l, v < s.n) : Kept Q s (setChildren s h l) := by
  cases hc : chkChildren s h l with
  | some e =>
    rw [setChildren_of_rejected hc]
    exact .rejected hi (Or.inl (chkChildren_err s h l hi e hc))
  | none =>
    obtain ⟨s', e, hi', _⟩ := setChildren_exact s h l (Pre.of_chk s h l hi hv hh hl hc) hc
    rw [e]
    exact .accepted hi'

theorem setPreds_kept {Q : Prop} (s : G) (t : Uid) (l : List Uid) (hi : Inv s) (ht : s.hidden t = false)
    (hl : ∀ v ∈ l, s.hidden v = false) (htn : t < s.n) (hln : ∀ v ∈ l, v < s.n) : Kept Q s (setPreds s t l) := by
  obtain ⟨hp, _, ho⟩ := setPreds_hier s t l
  have htid := setPreds_tid s t l
  have hi' : Inv (setPreds s t l).1 :=
    ⟨setPreds_WF s t l hi.wf ht hl, OwnerOK_of_fields_eq hp ho htid hi.own, UniqueIds_of_fields_eq hp htid hi.ids,
      setPreds_Bounded s t l hi.bnd htn hln⟩
  rcases setPreds_result s t l with ⟨e, hc, h⟩ | h <;> rw [h] at hi' ⊢
  · exact .rejected hi (Or.inl (chkLinks_err s s.preds (descF_preds_total s hi.wf hi.bnd) t l hi e hc))
  · exact .accepted hi'

theorem setSuccs_kept {Q : Prop} (s : G) (t : Uid) (l : List Uid) (hi : Inv s) (ht : s.hidden t = false)
    (hl : ∀ v ∈ l, s.hidden v = false) (htn : t < s.n) (hln : ∀ v ∈ l, v < s.n) : Kept Q s (setSuccs s t l) := by
  rw [setSuccs_eq_rev]
  exact (setPreds_kept s.rev t l hi.rev ht hl htn hln).rev

theorem setChildren_Inv (s : G) (h : Uid) (l : List Uid) (hi : Inv s) (hv : ∀ v ∈ l, s.hidden v = false) (hh : h < s.n)
    (hl : ∀ v ∈ l, v < s.n) : Inv (setChildren s h l).1 :=
  (setChildren_kept (Q := False) s h l hi hv hh hl).inv

theorem setPreds_Inv (s : G) (t : Uid) (l : List Uid) (hi : Inv s) (ht : s.hidden t = false)
    (hl : ∀ v ∈ l, s.hidden v = false) (htn : t < s.n) (hln : ∀ v ∈ l, v < s.n) : Inv (setPreds s t l).1 :=
  (setPreds_kept (Q := False) s t l hi ht hl htn hln).inv

theorem setSuccs_Inv (s : G) (t : Uid) (l : List Uid) (hi : Inv s) (ht : s.hidden t = false)
    (hl : ∀ v ∈ l, s.hidden v = false) (htn : t < s.n) (hln : ∀ v ∈ l, v < s.n) : Inv (setSuccs s t l).1 :=
  (setSuccs_kept (Q := False) s t l hi ht hl htn hln).inv

/-- a call on ordinary tasks of the universe -/
abbrev ICall (Q : Prop) (s : G) : G × Option Err → Prop :=
  Call Q (fun u => s.hidden u = false ∧ u < s.n) (fun u => u < s.n) s

theorem Inv.stored {s : G} (hi : Inv s) : Stored (fun u => s.hidden u = false ∧ u < s.n) (fun u => u < s.n) s :=
  ⟨fun h v hv => ⟨children_ok s hi h v hv, (hi.bnd.children h v hv).1⟩, preds_ok s hi, succs_ok s hi⟩

theorem ICall.kept {Q : Prop} {s : G} {r : G × Option Err} (p : ICall Q s r) (hi : Inv s) : Kept Q s r := by
  cases p with
  | setParent t p ht hp => exact setParent_kept s t p hi ht.1 ht.2 hp
  | setChildren h l hh hl => exact setChildren_kept s h l hi (fun v hv => (hl v hv).1) hh (fun v hv => (hl v hv).2)
  | setPreds t l ht hl => exact setPreds_kept s t l hi ht.1 (fun v hv => (hl v hv).1) ht.2 (fun v hv => (hl v hv).2)
  | setSuccs t l ht hl => exact setSuccs_kept s t l hi ht.1 (fun v hv => (hl v hv).1) ht.2 (fun v hv => (hl v hv).2)
  | perm h l hp => exact .accepted (permChildren_Inv s h l hi hp)
  | skip => exact .accepted hi
  | reject e he => exact .rejected hi he

theorem removeRec_none_descF (t : Uid) (s : G) :
    ∀ (f : Nat) (cur : Uid), removeRec t f s cur = none → descF s.children f cur = none := by
  intro f
  induction f with
  | zero => intro cur _; rfl
  | succ f ih =>
    intro cur h
    rw [removeRec.eq_2] at h
    split at h
    · cases h
    · have hgo : ∀ cs : List Uid, removeRec.go t f s cs = none → ∃ c ∈ cs, removeRec t f s c = none := by
        intro cs
        induction cs with
        | nil => intro h; rw [removeRec.go.eq_1] at h; cases h
        | cons c cs ihc =>
          intro h
          rw [removeRec.go.eq_2] at h
          split at h
          · rename_i heq; exact ⟨c, List.mem_cons_self, heq⟩
          · cases h
          · cases h
          · obtain ⟨c', hc', h'⟩ := ihc h
            exact ⟨c', List.mem_cons_of_mem _ hc', h'⟩
      obtain ⟨c, hc, hcn⟩ := hgo _ h
      have hd := ih c hcn
      rw [descF]
      cases hm : (s.children cur).mapM (fun c => (descF s.children f c).map (fun r => c :: r)) with
      | none => rfl
      | some ll =>
        obtain ⟨b, _, hb⟩ := mapM_some_mem _ _ _ hm c hc
        rw [hd] at hb; cases hb

/-- on a reachable state the search does not run out of fuel -/
theorem wbsRemove_cases (s : G) (w t : Uid) (hi : Inv s) :
    (∃ p, t ∈ s.children p ∧ RTC (par s) p w ∧ wbsRemove s w t = chRemove s p t) ∨
    (wbsRemove s w t = (s, none) ∧ ¬ TC (par s) t w) := by
  rcases wbsRemove_search s w t with ⟨p, hp, hpw, e⟩ | ⟨e, hn⟩ | ⟨_, heq⟩
  · exact Or.inl ⟨p, hp, (RTC_child_iff s hi.wf.listed w p).mp hpw, e⟩
  · exact Or.inr ⟨e, fun h => hn ((TC_child_iff s hi.wf.listed w t).mpr h)⟩
  · have h1 := removeRec_none_descF t s _ w heq
    obtain ⟨l, hl⟩ := descF_children_total s hi.wf hi.bnd w
    rw [hl] at h1; cases h1

theorem ICall.wbsRemove {Q : Prop} (s : G) (w t : Uid) (hi : Inv s) : ICall Q s (wbsRemove s w t) := by
  rcases wbsRemove_cases s w t hi with ⟨p, _, _, e⟩ | ⟨e, _⟩
  · rw [e]; exact .chRemove hi.stored p t
  · rw [e]; exact .skip

theorem forEach_ind (P : G → Prop) (Q : Err → Prop) (f : G → Uid → G × Option Err) :
    ∀ (ts : List Uid) (s : G), (∀ s t, t ∈ ts → P s → P (f s t).1 ∧ ∀ e, (f s t).2 = some e → Q e) → P s →
      P (forEach f s ts).1 ∧ ∀ e, (forEach f s ts).2 = some e → Q e := by
  intro ts
  induction ts with
  | nil => intro s _ hs; exact ⟨hs, fun e h => by cases h⟩
  | cons t ts ih =>
    intro s hf hs
    obtain ⟨h1, h2⟩ := hf s t List.mem_cons_self hs
    simp only [forEach]
    split
    · rename_i s' e' heq
      rw [heq] at h1 h2
      exact ⟨h1, fun e h => by cases h; exact h2 _ rfl⟩
    · rename_i s' heq
      rw [heq] at h1
      exact ih s' (fun s t ht => hf s t (List.mem_cons_of_mem _ ht)) h1

/-- only `reorder` rejects with something other than RuntimeError -/
theorem step_icall (s : G) (op : Op) (hi : Inv s) (hv : op.visible s) (hr : ∀ u ∈ op.allUids, u < s.n) (h1 : op.each = none) :
    ICall (∃ h ids, op = .chReorder h ids) s (step s op) := by
  by_cases hw : ∃ w t, op = .wbsRemove w t
  · obtain ⟨w, t, rfl⟩ := hw
    exact .wbsRemove s w t hi
  · exact step_call s op hi.stored (fun u hu => ⟨hv u hu, hr u (Op.taskArgs_sub hu)⟩) hr h1 (fun w t e => hw ⟨w, t, e⟩)

theorem wbsRemove_ok (s : G) (w t : Uid) (hi : Inv s) : (wbsRemove s w t).2 = none := by
  rcases wbsRemove_cases s w t hi with ⟨p, _, _, e⟩ | ⟨e, _⟩
  · rw [e]; exact chRemove_ok s p t hi
  · rw [e]

/-- on a reachable state the only exceptions other than RuntimeError come from `reorder` with an unknown or repeated id
    (StopIteration / ValueError); RecursionError cannot occur.  A list-level operation is one call per element: legality
    reads only `n` and `tid`, which no call changes, so it carries over to the states the earlier calls leave; the
    elements of `remove_all` (on a list or a WBS) are `remove`s, which never raise -/
theorem step_kept (s : G) (op : Op) (hi : Inv s) (hl : op.legal s) :
    Inv (step s op).1 ∧ ∀ e, (step s op).2 = some e →
      (e = .runtime ∨ ∃ h ids, op = .chReorder h ids) ∧ (op.elementwise = false → (step s op).1 = s) := by
  cases h : op.each with
  | none =>
    have k := (step_icall s op hi hl.visible hl.inRange h).kept hi
    exact ⟨k.inv, fun e he => ⟨(k.err e he).1, fun _ => (k.err e he).2⟩⟩
  | some x =>
    obtain ⟨ts, g⟩ := x
    rw [Op.each_step h]
    have key := forEach_ind (fun s' => Inv s' ∧ s'.n = s.n ∧ s'.tid = s.tid)
      (fun e => e = .runtime ∧ op.elementwise = true) (fun s t => step s (g t)) ts s (fun s' t ht ⟨hi', hn, htid⟩ => ?_) ⟨hi, rfl, rfl⟩
    · exact ⟨key.1.1, fun e he => ⟨Or.inl (key.2 e he).1, fun hne => by rw [(key.2 e he).2] at hne; cases hne⟩⟩
    · obtain ⟨a1, a2, a3, hre⟩ := Op.each_args h ht
      have k := (step_icall s' (g t) hi' (fun u hu => (hidden_of_tid s s' htid u).trans (hl.visible u (a1 u hu)))
        (fun u hu => hn ▸ hl.inRange u (a2 u hu)) a3).kept hi'
      refine ⟨⟨k.inv, (step_n s' _).trans hn, (step_tid s' _).trans htid⟩, fun e he => ⟨(k.err e he).1.resolve_right hre, ?_⟩⟩
      cases op <;> cases h <;> try rfl
      · rw [show step s' (.wbsRemove _ t) = wbsRemove s' _ t from rfl, wbsRemove_ok s' _ t hi'] at he; cases he
      · rw [show step s' (.chRemove _ t) = chRemove s' _ t from rfl, chRemove_ok s' _ t hi'] at he; cases he

/-- one step of any public mutator preserves the invariant, whether the call returns or raises -/
theorem step_Inv (s : G) (op : Op) (hi : Inv s) (hl : op.legal s) : Inv (step s op).1 :=
  (step_kept s op hi hl).1

theorem run_Inv (ops : List Op) (s : G) (hi : Inv s) (hl : ∀ op ∈ ops, op.legal s) : Inv (run s ops) := by
  induction ops generalizing s with
  | nil => exact hi
  | cons op ops ih =>
    show Inv (run (step s op).1 ops)
    apply ih _ (step_Inv s op hi (hl op List.mem_cons_self))
    intro op' hop'
    exact legal_of_same s _ op' (step_n s op) (step_tid s op) (hl op' (List.mem_cons_of_mem _ hop'))

/-! ### a state given as a table is reachable

  Whether a history of `setChildren` / `setSuccs` calls is legal and replays from isolated objects to the state is
  evaluated for a concrete table; reachable states satisfy `Inv` (`run_Inv`). -/

theorem fresh_Inv (n : Nat) (tid : Uid → Int) (hid : ∀ u, n ≤ u → tid u ≠ emptyId) : Inv (fresh n tid) where
  wf := fresh_WF n tid
  own := by
    refine ⟨?_, ?_, ?_, ?_⟩
    · intro t p h; simp [fresh] at h
    · intro r h; simpa [fresh, G.hidden] using h
    · intro t _ h; simpa [fresh, G.hidden] using h
    · intro t w h
      simp only [fresh] at h
      split at h
      · cases h; assumption
      · cases h
  ids := by
    intro a b hab _ _ ⟨r, ha, hb⟩
    have top : ∀ x r, RTC (par (fresh n tid)) x r → x = r := by
      intro x r h
      induction h with
      | refl => rfl
      | tail _ h _ => simp [par, fresh] at h
    exact absurd ((top a r ha).trans (top b r hb).symm) hab
  bnd := fresh_Bounded n tid hid

/-- a sufficient condition for `Op.legal`, for the two operations such a history uses -/
def legalB (s : G) : Op → Bool
  | .setChildren h l => decide (h < s.n) && l.all (fun c => decide (c < s.n) && !s.hidden c)
  | .setSuccs t l => (t :: l).all (fun c => decide (c < s.n) && !s.hidden c)
  | _ => false

theorem legal_of_legalB (s : G) (op : Op) (h : legalB s op = true) : op.legal s := by
  cases op <;> simp only [legalB, Bool.false_eq_true] at h
  all_goals
    simp only [Bool.and_eq_true, List.all_eq_true, decide_eq_true_eq, Bool.not_eq_true'] at h
    refine ⟨?_, ?_, fun w t h => by rcases h with h | ⟨_, h⟩ <;> cases h⟩
  · intro u hu
    rcases List.mem_cons.1 hu with rfl | hu
    · exact h.1
    · exact (h.2 u hu).1
  · exact fun u hu => (h.2 u hu).2
  · exact fun u hu => (h u hu).1
  · exact fun u hu => (h u hu).2

/-- `s` (blank outside its universe) is reached from isolated objects by the history `ops` -/
theorem Inv_of_history (s : G) (ops : List Op) (hid : ∀ u, s.n ≤ u → s.tid u ≠ emptyId)
    (hd : ∀ u, s.n ≤ u → s.parent u = none ∧ s.children u = [] ∧ s.preds u = [] ∧ s.succs u = [] ∧ s.owner u = none)
    (h : (ops.all (legalB s) && eqB (run (fresh s.n s.tid) ops) s) = true) : Inv s := by
  rw [Bool.and_eq_true, List.all_eq_true] at h
  have hi : Inv (run (fresh s.n s.tid) ops) :=
    run_Inv _ _ (fresh_Inv _ _ hid) fun op hop => legal_of_legalB _ op (h.1 op hop)
  exact eq_of_eqB _ _ h.2 (run_tid _ _) hi.bnd hd ▸ hi

theorem step_err_kind (s : G) (op : Op) (hi : Inv s) (hl : op.legal s) (e : Err)
    (he : (step s op).2 = some e) : e = .runtime ∨ ∃ h ids, op = .chReorder h ids :=
  ((step_kept s op hi hl).2 e he).1

/-- C15 for every operation except the three element-wise ones: a call that raises changes nothing -/
theorem step_err_unchanged (s : G) (op : Op) (hi : Inv s) (hl : op.legal s) (hne : op.elementwise = false)
    (he : (step s op).2 ≠ none) : (step s op).1 = s := by
  cases h : (step s op).2 with
  | none => exact absurd h he
  | some e => exact ((step_kept s op hi hl).2 e h).2 hne

end Pj

/-
  Lemmas/PrintSrcB.lean — the rows of the translated sheet printer (see Lemmas/PrintSrc.lean, PrintSrcA.lean).  The table is
  the log of the calls made on it: `__print_task_subtree` appends the model's `subtreeRows` to the log (`subtree_spec`), `repr`
  hands a new table the header row and the rows of every listed task and returns the model's `sheet` (`repr_spec`; reading
  the log back gives the rows, `rowsOfLog_logOfRows`).  Two hypotheses: `ColOK` - a `print_color`, when set, is None or a
  str (a datetime / number there makes the program hand a non-str colour to the table, outside the model); `DepthOK pts
  (n+1) t` when `children` - the subtree is at most n+1 levels deep, so that the model's fuel suffices.  The blocks are
  stated as `Logs H b P Q ss x` - `ss` hands the table `b` the items `x` - which is `Upd` (Lemmas/PyUpd.lean) on the box of
  the table; the cell texts and the colour are first built in locals (`Upd` on `inLocal`).
-/
import PjVerif.Lemmas.PrintSrcA
import PjVerif.Lemmas.PyUpd
namespace Pj.PrintSrc
open Pj.PyLite Pj.Print Pj.Extracted.Print
open Pj.TaskSrc (callPV_bound execBlockP_cons execBlockP_nil execBlockP_append execBlockP_one evalP_var evalP_bool blockRes noRec asInt?_nat natCast_succ_rat)
set_option linter.unusedVariables false

variable {S : Lib} (pts : Nat → PyTask) (th : PyTheme)

theorem flatten_replicate3 (n : Nat) : (List.replicate n [' ', ' ', ' ']).flatten = List.replicate (3 * n) ' ' := by
  induction n with
  | zero => rfl
  | succ n ih =>
    rw [List.replicate_succ, List.flatten_cons, ih]
    have : 3 * (n + 1) = (3 * n + 1 + 1) + 1 := by omega
    rw [this, List.replicate_succ, List.replicate_succ, List.replicate_succ]; rfl

theorem lit_3sp (st : PState) : printPrim S pts th "lit:   " [] st = .ok (.atom (S.s [' ', ' ', ' '])) :=
  prim_lit_name S pts th _ st (by simp)

/-- the keys (definitions, so that `simp` does not rewrite the texts) -/
def pcKey : Str := "print_color".toList
def lcKey : Str := "level_colors".toList
def hcKey : Str := "header_color".toList
theorem lit_pcolor (st : PState) : printPrim S pts th "lit:print_color" [] st = .ok (.atom (S.s pcKey)) := by litp
theorem lit_lcolors (st : PState) : printPrim S pts th "lit:level_colors" [] st = .ok (.atom (S.s lcKey)) := by litp
theorem lit_hcolor (st : PState) : printPrim S pts th "lit:header_color" [] st = .ok (.atom (S.s hcKey)) := by litp
theorem lit_grey (st : PState) : printPrim S pts th "lit:97m" [] st = .ok (.atom (S.s grey)) := by litp

theorem prim_repeat (hS : S.OK) (x : Str) (n : Nat) (st : PState) :
    printPrim S pts th "repeat" [S.s x, .num ((n : Nat) : Rat)] st = .ok (.atom (S.s (List.replicate n x).flatten)) := by
  unfold printPrim
  rw [if_neg (by decide +kernel)]
  simp [Lib.s, asInt?_nat, pure, Except.pure, hS x]

theorem prim_getitem_key (a : Atom) (k : Nat) (st : PState) (hk : S.D k = lcKey) :
    printPrim S pts th "getitem" [a, .str k] st = .ok (.list (th.levels.map S.s)) := by
  unfold printPrim
  rw [if_neg (by decide +kernel)]
  simp only [String.reduceEq, if_false, if_true]
  rw [hk, if_pos (show lcKey = "level_colors".toList from rfl)]
  rfl

theorem prim_getitem_levels (hS : S.OK) (a : Atom) (st : PState) :
    printPrim S pts th "getitem" [a, S.s lcKey] st = .ok (.list (th.levels.map S.s)) :=
  prim_getitem_key pts th a _ st (hS lcKey)

/-! ### the statements of `__print_task_subtree` -/

def stLoop : Stmt := src_print_task_subtree.getD 1 .pass
def stCol : List Stmt := (src_print_task_subtree.drop 2).take 2
def stApp1 : Stmt := src_print_task_subtree.getD 4 .pass
def stApp2 : Stmt := src_print_task_subtree.getD 5 .pass
def stCells : Stmt := src_print_task_subtree.getD 6 .pass
def stKids : Stmt := src_print_task_subtree.getD 7 .pass
theorem st_shape : src_print_task_subtree =
    [.assign "values" .listNil, stLoop] ++ (stCol ++ [stApp1, stApp2, stCells, stKids]) := rfl
def stLoopBody : List Stmt := match stLoop with | .forIn _ _ b => b | _ => []
theorem stLoop_eq : stLoop = .forIn "f" (.var "fields") stLoopBody := rfl
def stKidsLoop : Stmt := match stKids with | .ifElse _ [l] _ => l | _ => .pass
def stKidsBody : List Stmt := match stKidsLoop with | .forIn _ _ b => b | _ => []
theorem stKids_eq : stKids = .ifElse (.var "children") [stKidsLoop] [] := rfl
theorem stKidsLoop_eq : stKidsLoop = .forIn "ch" (.prim "children" (.listCons (.var "task") .listNil)) stKidsBody := rfl

structure StEnv (S : Lib) (ρ : PyLite.Env) (t : Nat) (fields : List Str) (level b : Nat) (children : Bool) (θ : Atom) : Prop where
  task : ρ.get? "task" = some (.atom (.ref t))
  fields : ρ.get? "fields" = some (.list (fields.map S.s))
  level : ρ.get? "level" = some (.atom (.num ((level : Nat) : Rat)))
  table : ρ.get? "table" = some (.atom (.box b))
  children : ρ.get? "children" = some (.atom (.bool children))
  theme : ρ.get? "theme" = some (.atom θ)

theorem StEnv.set {ρ : PyLite.Env} {t : Nat} {fields : List Str} {level b : Nat} {children : Bool} {θ : Atom}
    (h : StEnv S ρ t fields level b children θ) (x : String) (v : Val)
    (hx : x ≠ "task" ∧ x ≠ "fields" ∧ x ≠ "level" ∧ x ≠ "table" ∧ x ≠ "children" ∧ x ≠ "theme") :
    StEnv S (ρ.set x v) t fields level b children θ := by
  obtain ⟨h1, h2, h3, h4, h5, h6⟩ := hx
  constructor <;> simp only [Pj.TaskSrc.Env.get?_set, h1, h2, h3, h4, h5, h6, if_false]
  · exact h.task
  · exact h.fields
  · exact h.level
  · exact h.table
  · exact h.children
  · exact h.theme

def cellOf (S : Lib) (pts : Nat → PyTask) (t level : Nat) (f : Str) : Str :=
  if f = "name".toList then List.replicate (3 * level) ' ' ++ ((pts t).name.getD []) else fieldValue (tsOf S pts) t f

theorem stLoopBody_upd (hS : S.OK) (F t level b : Nat) (fields : List Str) (children : Bool) (θ : Atom) (f : Str) :
    Upd (Hp S pts th (F + 3)) (inLocal "values" .list)
      (fun ρ => StEnv S ρ t fields level b children θ ∧ ρ.get? "f" = some (.atom (S.s f)))
      (fun ρ => StEnv S ρ t fields level b children θ ∧ ρ.get? "f" = some (.atom (S.s f)))
      stLoopBody (· ++ [S.s (cellOf S pts t level f)]) :=
  Upd.of_set (fun ρ v h => ⟨h.1.set _ _ (by decide), by simpa [Pj.TaskSrc.Env.get?_set] using h.2⟩)
    fun ρ a st ⟨hρ, hf⟩ ha => by
  have e1 : ∀ a b : Str, (S.s a).pyEq (S.s b) = decide (a = b) := pyEq_s hS
  have hfv := field_value_spec pts th hS F t f st
  have ht := hρ.task
  have hl := hρ.level
  by_cases hn : f = "name".toList
  · subst hn
    cases hname : (pts t).name with
    | none =>
      simp [pylite_step, stLoopBody, stLoop, src_print_task_subtree, ht, hl, ha, hf, e1, cellOf, hname, Lib.os,
        prim_repeat pts th hS, prim_concat' pts th hS, flatten_replicate3]
    | some nm =>
      simp [pylite_step, stLoopBody, stLoop, src_print_task_subtree, ht, hl, ha, hf, e1, cellOf, hname, Lib.os,
        prim_repeat pts th hS, prim_concat' pts th hS, flatten_replicate3, s_ne_none]
  · have hn' := hn
    simp at hn'
    simp [pylite_step, stLoopBody, stLoop, src_print_task_subtree, ht, ha, hf, e1, cellOf, hn', hfv]

theorem stVals_spec (hS : S.OK) (F t level b : Nat) (fields : List Str) (children : Bool) (θ : Atom)
    (ρ : PyLite.Env) (st : PState) (hρ : StEnv S ρ t fields level b children θ) :
    ∃ ρ', execBlockP (Hp S pts th (F + 3)) [] noRec [.assign "values" .listNil, stLoop] ρ st = .normal ρ' st ∧
      StEnv S ρ' t fields level b children θ ∧
      ρ'.get? "values" = some (.list ((fields.map (cellOf S pts t level)).map S.s)) := by
  obtain ⟨ρ', ho, hP, ha⟩ := (Upd.forIn S.s (fun f a => a ++ [S.s (cellOf S pts t level f)]) fields "f" (.var "fields")
    stLoopBody (inLocal_set (by decide)) (fun ρ c (h : StEnv S ρ t fields level b children θ) => h.set _ _ (by decide))
    (fun ρ st h => evalP_var _ _ _ _ _ _ h.fields)
    (fun f _ => (stLoopBody_upd pts th hS F t level b fields children θ f).mono fun ρ h => h.1)).run (a := []) st
    (hρ.set "values" (.list []) (by decide)) (by simp [Pj.TaskSrc.Env.get?_set])
  rw [foldl_snoc, ← List.map_eq_flatMap, List.nil_append] at ha
  refine ⟨ρ', ?_, hP, by rw [List.map_map]; exact ha⟩
  have h0 : (Stmt.assign "values" .listNil).execP (Hp S pts th (F + 3)) [] noRec ρ st =
      .normal (ρ.set "values" (.list [])) st := by simp [pylite_step]
  rw [execBlockP_cons, h0, stLoop_eq]
  exact ho

def colorOf (S : Lib) (pts : Nat → PyTask) (th : PyTheme) (level t : Nat) : Str :=
  match (lookupA (pts t).dict pcKey).bind (valText S) with
  | some c => c
  | none => th.levels.getD level grey

/-- `print_color`, when set, is None or a str -/
def ColOK (S : Lib) (pts : Nat → PyTask) : Prop :=
  ∀ t v, lookupA (pts t).dict pcKey = some v → v = .none ∨ ∃ c : Str, v = S.s c

theorem getitem_levels_ok (level : Nat) :
    ∀ levels : List Str, level < levels.length →
      (levels.map S.s)[level]? = some (S.s (levels.getD level grey)) := by
  intro levels h
  simp [List.getD, h]

/-- `if color is None: colors = theme['level_colors']; color = colors[level] if level < len(colors) else '97m'` -/
theorem stLevel_upd (hS : S.OK) (F t level b : Nat) (fields : List Str) (children : Bool) (θ : Atom) (V : Option Val) :
    Upd (Hp S pts th F) (inLocal "color" .atom) (fun ρ => StEnv S ρ t fields level b children θ ∧ ρ.get? "values" = V)
      (fun ρ => StEnv S ρ t fields level b children θ ∧ ρ.get? "values" = V) (stCol.drop 1)
      (fun c => if c = .none then S.s (th.levels.getD level grey) else c) :=
  Upd.of_local fun ρ c st ⟨hρ, hv⟩ hc => by
    have hl := hρ.level
    have hth := hρ.theme
    have hlv := prim_getitem_levels pts th hS θ st
    by_cases hn : c = .none
    · subst hn
      refine ⟨(ρ.set "colors" (.list (th.levels.map S.s))).set "color" (.atom (S.s (th.levels.getD level grey))), ?_,
        ⟨(hρ.set _ _ (by decide)).set _ _ (by decide), by simpa [Pj.TaskSrc.Env.get?_set] using hv⟩,
        by simp [Pj.TaskSrc.Env.get?_set]⟩
      by_cases hlt : level < th.levels.length
      · have hnn : ((level : Int) < 0) = False := by simp
        simp [pylite_step, stCol, src_print_task_subtree, hc, hl, hth, lit_lcolors, hlv, Rat.natCast_lt_natCast, hlt, asInt?_nat,
          hnn, Int.toNat_natCast]
      · have hd : th.levels.getD level grey = grey := by
          simp [List.getD, List.getElem?_eq_none (Nat.le_of_not_lt hlt)]
        rw [hd]
        simp [pylite_step, stCol, src_print_task_subtree, hc, hl, hth, lit_lcolors, lit_grey, hlv, Rat.natCast_lt_natCast, hlt]
    · exact ⟨ρ, by simp [pylite_step, stCol, src_print_task_subtree, hc, hn], ⟨hρ, hv⟩, by simp [hn, hc]⟩

theorem stCol_spec (hS : S.OK) (hc : ColOK S pts) (F t level b : Nat) (fields : List Str) (children : Bool) (θ : Atom)
    (ρ : PyLite.Env) (st : PState) (hρ : StEnv S ρ t fields level b children θ) :
    ∃ ρ', execBlockP (Hp S pts th F) [] noRec stCol ρ st = .normal ρ' st ∧
      StEnv S ρ' t fields level b children θ ∧ ρ'.get? "values" = ρ.get? "values" ∧
      ρ'.get? "color" = some (.atom (S.s (colorOf S pts th level t))) := by
  have ht := hρ.task
  have hg := prim_getattr' pts th hS t pcKey st
  -- the first statement: the `print_color` of the task, or None
  obtain ⟨c0, h1, hc0⟩ : ∃ c0, execBlockP (Hp S pts th F) [] noRec (stCol.take 1) ρ st = .normal (ρ.set "color" (.atom c0)) st ∧
      (if c0 = .none then S.s (th.levels.getD level grey) else c0) = S.s (colorOf S pts th level t) := by
    cases hv : lookupA (pts t).dict pcKey with
    | none =>
      exact ⟨.none, by simp [pylite_step, stCol, src_print_task_subtree, ht, lit_pcolor, any_dict hS, hv], by simp [colorOf, hv]⟩
    | some v =>
      rw [hv] at hg
      rcases hc t v hv with rfl | ⟨c, rfl⟩
      · exact ⟨.none, by simp [pylite_step, stCol, src_print_task_subtree, ht, lit_pcolor, any_dict hS, hv, hg],
          by simp [colorOf, hv, valText]⟩
      · exact ⟨S.s c, by simp [pylite_step, stCol, src_print_task_subtree, ht, lit_pcolor, any_dict hS, hv, hg],
          by simp [colorOf, hv, valText, Lib.s, Lib.text, hS c]⟩
  obtain ⟨ρ', h2, ⟨hρ', hv'⟩, hc'⟩ := (stLevel_upd pts th hS F t level b fields children θ (ρ.get? "values")).run st
    (ρ := ρ.set "color" (.atom c0)) (a := c0) ⟨hρ.set _ _ (by decide), by simp [Pj.TaskSrc.Env.get?_set]⟩
    (by simp [Pj.TaskSrc.Env.get?_set])
  exact ⟨ρ', by rw [show stCol = stCol.take 1 ++ stCol.drop 1 from rfl, execBlockP_append, h1]; exact h2, hρ', hv',
    by rw [hc', hc0]⟩

/-- the block hands the table `b` the items `x` -/
abbrev Logs (H : PHandlers) (b : Nat) (P Q : PyLite.Env → Prop) (ss : List Stmt) (x : List Atom) : Prop :=
  Upd H (inBox b) P Q ss (· ++ x)

theorem logs_append {H : PHandlers} {P : PyLite.Env → Prop} {b : Nat} {e : Expr} {a : Atom}
    (hPt : ∀ ρ, P ρ → ρ.get? "table" = some (.atom (.box b)))
    (he : ∀ ρ st, P ρ → e.evalP H [] ρ st = .ok (.atom a, st)) (hnb : a.isBox = false) :
    Logs H b P P [.boxAppend (.var "table") e] [a] :=
  Upd.of_box fun ρ st log hP hb => ⟨ρ, by
    simp [execBlockP_one, Stmt.execP, Expr.evalP, he ρ st hP, hPt ρ hP, hb, hnb, bind, Except.bind, pure,
      Except.pure, putLog], hP⟩

/-- `table.new_row(<cx>)`, then `table.new_cell(e)` for every `x` of the list `<src>`: one row -/
theorem writeRow_logs {α : Type} {H : PHandlers} {P : PyLite.Env → Prop} {b : Nat} {cx x src : String} {e : Expr}
    {f g : α → Atom} {col : Atom} {items : List α}
    (hPx : ∀ ρ v, P ρ → P (ρ.set x v)) (hPt : ∀ ρ, P ρ → ρ.get? "table" = some (.atom (.box b)))
    (hc : ∀ ρ, P ρ → ρ.get? cx = some (.atom col)) (hcol : col.isBox = false)
    (hsrc : ∀ ρ, P ρ → ρ.get? src = some (.list (items.map f)))
    (he : ∀ c ρ st, P ρ → ρ.get? x = some (.atom (f c)) → e.evalP H [] ρ st = .ok (.atom (g c), st))
    (hg : ∀ c, (g c).isBox = false) :
    Logs H b P P [.boxAppend (.var "table") (.bool true), .boxAppend (.var "table") (.var cx),
      .forIn x (.var src) [.boxAppend (.var "table") e]] (.bool true :: col :: items.map g) :=
  ((logs_append hPt (fun ρ st _ => evalP_bool H [] ρ st true) rfl).cons
    ((logs_append hPt (fun ρ st h => evalP_var H [] ρ st cx _ (hc ρ h)) hcol).cons
      (Upd.forIn f (fun c a => a ++ [g c]) items x (.var src) _ (fun a ρ _ => inBox_env (b := b) a ρ _) hPx
        (fun ρ st h => evalP_var H [] ρ st src _ (hsrc ρ h))
        fun c _ => (logs_append (fun ρ h => hPt ρ h.1) (fun ρ st h => he c ρ st h.1 h.2) (hg c)).mono fun ρ h => h.1))).congr
    fun a => by rw [foldl_snoc, ← List.map_eq_flatMap]; simp

/-- `for x in <it>: k(<args>)` where the call for `c` hands the table the items `g c` -/
theorem calls_logs {H : PHandlers} {P : PyLite.Env → Prop} {b k : Nat} {x : String} {it args : Expr} {l : List Nat}
    {vs : Nat → List Val} {g : Nat → List Atom} (hPx : ∀ ρ v, P ρ → P (ρ.set x v))
    (hit : ∀ ρ st, P ρ → it.evalP H [] ρ st = .ok (.list (l.map Atom.ref), st))
    (ha : ∀ c ρ st, P ρ → ρ.get? x = some (.atom (.ref c)) → args.evalArgsP H [] ρ st = .ok (vs c, st))
    (hcall : ∀ c ∈ l, ∀ st log, st.boxes[b]? = some log →
      H.fnV k (vs c) st = .ok (.atom .none, putLog st b (log ++ g c))) :
    Logs H b P P [.forIn x it [.expr (.callFn k args)]] (l.flatMap g) :=
  (Upd.forIn Atom.ref (fun c a => a ++ g c) l x it _ (fun a ρ _ => inBox_env (b := b) a ρ _) hPx hit fun c hc =>
    Upd.of_box fun ρ st log ⟨hP, hx⟩ hb => ⟨ρ, by
      simp [execBlockP_one, Stmt.execP, Expr.evalP, ha c ρ st hP hx, hcall c hc st log hb, bind, Except.bind], hP⟩).congr
    fun a => foldl_snoc g l a

def rowLog (S : Lib) (pts : Nat → PyTask) (th : PyTheme) (fields : List Str) (level t : Nat) : List Atom :=
  .bool true :: S.s (colorOf S pts th level t) :: (fields.map (cellOf S pts t level)).map S.s

def subLog (S : Lib) (pts : Nat → PyTask) (th : PyTheme) (fields : List Str) (children : Bool) (n level t : Nat) : List Atom :=
  logOfRows S (subtreeRows (tsOf S pts) fields children (toTheme th) n level t)

theorem logOfRows_cons (r : Option Str × List Cell) (rows : List (Option Str × List Cell)) :
    logOfRows S (r :: rows) = logOfRow S r ++ logOfRows S rows := by
  simp [logOfRows]

theorem logOfRows_flatten (l : List (List (Option Str × List Cell))) :
    logOfRows S l.flatten = l.flatMap (logOfRows S) := by
  induction l with
  | nil => rfl
  | cons a l ih =>
    simp only [List.flatten_cons, List.flatMap_cons, ← ih]
    simp [logOfRows]

theorem colorOf_model (level t : Nat) :
    (match (List.find? (fun p => p.1 == "print_color".toList) (tsOf S pts t).dict).bind (·.2) with
      | some c => c
      | none => (toTheme th).levels.getD level grey) = colorOf S pts th level t := by
  have h := find?_map_val S (pts t).dict pcKey
  unfold colorOf lookupA
  show (match (List.find? (fun p => p.1 == pcKey) ((pts t).dict.map (fun kv => (kv.1, valText S kv.2)))).bind (·.2) with
      | some c => c
      | none => th.levels.getD level grey) = _
  rw [h]
  cases List.find? (fun p => p.1 == pcKey) (pts t).dict <;> rfl

theorem subLog_succ (fields : List Str) (children : Bool) (n level t : Nat) :
    subLog S pts th fields children (n + 1) level t =
      rowLog S pts th fields level t ++
        (if children then (pts t).children.flatMap (subLog S pts th fields children n (level + 1)) else []) := by
  have hcol := colorOf_model (S := S) pts th level t
  simp only [subLog, subtreeRows, logOfRows_cons]
  congr 1
  · simp only [logOfRow, rowLog, Lib.os, List.map_map]
    refine congrArg (List.cons _) (congr (congrArg List.cons (congrArg S.s hcol)) ?_)
    apply List.map_congr_left
    intro f _
    by_cases hf : f = "name".toList
    · have hf' : (f == "name".toList) = true := by simpa using hf
      simp only [Function.comp_apply, cellOf, hf, if_true]; rfl
    · have hf' : (f == "name".toList) = false := by simpa using hf
      simp only [Function.comp_apply, cellOf, hf, hf', if_false, Bool.false_eq_true]
  · cases children
    · simp [logOfRows]
    · simp only [if_true, logOfRows_flatten, List.flatMap_map]
      rfl

def stArgs (S : Lib) (t : Nat) (fields : List Str) (level b : Nat) (children : Bool) (θ : Atom) : List Val :=
  [.atom (.ref t), .list (fields.map S.s), .atom (.num ((level : Nat) : Rat)), .atom (.box b), .atom (.bool children), .atom θ]

/-- what a call for a child does (the induction hypothesis) -/
def KidsOK (S : Lib) (pts : Nat → PyTask) (th : PyTheme) (F : Nat) (fields : List Str) (children : Bool) (θ : Atom)
    (b n level : Nat) (cs : List Nat) : Prop :=
  ∀ c ∈ cs, ∀ st' log', st'.boxes[b]? = some log' →
    (Hp S pts th F).fnV fn_print_task_subtree (stArgs S c fields (level + 1) b children θ) st' =
      .ok (.atom .none, putLog st' b (log' ++ subLog S pts th fields children n (level + 1) c))

theorem stKids_logs (F t level b n : Nat) (fields : List Str) (children : Bool) (θ : Atom)
    (hrec : children = true → KidsOK S pts th F fields children θ b n level (pts t).children) :
    Logs (Hp S pts th F) b (fun ρ => StEnv S ρ t fields level b children θ) (fun ρ => StEnv S ρ t fields level b children θ)
      [stKids] (if children then (pts t).children.flatMap (subLog S pts th fields children n (level + 1)) else []) := by
  rw [stKids_eq]
  refine Upd.ifElse children (fun ρ st h => evalP_var _ _ _ _ _ _ h.children) ?_
  cases children with
  | false => exact (Upd.keep (inBox_env (b := b)) fun ρ st h => ⟨ρ, execBlockP_nil .., h⟩).congr fun a => by simp
  | true =>
    rw [if_pos rfl, if_pos rfl, stKidsLoop_eq]
    exact calls_logs (vs := fun c => stArgs S c fields (level + 1) b true θ) (fun ρ v h => h.set _ _ (by decide))
      (fun ρ st h => by simp [pylite_step, h.task, refsA])
      (fun c ρ st h hc => by
        simp only [stArgs, ← natCast_succ_rat]
        simp [pylite_step, hc, h.fields, h.level, h.table, h.children, h.theme])
      (hrec rfl)

theorem pf_subtree : printFuns fn_print_task_subtree = some (src_print_task_subtree_params, src_print_task_subtree) := rfl

theorem subtree_body (hS : S.OK) (hc : ColOK S pts) (F t level b n : Nat) (fields : List Str) (children : Bool) (θ : Atom)
    (st : PState) (log : List Atom)
    (hrec : children = true → KidsOK S pts th (F + 3) fields children θ b n level (pts t).children)
    (hb : st.boxes[b]? = some log) :
    callPV (Hp S pts th (F + 3)) src_print_task_subtree_params src_print_task_subtree
        (stArgs S t fields level b children θ) st =
      .ok (.atom .none, putLog st b (log ++ subLog S pts th fields children (n + 1) level t)) := by
  -- the cell texts and the colour are computed in locals; the row and the rows of the children go to the table
  let Row := fun ρ => StEnv S ρ t fields level b children θ ∧
    ρ.get? "values" = some (.list ((fields.map (cellOf S pts t level)).map S.s)) ∧
    ρ.get? "color" = some (.atom (S.s (colorOf S pts th level t)))
  have hloc : Logs (Hp S pts th (F + 3)) b (fun ρ => StEnv S ρ t fields level b children θ) Row
      ([.assign "values" .listNil, stLoop] ++ stCol) [] :=
    (Upd.keep (inBox_env (b := b)) fun ρ st hρ => by
      obtain ⟨ρ1, h1, hρ1, hv1⟩ := stVals_spec pts th hS F t level b fields children θ ρ st hρ
      obtain ⟨ρ2, h2, hρ2, hv2, hc2⟩ := stCol_spec pts th hS hc (F + 3) t level b fields children θ ρ1 st hρ1
      exact ⟨ρ2, by simp only [execBlockP_append, h1, h2], hρ2, hv2.trans hv1, hc2⟩).congr fun a => by simp
  have hrow : Logs (Hp S pts th (F + 3)) b Row (fun ρ => StEnv S ρ t fields level b children θ) [stApp1, stApp2, stCells]
      (rowLog S pts th fields level t) :=
    (writeRow_logs (cx := "color") (x := "v") (src := "values") (e := .var "v") (f := S.s) (g := S.s)
      (fun ρ v h => ⟨h.1.set _ _ (by decide), by simpa [Pj.TaskSrc.Env.get?_set] using h.2⟩) (fun ρ h => h.1.table)
      (fun ρ h => h.2.2) rfl (fun ρ h => h.2.1) (fun c ρ st _ hv => evalP_var _ [] _ st "v" _ hv)
      (fun _ => rfl)).mono fun ρ h => h.1
  obtain ⟨ρ', ho, -⟩ := (hloc.append (hrow.append (stKids_logs pts th (F + 3) t level b n fields children θ hrec))).run_box
    (ρ := [("task", .atom (.ref t)), ("fields", .list (fields.map S.s)), ("level", .atom (.num ((level : Nat) : Rat))),
      ("table", .atom (.box b)), ("children", .atom (.bool children)), ("theme", .atom θ)])
    (by constructor <;> simp [Pj.TaskSrc.Env.get?_cons]) hb
  rw [callPV_bound rfl, show src_print_task_subtree =
    [.assign "values" .listNil, stLoop] ++ stCol ++ ([stApp1, stApp2, stCells] ++ [stKids]) from rfl, ho, subLog_succ,
    List.append_nil, List.append_assoc]
  rfl

/-- the subtree of `t` is at most `n` levels deep -/
def DepthOK (pts : Nat → PyTask) : Nat → Nat → Prop
  | 0, _ => False
  | n + 1, t => ∀ c ∈ (pts t).children, DepthOK pts n c

/-- recursion over the children, call by call: what every call of depth `n + 1` at fuel `F + 1` does follows from what
    the calls for the children do at depth `n` and fuel `F` -/
theorem DepthOK.rec_calls {pts : Nat → PyTask} {Q : Nat → Nat → Nat → Prop}
    (step : ∀ F n t, (∀ c ∈ (pts t).children, Q F n c) → Q (F + 1) (n + 1) t) :
    ∀ n F t, DepthOK pts n t → Q (F + n) n t
  | 0, _, _, h => h.elim
  | n + 1, F, t, h => step (F + n) n t fun c hc => DepthOK.rec_calls step n F c (h c hc)

theorem subtree_spec (hS : S.OK) (hc : ColOK S pts) (fields : List Str) (children : Bool) (θ : Atom) (b : Nat)
    (n F t level : Nat) (st : PState) (log : List Atom)
    (hd : children = true → DepthOK pts (n + 1) t) (hb : st.boxes[b]? = some log) :
    (Hp S pts th (F + n + 4)).fnV fn_print_task_subtree (stArgs S t fields level b children θ) st =
      .ok (.atom .none, putLog st b (log ++ subLog S pts th fields children (n + 1) level t)) := by
  cases children with
  | false =>
    rw [pfnV_succ _ _ _ _ _ _ _ pf_subtree]
    exact subtree_body pts th hS hc (F + n) t level b n fields false θ st log (fun h => nomatch h) hb
  | true =>
    exact DepthOK.rec_calls (Q := fun F n t => ∀ level st log, st.boxes[b]? = some log →
        (Hp S pts th (F + 3)).fnV fn_print_task_subtree (stArgs S t fields level b true θ) st =
          .ok (.atom .none, putLog st b (log ++ subLog S pts th fields true n level t)))
      (fun F n t hrec level st log hb => by
        rw [pfnV_succ _ _ _ _ _ _ _ pf_subtree]
        exact subtree_body pts th hS hc F t level b n fields true θ st log (fun _ c hc => hrec c hc (level + 1)) hb)
      (n + 1) F t (hd rfl) level st log hb

theorem interpSubtree_eq (hS : S.OK) (hc : ColOK S pts) (F n t level : Nat) (fields : List Str) (children : Bool)
    (log : List Atom) (hd : children = true → DepthOK pts (n + 1) t) (hF : n + 4 ≤ F) :
    interpSubtree S pts th F t fields level children log =
      .ok (log ++ logOfRows S (subtreeRows (tsOf S pts) fields children (toTheme th) (n + 1) level t)) := by
  rw [interpSubtree, interp_eq pts th hF fun F =>
    Nat.add_assoc F n 4 ▸ subtree_spec pts th hS hc fields children (.ref 0) 0 n F t level (stLog log) log hd rfl]
  rfl

/-! ## `repr` -/

theorem prim_upper' (hS : S.OK) (x : Str) (st : PState) :
    printPrim S pts th "upper" [S.s x] st = .ok (.atom (S.s (x.map asciiUpper))) := by
  have h : ∀ k, printPrim S pts th "upper" [.str k] st = .ok (.atom (S.s ((S.D k).map asciiUpper))) := by
    intro k; prim_of printPrim
  simp only [Lib.s, h, hS x]

theorem prim_contains_hc (hS : S.OK) (a : Atom) (st : PState) :
    printPrim S pts th "contains" [a, S.s hcKey] st = .ok (.atom (.bool th.header.isSome)) := by
  have h : ∀ k, S.D k = hcKey → printPrim S pts th "contains" [a, .str k] st = .ok (.atom (.bool th.header.isSome)) := by
    intro k hk
    unfold printPrim
    rw [if_neg (by decide +kernel)]
    simp only [String.reduceEq, if_false, if_true]
    rw [hk]
    have h1 : decide (hcKey = "level_colors".toList) = false := by decide +kernel
    have h2 : decide (hcKey = "header_color".toList) = true := by decide +kernel
    rw [h1, h2]
    simp [pure, Except.pure]
  exact h _ (hS hcKey)

theorem prim_getitem_hc (hS : S.OK) (a : Atom) (h : Option Str) (hh : th.header = some h) (st : PState) :
    printPrim S pts th "getitem" [a, S.s hcKey] st = .ok (.atom (S.os h)) := by
  have h : ∀ k, S.D k = hcKey → printPrim S pts th "getitem" [a, .str k] st = .ok (.atom (S.os h)) := by
    intro k hk
    unfold printPrim
    rw [if_neg (by decide +kernel)]
    simp only [String.reduceEq, if_false, if_true]
    rw [hk, if_neg (show ¬ hcKey = "level_colors".toList by decide +kernel),
      if_pos (show hcKey = "header_color".toList from rfl), hh]
    rfl
  exact h _ (hS hcKey)

def rpHead : List Stmt := src_repr.take 4
def rpHdr : Stmt := src_repr.getD 6 .pass
def rpTasks : Stmt := src_repr.getD 7 .pass
def rpTasksBody : List Stmt := match rpTasks with | .forIn _ _ b => b | _ => []
theorem rp_shape : src_repr = rpHead ++ [.boxAppend (.var "table") (.bool true), .boxAppend (.var "table") (.var "header_color"),
    rpHdr, rpTasks, .ret (.prim "text_repr" (.items (.var "table")))] := rfl
theorem rpTasks_eq : rpTasks = .forIn "_task" (.var "tasks") rpTasksBody := rfl

/-- the environment of `repr` after the table has been made -/
structure RpEnv (S : Lib) (ρ : PyLite.Env) (tasks : List Nat) (fields : List Str) (b : Nat) (children : Bool) (θ : Atom) : Prop where
  tasks : ρ.get? "tasks" = some (refsA tasks)
  fields : ρ.get? "fields" = some (.list (fields.map S.s))
  table : ρ.get? "table" = some (.atom (.box b))
  children : ρ.get? "children" = some (.atom (.bool children))
  theme : ρ.get? "theme" = some (.atom θ)

theorem RpEnv.set {ρ : PyLite.Env} {tasks : List Nat} {fields : List Str} {b : Nat} {children : Bool} {θ : Atom}
    (h : RpEnv S ρ tasks fields b children θ) (x : String) (v : Val)
    (hx : x ≠ "tasks" ∧ x ≠ "fields" ∧ x ≠ "table" ∧ x ≠ "children" ∧ x ≠ "theme") :
    RpEnv S (ρ.set x v) tasks fields b children θ := by
  obtain ⟨h1, h2, h3, h4, h5⟩ := hx
  constructor <;> simp only [Pj.TaskSrc.Env.get?_set, h1, h2, h3, h4, h5, if_false]
  · exact h.tasks
  · exact h.fields
  · exact h.table
  · exact h.children
  · exact h.theme

theorem rpHead_spec (hS : S.OK) (F : Nat) (tasks : List Nat) (fields : List Str) (children : Bool) (θ : Atom)
    (hθ : θ ≠ .none) (st : PState) :
    ∃ ρ', execBlockP (Hp S pts th F) [] noRec rpHead
        [("tasks", refsA tasks), ("fields", .list (fields.map S.s)), ("children", .atom (.bool children)), ("theme", .atom θ)] st =
        .normal ρ' { st with boxes := st.boxes ++ [[]] } ∧
      RpEnv S ρ' tasks fields st.boxes.length children θ ∧
      ρ'.get? "header_color" = some (.atom (S.os (toTheme th).header)) := by
  have hθ' : (Val.atom θ = Val.atom Atom.none) = False := by simp [hθ]
  have hco := prim_contains_hc pts th hS θ st
  cases hh : th.header with
  | none =>
    refine ⟨(Env.set (Env.set [("tasks", refsA tasks), ("fields", .list (fields.map S.s)), ("children", .atom (.bool children)),
        ("theme", .atom θ)] "header_color" (.atom (S.s grey))) "table" (.atom (.box st.boxes.length))), ?_, ?_, ?_⟩
    · simp [pylite_step, rpHead, src_repr, hθ', lit_hcolor, lit_grey, hco, hh]
    · constructor <;> simp [Pj.TaskSrc.Env.get?_set, Pj.TaskSrc.Env.get?_cons]
    · simp [Pj.TaskSrc.Env.get?_set, toTheme, hh, Lib.os]
  | some h =>
    have hg := prim_getitem_hc pts th hS θ h hh st
    refine ⟨(Env.set (Env.set [("tasks", refsA tasks), ("fields", .list (fields.map S.s)), ("children", .atom (.bool children)),
        ("theme", .atom θ)] "header_color" (.atom (S.os h))) "table" (.atom (.box st.boxes.length))), ?_, ?_, ?_⟩
    · simp [pylite_step, rpHead, src_repr, hθ', lit_hcolor, hco, hh, hg]
    · constructor <;> simp [Pj.TaskSrc.Env.get?_set, Pj.TaskSrc.Env.get?_cons]
    · simp [Pj.TaskSrc.Env.get?_set, toTheme, hh]

def hdrLog (S : Lib) (th : PyTheme) (fields : List Str) : List Atom :=
  .bool true :: S.os (toTheme th).header :: (fields.map (fun f => f.map asciiUpper)).map S.s

theorem os_not_box (o : Option Str) : (S.os o).isBox = false := by cases o <;> rfl

theorem rpHdr_logs (hS : S.OK) (F b : Nat) (tasks : List Nat) (fields : List Str) (children : Bool) (θ : Atom) :
    Logs (Hp S pts th F) b
      (fun ρ => RpEnv S ρ tasks fields b children θ ∧ ρ.get? "header_color" = some (.atom (S.os (toTheme th).header)))
      (fun ρ => RpEnv S ρ tasks fields b children θ)
      [.boxAppend (.var "table") (.bool true), .boxAppend (.var "table") (.var "header_color"), rpHdr] (hdrLog S th fields) :=
  ((writeRow_logs (cx := "header_color") (x := "s") (src := "fields") (e := .prim "upper" (.listCons (.var "s") .listNil))
    (f := S.s) (g := S.s ∘ List.map asciiUpper)
    (fun ρ v h => ⟨h.1.set _ _ (by decide), by simpa [Pj.TaskSrc.Env.get?_set] using h.2⟩) (fun ρ h => h.1.table)
    (fun ρ h => h.2) (os_not_box _) (fun ρ h => h.1.fields) (fun c ρ st _ hs => by simp [pylite_step, hs, prim_upper' pts th hS])
    (fun _ => rfl)).mono fun ρ h => h.1).congr fun a => by simp [hdrLog, List.map_map]

theorem rpTasks_logs (hS : S.OK) (hc : ColOK S pts) (F n b : Nat) (tasks : List Nat) (fields : List Str) (children : Bool)
    (θ : Atom) (hd : children = true → ∀ t ∈ tasks, DepthOK pts (n + 1) t) :
    Logs (Hp S pts th (F + n + 4)) b (fun ρ => RpEnv S ρ tasks fields b children θ) (fun ρ => RpEnv S ρ tasks fields b children θ)
      [rpTasks] (tasks.flatMap (subLog S pts th fields children (n + 1) 0)) := by
  rw [rpTasks_eq]
  exact calls_logs (vs := fun t => stArgs S t fields 0 b children θ) (fun ρ v h => h.set _ _ (by decide))
    (fun ρ st h => evalP_var _ _ _ _ _ _ h.tasks)
    (fun t ρ st h ht => by
      simp only [stArgs, show ((0 : Nat) : Rat) = 0 from rfl]
      simp [pylite_step, ht, h.fields, h.table, h.children, h.theme])
    (fun t ht st log hb => subtree_spec pts th hS hc fields children θ b n F t 0 st log (fun h => hd h t ht) hb)

/-- the rows that read back from the log: `mkRow` gives every cell the colour of its row -/
def RowOK (r : Option Str × List Cell) : Prop := ∀ c ∈ r.2, c.color = r.1

theorem parse_cells (cells : List Str) (L pend : List Atom) (rows : List (Option Str × List Cell))
    (h : parseLog S L = some (pend, rows)) :
    parseLog S (cells.map S.s ++ L) = some (cells.map S.s ++ pend, rows) := by
  induction cells with
  | nil => simpa using h
  | cons c cs ih => simp [parseLog, Lib.s] at ih ⊢; simp [ih]

theorem parse_row' (c : Atom) (cellsA L : List Atom) (rows : List (Option Str × List Cell))
    (hc : c = .none ∨ ∃ k, c = .str k) (h : parseLog S (cellsA ++ L) = some (cellsA, rows)) :
    parseLog S (.bool true :: c :: (cellsA ++ L)) = (mkRow S c cellsA).map (fun r => ([], r :: rows)) := by
  rcases hc with rfl | ⟨k, rfl⟩ <;> simp [parseLog, h]

theorem mkRow_os (hS : S.OK) (col : Option Str) (texts : List Str) :
    mkRow S (S.os col) (texts.map S.s) = some (col, texts.map (fun x => { text := x, color := col })) := by
  have hm : (texts.map S.I).map (fun k => ({ text := S.D k, color := col } : Cell)) =
      texts.map (fun x => { text := x, color := col }) := by
    rw [List.map_map]
    apply List.map_congr_left
    intro x _
    simp [hS x]
  cases col with
  | none => simp only [mkRow, keysOfStrs_map, Lib.os, hm]
  | some c => simp only [mkRow, keysOfStrs_map, Lib.os, Lib.s, hS c, hm]

theorem parse_row (hS : S.OK) (r : Option Str × List Cell) (hr : RowOK r) (L : List Atom)
    (rows : List (Option Str × List Cell)) (h : parseLog S L = some ([], rows)) :
    parseLog S (logOfRow S r ++ L) = some ([], r :: rows) := by
  obtain ⟨col, cells⟩ := r
  have h1 := parse_cells (S := S) (cells.map (·.text)) L [] rows h
  rw [List.append_nil] at h1
  have hcells : (cells.map (·.text)).map (fun x => ({ text := x, color := col } : Cell)) = cells := by
    rw [List.map_map]
    conv => rhs; rw [← List.map_id cells]
    apply List.map_congr_left
    intro c hc
    have := hr c hc
    simp only at this
    simp only [Function.comp_apply, id, ← this]
  have hos : S.os col = .none ∨ ∃ k, S.os col = .str k := by
    cases col
    · exact Or.inl rfl
    · exact Or.inr ⟨_, rfl⟩
  have h2 := parse_row' (S := S) (S.os col) _ L rows hos h1
  rw [mkRow_os hS, hcells] at h2
  simp only [List.map_map, Option.map_some] at h2
  simp only [logOfRow, List.cons_append]
  exact h2

theorem rowsOfLog_logOfRows (hS : S.OK) (rows : List (Option Str × List Cell)) (h : ∀ r ∈ rows, RowOK r) :
    rowsOfLog S (logOfRows S rows) = some rows := by
  have : parseLog S (logOfRows S rows) = some ([], rows) := by
    induction rows with
    | nil => rfl
    | cons r rows ih =>
      rw [logOfRows_cons]
      exact parse_row hS r (h r List.mem_cons_self) _ rows (ih (fun r hr => h r (List.mem_cons_of_mem _ hr)))
  simp [rowsOfLog, this]

theorem subtreeRows_ok (ts : Nat → PTask) (fields : List Str) (children : Bool) (theme : Theme) :
    ∀ n level t, ∀ r ∈ subtreeRows ts fields children theme n level t, RowOK r := by
  intro n
  induction n with
  | zero => intro level t r hr; simp [subtreeRows] at hr
  | succ n ih =>
    intro level t r hr
    simp only [subtreeRows, List.mem_cons] at hr
    rcases hr with rfl | hr
    · intro c hc
      simp only [List.mem_map] at hc
      obtain ⟨f, -, rfl⟩ := hc
      show (if (f == "name".toList) = true then _ else _ : Cell).color = _
      split <;> rfl
    · cases children with
      | false => simp at hr
      | true =>
        simp only [if_true, List.mem_flatten, List.mem_map] at hr
        obtain ⟨l, ⟨c, -, rfl⟩, hr⟩ := hr
        exact ih _ _ r hr

def sheetRows (ts : Nat → PTask) (n : Nat) (tasks : List Nat) (fields : List Str) (children : Bool) (theme : Theme) :
    List (Option Str × List Cell) :=
  (theme.header, fields.map (fun f => { text := f.map asciiUpper, color := theme.header })) ::
    (tasks.map (subtreeRows ts fields children theme (n + 1) 0)).flatten

theorem sheet_eq (ts : Nat → PTask) (n : Nat) (tasks : List Nat) (fields : List Str) (children : Bool) (theme : Theme) :
    sheet ts n tasks fields children theme = render (sheetRows ts n tasks fields children theme) := rfl

theorem sheetRows_ok (ts : Nat → PTask) (n : Nat) (tasks : List Nat) (fields : List Str) (children : Bool) (theme : Theme) :
    ∀ r ∈ sheetRows ts n tasks fields children theme, RowOK r := by
  intro r hr
  simp only [sheetRows, List.mem_cons, List.mem_flatten, List.mem_map] at hr
  rcases hr with rfl | ⟨l, ⟨t, -, rfl⟩, hr⟩
  · intro c hc
    simp only [List.mem_map] at hc
    obtain ⟨f, -, rfl⟩ := hc
    rfl
  · exact subtreeRows_ok ts fields children theme _ _ _ r hr

theorem sheetLog_eq (n : Nat) (tasks : List Nat) (fields : List Str) (children : Bool) :
    hdrLog S th fields ++ tasks.flatMap (subLog S pts th fields children (n + 1) 0) =
      logOfRows S (sheetRows (tsOf S pts) n tasks fields children (toTheme th)) := by
  simp only [sheetRows, logOfRows_cons, logOfRows_flatten, List.flatMap_map]
  congr 1
  simp [logOfRow, hdrLog, List.map_map, Function.comp_def]

theorem prim_text_repr (log : List Atom) (rows : List (Option Str × List Cell)) (h : rowsOfLog S log = some rows) (st : PState) :
    printPrim S pts th "text_repr" log st = .ok (.atom (S.s (render rows))) := by
  unfold printPrim
  rw [if_neg (by decide +kernel)]
  simp [h, pure, Except.pure]

theorem pf_repr : printFuns fn_repr = some (src_repr_params, src_repr) := rfl

theorem repr_spec (hS : S.OK) (hc : ColOK S pts) (F n : Nat) (tasks : List Nat) (fields : List Str) (children : Bool)
    (θ : Atom) (hθ : θ ≠ .none) (st : PState) (hd : children = true → ∀ t ∈ tasks, DepthOK pts (n + 1) t) :
    (Hp S pts th (F + n + 5)).fnV fn_repr [refsA tasks, .list (fields.map S.s), .atom (.bool children), .atom θ] st =
      .ok (.atom (S.s (sheet (tsOf S pts) n tasks fields children (toTheme th))),
        { st with boxes := st.boxes ++ [logOfRows S (sheetRows (tsOf S pts) n tasks fields children (toTheme th))] }) := by
  obtain ⟨ρ1, h1, hρ1, hh1⟩ := rpHead_spec pts th hS (F + n + 4) tasks fields children θ hθ st
  have hb1 : ({ st with boxes := st.boxes ++ [[]] } : PState).boxes[st.boxes.length]? = some [] := by simp
  obtain ⟨ρ3, h3, hρ3⟩ := ((rpHdr_logs pts th hS (F + n + 4) st.boxes.length tasks fields children θ).append
    (rpTasks_logs pts th hS hc F n st.boxes.length tasks fields children θ hd)).run_box
    ⟨hρ1, hh1⟩ hb1
  rw [List.nil_append, sheetLog_eq] at h3
  rw [pfnV_succ _ _ _ _ _ _ _ pf_repr, callPV_bound rfl,
    show src_repr = rpHead ++ (([.boxAppend (.var "table") (.bool true), .boxAppend (.var "table") (.var "header_color"),
      rpHdr] ++ [rpTasks]) ++ [.ret (.prim "text_repr" (.items (.var "table")))]) from rfl]
  simp only [execBlockP_append, h1, h3, execBlockP_one, Stmt.execP, Expr.evalP, hρ3.table, putLog_get _ _ _ _ hb1,
    bind, Except.bind, pure, Except.pure, Hp_prim, sheet_eq, blockRes,
    prim_text_repr pts th _ _ (rowsOfLog_logOfRows hS _ (sheetRows_ok (tsOf S pts) n tasks fields children (toTheme th)))]
  simp [putLog]

theorem interpRepr_eq (hS : S.OK) (hc : ColOK S pts) (F n : Nat) (tasks : List Nat) (fields : List Str) (children : Bool)
    (hd : children = true → ∀ t ∈ tasks, DepthOK pts (n + 1) t) (hF : n + 5 ≤ F) :
    interpRepr S pts th F tasks fields children =
      .ok (.atom (S.s (sheet (tsOf S pts) n tasks fields children (toTheme th))),
        logOfRows S (sheetRows (tsOf S pts) n tasks fields children (toTheme th))) := by
  rw [interpRepr, interp_eq pts th hF fun F =>
    Nat.add_assoc F n 5 ▸ repr_spec pts th hS hc F n tasks fields children (.ref 0) (by simp) st0 hd]
  rfl

theorem pyMax_nat (a b : Nat) :
    pyMax (.atom (.num ((a : Nat) : Rat))) (.atom (.num ((b : Nat) : Rat))) = .ok (.atom (.num ((max a b : Nat) : Rat))) := by
  by_cases h : a < b
  · have hm : max a b = b := by omega
    simp [pyMax, PyLite.compare, cmpRat, Atom.asNum?, bind, Except.bind, pure, Except.pure, Rat.natCast_lt_natCast, h, hm]
  · have hm : max a b = a := by omega
    simp [pyMax, PyLite.compare, cmpRat, Atom.asNum?, bind, Except.bind, pure, Except.pure, Rat.natCast_lt_natCast, h, hm]

theorem forLoopP_foldN {α : Type} (g : α → Atom) (f : Nat → α → Nat) (x acc : String)
    (body : PyLite.Env → PState → OutcomeP) (P : PyLite.Env → Prop) (st : PState) (l : List α)
    (hb : ∀ ρ m c, c ∈ l → P ρ → ρ.get? acc = some (.atom (.num ((m : Nat) : Rat))) →
      ∃ ρ', P ρ' ∧ ρ'.get? acc = some (.atom (.num ((f m c : Nat) : Rat))) ∧ body (ρ.set x (g c)) st = .normal ρ' st)
    (ρ : PyLite.Env) (m : Nat) (hP : P ρ) (ha : ρ.get? acc = some (.atom (.num ((m : Nat) : Rat)))) :
    ∃ ρ', P ρ' ∧ ρ'.get? acc = some (.atom (.num ((l.foldl f m : Nat) : Rat))) ∧
      forLoopP x body (l.map g) ρ st = .normal ρ' st :=
  Pj.TaskSrc.forLoopP_local g (fun n : Nat => .atom (.num (n : Rat))) f x acc body P st l hb ρ m hP ha

theorem pf_title : printFuns fn_calc_max_title_len = some (src_calc_max_title_len_params, src_calc_max_title_len) := rfl

def tlLoop : Stmt := src_calc_max_title_len.getD 2 .pass
def tlBody : List Stmt := match tlLoop with | .forIn _ _ b => b | _ => []
theorem tl_shape : src_calc_max_title_len = src_calc_max_title_len.take 2 ++ [tlLoop, .ret (.var "_current_max")] := rfl
theorem tlLoop_eq : tlLoop = .forIn "ch" (.prim "children" (.listCons (.var "task") .listNil)) tlBody := rfl

end Pj.PrintSrc

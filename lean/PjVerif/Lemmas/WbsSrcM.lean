/-
  Lemmas/WbsSrcM.lean — model-level lemmas for stage 3 of the translated tie for wbs.py (`WBS.clone` / `subtree`;
  the stages: Lemmas/WbsSrc.lean).

  The model (`cloneSel`, Model/Clone.lean) allocates ALL new objects first (`extend`: the clones and the hidden root
  `X = s.n + sel.length` of the new WBS) and then replays the setters; the source allocates the clones, replays the
  per-task setters and only then constructs the new WBS object (`WBS()`), i.e. the object `X` is still an unallocated
  blank while the setters run.  `unroot X v g` is the model state `g` with the object `X` "not yet constructed" (its
  id is `v`, it has no owner).  As long as `X` is isolated (`Isolated`: no relation of any object mentions it) and is
  not an argument, the four relation setters do not look at the id / owner of `X`: they commute with `unroot`.
  `X` is isolated after `extend` (`isolated_extend`) and no per-task call of `cloneSel` names it, so the model's chain
  of calls for one task (`Sound.task_chain`, Lemmas/CloneLemmas.lean) runs the same way before `X` exists
  (`Mid.task_chain`): that is what the source-level proof follows.
-/
import PjVerif.Lemmas.CloneLemmas
namespace Pj.WbsSrc
open Pj

/-- the state `g` before the object `X` is constructed as a hidden root: its id is `v`, it is not attached -/
def unroot (X : Uid) (v : Int) (g : G) : G :=
  { g with tid := upd g.tid X v, owner := upd g.owner X none }

/-- no relation of any object mentions `X` -/
structure Isolated (X : Uid) (g : G) : Prop where
  parent : g.parent X = none
  children : g.children X = []
  preds : g.preds X = []
  succs : g.succs X = []
  noParent : ∀ u, g.parent u ≠ some X
  noChild : ∀ u, X ∉ g.children u
  noPred : ∀ u, X ∉ g.preds u
  noSucc : ∀ u, X ∉ g.succs u
  noOwner : ∀ u, u ≠ X → g.owner u ≠ some X

@[simp] theorem unroot_n (X : Uid) (v : Int) (g : G) : (unroot X v g).n = g.n := rfl
@[simp] theorem unroot_fuel (X : Uid) (v : Int) (g : G) : (unroot X v g).fuel = g.fuel := rfl
@[simp] theorem unroot_parent (X : Uid) (v : Int) (g : G) : (unroot X v g).parent = g.parent := rfl
@[simp] theorem unroot_children (X : Uid) (v : Int) (g : G) : (unroot X v g).children = g.children := rfl
@[simp] theorem unroot_preds (X : Uid) (v : Int) (g : G) : (unroot X v g).preds = g.preds := rfl
@[simp] theorem unroot_succs (X : Uid) (v : Int) (g : G) : (unroot X v g).succs = g.succs := rfl

theorem unroot_tid_ne (X : Uid) (v : Int) (g : G) (u : Uid) (h : u ≠ X) : (unroot X v g).tid u = g.tid u := by
  simp [unroot, h]

theorem unroot_owner_ne (X : Uid) (v : Int) (g : G) (u : Uid) (h : u ≠ X) : (unroot X v g).owner u = g.owner u := by
  simp [unroot, h]

theorem unroot_hidden_ne (X : Uid) (v : Int) (g : G) (u : Uid) (h : u ≠ X) :
    (unroot X v g).hidden u = g.hidden u := by
  unfold G.hidden; rw [unroot_tid_ne X v g u h]

theorem unroot_linkedWithAny (X : Uid) (v : Int) (g : G) (a b : List Uid) :
    linkedWithAny (unroot X v g) a b = linkedWithAny g a b := rfl

theorem unroot_pubParent (X : Uid) (v : Int) (g : G) (hI : Isolated X g) (t : Uid) :
    (unroot X v g).pubParent t = g.pubParent t := by
  unfold G.pubParent
  simp only [unroot_parent]
  cases hp : g.parent t with
  | none => rfl
  | some q =>
    have hq : q ≠ X := fun e => hI.noParent t (e ▸ hp)
    simp only [unroot_hidden_ne X v g q hq]

theorem pubParent_ne (X : Uid) (g : G) (hI : Isolated X g) (t : Uid) : g.pubParent t ≠ some X := by
  unfold G.pubParent
  cases hp : g.parent t with
  | none => simp
  | some q =>
    have hq : q ≠ X := fun e => hI.noParent t (e ▸ hp)
    simp only
    split
    · simp
    · intro e; exact hq (Option.some.inj e)

theorem unroot_ancF (X : Uid) (v : Int) (g : G) (hI : Isolated X g) (f : Nat) (o : Option Uid) (ho : o ≠ some X) :
    ancF (unroot X v g) f o = ancF g f o := by
  induction f generalizing o with
  | zero => rfl
  | succ f ih =>
    cases o with
    | none => rfl
    | some p =>
      have hp : p ≠ X := fun e => ho (e ▸ rfl)
      simp only [ancF, unroot_hidden_ne X v g p hp, unroot_pubParent X v g hI p, ih _ (pubParent_ne X g hI p)]

theorem unroot_rootF (X : Uid) (v : Int) (g : G) (f : Nat) (t : Uid) :
    rootF (unroot X v g) f t = rootF g f t := by
  induction f generalizing t with
  | zero => rfl
  | succ f ih =>
    simp only [rootF, unroot_parent]
    cases g.parent t with
    | none => rfl
    | some p => exact ih p

theorem rootF_ne (X : Uid) (g : G) (hI : Isolated X g) (f : Nat) (t r : Uid) (h : rootF g f t = some r) (ht : t ≠ X) :
    r ≠ X := by
  induction f generalizing t with
  | zero => simp [rootF] at h
  | succ f ih =>
    rw [rootF] at h
    cases hp : g.parent t with
    | none => rw [hp] at h; cases Option.some.inj h; exact ht
    | some p =>
      rw [hp] at h
      exact ih p h (fun e => hI.noParent t (e ▸ hp))

theorem subtree_ne (X : Uid) (next : Uid → List Uid) (hn : ∀ u, X ∉ next u) (f : Nat) (c : Uid) (sub : List Uid)
    (h : subtreeF next f c = some sub) (hc : c ≠ X) : ∀ x ∈ sub, x ≠ X :=
  subtreeF_closed next (fun x => x ≠ X) (fun a _ _ hb e => hn a (e ▸ hb)) f c sub h hc

theorem desc_ne (X : Uid) (next : Uid → List Uid) (hn : ∀ u, X ∉ next u) (f : Nat) (c : Uid) (d : List Uid)
    (h : descF next f c = some d) : ∀ x ∈ d, x ≠ X := by
  intro x hx
  have := descF_sound next f c d h x hx
  rcases TC.tail_cases this with h1 | ⟨_, _, h1⟩ <;> exact fun e => hn _ (e ▸ h1)

theorem mapM_subtree_ne (X : Uid) (next : Uid → List Uid) (hn : ∀ u, X ∉ next u) (f : Nat) (l : List Uid)
    (subs : List (List Uid)) (h : l.mapM (subtreeF next f) = some subs) (hl : ∀ x ∈ l, x ≠ X) :
    ∀ x ∈ subs.flatten, x ≠ X := by
  intro x hx
  obtain ⟨b, hb, hxb⟩ := List.mem_flatten.mp hx
  obtain ⟨c, hc, hg⟩ := mapM_some_mem_inv _ _ _ h b hb
  exact subtree_ne X next hn f c b hg (hl c hc) x hxb

theorem unroot_hasId (X : Uid) (v : Int) (g : G) (hI : Isolated X g) (p : Uid) (chs : List Uid) (hp : p ≠ X)
    (hchs : ∀ x ∈ chs, x ≠ X) : hasIdIntersection (unroot X v g) p chs = hasIdIntersection g p chs := by
  unfold hasIdIntersection
  simp only [unroot_fuel, unroot_children, unroot_rootF]
  cases hr : rootF g g.fuel p with
  | none => rfl
  | some root =>
    have hroot := rootF_ne X g hI _ _ _ hr hp
    cases ht : subtreeF g.children g.fuel root with
    | none => simp only [Option.bind_eq_bind, Option.bind_some, ht, Option.bind_none]
    | some tree =>
      have htree := subtree_ne X g.children hI.noChild _ _ _ ht hroot
      cases hs : chs.mapM (subtreeF g.children g.fuel) with
      | none => simp only [Option.bind_eq_bind, Option.bind_some, ht, Option.bind_none]
      | some subs =>
        have hsubs := mapM_subtree_ne X g.children hI.noChild _ _ _ hs hchs
        have e1 : List.map (unroot X v g).tid tree = List.map g.tid tree :=
          List.map_congr_left (fun a ha => unroot_tid_ne X v g a (htree a ha))
        have e2 : ∀ l : List Uid, (∀ x ∈ l, x ∈ subs.flatten) → List.map (unroot X v g).tid l = List.map g.tid l :=
          fun l hl => List.map_congr_left (fun a ha => unroot_tid_ne X v g a (hsubs a (hl a ha)))
        simp only [Option.bind_eq_bind, Option.bind_some, ht, e1]
        rw [e2 _ (fun x hx => (List.mem_filter.mp (List.mem_eraseDups.mp hx)).1)]

theorem unroot_setOwners (X : Uid) (v : Int) (g : G) (l : List Uid) (o : Option Uid) (hl : ∀ x ∈ l, x ≠ X) :
    setOwners (unroot X v g) l o = unroot X v (setOwners g l o) := by
  refine G.eq_of_fields ⟨rfl, fun x => ⟨rfl, rfl, rfl, rfl, rfl, ?_⟩⟩
  show (if l.contains x then o else upd g.owner X none x) = upd (fun x => if l.contains x then o else g.owner x) X none x
  by_cases hx : x = X
  · subst hx
    simp only [contains_eq_false hl, upd_same]; rfl
  · simp [upd, hx]

theorem unroot_detachOld (X : Uid) (v : Int) (g : G) (t : Uid) :
    detachOld (unroot X v g) t = unroot X v (detachOld g t) := by
  unfold detachOld
  rw [show (unroot X v g).parent t = g.parent t from rfl]
  cases g.parent t with
  | none => rfl
  | some q =>
    dsimp only
    by_cases hc : (g.children q).contains t = true
    · have hc' : ((unroot X v g).children q).contains t = true := hc
      rw [if_pos hc, if_pos hc']; rfl
    · have hc' : ¬ ((unroot X v g).children q).contains t = true := hc
      rw [if_neg hc, if_neg hc']

theorem unroot_parStep (X : Uid) (v : Int) (g : G) (t p : Uid) :
    parStep (unroot X v g) t p = unroot X v (parStep g t p) := rfl

theorem unroot_ownStep (X : Uid) (v : Int) (g : G) (sub : List Uid) (p : Uid) (hp : p ≠ X) (hs : ∀ x ∈ sub, x ≠ X) :
    ownStep (unroot X v g) sub p = unroot X v (ownStep g sub p) := by
  unfold ownStep
  rw [unroot_owner_ne X v g p hp]
  split
  · rfl
  · exact unroot_setOwners X v g sub _ hs

theorem unroot_appStep (X : Uid) (v : Int) (g : G) (t p : Uid) :
    appStep (unroot X v g) t p = unroot X v (appStep g t p) := by
  unfold appStep
  by_cases hc : (g.children p).contains t = true
  · have hc' : ((unroot X v g).children p).contains t = true := hc
    rw [if_pos hc, if_pos hc']
  · have hc' : ¬ ((unroot X v g).children p).contains t = true := hc
    rw [if_neg hc, if_neg hc']; rfl

theorem unroot_chkParentSome (X : Uid) (v : Int) (g : G) (hI : Isolated X g) (t p : Uid) (ht : t ≠ X) (hp : p ≠ X) :
    chkParentSome (unroot X v g) t p = chkParentSome g t p := by
  unfold chkParentSome
  simp only [unroot_owner_ne X v g t ht, unroot_owner_ne X v g p hp, unroot_pubParent X v g hI,
    unroot_hasId X v g hI p [t] hp (by simpa using ht), unroot_children, unroot_fuel, unroot_parent,
    unroot_ancF X v g hI _ _ (hI.noParent p), unroot_linkedWithAny]
  rfl

/-! ### `Isolated` is preserved: everything but `X` is a closed region (`HLocal`, Lemmas/GraphParent.lean) -/

theorem Isolated.hclosed {X : Uid} {g : G} (hI : Isolated X g) : HClosed (fun u => u ≠ X) g :=
  ⟨fun u _ _ hp e => hI.noParent u (e ▸ hp), fun u _ _ hx e => hI.noChild u (e ▸ hx),
   fun u _ hu hw e => hI.noOwner u hu (e ▸ hw)⟩

theorem Isolated.of_hlocal {X : Uid} {g g' : G} (hI : Isolated X g) (h : HLocal (fun u => u ≠ X) g g') :
    Isolated X g' := by
  have hX : ¬ (fun u => u ≠ X) X := fun e => e rfl
  refine ⟨(h.parent X hX).trans hI.parent, (h.children X hX).trans hI.children, ?_, ?_, ?_, ?_, ?_, ?_, ?_⟩
  · rw [h.preds]; exact hI.preds
  · rw [h.succs]; exact hI.succs
  · intro u hu
    by_cases e : u = X
    · rw [e, (h.parent X hX).trans hI.parent] at hu; cases hu
    · exact h.closed.parent u X e hu rfl
  · intro u hu
    by_cases e : u = X
    · rw [e, (h.children X hX).trans hI.children] at hu; cases hu
    · exact h.closed.children u X e hu rfl
  · rw [h.preds]; exact hI.noPred
  · rw [h.succs]; exact hI.noSucc
  · intro u hu hw
    exact h.closed.owner u X hu hw rfl


theorem setParentSome_unroot (X : Uid) (v : Int) (g : G) (hI : Isolated X g) (t p : Uid) (ht : t ≠ X) (hp : p ≠ X) :
    setParentSome (unroot X v g) t p = (unroot X v (setParentSome g t p).1, (setParentSome g t p).2) ∧
    Isolated X (setParentSome g t p).1 := by
  refine ⟨?_, hI.of_hlocal (setParentSome_hlocal hI.hclosed t p ht hp)⟩
  unfold setParentSome
  rw [unroot_chkParentSome X v g hI t p ht hp]
  cases chkParentSome g t p with
  | some e => rfl
  | none =>
    dsimp only
    rw [mutParentSome_eq, mutParentSome_eq]
    rw [show subtreeF (unroot X v g).children (unroot X v g).fuel t = subtreeF g.children g.fuel t from rfl]
    cases hs : subtreeF g.children g.fuel t with
    | none => rfl
    | some sub =>
      have hsub := subtree_ne X g.children hI.noChild _ _ _ hs ht
      dsimp only
      rw [unroot_detachOld, unroot_parStep, unroot_ownStep X v _ sub p hp hsub, unroot_appStep]

theorem setParentNone_unroot (X : Uid) (v : Int) (g : G) (hI : Isolated X g) (t : Uid) (ht : t ≠ X) :
    setParentNone (unroot X v g) t = (unroot X v (setParentNone g t).1, (setParentNone g t).2) ∧
    Isolated X (setParentNone g t).1 := by
  refine ⟨?_, hI.of_hlocal (setParent_hlocal hI.hclosed t none ht nofun)⟩
  unfold setParentNone
  rw [unroot_owner_ne X v g t ht]
  cases hw : g.owner t with
  | some w => exact (setParentSome_unroot X v g hI t w ht (fun e => hI.noOwner t ht (e ▸ hw))).1
  | none =>
    dsimp only
    rw [unroot_detachOld]
    rfl

theorem setParent_unroot (X : Uid) (v : Int) (g : G) (hI : Isolated X g) (c : Uid) (p : Option Uid) (hc : c ≠ X)
    (hp : p ≠ some X) :
    setParent (unroot X v g) c p = (unroot X v (setParent g c p).1, (setParent g c p).2) ∧
    Isolated X (setParent g c p).1 := by
  cases p with
  | none => exact setParentNone_unroot X v g hI c hc
  | some p => exact setParentSome_unroot X v g hI c p hc (fun e => hp (e ▸ rfl))

theorem unroot_chkChildren (X : Uid) (v : Int) (g : G) (hI : Isolated X g) (h : Uid) (l : List Uid) (hh : h ≠ X)
    (hl : ∀ x ∈ l, x ≠ X) : chkChildren (unroot X v g) h l = chkChildren g h l := by
  unfold chkChildren
  have ea1 : l.any (fun y => ((unroot X v g).owner y).isSome) = l.any (fun y => (g.owner y).isSome) :=
    any_congr_mem l _ _ (fun x hx => by rw [unroot_owner_ne X v g x (hl x hx)])
  have ea2 : ∀ w, l.any (fun y => ((unroot X v g).owner y).isSome && (unroot X v g).owner y != some w) =
      l.any (fun y => (g.owner y).isSome && g.owner y != some w) :=
    fun w => any_congr_mem l _ _ (fun x hx => by rw [unroot_owner_ne X v g x (hl x hx)])
  simp only [unroot_owner_ne X v g h hh, ea1, ea2, unroot_hasId X v g hI h l hh hl, unroot_children, unroot_fuel,
    unroot_parent, unroot_ancF X v g hI _ _ (hI.noParent h), unroot_linkedWithAny]
  rfl

theorem releaseChildren_unroot (X : Uid) (v : Int) (g : G) (hI : Isolated X g) (h : Uid) (l : List Uid) (hh : h ≠ X) :
    releaseChildren (unroot X v g) h l = (unroot X v (releaseChildren g h l).1, (releaseChildren g h l).2) ∧
    Isolated X (releaseChildren g h l).1 := by
  refine ⟨?_, hI.of_hlocal (releaseChildren_hlocal hI.hclosed h l hh)⟩
  unfold releaseChildren
  dsimp only
  rw [show List.mapM (subtreeF (unroot X v g).children (unroot X v g).fuel)
      (List.filter (fun y => !l.contains y) ((unroot X v g).children h)) =
    List.mapM (subtreeF g.children g.fuel) (List.filter (fun y => !l.contains y) (g.children h)) from rfl]
  cases hs : List.mapM (subtreeF g.children g.fuel) (List.filter (fun y => !l.contains y) (g.children h)) with
  | none => rfl
  | some subs =>
    have hgone : ∀ x ∈ List.filter (fun y => !l.contains y) (g.children h), x ≠ X := by
      intro x hx e
      exact hI.noChild h (e ▸ (List.mem_filter.mp hx).1)
    have hsubs := mapM_subtree_ne X g.children hI.noChild _ _ _ hs hgone
    dsimp only
    have key := unroot_setOwners X v
      { g with parent := fun x => if (g.children h).contains x then none else g.parent x } subs.flatten none hsubs
    exact congrArg (fun s : G => ({ s with children := upd s.children h [] }, (none : Option Err))) key

theorem foldSetParent_unroot (X : Uid) (v : Int) (g : G) (hI : Isolated X g) (l : List Uid) (h : Uid) (hh : h ≠ X)
    (hl : ∀ x ∈ l, x ≠ X) :
    foldSetParent (unroot X v g) l h = (unroot X v (foldSetParent g l h).1, (foldSetParent g l h).2) ∧
    Isolated X (foldSetParent g l h).1 := by
  induction l generalizing g with
  | nil => exact ⟨rfl, hI⟩
  | cons a l ih =>
    obtain ⟨h1, h2⟩ := setParent_unroot X v g hI a (some h) (hl a List.mem_cons_self)
      (fun e => hh (Option.some.inj e))
    simp only [foldSetParent]
    rw [h1]
    generalize setParent g a (some h) = r at h2 ⊢
    obtain ⟨g', e⟩ := r
    cases e with
    | some e => exact ⟨rfl, h2⟩
    | none => exact ih g' h2 (fun x hx => hl x (List.mem_cons_of_mem _ hx))

theorem setChildren_unroot (X : Uid) (v : Int) (g : G) (hI : Isolated X g) (h : Uid) (l : List Uid) (hh : h ≠ X)
    (hl : ∀ x ∈ l, x ≠ X) :
    setChildren (unroot X v g) h l = (unroot X v (setChildren g h l).1, (setChildren g h l).2) ∧
    Isolated X (setChildren g h l).1 := by
  unfold setChildren
  rw [unroot_chkChildren X v g hI h l hh hl]
  cases chkChildren g h l with
  | some e => exact ⟨rfl, hI⟩
  | none =>
    dsimp only
    obtain ⟨h1, h2⟩ := releaseChildren_unroot X v g hI h l hh
    rw [h1]
    generalize releaseChildren g h l = r at h2 ⊢
    obtain ⟨g', e⟩ := r
    cases e with
    | some e => exact ⟨rfl, h2⟩
    | none => exact foldSetParent_unroot X v g' h2 l h hh hl

theorem unroot_chkLinks (X : Uid) (v : Int) (g : G) (hI : Isolated X g) (next : Uid → List Uid) (t : Uid)
    (l : List Uid) : chkLinks (unroot X v g) next t l = chkLinks g next t l := by
  unfold chkLinks
  simp only [unroot_parent, unroot_fuel, unroot_children, unroot_ancF X v g hI _ _ (hI.noParent t)]

theorem Isolated.mutPreds {X : Uid} {g : G} (hI : Isolated X g) (t : Uid) (l : List Uid) (ht : t ≠ X)
    (hl : ∀ x ∈ l, x ≠ X) : Isolated X (mutPreds g t l) := by
  have hs1 : ∀ u, X ∉ (if (g.preds t).contains u then (g.succs u).filter (fun x => x != t) else g.succs u) := by
    intro u
    split
    · intro hm; exact hI.noSucc u (List.mem_filter.mp hm).1
    · exact hI.noSucc u
  refine ⟨hI.parent, hI.children, ?_, ?_, hI.noParent, hI.noChild, ?_, ?_, hI.noOwner⟩
  · show upd g.preds t l X = []
    rw [upd_other _ _ _ _ (Ne.symm ht)]; exact hI.preds
  · show (if l.contains X ∧ _ then _ else
      (if (g.preds t).contains X then (g.succs X).filter (fun x => x != t) else g.succs X)) = []
    rw [contains_eq_false hl]
    simp [hI.succs]
  · intro u
    show X ∉ upd g.preds t l u
    by_cases hu : u = t
    · subst hu; rw [upd_same]; exact fun hm => hl X hm rfl
    · rw [upd_other _ _ _ _ hu]; exact hI.noPred u
  · intro u
    show X ∉ (if l.contains u ∧ _ then _ ++ [t] else _)
    split
    · intro hm
      rcases List.mem_append.mp hm with hm | hm
      · exact hs1 u hm
      · have hm' : X = t := by simpa using hm
        exact ht hm'.symm
    · exact hs1 u

theorem Isolated.rev {X : Uid} {g : G} (hI : Isolated X g) : Isolated X g.rev :=
  ⟨hI.parent, hI.children, hI.succs, hI.preds, hI.noParent, hI.noChild, hI.noSucc, hI.noPred, hI.noOwner⟩

theorem setPreds_unroot (X : Uid) (v : Int) (g : G) (hI : Isolated X g) (t : Uid) (l : List Uid) (ht : t ≠ X)
    (hl : ∀ x ∈ l, x ≠ X) :
    setPreds (unroot X v g) t l = (unroot X v (setPreds g t l).1, (setPreds g t l).2) ∧
    Isolated X (setPreds g t l).1 := by
  unfold setPreds
  rw [show (unroot X v g).preds = g.preds from rfl, unroot_chkLinks X v g hI]
  cases chkLinks g g.preds t l with
  | some e => exact ⟨rfl, hI⟩
  | none => exact ⟨rfl, hI.mutPreds t l ht hl⟩

theorem setSuccs_unroot (X : Uid) (v : Int) (g : G) (hI : Isolated X g) (t : Uid) (l : List Uid) (ht : t ≠ X)
    (hl : ∀ x ∈ l, x ≠ X) :
    setSuccs (unroot X v g) t l = (unroot X v (setSuccs g t l).1, (setSuccs g t l).2) ∧
    Isolated X (setSuccs g t l).1 := by
  obtain ⟨h1, h2⟩ := setPreds_unroot X v g.rev hI.rev t l ht hl
  rw [setSuccs_eq_rev, setSuccs_eq_rev]
  exact ⟨Prod.ext (congrArg (fun r => r.1.rev) h1) (congrArg (fun r => r.2) h1), h2.rev⟩

theorem isolated_extend (s : G) (hb : Bounded s) (sel : List Uid) : Isolated (s.n + sel.length) (extend s sel) := by
  obtain ⟨h1, h2, h3, h4, _⟩ := hb.blank (s.n + sel.length) (Nat.le_add_right _ _)
  refine ⟨h1, h2, h3, h4, ?_, ?_, ?_, ?_, ?_⟩
  · intro u e
    have := (hb.parent u _ e).2; uomega
  · intro u e
    have := (hb.children u _ e).2; uomega
  · intro u e
    have := (hb.preds u _ e).2; uomega
  · intro u e
    have := (hb.succs u _ e).2; uomega
  · intro u hu e
    have e' : s.owner u = some (s.n + sel.length) := by
      have : (extend s sel).owner u = s.owner u := by simp [extend, hu]
      rw [← this]; exact e
    have := (hb.owner u _ e').2; uomega

/-- where the model stands while the source replays the per-task calls of `cloneSel`: after some of them, the hidden
    root `s.n + sel.length` of the new WBS still untouched -/
structure Mid (s : G) (w : Uid) (sel : List Uid) (g : G) : Prop where
  sound : Sound s w sel g
  iso : Isolated (s.n + sel.length) g

/-- the call `op` is accepted at `g`, and runs the same way on the state in which the new hidden root does not exist -/
structure Mid.Step (s : G) (w : Uid) (sel : List Uid) (op : G → G × Option Err) (g g' : G) : Prop where
  run : op g = (g', none)
  blind : op (unroot (s.n + sel.length) (s.tid (s.n + sel.length)) g) =
    (unroot (s.n + sel.length) (s.tid (s.n + sel.length)) g', none)
  mid : Mid s w sel g'

theorem Mid.Step.of_unroot {s : G} {w : Uid} {sel : List Uid} (op : G → G × Option Err) {g g' : G} (e : op g = (g', none))
    (hS : Sound s w sel g')
    (hu : op (unroot (s.n + sel.length) (s.tid (s.n + sel.length)) g) =
        (unroot (s.n + sel.length) (s.tid (s.n + sel.length)) (op g).1, (op g).2) ∧
      Isolated (s.n + sel.length) (op g).1) : Mid.Step s w sel op g g' := by
  rw [e] at hu
  exact ⟨e, hu.1, hS, hu.2⟩

theorem lt_ne_X (s : G) (sel : List Uid) (u : Uid) (hu : u < s.n) : u ≠ s.n + sel.length := by uomega

theorem isClone_ne_X {s : G} {sel : List Uid} {c : Uid} (hc : IsClone s sel c) : c ≠ s.n + sel.length := by
  obtain ⟨i, hi, rfl⟩ := hc
  uomega

/-- the four calls for the task `sel[m]` (`Sound.task_chain`): no argument is the new hidden root, so none of them
    looks at it -/
theorem Mid.task_chain {s : G} {w : Uid} {sel : List Uid} (ok : SelOK s w sel) (m : Nat) (hm : m < sel.length)
    {g : G} (hM : Mid s w sel g) :
    ∃ g1 g2 g3 g4,
      Mid.Step s w sel (setParent · (s.n + m) ((s.pubParent (sel.getD m 0)).bind (cloneOf s.n sel))) g g1 ∧
      Mid.Step s w sel (setChildren · (s.n + m) (Lc s sel m)) g1 g2 ∧
      Mid.Step s w sel (setPreds · (s.n + m) (tgtP s w sel m)) g2 g3 ∧
      Mid.Step s w sel (setSuccs · (s.n + m) (tgtS s w sel m)) g3 g4 := by
  obtain ⟨g1, g2, g3, g4, e1, h1, e2, h2, e3, h3, e4, h4⟩ := hM.sound.task_chain ok m hm g
  obtain ⟨a1, a2, a3, a4⟩ := ok.args m
  have hcX : s.n + m ≠ s.n + sel.length := isClone_ne_X ⟨m, hm, rfl⟩
  have hne : ∀ {l : List Uid} {P : Uid → Prop}, (∀ x ∈ l, (IsClone s sel x ∨ Outside s w x) ∧ P x) →
      ∀ x ∈ l, x ≠ s.n + sel.length :=
    fun hl x hx => (hl x hx).1.elim isClone_ne_X (fun o e => by have := o.1; uomega)
  have c1 := Mid.Step.of_unroot (setParent · (s.n + m) _) e1 h1 (setParent_unroot _ _ g hM.iso _ _ hcX (fun e => isClone_ne_X (a1 _ e).1 rfl))
  have c2 := Mid.Step.of_unroot (setChildren · (s.n + m) _) e2 h2 (setChildren_unroot _ _ g1 c1.mid.iso _ _ hcX (fun x hx => isClone_ne_X (a2 x hx).1))
  have c3 := Mid.Step.of_unroot (setPreds · (s.n + m) _) e3 h3 (setPreds_unroot _ _ g2 c2.mid.iso _ _ hcX (hne a3))
  exact ⟨g1, g2, g3, g4, c1, c2, c3, Mid.Step.of_unroot (setSuccs · (s.n + m) _) e4 h4 (setSuccs_unroot _ _ g3 c3.mid.iso _ _ hcX (hne a4))⟩

end Pj.WbsSrc

#print axioms Pj.WbsSrc.setParent_unroot
#print axioms Pj.WbsSrc.setChildren_unroot
#print axioms Pj.WbsSrc.setPreds_unroot
#print axioms Pj.WbsSrc.setSuccs_unroot
#print axioms Pj.WbsSrc.isolated_extend

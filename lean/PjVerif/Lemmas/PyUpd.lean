/-
  Lemmas/PyUpd.lean — blocks that update ONE place, as an instance of `Sim` (Lemmas/PyLogic.lean):
  `Upd H pl P Q ss m` - from locals with `P`, the place `pl` holding `a`, the block `ss` ends normally in locals with `Q`,
  the place holding `m a`.  A place says where the value is kept and what of the store stays (`Place`): `inLocal acc enc` - in
  the local `acc`, the store kept (the texts, lists and numbers a printer or renderer builds in a local); `inBox b` - in
  the box `b`, the other boxes and the rest of the store kept (the table the sheet printer hands its rows to).  The
  rules compose the `m`s as the statements are composed; the value is read off at the end.
-/
import PjVerif.Lemmas.PyLogic
namespace Pj.PyLite
open Pj.TaskSrc (noRec Env.get?_set)

/-- `pl a ρ st0 st`: the locals `ρ` and the store `st` hold `a`.  `st0` is the store before the block: with it a place says what
    of the store a block may not touch (`st = st0` for a local, `st = putLog st0 b a` for a box), so that the rules give the
    store afterwards exactly and a caller can state what a call returns. -/
abbrev Place (σ : Type) := σ → Env → PState → PState → Prop

def Upd {σ : Type} (H : PHandlers) (pl : Place σ) (P Q : Env → Prop) (ss : List Stmt) (m : σ → σ) : Prop :=
  ∀ (ρ : Env) (a : σ) (st0 st : PState), P ρ → pl a ρ st0 st →
    Sim (.ok (m a)) (execBlockP H [] noRec ss ρ st) (fun a' ρ' st' => Q ρ' ∧ pl a' ρ' st0 st')

variable {σ : Type} {H : PHandlers} {pl : Place σ} {P Q R : Env → Prop}

theorem Upd.append {p q : List Stmt} {m1 m2 : σ → σ} (h1 : Upd H pl P R p m1) (h2 : Upd H pl R Q q m2) :
    Upd H pl P Q (p ++ q) (fun a => m2 (m1 a)) := fun ρ a st0 st hP ha =>
  Sim.append (k := fun a => .ok (m2 a)) (h1 ρ a st0 st hP ha) fun a1 ρ1 st1 ⟨hR, ha1⟩ => h2 ρ1 a1 st0 st1 hR ha1

theorem Upd.cons {s : Stmt} {q : List Stmt} {m1 m2 : σ → σ} (h1 : Upd H pl P R [s] m1) (h2 : Upd H pl R Q q m2) :
    Upd H pl P Q (s :: q) (fun a => m2 (m1 a)) := Upd.append (p := [s]) h1 h2

theorem Upd.mono {ss : List Stmt} {m : σ → σ} (h : Upd H pl P R ss m) (hq : ∀ ρ, R ρ → Q ρ) :
    Upd H pl P Q ss m := fun ρ a st0 st hP ha =>
  (h ρ a st0 st hP ha).mono fun _ _ _ ⟨hR, r⟩ => ⟨hq _ hR, r⟩

theorem Upd.congr {ss : List Stmt} {m m' : σ → σ} (h : Upd H pl P Q ss m) (e : ∀ a, m a = m' a) :
    Upd H pl P Q ss m' := funext e ▸ h

/-- `hpl`: binding the loop variable leaves the place alone -/
theorem Upd.forIn {α : Type} (f : α → Atom) (m : α → σ → σ) (l : List α) (v : String) (it : Expr) (body : List Stmt)
    (hpl : ∀ a ρ c st0 st, pl a ρ st0 st → pl a (ρ.set v c) st0 st) (hPv : ∀ ρ c, P ρ → P (ρ.set v c))
    (hit : ∀ ρ st, P ρ → it.evalP H [] ρ st = .ok (.list (l.map f), st))
    (hb : ∀ c ∈ l, Upd H pl (fun ρ => P ρ ∧ ρ.get? v = some (.atom (f c))) P body (m c)) :
    Upd H pl P P [.forIn v it body] (fun a => l.foldl (fun a c => m c a) a) := by
  intro ρ a st0 st hP ha
  have h := Sim.forIn (rec := noRec) (step := fun a c => .ok (m c a)) (hit := hit ρ st hP)
    (Inv := fun a' ρ' st' => P ρ' ∧ pl a' ρ' st0 st')
    (fun a c ρ' st' hc ⟨hP', ha'⟩ =>
      hb c hc (ρ'.set v (.atom (f c))) a st0 st' ⟨hPv ρ' _ hP', by simp [Env.get?_set]⟩ (hpl _ _ _ _ _ ha'))
    ⟨hP, ha⟩
  rw [show l.foldlM (fun a c => (Except.ok (m c a) : Res σ)) a = .ok (l.foldl (fun a c => m c a) a) from
    List.foldlM_pure] at h
  exact h.one

theorem Upd.forIn_le {α : Type} (f : α → Atom) (m : α → σ → σ) (l : List α) (v : String) (it : Expr) (body : List Stmt)
    {bs : Env} (hpl : ∀ a ρ c st0 st, pl a ρ st0 st → pl a (ρ.set v c) st0 st)
    (hit : ∀ ρ st, Env.le bs ρ → it.evalP H [] ρ st = .ok (.list (l.map f), st))
    (hb : ∀ c ∈ l, Upd H pl (Env.le ((v, .atom (f c)) :: bs)) (Env.le ((v, .atom (f c)) :: bs)) body (m c))
    (hv : bs.get? v = none := by rfl) :
    Upd H pl (Env.le bs) (Env.le bs) [.forIn v it body] (fun a => l.foldl (fun a c => m c a) a) :=
  Upd.forIn f m l v it body hpl (fun _ c h => h.set_ne v c hv) hit fun c hc ρ a st0 st hP ha =>
    ((hb c hc).mono fun _ h => h.tail hv) ρ a st0 st (hP.1.cons hP.2) ha

theorem Upd.ifElse {c : Expr} {t e : List Stmt} {m : σ → σ} (b : Bool)
    (hc : ∀ ρ st, P ρ → c.evalP H [] ρ st = .ok (.atom (.bool b), st))
    (h : Upd H pl P Q (if b then t else e) m) : Upd H pl P Q [.ifElse c t e] m :=
  fun ρ a st0 st hP ha => (Sim.ifElse (hc ρ st hP) (h ρ a st0 st hP ha)).one

/-- a block that leaves the store alone keeps a place that no local has a part in -/
theorem Upd.keep {ss : List Stmt} (hpl : ∀ a ρ ρ' st0 st, pl a ρ st0 st → pl a ρ' st0 st)
    (h : ∀ ρ st, P ρ → ∃ ρ', execBlockP H [] noRec ss ρ st = .normal ρ' st ∧ Q ρ') : Upd H pl P Q ss id :=
  fun ρ a st0 st hP ha => by
    obtain ⟨ρ', ho, hQ⟩ := h ρ st hP
    exact Sim.ok ho ⟨hQ, hpl _ _ _ _ _ ha⟩

/-! ### the value in a local -/

def inLocal (acc : String) (enc : σ → Val) : Place σ := fun a ρ st0 st => ρ.get? acc = some (enc a) ∧ st = st0

variable {acc : String} {enc : σ → Val}

theorem inLocal_set {v : String} (hv : v ≠ acc) (a : σ) (ρ : Env) (c : Val) (st0 st : PState)
    (h : inLocal acc enc a ρ st0 st) : inLocal acc enc a (ρ.set v c) st0 st :=
  ⟨by simpa [Env.get?_set, hv] using h.1, h.2⟩

theorem Upd.of_local {ss : List Stmt} {m : σ → σ}
    (h : ∀ ρ a st, P ρ → ρ.get? acc = some (enc a) →
      ∃ ρ', execBlockP H [] noRec ss ρ st = .normal ρ' st ∧ Q ρ' ∧ ρ'.get? acc = some (enc (m a))) :
    Upd H (inLocal acc enc) P Q ss m := fun ρ a _ st hp ⟨ha, e⟩ => by
  obtain ⟨ρ', ho, hQ, ha'⟩ := h ρ a st hp ha
  exact Sim.ok ho ⟨hQ, ha', e⟩

theorem Upd.of_set {ss : List Stmt} {m : σ → σ} (hP : ∀ ρ v, P ρ → P (ρ.set acc v))
    (h : ∀ ρ a st, P ρ → ρ.get? acc = some (enc a) →
      execBlockP H [] noRec ss ρ st = .normal (ρ.set acc (enc (m a))) st) : Upd H (inLocal acc enc) P P ss m :=
  Upd.of_local fun ρ a st hp ha => ⟨_, h ρ a st hp ha, hP ρ _ hp, by simp [Env.get?_set]⟩

theorem Upd.of_skip {ss : List Stmt}
    (h : ∀ ρ a st, P ρ → ρ.get? acc = some (enc a) → execBlockP H [] noRec ss ρ st = .normal ρ st) :
    Upd H (inLocal acc enc) P P ss id :=
  Upd.of_local fun ρ a st hp ha => ⟨ρ, h ρ a st hp ha, hp, ha⟩

theorem Upd.run {ss : List Stmt} {m : σ → σ} (h : Upd H (inLocal acc enc) P Q ss m) {ρ : Env} {a : σ} (st : PState)
    (hP : P ρ) (ha : ρ.get? acc = some (enc a)) :
    ∃ ρ', execBlockP H [] noRec ss ρ st = .normal ρ' st ∧ Q ρ' ∧ ρ'.get? acc = some (enc (m a)) := by
  obtain ⟨ρ', _, ho, hQ, ha', rfl⟩ := h ρ a st st hP ⟨ha, rfl⟩
  exact ⟨ρ', ho, hQ, ha'⟩

/-- the call of a function `pre; ss; return e`: `pre` binds the local, `ss` updates it, `e` reads it -/
theorem Upd.returns {ss pre : List Stmt} {m : σ → σ} {params : List String} {args : List Val} {e : Expr} {ρ0 ρ1 : Env}
    {a : σ} {v : Val} {st : PState} (h : Upd H (inLocal acc enc) P Q ss m) (hb : bindParamsV params args = .ok ρ0)
    (hpre : execBlockP H [] noRec pre ρ0 st = .normal ρ1 st) (hP : P ρ1) (ha : ρ1.get? acc = some (enc a))
    (he : ∀ ρ, Q ρ → ρ.get? acc = some (enc (m a)) → e.evalP H [] ρ st = .ok (v, st)) :
    callPV H params (pre ++ (ss ++ [.ret e])) args st = .ok (v, st) := by
  obtain ⟨ρ', ho, hQ, ha'⟩ := h.run st hP ha
  rw [TaskSrc.callPV_bound hb, TaskSrc.execBlockP_append, hpre]
  simp only [TaskSrc.execBlockP_append, ho, TaskSrc.execBlockP_one, TaskSrc.execP_ret (he ρ' hQ ha')]
  rfl

/-! ### the value in a box -/

def putLog (st : PState) (b : Nat) (l : List Atom) : PState := { st with boxes := st.boxes.set b l }

theorem putLog_get (st : PState) (b : Nat) (log l : List Atom) (h : st.boxes[b]? = some log) :
    (putLog st b l).boxes[b]? = some l := by
  obtain ⟨hb, -⟩ := List.getElem?_eq_some_iff.1 h
  simp [putLog, hb]

theorem putLog_putLog (st : PState) (b : Nat) (l l' : List Atom) : putLog (putLog st b l) b l' = putLog st b l' := by
  simp [putLog, List.set_set]

theorem putLog_self (st : PState) (b : Nat) (log : List Atom) (h : st.boxes[b]? = some log) : putLog st b log = st := by
  obtain ⟨hb, he⟩ := List.getElem?_eq_some_iff.1 h
  cases st
  simp only [putLog, PState.mk.injEq, true_and]
  simp only at he hb
  rw [← he]; exact List.set_getElem_self hb

def inBox (b : Nat) : Place (List Atom) := fun a _ st0 st => b < st0.boxes.length ∧ st = putLog st0 b a

variable {b : Nat}

theorem inBox_env (a : List Atom) (ρ ρ' : Env) (st0 st : PState) (h : inBox b a ρ st0 st) : inBox b a ρ' st0 st := h

theorem inBox.get {a : List Atom} {ρ : Env} {st0 st : PState} (h : inBox b a ρ st0 st) : st.boxes[b]? = some a := by
  rw [h.2]; simp [putLog, h.1]

theorem Upd.of_box {ss : List Stmt} {x : List Atom}
    (h : ∀ ρ st log, P ρ → st.boxes[b]? = some log →
      ∃ ρ', execBlockP H [] noRec ss ρ st = .normal ρ' (putLog st b (log ++ x)) ∧ Q ρ') :
    Upd H (inBox b) P Q ss (· ++ x) := fun ρ a st0 st hP ha => by
  obtain ⟨ρ', ho, hQ⟩ := h ρ st a hP ha.get
  exact Sim.ok ho ⟨hQ, ha.1, by rw [ha.2, putLog_putLog]⟩

theorem Upd.run_box {ss : List Stmt} {m : List Atom → List Atom} (h : Upd H (inBox b) P Q ss m) {ρ : Env} {st : PState}
    {log : List Atom} (hP : P ρ) (hb : st.boxes[b]? = some log) :
    ∃ ρ', execBlockP H [] noRec ss ρ st = .normal ρ' (putLog st b (m log)) ∧ Q ρ' := by
  obtain ⟨ρ', _, ho, hQ, -, rfl⟩ := h ρ log st st hP
    ⟨(List.getElem?_eq_some_iff.1 hb).1, (putLog_self st b log hb).symm⟩
  exact ⟨ρ', ho, hQ⟩

end Pj.PyLite

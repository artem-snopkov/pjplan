/-
  Lemmas/WbsSrc.lean — wbs.py, class `WBS`: the hand-written models (Model/GraphOps.lean `wbsTasks`, `wbsGet`,
  `setChildren` on the hidden root, `floordiv`, `removeRec` / `wbsRemove`, `forEach wbsRemove` (the `wbsRemoveAll` of
  `step`); Model/Clone.lean `cloneSel` / `cloneWbs`) equal the interpretation of the CURRENT SOURCE of

    WBS.tasks   WBS.__getitem__   the `roots` property (getter / setter)   WBS.__floordiv__ (with Task.__floordiv__)
    WBS.remove with WBS.__remove and _ChildrenList.remove                  WBS.remove_all
    WBS.clone / WBS.subtree with WBS.__clone, WBS.__clone_tasks and its closure `link_target`

  (Extracted/WbsSrc.lean, regenerated from src/pjplan/wbs.py and task.py by tools/extract_wbs.py on every check), run
  as a program LAYERED over the translated program of task.py (Model/PyLiteW.lean `progW`): the callees - the four
  relation setters of `Task`, `_to_list`, `all_children`, `_check_not_none`, the `parent` getter - are the translated
  functions of Extracted/TaskSrc.lean, a call of them is the run `runProg taskPrim taskFuns`, and the theorems of
  Lemmas/TaskSrc*.lean are used for them as they stand.

  Files.  This file: encoding, primitives, entry points, `removeRecS`.  WbsSrcA.lean: stage 1.  WbsSrcB.lean: stage 2
  (`_ChildrenList.remove` through `FacadeSrc.remove_body_spec` of Lemmas/FacadeSrcA.lean, which is stated for any handlers).
  WbsSrcC1.lean / WbsSrcM.lean / WbsSrcC.lean: stage 3 (dicts and constructors / the model-level commutation / the
  theorem).  WbsSrcCheck.lean, WbsSrcCheckC.lean: what the concrete runs compare, and the runs no theorem covers;
  WbsSrcRuns.lean: the other runs as instances of the theorems.  The negative check: end of WbsSrcC.lean.

  Setting (in addition to Lemmas/TaskSrc.lean: `encHeap`, `setterResult`, `ValueOf`, the fuel of nested calls).
  * A WBS object is its hidden root `ref w`; `self.__root` / `_root()` is the identity primitive.
  * `interpW filt F k args st`: the k-th function (of either table) with at most `F` nested calls.
  * Primitives.  `wbsPrim filt`: `_root`; `tasks_call` - the filter evaluation `self.tasks(key, **kwargs)`: the list
    `filt args st` (ANY function of the arguments and the state: the theorems hold for every `filt`); `copy_attrs` -
    copying the public attributes of a WBS object, which the encoding does not have: `None`.
    `wbsFn`: the constructors.  `Task.clone()` (`pf_Task_clone`) allocates the object `ref st.reads` - `reads` is the
    allocation pointer of this layer - with the id of the receiver, no parent, no children, no links, no WBS;
    `WBS()` (`pf_WBS_new`) allocates `ref st.reads` as a hidden root: id EMPTY_TASK_ID, attached to itself.
    (The translator pins the texts of `Task.clone`, `Task.__init__`, `WBS.__init__` these primitives stand for.)
  * New objects: as in Model/Clone.lean's `extend` the fresh uids are `s.n, s.n + 1, …`; the state of a run of
    `clone` / `subtree` is `st` with the store `encHeap s` and the allocation pointer `s.n` (`hr : st.reads = s.n`), the
    result is compared with `cloneResult st r` = the new WBS object `ref nw`, the store `encHeap s'`, the pointer `s'.n`.

  Results (all proofs complete; axioms: propext, Classical.choice, Quot.sound).
    Concrete runs (graphs g1, g2, g3 (cyclic) of TaskSrcCheck and g5 (a WBS with links inside, into another WBS whose
      task shares an id, from / to detached tasks).  WbsSrcRuns.lean: the runs on g1, g2 and the `clone` / `subtree`
      runs with member roots on g1, g2, g5 are instances of the theorems of the stages 1 - 3; evaluated
      (`decide +kernel`) is only the model's side: for stages 1 - 2 the proviso "no RecursionError", for stage 3 (which
      has none) that the table of the graph is a reachable state (`Inv_mk`), that the roots are members, and the fuel
      bound, which runs the model's `cloneSel`.  WbsSrcCheck.lean, WbsSrcCheckC.lean: the runs on the cyclic g3 and
      `subtree` with the hidden root or foreign roots are outside the theorems and evaluated as a whole): `tasks` and
      `roots` on every object; `wbs[i]` for every object and ids present / absent / shared / EMPTY_TASK_ID; `roots = v`,
      `// v` for every task, lists; `remove(t)` for EVERY pair (object, task) of the three graphs, `None`, a list;
      `remove_all` with several choices (found, gone with its parent, of another WBS, none, the cycle);
      `clone()` of four WBS, `subtree` with a summary task, leaves, nested / repeated / reordered roots, `[]`, a single
      task, `None`s, the hidden root, foreign roots with ids of their own, the cyclic state - returned object, allocation
      pointer and ALL objects of the final store.
    Stage 1 (WbsSrcA.lean), for every `s`, every `st` with store `encHeap s`:
      `interpTasks_eq`      wbsTasks s w = some r → s.n + 3 ≤ F → interpTasks F w st = ok (refs r, st)
      `interpGetitem_eq`    s.n + 3 ≤ F → wbsGet s w i ≠ error RecursionError →
                            interpGetitem F w (idA i) st = getResult st (wbsGet s w i)
      `interpRootsGet_eq`   1 ≤ F → interpRootsGet F w st = ok (refs (s.children w), st)
      `interpRootsSet_eq`   ValueOf v l → s.n + 7 ≤ F → (setChildren s w l).2 ≠ RecursionError →
                            interpRootsSet F w v st = setterResult st (setChildren s w l)
      `interpFloordiv_eq`   ValueOf v l → s.n + 8 ≤ F → (floordiv s w l).2 ≠ RecursionError →
                            interpFloordiv F w v st = resultV st v (floordiv s w l)        (the value is `v`)
    Stage 2 (WbsSrcB.lean), no well-formedness hypothesis:
      `children_remove_spec`  `h.children.remove(t)` = `chRemove s h t`, the value = `t ∈ s.children h`
      `remove_rec_spec`     removeRecS t f s cur = some r → r's error ≠ RecursionError → f + s.n + 9 ≤ F →
                            self.__remove(t, cur) = removeResult st r     (flag, new state / error)
      `interpRemove_eq`     2 * s.n + 12 ≤ F → (wbsRemove s w t).2 ≠ RecursionError →
                            interpRemove F w (ref t) st = wbsRemoveResult st s w t   (`wbsRemoveResult_state`: its state
                            / error are those of `wbsRemove`, its value the flag of `removeRec`);
                            `interpRemove_none` / `_list`: RuntimeError for an argument that is not a task
      `interpRemoveAll_eq`  ts := filt [self, key, kwargs] st; 2 * s.n + 12 ≤ F →
                            (forEach wbsRemove s ts).2 ≠ RecursionError →
                            interpRemoveAll filt F w key kw st = resultV st (refs ts) (forEach (wbsRemove · w ·) s ts)
      The loop of `__remove` runs over the LIVE list `current.children` (`forLive`): `rm_loop` shows that the run is never
      stuck - a recursive call that returns False leaves the store alone (`removeRecS_false`), one that returns True
      or raises ends the loop.
    Stage 3 (WbsSrcC.lean), for every REACHABLE state (`Inv s`, Spec/Graph.lean), `s.hidden w = true`, `st` with store
      `encHeap s` and allocation pointer `s.n`:
      `interpClone_eq`      (cloneWbs s w).1.n + 12 ≤ F → interpClone F w st = cloneResult st (cloneWbs s w)
      `interpSubtree_eq`    ValueOf v roots → (∀ r ∈ roots, s.owner r = some w ∧ s.hidden r = false) →
                            (cloneSel s w roots).1.n + 12 ≤ F → interpSubtree F w v st = cloneResult st (cloneSel s w roots)
      (`clone_rec_spec`: `__clone`; `clone_tasks_spec`: `__clone_tasks`; `link_target_spec`.)  No recursion proviso: on
      such inputs the model always succeeds (`cloneSel_accepted`, Lemmas/CloneLemmas.lean), hence so does the source.
      Where the control flow differs: (a) the source selects / looks up by ID (dicts `all_tasks`, `cloned_tasks`), the
      model by identity (`dedupFirst`, `cloneOf`) - equal because members of one WBS have ids of their own (C05,
      `idInj_of_member`, `ofList_allDict`, `cloneDict_get`); (b) the source reads the relations of the source tasks
      WHILE the setters run on the clones, the model reads the initial state - equal by the frame lemmas of
      CloneLemmas.lean (`Sound`): the store cells of the members of the source WBS do not change (`Sound.cell`); (c) the source constructs the new WBS object AFTER the per-task setters, the model
      allocates it first (`extend`) - the setters commute with that construction (`unroot`, WbsSrcM.lean:
      `setParent_unroot`, `setChildren_unroot`, `setPreds_unroot`, `setSuccs_unroot`; `rootHeap`).

  Disagreements.  For reachable states and the inputs of the theorems: none.  Outside them (kernel-checked in
    WbsSrcCheckC.lean, section "outside the hypotheses"): `wbs.subtree(roots)` with a root that is NOT a member of `wbs`
    and shares its id with a selected task, or with a member of `wbs` linked to the selection: the model (identity) and
    the source (dict by id) give different results - e.g. on g5 `wbs0.subtree([t7])`: model ok, source RuntimeError;
    `wbs0.subtree([t1, t9])`: model RuntimeError, source ok with another copy.  Foreign roots with ids of their own agree.

  Limitations.  (1)-(5) of Lemmas/TaskSrc.lean.  (6) A facade / `_ImmutableTaskList` that is returned or passed on
    (`WBS.roots`, `WBS.tasks`, `self.__clone(self.roots)`, the value of `remove_all`) is the list it wraps at that time;
    in `clone()` that is faithful because nothing changes the children of the source root while `__clone` runs (the frame
    property of the theorem), for the returned values it means that the theorems speak about the CONTENT of the list.
    (7) `self.tasks(key, **kwargs)` (`_ImmutableTaskList.__call__`), `Task.clone()` / `Task.__init__`, `WBS()`, the copy
    of public attributes are primitives; `task_id` of `wbs[…]` is an `int`.  (8) Errors carry no state.
    (9) `start`, `end`, `critical_path`, `print`, `__repr__`, `__enter__` / `__exit__` are not translated.
    (10) The allocation pointer is the component `reads` of `PState` (see Model/PyLiteW.lean).
-/
import PjVerif.Extracted.WbsSrc
import PjVerif.Lemmas.TaskSrc
import PjVerif.Model.Clone
namespace Pj.WbsSrc
open Pj.PyLite Pj.Extracted Pj.TaskSrc

/-- a newly constructed task object: the given id, no relations -/
def newTask (idv : Val) (wbs : Atom) : PyLite.Env :=
  [("id", idv), ("parent", .atom .none), ("children", .list []), ("predecessors", .list []), ("successors", .list []),
   ("wbs", .atom wbs)]

/-- allocate the next object -/
def alloc (st : PState) (obj : PyLite.Env) : PState :=
  { st with heap := fun j => if j = st.reads then obj else st.heap j, reads := st.reads + 1 }

/-- the constructors: `Task.clone()` and `WBS()` -/
def wbsFn : Nat → List Atom → PState → Res (Val × PState) := fun k args st =>
  if k = pf_Task_clone then
    match args with
    | [.ref t] =>
      match (st.heap t).get? "id" with
      | some idv => pure (.atom (.ref st.reads), alloc st (newTask idv .none))
      | none => throw (.crash .attribute)
    | _ => throw stuck
  else if k = pf_WBS_new then
    match args with
    | [] => pure (.atom (.ref st.reads), alloc st (newTask (.atom (idA emptyId)) (.ref st.reads)))
    | _ => throw stuck
  else throw stuck

/-- the read-only primitives of wbs.py; `filt` = the filter evaluation of `self.tasks(key, **kwargs)` -/
def wbsPrim (filt : List Atom → PState → List Uid) : String → List Atom → PState → Res Val := fun name args st =>
  if name = "_root" then
    match args with
    | [.ref w] => pure (.atom (.ref w))
    | _ => throw stuck
  else if name = "tasks_call" then
    match args with
    | [.ref _, _, _] => pure (refs (filt args st))
    | _ => throw stuck
  else if name = "copy_attrs" then
    match args with
    | [.ref _, .ref _] => pure (.atom .none)
    | _ => throw stuck
  else throw stuck

/-- no filter evaluation is involved -/
def noFilt : List Atom → PState → List Uid := fun _ _ => []

/-- the handlers of the layered program with `F` units of fuel -/
abbrev Hw (filt : List Atom → PState → List Uid) (F : Nat) : PHandlers :=
  progW taskPrim taskFuns (wbsPrim filt) wbsFn wbsFuns F

/-- call the k-th function of wbs.py / task.py with at most `fuel` nested calls -/
def interpW (filt : List Atom → PState → List Uid) (fuel : Nat) (k : Nat) (args : List Val) (st : PState) :
    Res (Val × PState) :=
  runProgW taskPrim taskFuns (wbsPrim filt) wbsFn wbsFuns fuel k args st

/-- a Python state with the store `encHeap s` and the allocation pointer `s.n` -/
def withGN (st : PState) (s : G) : PState := { st with heap := encHeap s, reads := s.n }

def encStN (s : G) : PState := { L := [], heap := encHeap s, done := [], res := [], reads := s.n, boxes := [] }

/-! ### entry points -/

/-- `wbs.tasks` -/
def interpTasks (F : Nat) (w : Uid) (st : PState) := interpW noFilt F fn_WBS_tasks [.atom (.ref w)] st
/-- `wbs[i]` -/
def interpGetitem (F : Nat) (w : Uid) (i : Val) (st : PState) := interpW noFilt F fn_WBS_getitem [.atom (.ref w), i] st
/-- `wbs.roots` -/
def interpRootsGet (F : Nat) (w : Uid) (st : PState) := interpW noFilt F fn_WBS_roots_get [.atom (.ref w)] st
/-- `wbs.roots = v` -/
def interpRootsSet (F : Nat) (w : Uid) (v : Val) (st : PState) :=
  interpW noFilt F fn_WBS_roots_set [.atom (.ref w), v] st
/-- `wbs // v` -/
def interpFloordiv (F : Nat) (w : Uid) (v : Val) (st : PState) := interpW noFilt F fn_WBS_floordiv [.atom (.ref w), v] st
/-- `wbs.remove(t)` -/
def interpRemove (F : Nat) (w : Uid) (t : Val) (st : PState) := interpW noFilt F fn_WBS_remove [.atom (.ref w), t] st
/-- `wbs.remove_all(key, **kwargs)`, the filter evaluation being `filt` -/
def interpRemoveAll (filt : List Atom → PState → List Uid) (F : Nat) (w : Uid) (key kw : Atom) (st : PState) :=
  interpW filt F fn_WBS_remove_all [.atom (.ref w), .atom key, .atom kw] st
/-- `wbs.clone()` -/
def interpClone (F : Nat) (w : Uid) (st : PState) := interpW noFilt F fn_WBS_clone [.atom (.ref w)] st
/-- `wbs.subtree(v)` -/
def interpSubtree (F : Nat) (w : Uid) (v : Val) (st : PState) := interpW noFilt F fn_WBS_subtree [.atom (.ref w), v] st

/-! ### `removeRec` by structural recursion

  The model's `removeRec` (Model/GraphOps.lean) is compiled by well-founded recursion (its inner `go` is a nested
  `let rec`), so the kernel cannot evaluate it.  `removeRecS` is the same function by structural recursion on the fuel
  (`removeRecS_eq`); the concrete checks run it, the general theorems use it as the induction scheme. -/

def removeGo (rec : G → Uid → Option (G × Option Err × Bool)) (s : G) : List Uid → Option (G × Option Err × Bool)
  | [] => some (s, none, false)
  | c :: cs =>
    match rec s c with
    | none => none
    | some (s', some e, b) => some (s', some e, b)
    | some (s', none, true) => some (s', none, true)
    | some (_, none, false) => removeGo rec s cs

def removeRecS (t : Uid) : Nat → G → Uid → Option (G × Option Err × Bool)
  | 0, _, _ => none
  | f + 1, s, cur =>
    if (s.children cur).contains t then
      let r := chRemove s cur t
      some (r.1, r.2, true)
    else removeGo (removeRecS t f) s (s.children cur)

theorem removeRec_go_eq (t : Uid) (f : Nat) (s : G) (l : List Uid) :
    removeRec.go t f s l = removeGo (removeRec t f) s l := by
  induction l with
  | nil => rw [removeRec.go]; rfl
  | cons c cs ih =>
    rw [removeRec.go, removeGo]
    rw [ih]
    generalize removeRec t f s c = r
    rcases r with _ | ⟨s', _ | e, _ | _⟩ <;> rfl

theorem removeRecS_eq (t : Uid) : ∀ (f : Nat) (s : G) (cur : Uid), removeRecS t f s cur = removeRec t f s cur := by
  intro f
  induction f with
  | zero => intro s cur; rw [removeRec, removeRecS]
  | succ f ih =>
    intro s cur
    rw [removeRec, removeRecS, removeRec_go_eq]
    have : removeRecS t f = removeRec t f := by funext s c; exact ih s c
    rw [this]

def wbsRemoveS (s : G) (w t : Uid) : G × Option Err :=
  match removeRecS t s.fuel s w with
  | none => (s, some (.crash .recursion))
  | some (s', e, _) => (s', e)

theorem wbsRemoveS_eq (s : G) (w t : Uid) : wbsRemoveS s w t = wbsRemove s w t := by
  unfold wbsRemoveS wbsRemove
  rw [removeRecS_eq]
  generalize removeRec t s.fuel s w = r
  rcases r with _ | ⟨s', e, b⟩ <;> rfl

end Pj.WbsSrc

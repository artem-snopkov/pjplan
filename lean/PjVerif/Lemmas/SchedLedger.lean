/-
  Lemmas/SchedLedger.lean — the usage ledger and the resource table, apart from the passes that fill them: the table only
  grows and a key keeps its calendar; committing an outcome whose reservations fit keeps the invariant of C03 (`LedgerOK`);
  and the ledger as the specification reads it for one task (its rows, their first and last day, what was booked before).
-/
import PjVerif.Lemmas.SchedStep
namespace Pj

theorem resLookup_snd (res : List (Option Nat × Cal)) (k : Option Nat) : (resLookup res k).2 = calOf res k := by
  unfold resLookup calOf
  cases res.find? (fun p => p.1 == k) <;> rfl

theorem resLookup_fst (res : List (Option Nat × Cal)) (k : Option Nat) :
    (resLookup res k).1 = res ∨ (resLookup res k).1 = res ++ [(k, defaultCal)] := by
  unfold resLookup
  cases res.find? (fun p => p.1 == k) <;> simp

theorem calOf_cases (res : List (Option Nat × Cal)) (k : Option Nat) :
    (∃ p ∈ res, calOf res k = p.2) ∨ calOf res k = defaultCal := by
  unfold calOf
  cases hf : res.find? (fun p => p.1 == k) with
  | some p => exact Or.inl ⟨p, List.mem_of_find?_eq_some hf, rfl⟩
  | none => exact Or.inr rfl

theorem calOf_resLookup (res : List (Option Nat × Cal)) (k' k : Option Nat) :
    calOf (resLookup res k').1 k = calOf res k := by
  rcases resLookup_fst res k' with e | e
  · rw [e]
  · rw [e]
    unfold calOf
    rw [List.find?_append]
    cases res.find? (fun p => p.1 == k) with
    | some q => rfl
    | none => by_cases hk : k' = k <;> simp [hk]

theorem resLookup_spec (res : List (Option Nat × Cal)) (k : Option Nat) :
    (∃ r, (resLookup res k).1 = res ++ r ∧ ∀ p ∈ r, p.1 = k ∧ ∀ q ∈ res, q.1 ≠ p.1) ∧
    calOf (resLookup res k).1 k = (resLookup res k).2 ∧
    ((resLookup res k).1.map (·.1)).contains k = true := by
  refine ⟨?_, by rw [calOf_resLookup, resLookup_snd], ?_⟩
  · unfold resLookup
    cases hf : res.find? (fun p => p.1 == k) with
    | some p => exact ⟨[], by simp, by simp⟩
    | none =>
      refine ⟨[(k, defaultCal)], rfl, fun p hp => ?_⟩
      simp only [List.mem_singleton] at hp
      subst hp
      exact ⟨rfl, fun q hq => by simpa using List.find?_eq_none.1 hf q hq⟩
  · unfold resLookup
    cases hf : res.find? (fun p => p.1 == k) with
    | some p =>
      rw [List.contains_iff_mem]
      exact List.mem_map.2 ⟨p, List.mem_of_find?_eq_some hf, by simpa using List.find?_some hf⟩
    | none => simp

theorem calOf_append (res r : List (Option Nat × Cal)) (k : Option Nat)
    (hk : (res.map (·.1)).contains k = true) : calOf (res ++ r) k = calOf res k := by
  rw [List.contains_iff_mem] at hk
  obtain ⟨p, hp, hpk⟩ := List.mem_map.1 hk
  unfold calOf
  rw [List.find?_append]
  cases hf : res.find? (fun p => p.1 == k) with
  | some q => simp
  | none =>
    have := List.find?_eq_none.1 hf p hp
    simp [hpk] at this

theorem capMid_append (res r : List (Option Nat × Cal)) (k : Option Nat) (d : Int)
    (hk : (res.map (·.1)).contains k = true) : capMid (res ++ r) k d = capMid res k d := by
  unfold capMid
  rw [calOf_append res r k hk]

theorem contains_append_left (res r : List (Option Nat × Cal)) (k : Option Nat)
    (hk : (res.map (·.1)).contains k = true) : ((res ++ r).map (·.1)).contains k = true := by
  rw [List.contains_iff_mem] at hk ⊢
  rw [List.map_append]
  exact List.mem_append_left _ hk

theorem reserved_append (a b : List Row) (r : Option Nat) (d : Int) (tf : Option Uid) :
    reserved (a ++ b) r d tf = reserved a r d tf + reserved b r d tf := by
  simp [reserved, List.filter_append, List.sum_append]

theorem rowsOf_append (a b : List Row) (t : Uid) : rowsOf (a ++ b) t = rowsOf a t ++ rowsOf b t := by
  simp [rowsOf, List.filter_append]

theorem reserved_nonneg (rows : List Row) (hpos : ∀ r ∈ rows, 0 < r.units) (r : Option Nat) (d : Int)
    (tf : Option Uid) : 0 ≤ reserved rows r d tf := by
  unfold reserved
  apply sum_nonneg_rat
  intro x hx
  obtain ⟨y, hy, rfl⟩ := List.mem_map.1 hx
  exact Rat.le_of_lt (hpos y (List.mem_filter.1 hy).1)

theorem reserved_mk (key : Option Nat) (t : Uid) (new : List (Int × Rat)) (k : Option Nat) (d : Int)
    (tf : Option Uid) :
    reserved (new.map (mkRow key t)) k d tf =
      if key = k ∧ (∀ t', tf = some t' → t = t') then daySum new d else 0 := by
  unfold reserved daySum
  rw [List.filter_map, List.map_map]
  by_cases hk : key = k
  · cases tf with
    | none => simp [mkRow, hk, Function.comp_def]
    | some t' =>
      by_cases ht : t = t'
      · simp [mkRow, hk, ht, Function.comp_def]
      · have hb : (t == t') = false := by simpa using ht
        simp [mkRow, hk, ht, hb, Function.comp_def]
        rw [List.filter_eq_nil_iff.2 (by simp)]; rfl
  · have hb : (key == k) = false := by simpa using hk
    simp [mkRow, hk, hb, Function.comp_def]
    rw [List.filter_eq_nil_iff.2 (by simp)]; rfl

theorem reserved_none_task (rows : List Row) (t : Uid) (h : ∀ r ∈ rows, r.task ≠ t) (k : Option Nat) (d : Int) :
    reserved rows k d (some t) = 0 := by
  unfold reserved
  rw [List.filter_eq_nil_iff.2 (fun r hr => by simp [h r hr])]
  rfl

theorem rowsOf_none (rows : List Row) (t : Uid) (h : ∀ r ∈ rows, r.task ≠ t) : rowsOf rows t = [] := by
  unfold rowsOf
  exact List.filter_eq_nil_iff.2 (fun r hr => by simp [h r hr])

theorem rowsOf_mk (key : Option Nat) (t : Uid) (new : List (Int × Rat)) :
    rowsOf (new.map (mkRow key t)) t = new.map (mkRow key t) := by
  unfold rowsOf
  exact List.filter_eq_self.2 (fun r hr => by
    obtain ⟨p, _, rfl⟩ := List.mem_map.1 hr
    simp [mkRow])

theorem rowsOf_placed (rows : List Row) (key : Option Nat) (t : Uid) (new : List (Int × Rat))
    (h : ∀ r ∈ rows, r.task ≠ t) : rowsOf (rows ++ new.map (mkRow key t)) t = new.map (mkRow key t) := by
  rw [rowsOf_append, rowsOf_none rows t h, rowsOf_mk, List.nil_append]

theorem daySum_nonneg (new : List (Int × Rat)) (hpos : ∀ p ∈ new, 0 < p.2) (d : Int) : 0 ≤ daySum new d := by
  unfold daySum
  apply sum_nonneg_rat
  intro x hx
  obtain ⟨y, hy, rfl⟩ := List.mem_map.1 hx
  exact Rat.le_of_lt (hpos y (List.mem_filter.1 hy).1)

theorem mem_daysBetween (a b d : Int) : d ∈ daysBetween a b ↔ a ≤ d ∧ d < b := by
  unfold daysBetween
  simp only [List.mem_map, List.mem_range]
  constructor
  · rintro ⟨i, hi, rfl⟩; omega
  · intro h
    exact ⟨(d - a).toNat, by omega, by omega⟩

/-- the ledger invariant: what C03 says about the rows, relative to the resource table of the state -/
structure LedgerOK (env : Env) (σ : SS) : Prop where
  pos : ∀ r ∈ σ.rows, 0 < r.units
  own : ∀ r ∈ σ.rows, r.res = (env.info r.task).resource
  present : ∀ r ∈ σ.rows, (σ.res.map (·.1)).contains r.res = true
  capDay : ∀ r ∈ σ.rows, 0 < capMid σ.res r.res r.day
  noOver : ∀ r ∈ σ.rows, reserved σ.rows r.res r.day (if env.balance then none else some r.task) ≤ capMid σ.res r.res r.day

theorem LedgerOK.init (env : Env) (σ : SS) (h : σ.rows = []) : LedgerOK env σ := by
  refine ⟨?_, ?_, ?_, ?_, ?_⟩ <;> (intro r hr; rw [h] at hr; cases hr)

theorem placeUsed_nonneg (env : Env) (σ : SS) (t : Uid) (hl : LedgerOK env σ) (d : Int) : 0 ≤ placeUsed env σ t d :=
  reserved_nonneg _ hl.pos _ _ _

theorem placeUsed_balance (env : Env) (σ : SS) (t : Uid) (hbal : env.balance = true) (x : Int) :
    placeUsed env σ t x = reserved σ.rows (env.info t).resource x none := by
  simp [placeUsed, usedBy, hbal]

theorem SS.commit_ledger (env : Env) (σ : SS) (t : Uid) (o : Outcome) (hl : LedgerOK env σ)
    (hg : GoodNew (placeCal env σ t) (placeUsed env σ t) o.new) : LedgerOK env (σ.commit env t o) := by
  have hsres : (σ.commit env t o).res = (resLookup σ.res (env.info t).resource).1 := rfl
  have hrows : (σ.commit env t o).rows = σ.rows ++ o.new.map (mkRow (env.info t).resource t) := rfl
  obtain ⟨⟨r, hr, _⟩, hcal, hcont⟩ := resLookup_spec σ.res (env.info t).resource
  have hu := placeUsed_nonneg env σ t hl
  obtain ⟨hfit, hpw⟩ := hg hu
  have hres : (σ.commit env t o).res = σ.res ++ r := hsres.trans hr
  have hcap : ∀ p ∈ o.new, 0 < p.2 ∧
      usedBy env σ.rows (env.info t).resource t p.1 + p.2 ≤ capMid (σ.commit env t o).res (env.info t).resource p.1 := by
    intro p hp
    obtain ⟨c, hc, h0, h1⟩ := hfit p hp
    have : capMid (σ.commit env t o).res (env.info t).resource p.1 = c := by
      unfold capMid
      rw [hsres]
      show (match capR (calOf (resLookup σ.res (env.info t).resource).1 (env.info t).resource) _ with
        | .ok v => v | .error _ => 0) = c
      rw [hcal, hc]
    rw [this]; exact ⟨h0, by grind⟩
  have hold : ∀ x ∈ σ.rows, capMid (σ.commit env t o).res x.res x.day = capMid σ.res x.res x.day := fun x hx => by
    rw [hres]; exact capMid_append _ _ _ _ (hl.present x hx)
  have hkeyin : ((σ.commit env t o).res.map (·.1)).contains (env.info t).resource = true := by
    rw [hsres]; exact hcont
  have split : ∀ {P : Row → Prop}, (∀ x ∈ σ.rows, P x) →
      (∀ p ∈ o.new, P (mkRow (env.info t).resource t p)) → ∀ x ∈ (σ.commit env t o).rows, P x := by
    intro P h1 h2 x hx
    rw [hrows] at hx
    rcases List.mem_append.1 hx with hx | hx
    · exact h1 x hx
    · obtain ⟨p, hp, rfl⟩ := List.mem_map.1 hx
      exact h2 p hp
  refine ⟨split hl.pos (fun p hp => (hcap p hp).1), split hl.own (fun _ _ => rfl),
    split (fun x hx => by rw [hres]; exact contains_append_left _ _ _ (hl.present x hx)) (fun _ _ => hkeyin),
    split (fun x hx => by rw [hold x hx]; exact hl.capDay x hx) (fun p hp => ?_), ?_⟩
  · have := hcap p hp
    have := hu p.1
    show 0 < capMid (σ.commit env t o).res (env.info t).resource p.1
    grind
  · intro x hx
    rw [hrows, reserved_append, reserved_mk]
    rw [hrows] at hx
    by_cases hc : (env.info t).resource = x.res ∧
        ∀ t', (if env.balance then none else some x.task) = some t' → t = t'
    · rw [if_pos hc]
      obtain ⟨hk, htf⟩ := hc
      have huse : reserved σ.rows x.res x.day (if env.balance then none else some x.task) =
          usedBy env σ.rows (env.info t).resource t x.day := by
        unfold usedBy
        rw [← hk]
        by_cases hb : env.balance = true
        · simp [hb]
        · simp only [hb] at htf ⊢
          rw [htf x.task rfl]
      by_cases hday : ∃ p ∈ o.new, p.1 = x.day
      · obtain ⟨p, hp, hpd⟩ := hday
        rw [huse, ← hk, ← hpd, daySum_mem o.new p.1 p.2 hpw hp]
        exact (hcap p hp).2
      · have hz : daySum o.new x.day = 0 := daySum_not_mem o.new x.day (fun p hp hc => hday ⟨p, hp, hc⟩)
        rcases List.mem_append.1 hx with hx | hx
        · rw [hz, hold x hx]
          have := hl.noOver x hx
          grind
        · obtain ⟨p, hp, rfl⟩ := List.mem_map.1 hx
          exact absurd ⟨p, hp, rfl⟩ hday
    · rw [if_neg hc]
      rcases List.mem_append.1 hx with hx | hx
      · rw [hold x hx]
        have := hl.noOver x hx
        grind
      · obtain ⟨p, hp, rfl⟩ := List.mem_map.1 hx
        exfalso
        apply hc
        refine ⟨rfl, ?_⟩
        intro t' ht'
        by_cases hb : env.balance = true
        · simp [hb] at ht'
        · simpa [hb, mkRow] using ht'

theorem SS.commit_hasRes (env : Env) (σ : SS) (t : Uid) (o : Outcome)
    (hi : ∀ x ∈ σ.done, (σ.res.map (·.1)).contains (env.info x).resource = true) :
    ∀ x ∈ (σ.commit env t o).done, ((σ.commit env t o).res.map (·.1)).contains (env.info x).resource = true := by
  obtain ⟨⟨r, hr, _⟩, _, hcont⟩ := resLookup_spec σ.res (env.info t).resource
  intro x hx
  rcases mem_done_snoc (rfl : (σ.commit env t o).done = σ.done ++ [t]) hx with hx | rfl
  · exact (show (σ.commit env t o).res = σ.res ++ r from hr) ▸ contains_append_left _ _ _ (hi x hx)
  · exact hcont

/-- the observable part of a pass state -/
def outOf (σ : SS) : Output := { f := σ.f, rows := σ.rows, res := σ.res }

/-- the ledger invariant of the final state is what the four executable C03 predicates check -/
theorem c03_of_ledger (env : Env) (σ : SS) (hl : LedgerOK env σ) :
    c03Positive (outOf σ) = true ∧ c03OwnResource env (outOf σ) = true ∧ c03CapacityDay (outOf σ) = true ∧
      c03NoOverAlloc env (outOf σ) = true := by
  unfold outOf
  refine ⟨?_, ?_, ?_, ?_⟩
  · simp only [c03Positive, List.all_eq_true, decide_eq_true_eq]
    exact hl.pos
  · simp only [c03OwnResource, List.all_eq_true, beq_iff_eq]
    exact hl.own
  · simp only [c03CapacityDay, List.all_eq_true, decide_eq_true_eq]
    exact hl.capDay
  · simp only [c03NoOverAlloc, List.all_eq_true, decide_eq_true_eq]
    intro r hr
    have h := hl.noOver r hr
    have he : sumUnits (σ.rows.filter (fun x => x.res == r.res && x.day == r.day && (env.balance || x.task == r.task)))
        = reserved σ.rows r.res r.day (if env.balance then none else some r.task) := by
      unfold sumUnits reserved
      by_cases hb : env.balance = true
      · simp [hb]
      · simp [hb]
    rw [he]; exact h

/-! ### the first and the last day of a list of rows

`firstDay` and `lastDay` are one fold, with `min` and with `max`; what is said of them is said once, of a selector `sel`
and the order `R` it is least for. -/

theorem foldl_optSel (op : Int → Int → Int) : ∀ (l : List Int) (x : Int),
    l.foldl (fun m d => match m with | none => some d | some x => some (op x d)) (some x) = some (l.foldl op x)
  | [], _ => rfl
  | y :: l, x => by simp only [List.foldl_cons]; exact foldl_optSel op l (op x y)

section
variable {op : Int → Int → Int} {R : Int → Int → Prop} (h : Selects op R) (sel : List Row → Option Int)
  (hnil : sel [] = none) (hcons : ∀ r l, sel (r :: l) = some ((l.map (·.day)).foldl op r.day))
include h hnil hcons

theorem Selects.day_spec (rows : List Row) (d : Int) (hs : sel rows = some d) :
    (∃ r ∈ rows, r.day = d) ∧ ∀ r ∈ rows, R d r.day := by
  cases rows with
  | nil => rw [hnil] at hs; cases hs
  | cons r l =>
    rw [hcons] at hs
    cases hs
    obtain ⟨h1, h2⟩ := h.head_fold r.day (l.map (·.day))
    constructor
    · rcases List.mem_cons.1 h1 with e | e
      · exact ⟨r, List.mem_cons_self, e.symm⟩
      · obtain ⟨x, hx, hxd⟩ := List.mem_map.1 e
        exact ⟨x, List.mem_cons_of_mem _ hx, hxd⟩
    · intro x hx
      rcases List.mem_cons.1 hx with rfl | hx
      · exact h2 _ List.mem_cons_self
      · exact h2 _ (List.mem_cons_of_mem _ (List.mem_map_of_mem hx))

theorem Selects.day_mk (key : Option Nat) (t : Uid) (new : List (Int × Rat)) (d : Int) (hm : ∃ p ∈ new, p.1 = d)
    (hle : ∀ p ∈ new, R d p.1) : sel (new.map (mkRow key t)) = some d := by
  obtain ⟨q, hq, rfl⟩ := hm
  cases hn : new.map (mkRow key t) with
  | nil => rw [List.map_eq_nil_iff] at hn; rw [hn] at hq; cases hq
  | cons r l =>
    obtain ⟨⟨x, hx, hxd⟩, h3⟩ := h.day_spec sel hnil hcons (r :: l) _ (hcons r l)
    rw [← hn] at hx h3
    obtain ⟨p, hp, rfl⟩ := List.mem_map.1 hx
    have hpd : p.1 = (l.map (·.day)).foldl op r.day := hxd
    rw [hcons]
    exact congrArg some (h.antisymm (h3 _ (List.mem_map_of_mem hq)) (hpd ▸ hle p hp))

end

theorem firstDay_cons (r : Row) (l : List Row) : firstDay (r :: l) = some ((l.map (·.day)).foldl min r.day) :=
  foldl_optSel min _ _

theorem lastDay_cons (r : Row) (l : List Row) : lastDay (r :: l) = some ((l.map (·.day)).foldl max r.day) :=
  foldl_optSel max _ _

theorem firstDay_spec (rows : List Row) (d : Int) (h : firstDay rows = some d) :
    (∃ r ∈ rows, r.day = d) ∧ ∀ r ∈ rows, d ≤ r.day :=
  min_selects.day_spec firstDay rfl firstDay_cons rows d h

theorem lastDay_spec (rows : List Row) (d : Int) (h : lastDay rows = some d) :
    (∃ r ∈ rows, r.day = d) ∧ ∀ r ∈ rows, r.day ≤ d :=
  max_selects.day_spec lastDay rfl lastDay_cons rows d h

theorem firstDay_mk (key : Option Nat) (t : Uid) (new : List (Int × Rat)) (d : Int) (hm : ∃ p ∈ new, p.1 = d)
    (hle : ∀ p ∈ new, d ≤ p.1) : firstDay (new.map (mkRow key t)) = some d :=
  min_selects.day_mk firstDay rfl firstDay_cons key t new d hm hle

theorem lastDay_mk (key : Option Nat) (t : Uid) (new : List (Int × Rat)) (d : Int) (hm : ∃ p ∈ new, p.1 = d)
    (hle : ∀ p ∈ new, p.1 ≤ d) : lastDay (new.map (mkRow key t)) = some d :=
  max_selects.day_mk lastDay rfl lastDay_cons key t new d hm hle

theorem firstRowIdx_new (rows : List Row) (key : Option Nat) (t : Uid) (new : List (Int × Rat))
    (h : ∀ r ∈ rows, r.task ≠ t) (hne : new ≠ []) :
    firstRowIdx (rows ++ new.map (mkRow key t)) t = some rows.length := by
  unfold firstRowIdx
  rw [List.findIdx?_append]
  have h1 : rows.findIdx? (fun r => r.task == t) = none :=
    List.findIdx?_eq_none_iff.2 (fun r hr => by simp [h r hr])
  rw [h1]
  cases new with
  | nil => exact absurd rfl hne
  | cons p l => simp [mkRow, List.findIdx?_cons]

theorem bookedBefore_append (env : Env) (σ σ' : SS) (r : List Row) (hr : σ'.rows = σ.rows ++ r) (k : Option Nat)
    (d : Int) (t : Uid) (h : rowsOf σ.rows t ≠ []) :
    bookedBefore env (outOf σ') k d t = bookedBefore env (outOf σ) k d t := by
  have hi : ∃ i, firstRowIdx σ.rows t = some i := by
    cases hi : firstRowIdx σ.rows t with
    | some i => exact ⟨i, rfl⟩
    | none =>
      unfold firstRowIdx at hi
      rw [List.findIdx?_eq_none_iff] at hi
      exact absurd (rowsOf_none σ.rows t (fun x hx => by simpa using hi x hx)) h
  obtain ⟨i, hi⟩ := hi
  have hlt := (List.findIdx?_eq_some_iff_findIdx_eq.1 hi).1
  have hi' : firstRowIdx (σ.rows ++ r) t = some i := by
    unfold firstRowIdx at hi ⊢
    rw [List.findIdx?_append, hi]; rfl
  show (if env.balance then (match firstRowIdx σ'.rows t with
      | some i => reserved (σ'.rows.take i) k d none
      | none => reserved σ'.rows k d none) else 0) =
    (if env.balance then (match firstRowIdx σ.rows t with
      | some i => reserved (σ.rows.take i) k d none
      | none => reserved σ.rows k d none) else 0)
  rw [hr, hi, hi']
  simp only [List.take_append_of_le_length (Nat.le_of_lt hlt)]

/-- right after a placement, the specification's `bookedBefore` of the task is the `used` its placement saw -/
theorem booked_after_place (env : Env) (σ σ' : SS) (t : Uid) (new : List (Int × Rat))
    (hnr : ∀ r ∈ σ.rows, r.task ≠ t)
    (hrows : σ'.rows = σ.rows ++ new.map (mkRow (env.info t).resource t)) :
    (new ≠ [] → ∀ day, bookedBefore env (outOf σ') (env.info t).resource day t =
      usedBy env σ.rows (env.info t).resource t day) ∧
    (∀ day, reserved σ'.rows (env.info t).resource day (some t) = daySum new day) ∧
    (∀ day, reserved σ'.rows (env.info t).resource day none =
      reserved σ.rows (env.info t).resource day none + daySum new day) := by
  refine ⟨fun hne day => ?_, fun day => ?_, fun day => ?_⟩
  · show (if env.balance then (match firstRowIdx σ'.rows t with
        | some i => reserved (σ'.rows.take i) _ day none
        | none => reserved σ'.rows _ day none) else 0) = usedBy env σ.rows (env.info t).resource t day
    unfold usedBy
    rw [hrows, firstRowIdx_new _ _ _ _ hnr hne]
    cases hb : env.balance with
    | true => simp
    | false => simp [reserved_none_task σ.rows t hnr]
  · rw [hrows, reserved_append, reserved_mk, reserved_none_task σ.rows t hnr, if_pos ⟨rfl, fun t' h => by cases h; rfl⟩]
    grind
  · rw [hrows, reserved_append, reserved_mk, if_pos ⟨rfl, fun t' h => by cases h⟩]

end Pj

/-
  Lemmas/CsvSrcCheckC.lean — STAGE 3, kernel-checked: `read_csv` (translated, with `raws_to_wbs`) on concrete texts builds
  the WBS the model describes (`expectRead`: the records of `readCsv`, the hierarchy of `rebuildForest`, the predecessor
  links by id, the cells parsed by the library; every task also carries `parent_id`, `predecessor_ids` and the raw
  custom cells as attributes).  The agreeing runs are instances of `read_csv_run2` (through `agree_of`, CsvSrcT.lean:
  what is evaluated is the test of its hypotheses and the comparison of the closed form of the store with `expectRead`);
  the error cases are runs of the interpreter.
-/
import PjVerif.Lemmas.CsvSrcCheck
import PjVerif.Lemmas.CsvSrcT
namespace Pj.CsvSrc.Check
open Pj.PyLite Pj.Extracted.Csv Pj.Csv Pj.CsvSrc


def agree (text : List Char) : Bool :=
  decide (observeRead (interpRead sampleLib FF text) = expectRead sampleLib text) && (expectRead sampleLib text).isSome

/-- what `write_csv` wrote -/
example : agree (writeCsv (recsOf sampleLib w1)) = true := agree_of sampleLib 5 _ (by decide +kernel)
example : agree (writeCsv (recsOf sampleLib w2)) = true := agree_of sampleLib 5 _ (by decide +kernel)
example : agree (writeCsv (recsOf sampleLib w0)) = true := agree_of sampleLib 5 _ (by decide +kernel)

def std : String := "id;name;resource;start;end;estimate;spent;milestone;parent_id;predecessor_ids"

/-- an older file without the `min_start` column; a child before its parent; a parent id that names no row (a root) -/
def t1 : List Char := (std ++ "\n3;c;;;;;;False;1;\n1;a;;01.02.24;;1.5;;True;;3\n2;b;;;;;;;9;1;3\n").toList
example : agree t1 = true := by
  -- the kernel evaluates `String.toList` of a literal in quadratic time: the characters come from `String.toList_ofList`
  unfold t1 std
  rw [String.toList_append, String.toList_ofList, String.toList_ofList]
  exact agree_of sampleLib 5 _ (by decide +kernel)

/-- a byte-order mark, permuted columns, a custom column, a `min_start` column, a quoted cell -/
def t2 : List Char :=
  ("﻿name;id;resource;start;end;estimate;spent;milestone;parent_id;predecessor_ids;tag;min_start\r\n" ++
   "\"x;y\";-1;r;;;;;True;;;T1;05.06.07\r\nz;0;;;;;;;-1;-1;;\r\n").toList
example : agree t2 = true := by
  unfold t2
  rw [String.toList_append, String.toList_ofList, String.toList_ofList]
  exact agree_of sampleLib 5 _ (by decide +kernel)

/-- siblings keep the order of the rows -/
def t3 : List Char := (std ++ "\n1;;;;;;;;;\n4;;;;;;;;1;\n2;;;;;;;;1;\n3;;;;;;;;1;\n").toList
example : agree t3 = true := by
  unfold t3 std
  rw [String.toList_append, String.toList_ofList, String.toList_ofList]
  exact agree_of sampleLib 5 _ (by decide +kernel)
example : (observeRead (interpRead sampleLib FF t3)).map (fun l => l.map (·.childIds)) =
    some [[.num 4, .num 2, .num 3], [], [], []] := by
  unfold t3 std
  rw [String.toList_append, String.toList_ofList, String.toList_ofList]
  exact observeRead_map sampleLib 5 _ _ _ (by decide +kernel)

/-- errors: an empty file (StopIteration), a missing standard column (KeyError), a short row (IndexError), a bad number
    (ValueError), a predecessor id that names no task (RuntimeError); the model's reader (`readCsv`) rejects the first three -/
example : (interpRead sampleLib FF []).toOption.isNone ∧ readCsv [] = none := by decide +kernel
example : (interpRead sampleLib FF "id;name\n1;a\n".toList).map (·.1) = .error (.crash .key) := by decide +kernel
example : readCsv "id;name\n1;a\n".toList = none := by decide +kernel
example : (interpRead sampleLib FF (std ++ "\n1;a\n").toList).map (·.1) = .error (.crash .index) := by
  unfold std
  rw [String.toList_append, String.toList_ofList, String.toList_ofList]
  decide +kernel
example : readCsv (std ++ "\n1;a\n").toList = none := by
  unfold std
  rw [String.toList_append, String.toList_ofList, String.toList_ofList]
  decide +kernel
example : (interpRead sampleLib FF (std ++ "\nx;;;;;;;;;\n").toList).map (·.1) = .error (.crash .value) := by
  unfold std
  rw [String.toList_append, String.toList_ofList, String.toList_ofList]
  decide +kernel
example : (interpRead sampleLib FF (std ++ "\n1;;;;;;;;;7\n").toList).map (·.1) = .error .runtime := by
  unfold std
  rw [String.toList_append, String.toList_ofList, String.toList_ofList]
  decide +kernel

end Pj.CsvSrc.Check

/-
  Lemmas/GraphBounded.lean — no operation creates objects: the universe size is constant and every uid stored
  in the state stays below it, provided the operation only names existing objects.  A universe of isolated objects is
  bounded, and two bounded states that agree on the universe are equal (`eq_of_eqB`, for the monitor `eqB`).
-/
import PjVerif.Lemmas.GraphPerm
namespace Pj

private theorem bounded_updChildren (s : G) (hb : Bounded s) (u : Uid) (l : List Uid) (hu : l ≠ [] → u < s.n)
    (hl : ∀ c ∈ l, c < s.n) : Bounded { s with children := upd s.children u l } := by
  refine ⟨hb.parent, ?_, hb.preds, hb.succs, hb.owner⟩
  intro v c hc
  simp only [upd] at hc
  split at hc
  · subst_vars
    exact ⟨hu (List.ne_nil_of_mem hc), hl c hc⟩
  · exact hb.children v c hc

theorem Bounded.rev {s : G} (hb : Bounded s) : Bounded s.rev :=
  ⟨hb.parent, hb.children, hb.succs, hb.preds, hb.owner⟩

theorem parent_none_of_ge (s : G) (hb : Bounded s) (u : Uid) (hu : s.n ≤ u) : s.parent u = none := by
  cases h : s.parent u with
  | none => rfl
  | some p => exact absurd (hb.parent u p h).1 (Nat.not_lt.mpr hu)

theorem nil_of_ge (n : Nat) (next : Uid → List Uid) (hb : ∀ u v, v ∈ next u → u < n ∧ v < n) (u : Uid) (hu : n ≤ u) :
    next u = [] := by
  cases h : next u with
  | nil => rfl
  | cons a l => exact absurd (hb u a (h ▸ List.mem_cons_self)).1 (Nat.not_lt.mpr hu)

theorem Bounded.blank {s : G} (hb : Bounded s) (u : Uid) (hu : s.n ≤ u) :
    s.parent u = none ∧ s.children u = [] ∧ s.preds u = [] ∧ s.succs u = [] ∧ s.owner u = none := by
  refine ⟨parent_none_of_ge s hb u hu, nil_of_ge _ _ hb.children u hu, nil_of_ge _ _ hb.preds u hu,
    nil_of_ge _ _ hb.succs u hu, ?_⟩
  cases h : s.owner u with
  | none => rfl
  | some x => exact absurd (hb.owner u x h).1 (Nat.not_lt.mpr hu)

/-! ### the hierarchy setters: the universe is a closed region (`HLocal`, Lemmas/GraphParent.lean) -/

theorem Bounded.hclosed {g : G} (hb : Bounded g) : HClosed (fun u => u < g.n) g :=
  ⟨fun u p _ hp => (hb.parent u p hp).2, fun u x _ hx => (hb.children u x hx).2, fun u w _ hw => (hb.owner u w hw).2⟩

theorem Bounded.of_hlocal {g g' : G} (hb : Bounded g) (h : HLocal (fun u => u < g.n) g g') : Bounded g' := by
  have key : ∀ u, ¬ u < g.n → g'.parent u = none ∧ g'.children u = [] ∧ g'.owner u = none := by
    intro u hu
    obtain ⟨b1, b2, _, _, b5⟩ := hb.blank u (Nat.le_of_not_lt hu)
    exact ⟨(h.parent u hu).trans b1, (h.children u hu).trans b2, (h.owner u hu).trans b5⟩
  have hin : ∀ {u : Uid}, (g'.parent u ≠ none ∨ g'.children u ≠ [] ∨ g'.owner u ≠ none) → u < g.n := by
    intro u hne
    apply Classical.byContradiction
    intro hu
    obtain ⟨k1, k2, k3⟩ := key u hu
    rcases hne with e | e | e
    · exact e k1
    · exact e k2
    · exact e k3
  have hn := h.n
  refine ⟨?_, ?_, ?_, ?_, ?_⟩ <;> rw [hn]
  · intro u p hp
    have hu := hin (Or.inl (by rw [hp]; exact fun e => by cases e))
    exact ⟨hu, h.closed.parent u p hu hp⟩
  · intro u c hc'
    have hu := hin (Or.inr (Or.inl (List.ne_nil_of_mem hc')))
    exact ⟨hu, h.closed.children u c hu hc'⟩
  · rw [h.preds]; exact hb.preds
  · rw [h.succs]; exact hb.succs
  · intro u w hw
    have hu := hin (Or.inr (Or.inr (by rw [hw]; exact fun e => by cases e)))
    exact ⟨hu, h.closed.owner u w hu hw⟩

theorem setParent_Bounded (s : G) (t : Uid) (p : Option Uid) (hb : Bounded s) (ht : t < s.n)
    (hp : ∀ q, p = some q → q < s.n) : Bounded (setParent s t p).1 :=
  hb.of_hlocal (setParent_hlocal hb.hclosed t p ht hp)

theorem setChildren_Bounded (s : G) (h : Uid) (l : List Uid) (hb : Bounded s) (hh : h < s.n)
    (hl : ∀ v ∈ l, v < s.n) : Bounded (setChildren s h l).1 :=
  hb.of_hlocal (setChildren_hlocal hb.hclosed h l hh hl)

theorem releaseChildren_Bounded (s : G) (h : Uid) (l : List Uid) (hb : Bounded s) (hh : h < s.n) :
    Bounded (releaseChildren s h l).1 :=
  hb.of_hlocal (releaseChildren_hlocal hb.hclosed h l hh)

private theorem mutPreds_Bounded (s : G) (t : Uid) (l : List Uid) (hb : Bounded s) (ht : t < s.n)
    (hl : ∀ v ∈ l, v < s.n) : Bounded (mutPreds s t l) := by
  refine ⟨hb.parent, hb.children, ?_, ?_, hb.owner⟩
  · intro u v hv
    rcases (mem_mutPreds_preds s t l v u).mp hv with ⟨_, h⟩ | ⟨rfl, h⟩
    · exact hb.preds u v h
    · exact ⟨ht, hl v h⟩
  · intro u v hv
    rcases (mem_mutPreds_succs s t l u v).mp hv with ⟨_, h⟩ | ⟨rfl, h | ⟨_, h⟩⟩
    · exact hb.succs u v h
    · exact ⟨hl u h, ht⟩
    · exact hb.succs u v h

theorem setPreds_Bounded (s : G) (t : Uid) (l : List Uid) (hb : Bounded s) (ht : t < s.n)
    (hl : ∀ v ∈ l, v < s.n) : Bounded (setPreds s t l).1 := by
  unfold setPreds
  split
  · exact hb
  · exact mutPreds_Bounded s t l hb ht hl

theorem setSuccs_Bounded (s : G) (t : Uid) (l : List Uid) (hb : Bounded s) (ht : t < s.n)
    (hl : ∀ v ∈ l, v < s.n) : Bounded (setSuccs s t l).1 := by
  rw [setSuccs_eq_rev]
  exact (setPreds_Bounded s.rev t l hb.rev ht hl).rev

/-- needs no range hypothesis: a non-empty children list already has its holder inside the universe -/
theorem permChildren_Bounded (s : G) (h : Uid) (l : List Uid) (hb : Bounded s) (hl : l.Perm (s.children h)) :
    Bounded { s with children := upd s.children h l } := by
  refine bounded_updChildren s hb h l ?_ (fun c hc => (hb.children h c (hl.mem_iff.mp hc)).2)
  intro hne
  obtain ⟨c, hc⟩ := List.exists_mem_of_ne_nil l hne
  exact (hb.children h c (hl.mem_iff.mp hc)).1

theorem chSort_n (s : G) (h : Uid) (key : Uid → Int) (rev : Bool) : (chSort s h key rev).1.n = s.n := rfl

theorem Bounded.stored {s : G} (hb : Bounded s) : Stored (fun u => u < s.n) (fun u => u < s.n) s :=
  ⟨fun h v hv => ⟨(hb.children h v hv).2, (hb.children h v hv).1⟩, fun t v hv => (hb.preds t v hv).2,
    fun t v hv => (hb.succs t v hv).2⟩

theorem Call.bounded {Q : Prop} {s : G} {r : G × Option Err} (c : Call Q (fun u => u < s.n) (fun u => u < s.n) s r)
    (hb : Bounded s) : Bounded r.1 :=
  c.preserves Bounded (fun t p ht hp => setParent_Bounded s t p hb ht hp) (fun h l hh hl => setChildren_Bounded s h l hb hh hl)
    (fun t l ht hl => setPreds_Bounded s t l hb ht hl) (fun t l ht hl => setSuccs_Bounded s t l hb ht hl)
    (fun h l hp => permChildren_Bounded s h l hb hp) hb

theorem step_Bounded (s : G) (op : Op) (hb : Bounded s) (hr : ∀ u ∈ op.allUids, u < s.n) :
    Bounded (step s op).1 :=
  (step_preserves Bounded (fun s u => u < s.n) (fun s u => u < s.n) (fun _ h => h.stored) (fun _ _ h c => c.bounded h)
    (fun _ _ _ hn _ => ⟨fun h => hn ▸ h, fun h => hn ▸ h⟩) s op hb (fun u hu => hr u (Op.taskArgs_sub hu)) hr).1

theorem fresh_Bounded (n : Nat) (tid : Uid → Int) (hid : ∀ u, n ≤ u → tid u ≠ emptyId) :
    Bounded (fresh n tid) := by
  refine ⟨?_, ?_, ?_, ?_, ?_⟩
  · intro u p h; simp [fresh] at h
  · intro u c h; simp [fresh] at h
  · intro u c h; simp [fresh] at h
  · intro u c h; simp [fresh] at h
  · intro u w h
    simp only [fresh] at h
    split at h
    next hc =>
      cases h
      have : u < n := by
        apply Classical.byContradiction
        intro hlt
        exact hid u (Nat.le_of_not_lt hlt) (by simpa using hc)
      exact ⟨this, this⟩
    · cases h

theorem eq_of_eqB (s s' : G) (h : eqB s s' = true) (ht : s.tid = s'.tid) (hb : Bounded s)
    (hd : ∀ u, s'.n ≤ u → s'.parent u = none ∧ s'.children u = [] ∧ s'.preds u = [] ∧ s'.succs u = [] ∧
      s'.owner u = none) : s = s' := by
  simp only [eqB, Bool.and_eq_true, beq_iff_eq, List.all_eq_true, uids, List.mem_range] at h
  obtain ⟨hn, h⟩ := h
  have key : ∀ u, s.parent u = s'.parent u ∧ s.children u = s'.children u ∧ s.preds u = s'.preds u ∧
      s.succs u = s'.succs u ∧ s.owner u = s'.owner u := by
    intro u
    by_cases hu : u < s.n
    · obtain ⟨⟨⟨⟨⟨_, h1⟩, h2⟩, h3⟩, h4⟩, h5⟩ := h u hu
      exact ⟨h1, h2, h3, h4, h5⟩
    · obtain ⟨d1, d2, d3, d4, d5⟩ := hd u (hn ▸ Nat.le_of_not_lt hu)
      obtain ⟨b1, b2, b3, b4, b5⟩ := hb.blank u (Nat.le_of_not_lt hu)
      rw [d1, d2, d3, d4, d5]
      exact ⟨b1, b2, b3, b4, b5⟩
  exact G.eq_of_fields ⟨hn, fun u => ⟨congrFun ht u, key u⟩⟩

end Pj

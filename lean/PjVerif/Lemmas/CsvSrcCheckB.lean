/-
  Lemmas/CsvSrcCheckB.lean — STAGE 2: `write_csv` (translated, with `tasks_to_raws` and `TaskRaw`) on concrete WBSs
  writes exactly the text of the model: `writeCsv (recsOf L W)` - header with the custom columns in first-seen order
  (`min_start` first), one row per task in `wbs.tasks` order with parent id and predecessor ids, the csv dialect of
  Model/Csv.lean.  Instances of `write_csv_eq` (the WBSs are well formed: `wf_w0`, `wf_w1`, `wf_w2`, CsvSrcB.lean); the
  texts of the model and the run without fuel are evaluated by the kernel.
-/
import PjVerif.Lemmas.CsvSrcB
namespace Pj.CsvSrc.Check
open Pj.PyLite Pj.Extracted.Csv Pj.Csv Pj.CsvSrc


example : interpWrite sampleLib FF w1 = .ok (writeCsv (recsOf sampleLib w1)) := write_csv_eq sampleLib 5 w1 wf_w1
example : interpWrite sampleLib FF w0 = .ok (writeCsv (recsOf sampleLib w0)) := write_csv_eq sampleLib 5 w0 wf_w0
example : interpWrite sampleLib FF w2 = .ok (writeCsv (recsOf sampleLib w2)) := write_csv_eq sampleLib 5 w2 wf_w2

/-- the text itself -/
example : interpWrite sampleLib FF w2 = .ok
    "id;name;resource;start;end;estimate;spent;milestone;parent_id;predecessor_ids;min_start\r\n1;;;;;;;False;;;\r\n".toList := by
  -- the kernel turns a string literal into its characters in quadratic time: they are taken from the literal first
  rw [show FF = 5 + 3 from rfl, write_csv_eq sampleLib 5 w2 wf_w2, String.toList_ofList]
  decide +kernel

/-- the header of `w1`: standard columns, then `min_start`, then the custom columns in first-seen order -/
example : ((fileRows (recsOf sampleLib w1)).head?.map (·.drop 10)) =
    some (["min_start", "prio", "flag", "note", "ratio", "when", "opt"].map String.toList) := by decide +kernel

/-- too little fuel: RecursionError -/
example : interpWrite sampleLib 1 w2 = .error (.crash .recursion) := by decide +kernel

end Pj.CsvSrc.Check

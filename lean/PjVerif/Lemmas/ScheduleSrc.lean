/-
  Lemmas/ScheduleSrc.lean — the model of the scheduler's inner loops (Model/Sched.lean: `reserved`, `nearestFwd`,
  `shiftFwd`, `nearestBwd`, `shiftBwd`) equals the interpretation of the CURRENT SOURCE of

    _ResourceUsage.__get_key / reserve / reserved
    ForwardScheduler.__get_resource_nearest_available_date / __shift_by_resource_usage_and_calendar
    BackwardScheduler.__get_resource_nearest_available_date / __shift_by_resource_usage_and_calendar

  (Extracted/ScheduleSrc.lean, regenerated from /repo/src/pjplan/schedule.py by tools/extract_schedule.py on every
  check), run by the scheduler layer of PyLite (`runW`: a mutable ledger + handlers for calls that leave the method).

  Setting.  The interpreter's ledger is a `List LRow`; a row of the model is encoded by `encRow` (resource name key
  `r : Option Nat` ↦ the object `ref (resRef r)`, day ↦ its midnight, task uid ↦ `ref uid`).  The scheduler object is
  `schedSelf b` (`self.__balance_resources = b`).  Calls leaving a scheduler method are interpreted by `srcH cal r`,
  i.e. BY RUNNING THE TRANSLATED SOURCE of the callee: the ledger methods, and `resource.get_available_units` /
  `get_nearest_availability_date` of Lemmas/CalendarSrc.lean (default `max_days`) on the resource's calendar `cal`.
  `max_steps` is bound to its default, emitted next to each method (`src_*_maxSteps` = `Extracted.*MaxSteps` by `rfl`).

  Results (`interp…_eq`, end of the file).  Each method, run on `rows.map encRow`, computes the model's function
  (`usedOf rows r t b` is the model's `used` function, `usedBy env rows r t` for `b = env.balance`; a shift ends on
  the ledger `rows ++ new.map (mkRow r t)`)
  for every calendar, ledger, resource key, task, balance flag, date and amount (any rational, also negative):
  results, errors (RuntimeError = `.runtime`, ZeroDivisionError = `.crash .zeroDivision`, whatever the calendar
  raises) and the final ledger coincide; in particular no run gets `stuck`.  The only hypothesis is that the
  interpreter's `while` fuel exceeds `max_steps`.  The `*_ledger` versions hold for an arbitrary interpreter ledger.  The
  forward and the backward loops are tied by the same lemmas over a direction flag.
-/
import PjVerif.Extracted.ScheduleSrc
import PjVerif.Model.Sched
import PjVerif.Lemmas.CalendarSrc
import PjVerif.Lemmas.SchedFill
namespace Pj.SchedSrc
open Pj.PyLite Pj.Extracted
open Pj.TaskSrc (Env.get?_nil Env.get?_cons Env.get?_set natCast_succ_rat)

theorem execBlockW_append (H : Handlers) (self : PyLite.Env) (F : Nat) (p q : List Stmt) (env : PyLite.Env) (L : List LRow) :
    execBlockW H self F (p ++ q) env L =
      match execBlockW H self F p env L with
      | .normal env' L' => execBlockW H self F q env' L'
      | o => o := by
  induction p generalizing env L with
  | nil => rfl
  | cons s p ih =>
    simp only [List.cons_append, execBlockW]
    cases s.execW H self F env L <;> simp [ih]

/-- unfold the scheduler layer of the interpreter on a program; environments are looked up through `Env.get?_cons` /
    `Env.get?_set`, so they may be variables with hypotheses about single names.  The value of a comprehension is given
    beforehand (`↓`, from `evalW_comp_rows`): running its item function on an unknown item is dear. -/
syntax "pylite_w" (" [" Lean.Parser.Tactic.simpLemma,* "]")? : tactic
macro_rules
  | `(tactic| pylite_w) => `(tactic| pylite_w [])
  | `(tactic| pylite_w [$ls,*]) => `(tactic|
      simp [runW, Expr.evalW, Stmt.execW, execBlockW, iterOf, Env.get?_nil, Env.get?_cons, Env.get?_set, Env.set, truth, arith, arithTime, PyLite.compare, cmpRat, Atom.asNum?, Atom.asInt?, rowAttr, rangeOf, pure, Except.pure,
        bind, Except.bind, throw, throwThe, MonadExceptOf.throw, ← Rat.not_lt, $ls,*])

/-- inside `_ResourceUsage` no other object is called -/
def noH : Handlers :=
  { units := fun _ _ => throw stuck, nearest := fun _ _ _ => throw stuck,
    reserved := fun _ _ _ _ => throw stuck, reserve := fun _ _ _ _ _ => throw stuck }

def interpGetKey (d : Val) : Res Val :=
  (runW noH [] 0 src_ResourceUsage_get_key [("date", d)] []).map (·.1)

def interpReserved (L : List LRow) (r d t : Val) : Res Val :=
  (runW noH [] 0 src_ResourceUsage_reserved [("resource", r), ("date", d), ("task", t)] L).map (·.1)

def interpReserve (L : List LRow) (r d t u : Val) : Res (Val × List LRow) :=
  runW noH [] 0 src_ResourceUsage_reserve [("resource", r), ("date", d), ("task", t), ("units", u)] L

theorem interpGetKey_eq (d : Time) : interpGetKey (.atom (.time d)) = .ok (.atom (.time (midnight d))) := by
  unfold interpGetKey
  pylite_w [src_ResourceUsage_get_key, Except.map]

theorem interpReserve_eq (L : List LRow) (r t : Nat) (d : Time) (u : Rat) :
    interpReserve L (.atom (.ref r)) (.atom (.time d)) (.atom (.ref t)) (.atom (.num u)) =
      .ok (.atom (.num u), L ++ [⟨r, midnight d, t, u⟩]) := by
  unfold interpReserve
  pylite_w [src_ResourceUsage_reserve]

def optRef : Option Nat → Val
  | none => .atom .none
  | some t => .atom (.ref t)

theorem compLoop_filter (f : Atom → Res (Option Atom)) (p : LRow → Bool) (h : LRow → Atom) (L : List LRow)
    (hf : ∀ x, f x.toAtom = .ok (if p x then some (h x) else none)) :
    compLoop f (L.map LRow.toAtom) = .ok ((L.filter p).map h) := by
  induction L with
  | nil => rfl
  | cons x L ih =>
    simp only [List.map_cons, compLoop, hf, ih, bind, Except.bind, pure, Except.pure, List.filter_cons]
    cases p x <;> rfl

theorem evalW_comp_rows (H : Handlers) (self ρ : PyLite.Env) (L : List LRow) (elt cond : Expr) (x : String)
    (p : LRow → Bool) (h : LRow → Atom)
    (hc : ∀ r : LRow, (do truth (← cond.evalW H self L (ρ.set x r.toAtom))) = .ok (p r))
    (he : ∀ r : LRow, elt.evalW H self L (ρ.set x r.toAtom) = .ok (.atom (h r))) :
    (Expr.listComp elt x .rows cond).evalW H self L ρ = .ok (.list ((L.filter p).map h)) := by
  simp only [Expr.evalW, pure, Except.pure, bind, Except.bind, iterOf]
  rw [compLoop_filter _ p h]
  intro r
  have := hc r
  simp only [bind, Except.bind] at this ⊢
  split at this
  · cases this
  · simp only [this, he]
    cases p r <;> rfl

theorem foldl_add_sum (l : List Rat) (a : Rat) : l.foldl (· + ·) a = a + l.sum := by
  induction l generalizing a with
  | nil => simp [Rat.add_zero]
  | cons x l ih => simp [List.foldl_cons, ih, List.sum_cons, Rat.add_assoc]

theorem sumLoop_nums {α : Type} (g : α → Rat) (l : List α) (a : Rat) :
    sumLoop (.atom (.num a)) (l.map (fun x => Atom.num (g x))) = .ok (.atom (.num (a + (l.map g).sum))) := by
  induction l generalizing a with
  | nil => simp [sumLoop, pure, Except.pure, Rat.add_zero]
  | cons x l ih =>
    simp [sumLoop, arith, arithTime, Atom.asNum?, bind, Except.bind, pure, Except.pure, ih, List.sum_cons, Rat.add_assoc]

/-- `_ResourceUsage.reserved` in closed form -/
def ledgerReserved (L : List LRow) (r : Nat) (d : Time) (t : Option Nat) : Rat :=
  ((L.filter (fun x => x.res == r && x.date == midnight d &&
      (match t with | some t => x.task == t | none => true))).map (·.units)).sum

/-- the two comprehensions of `reserved`: (element, condition for any task, condition for a given task) -/
def reservedComp : Expr × Expr × Expr :=
  match src_ResourceUsage_reserved with
  | [.ifElse _ [.assign _ (.listComp e _ _ c1)] [.assign _ (.listComp _ _ _ c2)], _] => (e, c1, c2)
  | _ => (.none, .none, .none)

theorem src_reserved_shape : src_ResourceUsage_reserved =
    [.ifElse (.isNone (.var "task")) [.assign "units" (.listComp reservedComp.1 "item" .rows reservedComp.2.1)]
       [.assign "units" (.listComp reservedComp.1 "item" .rows reservedComp.2.2)],
     .ret (.sum (.var "units") (.num 0))] := rfl

theorem interpReserved_eq (L : List LRow) (r : Nat) (d : Time) (t : Option Nat) :
    interpReserved L (.atom (.ref r)) (.atom (.time d)) (optRef t) = .ok (.atom (.num (ledgerReserved L r d t))) := by
  unfold interpReserved
  rw [src_reserved_shape]
  cases t with
  | none =>
    have hc := evalW_comp_rows noH [] [("resource", .atom (.ref r)), ("date", .atom (.time d)), ("task", optRef none)] L
      reservedComp.1 reservedComp.2.1 "item" (fun x => x.res == r && x.date == midnight d) (fun x => Atom.num x.units)
      (fun x => by
        pylite_w [reservedComp, src_ResourceUsage_reserved, LRow.toAtom, Atom.pyEq, Atom.norm]
        by_cases h1 : x.res = r <;> by_cases h2 : x.date = midnight d <;> simp [h1, h2])
      (fun x => by pylite_w [reservedComp, src_ResourceUsage_reserved, LRow.toAtom])
    pylite_w [optRef, ↓hc, sumLoop_nums, Except.map, ledgerReserved, Rat.zero_add]
  | some t =>
    have hc := evalW_comp_rows noH [] [("resource", .atom (.ref r)), ("date", .atom (.time d)), ("task", optRef (some t))] L
      reservedComp.1 reservedComp.2.2 "item" (fun x => x.res == r && x.date == midnight d && x.task == t)
      (fun x => Atom.num x.units)
      (fun x => by
        pylite_w [reservedComp, src_ResourceUsage_reserved, optRef, LRow.toAtom, Atom.pyEq, Atom.norm]
        by_cases h1 : x.res = r <;> by_cases h2 : x.date = midnight d <;> by_cases h3 : x.task = t <;> simp [h1, h2, h3])
      (fun x => by pylite_w [reservedComp, src_ResourceUsage_reserved, LRow.toAtom])
    pylite_w [optRef, ↓hc, sumLoop_nums, Except.map, ledgerReserved, Rat.zero_add]

/-- the resource object of the name key `r` -/
def resRef : Option Nat → Nat
  | none => 0
  | some n => n + 1

theorem resRef_inj {a b : Option Nat} : resRef a = resRef b ↔ a = b := by
  cases a <;> cases b <;> simp [resRef]

/-- a row of the model as a `ResourceUsageRow`: the date is the day's midnight -/
def encRow (x : Row) : LRow := ⟨resRef x.res, ((x.day : Int) : Rat), x.task, x.units⟩

theorem midnight_eq_iff (day : Int) (d : Time) : ((day : Int) : Rat) = midnight d ↔ day = dayOf d := by
  unfold midnight
  exact Rat.intCast_inj

theorem ledgerReserved_enc (rows : List Row) (r : Option Nat) (d : Time) (t : Option Uid) :
    ledgerReserved (rows.map encRow) (resRef r) d t = reserved rows r (dayOf d) t := by
  unfold ledgerReserved reserved
  rw [List.filter_map, List.map_map]
  congr 2
  congr 1
  funext x
  have h1 : (resRef x.res == resRef r) = (x.res == r) := by
    rw [Bool.eq_iff_iff]; simp [resRef_inj]
  have h2 : (((x.day : Int) : Rat) == midnight d) = (x.day == dayOf d) := by
    rw [Bool.eq_iff_iff]; simp [midnight_eq_iff]
  cases t <;> simp [encRow, h1, h2]

/-! ### handlers: calls that leave a scheduler method run the translated source of the callee -/

def srcH (cal : Cal) (r : Nat) : Handlers :=
  { units := fun i t => if i = r then CalSrc.interpResource cal t else throw stuck
    nearest := fun i t dir =>
      if i = r then CalSrc.interpSearch (Extracted.maxDays + 1) cal dir Extracted.maxDays t else throw stuck
    reserved := interpReserved
    reserve := interpReserve }

theorem srcH_units (cal : Cal) (r : Nat) (t : Time) : (srcH cal r).units r t = (capR cal t).map some := by
  simp [srcH, CalSrc.interpResource_eq_capR]

theorem srcH_nearest (cal : Cal) (r : Nat) (t : Time) (dir : Int) :
    (srcH cal r).nearest r t dir = search cal dir Extracted.maxDays t := by
  simp [srcH, CalSrc.interpSearch_eq_search]

theorem srcH_reserved (cal : Cal) (r : Nat) (L : List LRow) (r' : Nat) (d : Time) (t : Option Nat) :
    (srcH cal r).reserved L (.atom (.ref r')) (.atom (.time d)) (optRef t) =
      .ok (.atom (.num (ledgerReserved L r' d t))) := interpReserved_eq L r' d t

theorem srcH_reserve (cal : Cal) (r : Nat) (L : List LRow) (r' t : Nat) (d : Time) (u : Rat) :
    (srcH cal r).reserve L (.atom (.ref r')) (.atom (.time d)) (.atom (.ref t)) (.atom (.num u)) =
      .ok (.atom (.num u), L ++ [⟨r', midnight d, t, u⟩]) := interpReserve_eq L r' t d u

/-- the scheduler object: `self.__balance_resources` -/
def schedSelf (b : Bool) : PyLite.Env := [("balance_resources", .atom (.bool b))]

/-- which rows count as "reserved": all of the resource (balancing) or only the task's own -/
def taskArg (b : Bool) (t : Nat) : Option Nat := if b then none else some t

/-- the `used` function of the model, on the interpreter's ledger -/
def usedL (L : List LRow) (r : Nat) (tk : Option Nat) (day : Int) : Rat := ledgerReserved L r ((day : Int) : Rat) tk

theorem ledgerReserved_usedL (L : List LRow) (r : Nat) (tk : Option Nat) (d : Time) :
    ledgerReserved L r d tk = usedL L r tk (dayOf d) := by
  unfold usedL ledgerReserved
  rw [midnight_intCast]
  rfl

theorem mul24_div24 (p : Rat) : 24 * p / 24 = p := by grind

def asTime : Res (Val × List LRow) → Res (Time × List LRow)
  | .ok (.atom (.time x), L) => pure (x, L)
  | .ok _ => throw stuck
  | .error e => throw e

/-- `resource_usage.reserved(resource, x) if self.__balance_resources else resource_usage.reserved(resource, x, task)`,
    the first statement of every loop body and of the statements after the `while` loops -/
abbrev reservedExpr (x : String) : Expr :=
  .ite (.field "balance_resources") (.reserved (.var "resource") (.var x) .none)
    (.reserved (.var "resource") (.var x) (.var "task"))

theorem reservedExpr_eval (cal : Cal) (b : Bool) (L : List LRow) {ρ : PyLite.Env} {r t : Nat} {x : String} {d : Time}
    (hr : ρ.get? "resource" = some (.atom (.ref r))) (ht : ρ.get? "task" = some (.atom (.ref t)))
    (hx : ρ.get? x = some (.atom (.time d))) :
    (reservedExpr x).evalW (srcH cal r) (schedSelf b) L ρ = .ok (.atom (.num (usedL L r (taskArg b t) (dayOf d)))) := by
  have h1 := srcH_reserved cal r L r d none
  have h2 := srcH_reserved cal r L r d (some t)
  simp only [optRef] at h1 h2
  cases b <;> pylite_w [schedSelf, hr, ht, hx, h1, h2, taskArg, ledgerReserved_usedL]

/-! ### forward `__get_resource_nearest_available_date` -/

/-- the parameters (`resource_usage` is the ledger, the interpreter's state) -/
def nearParams (r t : Nat) (s : Time) (n : Nat) : PyLite.Env :=
  [("resource", .atom (.ref r)), ("start_date", .atom (.time s)), ("task", .atom (.ref t)),
   ("max_steps", .atom (.num ((n : Nat) : Rat)))]

def interpNearestFwd (cal : Cal) (b : Bool) (r t : Nat) (L : List LRow) (start : Time) : Res (Time × List LRow) :=
  asTime (runW (srcH cal r) (schedSelf b) 0 src_Fwd_nearest (nearParams r t start src_Fwd_nearest_maxSteps) L)

/-- the locals the body of the `for` loop reads; it may bind any others -/
structure NearEnv (ρ : PyLite.Env) (r t : Nat) (d : Time) : Prop where
  res : ρ.get? "resource" = some (.atom (.ref r))
  task : ρ.get? "task" = some (.atom (.ref t))
  d : ρ.get? "d" = some (.atom (.time d))

theorem NearEnv.set_i {ρ : PyLite.Env} {r t : Nat} {d : Time} (h : NearEnv ρ r t d) (v : Val) :
    NearEnv (ρ.set "i" v) r t d :=
  ⟨by rw [Env.get?_set, if_neg (by decide)]; exact h.res, by rw [Env.get?_set, if_neg (by decide)]; exact h.task,
   by rw [Env.get?_set, if_neg (by decide)]; exact h.d⟩

theorem nearEnv_start (r t : Nat) (s d : Time) (n : Nat) : NearEnv (nearParams r t s n ++ [("d", .atom (.time d))]) r t d :=
  ⟨rfl, rfl, rfl⟩

def fwdNearLoop : List Stmt :=
  match src_Fwd_nearest with
  | [_, _, .forRange _ _ _ b, _] => b
  | _ => []

theorem src_Fwd_nearest_shape : src_Fwd_nearest =
    [.assign "start_date" (.dayStart (.var "start_date")),
     .assign "d" (.nearest (.var "resource") (.var "start_date") (.num 1)),
     .forRange "i" (.num 0) (.var "max_steps") fwdNearLoop,
     .raiseRuntime] := rfl

theorem fwdNearest_maxSteps_eq : src_Fwd_nearest_maxSteps = Extracted.fwdNearestMaxSteps := rfl

/-! ### forward `__shift_by_resource_usage_and_calendar` -/

theorem intCast_succ (day : Int) : (((day + 1 : Int)) : Rat) = (day : Rat) + 1 := by
  rw [Rat.intCast_add]; rfl
theorem intCast_pred (day : Int) : (((day - 1 : Int)) : Rat) = (day : Rat) - 1 := by
  rw [Rat.intCast_sub]; rfl
theorem dayOf_succ (day : Int) : dayOf ((day : Rat) + 1) = day + 1 := by
  rw [← intCast_succ, dayOf_intCast]
theorem midnight_succ (day : Int) : midnight ((day : Rat) + 1) = (day : Rat) + 1 := by
  rw [← intCast_succ, midnight_intCast]
theorem natCast_lt_succ (n k : Nat) : ((n : Rat) < (k : Rat) + 1) ↔ n < k + 1 := by
  rw [natCast_succ_rat, Rat.natCast_lt_natCast]
/-- Python's `min(a, b)` (`b if b < a else a`) on numbers -/
theorem pymin_eq (a b : Rat) : (if b < a then b else a) = min a b := by grind

theorem ite_num (p : Prop) [Decidable p] (a b : Rat) :
    (if p then Val.atom (Atom.num a) else Val.atom (Atom.num b)) = Val.atom (Atom.num (if p then a else b)) := by
  split <;> rfl

/-- the row `reserve(resource, date, task, units)` appends for the model's pair (day, units) -/
def newRow (r t : Nat) (p : Int × Rat) : LRow := ⟨r, ((p.1 : Int) : Rat), t, p.2⟩

theorem sum_append_rat (l1 l2 : List Rat) : (l1 ++ l2).sum = l1.sum + l2.sum := by
  induction l1 with
  | nil => simp [Rat.zero_add]
  | cons x l ih => simp [List.sum_cons, ih, Rat.add_assoc]

theorem usedL_append_new (L : List LRow) (r t : Nat) (b : Bool) (acc : List (Int × Rat)) (d : Int) :
    usedL (L ++ acc.map (newRow r t)) r (taskArg b t) d =
      usedL L r (taskArg b t) d + ((acc.filter (fun p => p.1 == d)).map (·.2)).sum := by
  unfold usedL ledgerReserved
  rw [List.filter_append, List.map_append, sum_append_rat, List.filter_map, List.map_map]
  congr 2
  have hp : ((fun x : LRow => x.res == r && x.date == midnight ((d : Int) : Rat) &&
      (match taskArg b t with | some t => x.task == t | none => true)) ∘ newRow r t) = (fun p => p.1 == d) := by
    funext p
    have h2 : (((p.1 : Int) : Rat) == midnight ((d : Int) : Rat)) = (p.1 == d) := by
      rw [Bool.eq_iff_iff]; simp [midnight_eq_iff, dayOf_intCast]
    cases b <;> simp [newRow, taskArg, h2]
  rw [hp]
  rfl

theorem usedL_append_other (L : List LRow) (r t : Nat) (b : Bool) (acc : List (Int × Rat)) (d : Int)
    (h : ∀ p ∈ acc, p.1 ≠ d) :
    usedL (L ++ acc.map (newRow r t)) r (taskArg b t) d = usedL L r (taskArg b t) d := by
  rw [usedL_append_new]
  have : acc.filter (fun p => p.1 == d) = [] := by
    rw [List.filter_eq_nil_iff]
    intro p hp
    simpa using h p hp
  rw [this]
  simp [Rat.add_zero]

def shiftParams (r t : Nat) (s : Time) (left : Rat) (n : Nat) : PyLite.Env :=
  [("resource", .atom (.ref r)), ("start_date", .atom (.time s)), ("task", .atom (.ref t)),
   ("left_hours", .atom (.num left)), ("max_steps", .atom (.num ((n : Nat) : Rat)))]

def interpShiftFwd (fuel : Nat) (cal : Cal) (b : Bool) (r t : Nat) (L : List LRow) (start : Time) (left : Rat) :
    Res (Time × List LRow) :=
  asTime (runW (srcH cal r) (schedSelf b) fuel src_Fwd_shift (shiftParams r t start left src_Fwd_shift_maxSteps) L)

/-- the locals the `while` loops (forward and backward) and the statements after them read: the parameters, the
    hours still to place, the day visited last and the number of days visited; they may bind any others -/
structure ShiftEnv (ρ : PyLite.Env) (r t n : Nat) (left : Rat) (day : Int) (k : Nat) : Prop where
  res : ρ.get? "resource" = some (.atom (.ref r))
  task : ρ.get? "task" = some (.atom (.ref t))
  steps : ρ.get? "max_steps" = some (.atom (.num ((n : Nat) : Rat)))
  left : ρ.get? "left_hours" = some (.atom (.num left))
  date : ρ.get? "date" = some (.atom (.time ((day : Int) : Rat)))
  days : ρ.get? "days" = some (.atom (.num ((k : Nat) : Rat)))

theorem shift_cond (H : Handlers) (self : PyLite.Env) (L : List LRow) {ρ : PyLite.Env} {r t n : Nat} {left : Rat}
    {day : Int} {k : Nat} (hρ : ShiftEnv ρ r t n left day k) :
    (do truth (← (Expr.cmp .gt (.var "left_hours") (.num 0)).evalW H self L ρ)) = .ok (decide (0 < left)) := by
  pylite_w [hρ.left]

/-- condition and body of the loop, and the statements after it -/
def fwdShiftParts : Expr × List Stmt × List Stmt :=
  match src_Fwd_shift with
  | [_, _, _, _, .while c body, p1, p2, p3] => (c, body, [p1, p2, p3])
  | _ => (.none, [], [])

/-- the statements after the loop: the share of the last visited day that is reserved -/
theorem fwdShift_post (cal : Cal) (b : Bool) (L : List LRow) (F : Nat) {ρ : PyLite.Env} {r t n : Nat} {left dau : Rat}
    {day : Int} {k : Nat} (hρ : ShiftEnv ρ r t n left day k)
    (hdau : ρ.get? "date_available_units" = some (.atom (.num dau))) :
    execBlockW (srcH cal r) (schedSelf b) F fwdShiftParts.2.2 ρ L =
      if dau = 0 then .raise (.crash .zeroDivision)
      else .ret (.atom (.time ((day : Rat) + usedL L r (taskArg b t) day / dau))) L := by
  have hres := reservedExpr_eval cal b L hρ.res hρ.task hρ.date
  rw [dayOf_intCast] at hres
  by_cases hd : dau = 0 <;> pylite_w [↓hres, fwdShiftParts, src_Fwd_shift, hρ.date, hdau, hd, mul24_div24]

/-- the model's computation after the fill loop -/
def finishFwd (used : Int → Rat) : List (Int × Rat) × Int × Rat → Res (Time × List (Int × Rat))
  | (rows, day, dau) =>
    if dau = 0 then throw (.crash .zeroDivision)
    else pure ((day : Rat) + (used day + ((rows.filter (fun p => p.1 == day)).map (·.2)).sum) / dau, rows)

theorem shiftFwd_eq (cal : Cal) (used : Int → Rat) (start : Time) (left : Rat) :
    shiftFwd cal used start left =
      if left = 0 then pure (start, [])
      else fillFwd cal used Extracted.fwdShiftMaxSteps (Extracted.fwdShiftMaxSteps + 2) 0 (dayOf start - 1) left 0 []
        >>= finishFwd used := by
  unfold shiftFwd
  split
  · rfl
  · rfl

def outcomeS (L : List LRow) (r t : Nat) : Res (Time × List (Int × Rat)) → OutcomeW
  | .ok (e, rows) => .ret (.atom (.time e)) (L ++ rows.map (newRow r t))
  | .error e => .raise e

theorem fwdShift_maxSteps_eq : src_Fwd_shift_maxSteps = Extracted.fwdShiftMaxSteps := rfl

def fwdShiftPrelude : List Stmt := src_Fwd_shift.take 4

theorem src_Fwd_shift_split : src_Fwd_shift =
    fwdShiftPrelude ++ .while fwdShiftParts.1 fwdShiftParts.2.1 :: fwdShiftParts.2.2 := rfl

theorem fwdShift_prelude (H : Handlers) (self : PyLite.Env) (F : Nat) (r t : Nat) (L : List LRow) (start : Time)
    (left : Rat) (n : Nat) :
    if left = 0 then
      execBlockW H self F fwdShiftPrelude (shiftParams r t start left n) L = .ret (.atom (.time start)) L
    else ∃ ρ, execBlockW H self F fwdShiftPrelude (shiftParams r t start left n) L = .normal ρ L ∧
      ShiftEnv ρ r t n left (dayOf start - 1) 0 ∧ ρ.get? "date_available_units" = some (.atom (.num 0)) := by
  by_cases hl : left = 0 <;>
    pylite_w [fwdShiftPrelude, src_Fwd_shift, shiftParams, hl, midnight, Atom.pyEq, Atom.norm, intCast_pred]
  exact ⟨rfl, rfl, rfl, rfl, by simp [Env.get?_cons], rfl⟩

/-! ### backward `__get_resource_nearest_available_date` -/

theorem add_neg_one (a : Rat) : a + -1 = a - 1 := by grind
theorem dayOf_pred (day : Int) : dayOf ((day : Rat) - 1) = day - 1 := by
  rw [← intCast_pred, dayOf_intCast]
theorem midnight_pred (day : Int) : midnight ((day : Rat) - 1) = (day : Rat) - 1 := by
  rw [← intCast_pred, midnight_intCast]

def interpNearestBwd (cal : Cal) (b : Bool) (r t : Nat) (L : List LRow) (start : Time) : Res (Time × List LRow) :=
  asTime (runW (srcH cal r) (schedSelf b) 0 src_Bwd_nearest (nearParams r t start src_Bwd_nearest_maxSteps) L)

def bwdNearLoop : List Stmt :=
  match src_Bwd_nearest with
  | [_, _, .forRange _ _ _ b, _] => b
  | _ => []

theorem src_Bwd_nearest_shape : src_Bwd_nearest =
    [.assign "start_date" (.dayStart (.var "start_date")),
     .assign "d" (.bin .sub (.nearest (.var "resource") (.var "start_date") (.num (-1))) (.timedelta (.num 1))),
     .forRange "i" (.num 0) (.var "max_steps") bwdNearLoop,
     .raiseRuntime] := rfl

theorem bwdNearest_maxSteps_eq : src_Bwd_nearest_maxSteps = Extracted.bwdNearestMaxSteps := rfl

/-! ### the nearest-date loops of both directions: `fwd = true` is the forward scheduler -/

def outcomeT (L : List LRow) : Res Time → OutcomeW
  | .ok x => .ret (.atom (.time x)) L
  | .error e => .raise e

def pm : Bool → Rat → Rat → Rat | true, x, y => x + y | false, x, y => x - y
def nearBody : Bool → List Stmt | true => fwdNearLoop | false => bwdNearLoop
def nearLoopM : Bool → Cal → (Int → Rat) → Nat → Time → Res Time | true => nearestFwdLoop | false => nearestBwdLoop

theorem near_body (fwd : Bool) (cal : Cal) (b : Bool) (L : List LRow) (F : Nat) {ρ : PyLite.Env} {r t : Nat} {d : Time}
    (hρ : NearEnv ρ r t d) :
    match capR cal d with
    | .error e => execBlockW (srcH cal r) (schedSelf b) F (nearBody fwd) ρ L = .raise e
    | .ok c =>
      if 0 < c - usedL L r (taskArg b t) (dayOf d) then
        execBlockW (srcH cal r) (schedSelf b) F (nearBody fwd) ρ L =
          if c = 0 then .raise (.crash .zeroDivision)
          else .ret (.atom (.time (pm fwd (midnight d) (1 - (c - usedL L r (taskArg b t) (dayOf d)) / c)))) L
      else ∃ ρ', execBlockW (srcH cal r) (schedSelf b) F (nearBody fwd) ρ L = .normal ρ' L ∧
        NearEnv ρ' r t (pm fwd d 1) := by
  have hres := reservedExpr_eval cal b L hρ.res hρ.task hρ.d
  rcases hu : capR cal d with e | c
  · cases fwd <;>
      pylite_w [↓hres, nearBody, fwdNearLoop, src_Fwd_nearest, bwdNearLoop, src_Bwd_nearest, hρ.res, hρ.d, srcH_units,
        Except.map, hu]
  · by_cases hpos : 0 < c - usedL L r (taskArg b t) (dayOf d)
    · by_cases hc : c = 0
      · subst hc
        cases fwd <;>
          pylite_w [↓hres, nearBody, fwdNearLoop, src_Fwd_nearest, bwdNearLoop, src_Bwd_nearest, hρ.res, hρ.d, srcH_units,
            Except.map, hu, hpos]
      · cases fwd <;>
          pylite_w [↓hres, nearBody, fwdNearLoop, src_Fwd_nearest, bwdNearLoop, src_Bwd_nearest, hρ.res, hρ.d, srcH_units,
            Except.map, hu, hpos, hc, mul24_div24, pm]
    · cases fwd <;>
        pylite_w [↓hres, nearBody, fwdNearLoop, src_Fwd_nearest, bwdNearLoop, src_Bwd_nearest, hρ.res, hρ.d, srcH_units,
          Except.map, hu, hpos, add_neg_one, pm] <;>
        exact ⟨by simp [Env.get?_set, hρ.res], by simp [Env.get?_set, hρ.task], by simp [Env.get?_set]⟩

theorem near_loop (fwd : Bool) (cal : Cal) (b : Bool) (r t : Nat) (L : List LRow) (F : Nat) :
    ∀ (k : Nat) (i : Int) (d : Time) (ρ : PyLite.Env), NearEnv ρ r t d →
    (match rangeLoopW "i" (fun env' L' => execBlockW (srcH cal r) (schedSelf b) F (nearBody fwd) env' L') k i ρ L with
      | .normal _ _ => .raise .runtime
      | o => o) = outcomeT L (nearLoopM fwd cal (usedL L r (taskArg b t)) k d) := by
  intro k
  induction k with
  | zero => intro i d ρ _; cases fwd <;> rfl
  | succ k ih =>
    intro i d ρ hρ
    have hb := near_body fwd cal b L F (hρ.set_i (.atom (.num (i : Rat))))
    have hm : nearLoopM fwd cal (usedL L r (taskArg b t)) (k + 1) d = (do
        let c ← capR cal d
        if 0 < c - usedL L r (taskArg b t) (dayOf d) then
          if c = 0 then throw (.crash .zeroDivision)
          else pure (pm fwd (midnight d) (1 - (c - usedL L r (taskArg b t) (dayOf d)) / c))
        else nearLoopM fwd cal (usedL L r (taskArg b t)) k (pm fwd d 1)) := by cases fwd <;> rfl
    simp only [rangeLoopW, hm]
    rcases hcap : capR cal d with e | c <;> simp only [hcap] at hb
    · rw [hb]; rfl
    · simp only [bind, Except.bind]
      by_cases hpos : 0 < c - usedL L r (taskArg b t) (dayOf d)
      · rw [if_pos hpos] at hb ⊢
        rw [hb]
        by_cases hc : c = 0 <;> simp only [hc, if_true, if_false] <;> rfl
      · rw [if_neg hpos] at hb ⊢
        obtain ⟨ρ', hx, hρ'⟩ := hb
        rw [hx]
        exact ih _ _ _ hρ'

theorem interpNearestFwd_ledger (cal : Cal) (b : Bool) (r t : Nat) (L : List LRow) (start : Time) :
    interpNearestFwd cal b r t L start =
      (nearestFwd cal (usedL L r (taskArg b t)) start).map (fun e => (e, L)) := by
  unfold interpNearestFwd runW nearestFwd
  rw [src_Fwd_nearest_shape, ← fwdNearest_maxSteps_eq]
  generalize src_Fwd_nearest_maxSteps = n
  rcases hs : search cal 1 Extracted.maxDays (midnight start) with e | d
  · pylite_w [nearParams, srcH_nearest, hs, asTime, Except.map]
  · have hl := near_loop true cal b r t L 0 n 0 d _ (nearEnv_start r t (midnight start) d n)
    simp only [nearBody, nearLoopM, nearParams, List.cons_append, List.nil_append] at hl
    pylite_w [nearParams, srcH_nearest, hs]
    generalize rangeLoopW _ _ n 0 _ L = w at hl ⊢
    cases w <;> cases hn : nearestFwdLoop cal (usedL L r (taskArg b t)) n d <;>
      simp_all [outcomeT, asTime, Except.map, pure, Except.pure, throw, throwThe, MonadExceptOf.throw]

theorem interpNearestBwd_ledger (cal : Cal) (b : Bool) (r t : Nat) (L : List LRow) (start : Time) :
    interpNearestBwd cal b r t L start =
      (nearestBwd cal (usedL L r (taskArg b t)) start).map (fun e => (e, L)) := by
  unfold interpNearestBwd runW nearestBwd
  rw [src_Bwd_nearest_shape, ← bwdNearest_maxSteps_eq]
  generalize src_Bwd_nearest_maxSteps = n
  rcases hs : search cal (-1) Extracted.maxDays (midnight start) with e | d
  · pylite_w [nearParams, srcH_nearest, hs, asTime, Except.map]
  · have hl := near_loop false cal b r t L 0 n 0 (d - 1) _ (nearEnv_start r t (midnight start) (d - 1) n)
    simp only [nearBody, nearLoopM, nearParams, List.cons_append, List.nil_append] at hl
    pylite_w [nearParams, srcH_nearest, hs]
    generalize rangeLoopW _ _ n 0 _ L = w at hl ⊢
    cases w <;> cases hn : nearestBwdLoop cal (usedL L r (taskArg b t)) n (d - 1) <;>
      simp_all [outcomeT, asTime, Except.map, pure, Except.pure, throw, throwThe, MonadExceptOf.throw]

/-! ### backward `__shift_by_resource_usage_and_calendar` -/

def interpShiftBwd (fuel : Nat) (cal : Cal) (b : Bool) (r t : Nat) (L : List LRow) (end_ : Time) (left : Rat) :
    Res (Time × List LRow) :=
  asTime (runW (srcH cal r) (schedSelf b) fuel src_Bwd_shift (shiftParams r t end_ left src_Bwd_shift_maxSteps) L)

def bwdShiftParts : Expr × List Stmt × List Stmt :=
  match src_Bwd_shift with
  | [_, _, _, .while c body, p1, p2, p3] => (c, body, [p1, p2, p3])
  | _ => (.none, [], [])

def bwdShiftPrelude : List Stmt := src_Bwd_shift.take 3

theorem src_Bwd_shift_split : src_Bwd_shift =
    bwdShiftPrelude ++ .while bwdShiftParts.1 bwdShiftParts.2.1 :: bwdShiftParts.2.2 := rfl

def finishBwd (cal : Cal) (used : Int → Rat) : List (Int × Rat) × Int → Res (Time × List (Int × Rat))
  | (rows, day) => do
    let c ← capR cal (day : Rat)
    if c = 0 then throw (.crash .zeroDivision)
    else pure ((day : Rat) + 1 - (used day + ((rows.filter (fun p => p.1 == day)).map (·.2)).sum) / c, rows)

theorem shiftBwd_eq (cal : Cal) (used : Int → Rat) (end_ : Time) (left : Rat) :
    shiftBwd cal used end_ left =
      if left = 0 then pure (end_, [])
      else fillBwd cal used Extracted.bwdShiftMaxSteps (Extracted.bwdShiftMaxSteps + 2) 0 (dayOf end_) left []
        >>= finishBwd cal used := by
  unfold shiftBwd
  split
  · rfl
  · rfl

/-- the statements after the loop: the share of the last visited day that is reserved, counted from its end -/
theorem bwdShift_post (cal : Cal) (b : Bool) (L : List LRow) (F : Nat) {ρ : PyLite.Env} {r t n : Nat} {left : Rat}
    {day : Int} {k : Nat} (hρ : ShiftEnv ρ r t n left day k) :
    execBlockW (srcH cal r) (schedSelf b) F bwdShiftParts.2.2 ρ L =
      match capR cal ((day : Int) : Rat) with
      | .error e => .raise e
      | .ok c =>
        if c = 0 then .raise (.crash .zeroDivision)
        else .ret (.atom (.time ((day : Rat) + 1 - usedL L r (taskArg b t) day / c))) L := by
  have hres := reservedExpr_eval cal b L hρ.res hρ.task hρ.date
  rw [dayOf_intCast] at hres
  rcases hu : capR cal ((day : Int) : Rat) with e | c
  · pylite_w [↓hres, bwdShiftParts, src_Bwd_shift, hρ.res, hρ.date, srcH_units, Except.map, hu]
  · by_cases hd : c = 0 <;>
      pylite_w [↓hres, bwdShiftParts, src_Bwd_shift, hρ.res, hρ.date, srcH_units, Except.map, hu, hd, mul24_div24]

theorem bwdShift_maxSteps_eq : src_Bwd_shift_maxSteps = Extracted.bwdShiftMaxSteps := rfl

theorem bwdShift_prelude (H : Handlers) (self : PyLite.Env) (F : Nat) (r t : Nat) (L : List LRow) (end_ : Time)
    (left : Rat) (n : Nat) :
    if left = 0 then
      execBlockW H self F bwdShiftPrelude (shiftParams r t end_ left n) L = .ret (.atom (.time end_)) L
    else ∃ ρ, execBlockW H self F bwdShiftPrelude (shiftParams r t end_ left n) L = .normal ρ L ∧
      ShiftEnv ρ r t n left (dayOf end_) 0 := by
  by_cases hl : left = 0 <;>
    pylite_w [bwdShiftPrelude, src_Bwd_shift, shiftParams, hl, midnight, Atom.pyEq, Atom.norm]
  exact ⟨rfl, rfl, rfl, rfl, rfl, rfl⟩

/-! ### the shift loops of both directions -/

/-- the step of the day: `+1` forward, `-1` backward -/
def sg : Bool → Int | true => 1 | false => -1
def shiftParts : Bool → Expr × List Stmt × List Stmt | true => fwdShiftParts | false => bwdShiftParts
def finishD : Bool → Cal → (Int → Rat) → List (Int × Rat) × Int × Rat → Res (Time × List (Int × Rat))
  | true, _, used, x => finishFwd used x
  | false, cal, used, (rows, day, _) => finishBwd cal used (rows, day)

theorem shift_body (fwd : Bool) (cal : Cal) (b : Bool) (L : List LRow) (F : Nat) {ρ : PyLite.Env} {r t n : Nat} {left : Rat}
    {day : Int} {k : Nat} (hρ : ShiftEnv ρ r t n left day k) :
    match capR cal (((day + sg fwd : Int)) : Rat) with
    | .error e => execBlockW (srcH cal r) (schedSelf b) F (shiftParts fwd).2.1 ρ L = .raise e
    | .ok c =>
      if n < k + 1 then execBlockW (srcH cal r) (schedSelf b) F (shiftParts fwd).2.1 ρ L = .raise .runtime
      else ∃ ρ', execBlockW (srcH cal r) (schedSelf b) F (shiftParts fwd).2.1 ρ L =
          .normal ρ' (if 0 < c - usedL L r (taskArg b t) (day + sg fwd)
            then L ++ [newRow r t (day + sg fwd, min left (c - usedL L r (taskArg b t) (day + sg fwd)))] else L) ∧
        ShiftEnv ρ' r t n (if 0 < c - usedL L r (taskArg b t) (day + sg fwd)
            then left - min left (c - usedL L r (taskArg b t) (day + sg fwd)) else left) (day + sg fwd) (k + 1) ∧
        (fwd = true → ρ'.get? "date_available_units" = some (.atom (.num c))) := by
  have hres := reservedExpr_eval cal b L (ρ := ρ.set "date" (.atom (.time ((day + sg fwd : Int) : Rat)))) (x := "date")
    (by rw [Env.get?_set, if_neg (by decide)]; exact hρ.res) (by rw [Env.get?_set, if_neg (by decide)]; exact hρ.task)
    (by rw [Env.get?_set, if_pos rfl])
  have hrv := fun u => srcH_reserve cal r L r t ((day + sg fwd : Int) : Rat) u
  rw [dayOf_intCast] at hres
  rcases hu : capR cal ((day + sg fwd : Int) : Rat) with e | c
  · cases fwd
    · simp only [sg, shiftParts, intCast_pred, ← Int.sub_eq_add_neg] at hres hu ⊢
      pylite_w [↓hres, bwdShiftParts, src_Bwd_shift, hρ.res, hρ.date, srcH_units, Except.map, hu, add_neg_one]
    · simp only [sg, shiftParts, intCast_succ] at hres hu ⊢
      pylite_w [↓hres, fwdShiftParts, src_Fwd_shift, hρ.res, hρ.date, srcH_units, Except.map, hu]
  · generalize usedL L r (taskArg b t) (day + sg fwd) = u at hres ⊢
    cases fwd
    · simp only [sg, shiftParts, intCast_pred, ← Int.sub_eq_add_neg] at hres hrv hu ⊢
      by_cases hk : n < k + 1 <;> by_cases hpos : 0 < c - u <;>
        pylite_w [↓hres, bwdShiftParts, src_Bwd_shift, hρ.res, hρ.task, hρ.date, hρ.left, hρ.days, hρ.steps, srcH_units,
          Except.map, hu, hrv, hk, hpos, natCast_lt_succ, ite_num, pymin_eq, newRow, midnight_pred, intCast_pred,
          ← natCast_succ_rat, add_neg_one]
      all_goals constructor <;> simp [Env.get?_set, hρ.res, hρ.task, hρ.steps, hρ.left, ← natCast_succ_rat]
    · simp only [sg, shiftParts, intCast_succ] at hres hrv hu ⊢
      by_cases hk : n < k + 1 <;> by_cases hpos : 0 < c - u <;>
        pylite_w [↓hres, fwdShiftParts, src_Fwd_shift, hρ.res, hρ.task, hρ.date, hρ.left, hρ.days, hρ.steps, srcH_units,
          Except.map, hu, hrv, hk, hpos, natCast_lt_succ, ite_num, pymin_eq, newRow, midnight_succ, intCast_succ,
          ← natCast_succ_rat]
      all_goals constructor <;> simp [Env.get?_set, hρ.res, hρ.task, hρ.steps, hρ.left, ← natCast_succ_rat]

theorem shift_exit (fwd : Bool) (cal : Cal) (b : Bool) (L : List LRow) (F : Nat) (acc : List (Int × Rat)) {ρ : PyLite.Env}
    {r t n : Nat} {left dau : Rat} {day : Int} {k : Nat} (hρ : ShiftEnv ρ r t n left day k)
    (hdau : fwd = true → ρ.get? "date_available_units" = some (.atom (.num dau))) :
    execBlockW (srcH cal r) (schedSelf b) F (shiftParts fwd).2.2 ρ (L ++ acc.map (newRow r t)) =
      outcomeS L r t (finishD fwd cal (usedL L r (taskArg b t)) (acc, day, dau)) := by
  cases fwd
  · rw [shiftParts, bwdShift_post cal b _ F hρ, usedL_append_new, finishD, finishBwd]
    rcases capR cal ((day : Int) : Rat) with e | c
    · rfl
    · by_cases hd : c = 0 <;> simp only [bind, Except.bind, hd, if_true, if_false] <;> rfl
  · rw [shiftParts, fwdShift_post cal b _ F hρ (hdau rfl), usedL_append_new, finishD, finishFwd]
    by_cases hd : dau = 0 <;> simp only [hd, if_true, if_false] <;> rfl

theorem shift_loop (fwd : Bool) (cal : Cal) (b : Bool) (r t : Nat) (L : List LRow) (n : Nat) (F : Nat) :
    ∀ (f g k : Nat) (day : Int) (left dau : Rat) (acc : List (Int × Rat)) (ρ : PyLite.Env),
    n - k < f → n - k < g → (∀ p ∈ acc, sg fwd * p.1 ≤ sg fwd * day) → ShiftEnv ρ r t n left day k →
    (fwd = true → ρ.get? "date_available_units" = some (.atom (.num dau))) →
    (match whileLoopW (fun env' L' => do truth (← (shiftParts fwd).1.evalW (srcH cal r) (schedSelf b) L' env'))
        (fun env' L' => execBlockW (srcH cal r) (schedSelf b) F (shiftParts fwd).2.1 env' L') f
        ρ (L ++ acc.map (newRow r t)) with
      | .normal env' L'' => execBlockW (srcH cal r) (schedSelf b) F (shiftParts fwd).2.2 env' L''
      | o => o) =
    outcomeS L r t (fillDir (sg fwd) cal (usedL L r (taskArg b t)) n g k day left dau acc >>=
      finishD fwd cal (usedL L r (taskArg b t))) := by
  intro f
  induction f with
  | zero => intro g k day left dau acc ρ hf; omega
  | succ f ih =>
    intro g k day left dau acc ρ hf hg hacc hρ hdau
    obtain ⟨g, rfl⟩ : ∃ g', g = g' + 1 := ⟨g - 1, by omega⟩
    have hc : (shiftParts fwd).1 = Expr.cmp .gt (.var "left_hours") (.num 0) := by cases fwd <;> rfl
    have hcond : (do truth (← (shiftParts fwd).1.evalW (srcH cal r) (schedSelf b) (L ++ acc.map (newRow r t)) ρ)) =
        .ok (decide (0 < left)) := by rw [hc]; exact shift_cond _ _ _ hρ
    simp only [whileLoopW, hcond]
    by_cases hl : 0 < left
    · have hbody := shift_body fwd cal b (L ++ acc.map (newRow r t)) F hρ
      have hstep : ∀ p ∈ acc, sg fwd * p.1 ≤ sg fwd * (day + sg fwd) ∧ p.1 ≠ day + sg fwd := fun p hp => by
        have := hacc p hp; cases fwd <;> simp only [sg] at this ⊢ <;> omega
      rw [usedL_append_other _ _ _ _ _ _ (fun p hp => (hstep p hp).2)] at hbody
      simp only [hl, decide_true, fillDir, if_neg (Rat.not_le.2 hl)]
      rcases hcap : capR cal (((day + sg fwd : Int)) : Rat) with e | c <;> simp only [hcap] at hbody
      · rw [hbody]; rfl
      · simp only [bind, Except.bind]
        by_cases hkn : n < k + 1
        · rw [if_pos hkn] at hbody
          rw [hbody, if_pos (show k + 1 > n from hkn)]; rfl
        · rw [if_neg hkn] at hbody
          obtain ⟨ρ', hx, hρ', hdau'⟩ := hbody
          rw [hx, if_neg (show ¬ k + 1 > n from hkn)]
          by_cases hpos : 0 < c - usedL L r (taskArg b t) (day + sg fwd)
          · simp only [hpos, if_true] at hρ' ⊢
            have := ih g (k + 1) (day + sg fwd) _ c
              (acc ++ [(day + sg fwd, min left (c - usedL L r (taskArg b t) (day + sg fwd)))]) ρ'
              (by omega) (by omega)
              (by
                intro p hp
                rcases List.mem_append.1 hp with hp | hp
                · exact (hstep p hp).1
                · simp at hp; subst hp; exact Int.le_refl _)
              hρ' hdau'
            rw [List.map_append, ← List.append_assoc] at this
            exact this
          · simp only [hpos, if_false] at hρ' ⊢
            exact ih g (k + 1) (day + sg fwd) left c acc ρ' (by omega) (by omega) (fun p hp => (hstep p hp).1)
              hρ' hdau'
    · have hl' : left ≤ 0 := Rat.not_lt.1 hl
      simp only [hl, decide_false, fillDir, hl', if_true, pure, Except.pure, bind, Except.bind]
      exact shift_exit fwd cal b L F acc hρ hdau

theorem shift_tail (fwd : Bool) (cal : Cal) (b : Bool) (L : List LRow) (fuel : Nat) {ρ : PyLite.Env} {r t n : Nat}
    {left : Rat} {day : Int} (hf : n < fuel) (hρ : ShiftEnv ρ r t n left day 0)
    (hdau : fwd = true → ρ.get? "date_available_units" = some (.atom (.num 0))) :
    execBlockW (srcH cal r) (schedSelf b) fuel
        (.while (shiftParts fwd).1 (shiftParts fwd).2.1 :: (shiftParts fwd).2.2) ρ L =
      outcomeS L r t (fillDir (sg fwd) cal (usedL L r (taskArg b t)) n (n + 2) 0 day left 0 [] >>=
        finishD fwd cal (usedL L r (taskArg b t))) := by
  have hloop := shift_loop fwd cal b r t L n fuel fuel (n + 2) 0 day left 0 [] ρ (by omega) (by omega) (by simp) hρ hdau
  rw [List.map_nil, List.append_nil] at hloop
  rw [execBlockW, Stmt.execW]
  exact hloop

theorem interpShiftFwd_ledger (fuel : Nat) (cal : Cal) (b : Bool) (r t : Nat) (L : List LRow) (start : Time) (left : Rat)
    (hf : Extracted.fwdShiftMaxSteps < fuel) :
    interpShiftFwd fuel cal b r t L start left =
      (shiftFwd cal (usedL L r (taskArg b t)) start left).map (fun p => (p.1, L ++ p.2.map (newRow r t))) := by
  have hpre := fwdShift_prelude (srcH cal r) (schedSelf b) fuel r t L start left src_Fwd_shift_maxSteps
  unfold interpShiftFwd runW
  rw [shiftFwd_eq, src_Fwd_shift_split, execBlockW_append, ← fwdShift_maxSteps_eq, fillFwd_eq_fillDir,
    show finishFwd (usedL L r (taskArg b t)) = finishD true cal _ from funext fun _ => rfl]
  rw [← fwdShift_maxSteps_eq] at hf
  by_cases hl : left = 0
  · rw [if_pos hl] at hpre ⊢
    rw [hpre]
    simp [asTime, Except.map, pure, Except.pure]
  · rw [if_neg hl] at hpre ⊢
    obtain ⟨ρ, hx, hρ, hdau⟩ := hpre
    have ht := shift_tail true cal b L fuel hf hρ (fun _ => hdau)
    simp only [shiftParts, sg] at ht
    simp only [hx, ht]
    generalize fillDir _ _ _ _ _ _ _ _ _ _ >>= finishD _ _ _ = R
    rcases R with e | ⟨e, rows⟩ <;> rfl

theorem map_finishBwd (cal : Cal) (used : Int → Rat) (X : Res (List (Int × Rat) × Int × Rat)) :
    X.map (fun r => (r.1, r.2.1)) >>= finishBwd cal used = X >>= finishD false cal used := by
  rcases X with e | ⟨rows, day, dau⟩ <;> rfl

theorem interpShiftBwd_ledger (fuel : Nat) (cal : Cal) (b : Bool) (r t : Nat) (L : List LRow) (end_ : Time) (left : Rat)
    (hf : Extracted.bwdShiftMaxSteps < fuel) :
    interpShiftBwd fuel cal b r t L end_ left =
      (shiftBwd cal (usedL L r (taskArg b t)) end_ left).map (fun p => (p.1, L ++ p.2.map (newRow r t))) := by
  have hpre := bwdShift_prelude (srcH cal r) (schedSelf b) fuel r t L end_ left src_Bwd_shift_maxSteps
  unfold interpShiftBwd runW
  rw [shiftBwd_eq, src_Bwd_shift_split, execBlockW_append, ← bwdShift_maxSteps_eq,
    fillBwd_eq_fillDir _ _ _ _ _ _ _ 0, map_finishBwd]
  rw [← bwdShift_maxSteps_eq] at hf
  by_cases hl : left = 0
  · rw [if_pos hl] at hpre ⊢
    rw [hpre]
    simp [asTime, Except.map, pure, Except.pure]
  · rw [if_neg hl] at hpre ⊢
    obtain ⟨ρ, hx, hρ⟩ := hpre
    have ht := shift_tail false cal b L fuel hf hρ (fun h => by cases h)
    simp only [shiftParts, sg] at ht
    simp only [hx, ht]
    generalize fillDir _ _ _ _ _ _ _ _ _ _ >>= finishD _ _ _ = R
    rcases R with e | ⟨e, rows⟩ <;> rfl

/-! ### the statements on the model's ledger (`List Row`) -/

/-- the row the model appends (`addRows`) for a pair (day, units) -/
def mkRow (r : Option Nat) (t : Uid) (p : Int × Rat) : Row := { res := r, day := p.1, task := t, units := p.2 }

/-- the model's `used` function (`usedBy env rows r t` with `b = env.balance`) -/
def usedOf (rows : List Row) (r : Option Nat) (t : Uid) (b : Bool) : Int → Rat :=
  fun day => reserved rows r day (if b then none else some t)

theorem usedOf_usedBy (env : Pj.Env) (rows : List Row) (r : Option Nat) (t : Uid) :
    usedOf rows r t env.balance = usedBy env rows r t := rfl

theorem usedL_enc (rows : List Row) (r : Option Nat) (t : Uid) (b : Bool) :
    usedL (rows.map encRow) (resRef r) (taskArg b t) = usedOf rows r t b := by
  funext day
  unfold usedL usedOf
  rw [ledgerReserved_enc, dayOf_intCast]
  rfl

theorem addRows_rows (σ : SS) (r : Option Nat) (t : Uid) (rows : List (Int × Rat)) :
    (addRows σ r t rows).rows = σ.rows ++ rows.map (mkRow r t) := rfl

theorem enc_append (rows : List Row) (r : Option Nat) (t : Uid) (new : List (Int × Rat)) :
    rows.map encRow ++ new.map (newRow (resRef r) t) = (rows ++ new.map (mkRow r t)).map encRow := by
  rw [List.map_append, List.map_map]
  rfl

theorem interpReserved_model (rows : List Row) (r : Option Nat) (d : Time) (t : Option Uid) :
    interpReserved (rows.map encRow) (.atom (.ref (resRef r))) (.atom (.time d)) (optRef t) =
      .ok (.atom (.num (reserved rows r (dayOf d) t))) := by
  rw [interpReserved_eq, ledgerReserved_enc]

theorem interpReserve_model (rows : List Row) (r : Option Nat) (d : Time) (t : Uid) (u : Rat) :
    interpReserve (rows.map encRow) (.atom (.ref (resRef r))) (.atom (.time d)) (.atom (.ref t)) (.atom (.num u)) =
      .ok (.atom (.num u), (rows ++ [({ res := r, day := dayOf d, task := t, units := u } : Row)]).map encRow) := by
  rw [interpReserve_eq]
  simp [encRow, midnight]

theorem interpNearestFwd_eq (cal : Cal) (b : Bool) (rows : List Row) (r : Option Nat) (t : Uid) (start : Time) :
    interpNearestFwd cal b (resRef r) t (rows.map encRow) start =
      (nearestFwd cal (usedOf rows r t b) start).map (fun e => (e, rows.map encRow)) := by
  rw [interpNearestFwd_ledger, usedL_enc]

theorem interpShiftFwd_eq (fuel : Nat) (cal : Cal) (b : Bool) (rows : List Row) (r : Option Nat) (t : Uid)
    (start : Time) (left : Rat) (hf : Extracted.fwdShiftMaxSteps < fuel) :
    interpShiftFwd fuel cal b (resRef r) t (rows.map encRow) start left =
      (shiftFwd cal (usedOf rows r t b) start left).map
        (fun p => (p.1, (rows ++ p.2.map (mkRow r t)).map encRow)) := by
  rw [interpShiftFwd_ledger _ _ _ _ _ _ _ _ hf, usedL_enc]
  simp only [enc_append]

theorem interpNearestBwd_eq (cal : Cal) (b : Bool) (rows : List Row) (r : Option Nat) (t : Uid) (start : Time) :
    interpNearestBwd cal b (resRef r) t (rows.map encRow) start =
      (nearestBwd cal (usedOf rows r t b) start).map (fun e => (e, rows.map encRow)) := by
  rw [interpNearestBwd_ledger, usedL_enc]

theorem interpShiftBwd_eq (fuel : Nat) (cal : Cal) (b : Bool) (rows : List Row) (r : Option Nat) (t : Uid)
    (end_ : Time) (left : Rat) (hf : Extracted.bwdShiftMaxSteps < fuel) :
    interpShiftBwd fuel cal b (resRef r) t (rows.map encRow) end_ left =
      (shiftBwd cal (usedOf rows r t b) end_ left).map
        (fun p => (p.1, (rows ++ p.2.map (mkRow r t)).map encRow)) := by
  rw [interpShiftBwd_ledger _ _ _ _ _ _ _ _ hf, usedL_enc]
  simp only [enc_append]

/-
  NEGATIVE SANITY CHECK (not compiled; performed with a scratch copy of schedule.py:
  the translator run on the mutated text, output written to Extracted/ScheduleSrc.lean, then
  `lake build PjVerif.Lemmas.ScheduleSrc`; afterwards the file was regenerated from the real source and the build
  succeeded again).  Every semantic mutation is a Miss of the translator or breaks the lemma of the mutated method
  (for a lemma over the direction flag: its case of that direction):

    fwd nearest  `datetime(start_date.year, …, 0, 0, 0, 0)` -> `start_date.replace(hour=0, minute=0, second=0)`   MISS
                 balance conditional collapsed to `resource_usage.reserved(resource, d)`          near_body (fwd)  FAILS
                 `available > 0` -> `>= 0`                                                        near_body (fwd)  FAILS
                 `d += timedelta(days=1)` -> `days=2`                                             near_body (fwd)  FAILS
                 `percent = 1 - available / cap` -> `available / cap`                             near_body (fwd)  FAILS
                 `get_nearest_availability_date(start_date, 1)` -> `-1`                           src_Fwd_nearest_shape FAILS
                 `range(0, max_steps)` -> `range(1, max_steps)`                                   src_Fwd_nearest_shape FAILS
    fwd shift    `days += 1` moved inside `if max_available > 0`                                  shift_body (fwd) FAILS
                 `min(left_hours, max_available)` -> `max_available`                              shift_body (fwd) FAILS
                 `days > max_steps` -> `>=`                                                       shift_body (fwd) FAILS
                 `- timedelta(days=1)` dropped from the initial `date`                            fwdShift_prelude  FAILS
                 `left_hours == 0` -> `<= 0`                                                      fwdShift_prelude  FAILS
                 `while left_hours > 0` -> `>= 0`                                                 shift_loop       FAILS
                 final `timedelta(hours=24 * percent)` -> `hours=percent`                         fwdShift_post     FAILS
                 final `reserved` always the whole-resource total                                 fwdShift_post     FAILS
    ledger       `item.date == self.__get_key(date)` -> `item.date == date`                       interpReserved_eq FAILS
                 `and item.task == task` dropped                                                  interpReserved_eq FAILS
                 `sum(units, 0)` -> `sum(units, 1)`                                               interpReserved_eq FAILS
                 row date `self.__get_key(date)` -> `date`                                        interpReserve_eq  FAILS
                 `return units` -> `return 0`                                                     interpReserve_eq  FAILS
                 `__get_key` returns `date`                          interpGetKey_eq, interpReserve_eq, interpReserved_eq FAIL
    bwd nearest  `- timedelta(days=1)` after the search dropped                                   src_Bwd_nearest_shape FAILS
                 `d += timedelta(days=-1)` -> `days=1`                                            near_body (bwd)  FAILS
                 result `- timedelta(hours=…)` -> `+`                                             near_body (bwd)  FAILS
    bwd shift    `+ timedelta(days=1)` dropped from the result                                    bwdShift_post     FAILS
                 `max_available > 0` -> `>= 0`                                                    shift_body (bwd) FAILS
                 `left_hours -= …reserve(…)` -> `+=`                                              shift_body (bwd) FAILS
                 aliasing `ru = resource_usage`                                                   MISS

  Harmless rewrites that still build: renaming the local `percent`; `0 < available`; `d = d + timedelta(days=1)`;
  `range(max_steps)`; another RuntimeError message, docstrings, comments (same term); `else:` instead of falling
  through after the `return`; `… if not self.__balance_resources else …` with swapped branches; `days = days + 1`;
  `max_steps < days`; `timedelta(days=percent)` instead of `timedelta(hours=24 * percent)`; swapped conjuncts, a
  renamed comprehension variable and `not (task is not None)` in `reserved`; `date = date - timedelta(days=1)` in
  the backward loop; `min(max_available, left_hours)`, `0 == left_hours` (same term: the translator orders the operands
  of `min` and `==`).  A harmless rewrite that breaks a proof (the body lemmas fix the environment in which `reserved`
  is called): a further local variable inside the `while` loop.
-/

end Pj.SchedSrc

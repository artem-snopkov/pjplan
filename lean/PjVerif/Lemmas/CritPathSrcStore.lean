/-
  Lemmas/CritPathSrcStore.lean — reading the typed store of the tie for alg/critical_path.py (`getO` / `setO`,
  Lemmas/CritPathSrcNet.lean; addresses start at `B`) after a write and after an allocation.
-/
import PjVerif.Lemmas.CritPathSrcNet
namespace Pj.CritPathSrc
open Pj.PyLite

section store
variable (B : Nat)

theorem getO_some_lt {σ : Store} {a : Nat} {o : Obj} (h : getO B σ a = some o) : B ≤ a ∧ a - B < σ.length := by
  unfold getO at h
  split at h
  · cases h
  · next hlt =>
    have := List.getElem?_eq_some_iff.mp h
    obtain ⟨hl, _⟩ := this
    exact ⟨by omega, hl⟩

theorem length_setO (σ : Store) (a : Nat) (o : Obj) : (setO B σ a o).length = σ.length := by
  simp [setO]

theorem getO_setO_same {σ : Store} {a : Nat} {o : Obj} (o' : Obj) (h : getO B σ a = some o) :
    getO B (setO B σ a o') a = some o' := by
  obtain ⟨h1, h2⟩ := getO_some_lt B h
  unfold getO setO
  rw [if_neg (by omega)]
  simp [h2]

theorem getO_setO_ne {σ : Store} {a b : Nat} (o' : Obj) (ha : B ≤ a) (h : a ≠ b) :
    getO B (setO B σ a o') b = getO B σ b := by
  unfold getO setO
  by_cases hb : b < B
  · simp [hb]
  · simp only [hb, if_false]
    rw [List.getElem?_set]
    have : a - B ≠ b - B := by omega
    simp [this]

theorem getO_append_lt (σ τ : Store) {a : Nat} (h : a < B + σ.length) : getO B (σ ++ τ) a = getO B σ a := by
  unfold getO
  by_cases hb : a < B
  · simp [hb]
  · simp only [hb, if_false]
    rw [List.getElem?_append]
    have : a - B < σ.length := by omega
    simp [this]

theorem getO_append_old {σ : Store} (τ : Store) {a : Nat} {o : Obj} (h : getO B σ a = some o) :
    getO B (σ ++ τ) a = some o := by
  obtain ⟨h1, h2⟩ := getO_some_lt B h
  rw [getO_append_lt B σ τ (by omega), h]

theorem getO_append_new (σ : Store) (o : Obj) : getO B (σ ++ [o]) (B + σ.length) = some o := by
  unfold getO
  rw [if_neg (by omega)]
  have : B + σ.length - B = σ.length := by omega
  rw [this]
  simp

theorem getO_ge_none {σ : Store} {a : Nat} (h : B + σ.length ≤ a) : getO B σ a = none := by
  unfold getO
  rw [if_neg (by omega)]
  exact List.getElem?_eq_none (by omega)

theorem getO_append_ne (σ : Store) (o : Obj) {a : Nat} (h : a ≠ B + σ.length) : getO B (σ ++ [o]) a = getO B σ a := by
  by_cases hlt : a < B + σ.length
  · exact getO_append_lt B σ _ hlt
  · rw [getO_ge_none B (by omega : B + σ.length ≤ a)]
    exact getO_ge_none B (by simp; omega)

theorem getO_setO (σ : Store) (a j : Nat) (o o' : Obj) (h : getO B σ a = some o) :
    getO B (setO B σ a o') j = if j = a then some o' else getO B σ j := by
  by_cases hj : j = a
  · subst hj; rw [if_pos rfl]; exact getO_setO_same B o' h
  · rw [if_neg hj]; exact getO_setO_ne B o' (getO_some_lt B h).1 (Ne.symm hj)

theorem getO_append (σ : Store) (o : Obj) (j : Nat) :
    getO B (σ ++ [o]) j = if j = B + σ.length then some o else getO B σ j := by
  by_cases hj : j = B + σ.length
  · subst hj; rw [if_pos rfl]; exact getO_append_new B σ o
  · rw [if_neg hj]; exact getO_append_ne B σ o hj

end store
end Pj.CritPathSrc

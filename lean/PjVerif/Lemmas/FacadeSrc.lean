/-
  Lemmas/FacadeSrc.lean — THE LIST FACADES OF task.py: the hand-written model of the facade methods and operators
  (Model/GraphOps.lean: `chRemove`, `chInsert` / `pyInsert`, `prAppend`, `prRemove`, `suAppend`, `suRemove`, `floordiv`,
  `lshift`, `rshift`, `chMove` / `moveOne`, `chReorder` / `reorderLoop`, `chSort` / `sortBy`, `forEach …`) equals the
  interpretation of the CURRENT SOURCE of

    _ChildrenList.remove / insert / move / reorder / sort      _PredecessorsList.append / remove
    _SuccessorsList.append / remove      _ImmutableTaskList.__add__ / __lshift__ / __rshift__ / __setattr__('parent', …)
    Task.__floordiv__ / __lshift__ / __rshift__      Task.__set_children

  (Extracted/FacadeSrc.lean, regenerated from src/pjplan/task.py by tools/extract_facade.py on every check), run as
  FURTHER FUNCTIONS OF THE PROGRAM task.py: `facadeFuns` = the 17 facade functions, and `taskFuns` (Extracted/TaskSrc.lean)
  for the 25 functions of task.py's program - the relation setters and their helpers, which are the callees.  (`_ChildrenList.append` is
  function 24 of `taskFuns`: `children_append_spec` in Lemmas/TaskSrcB.lean.)

  This file: the entry points.  FacadeSrcMono.lean: a run that does not end stuck is the same in every extension of a program
  (`progH_mono`).
  FacadeSrcA.lean: stage 1.  FacadeSrcB.lean: stage 2 (`move`, `reorder`).  FacadeSrcSort.lean, FacadeSrcC.lean: stage 3
  (`sort`).  FacadeSrcD.lean: stage 4 (list-level operators, bulk `parent`), THE SUMMARY AND THE RESULTS (`interp…_eq`),
  the negative check.  FacadeSrcCheck.lean, FacadeSrcCheckR / I / A / A2 / B / C / D.lean: the concrete runs (evaluated by
  the kernel on `g3` and for arguments outside the theorems; elsewhere instances of the results of FacadeSrcD.lean through FacadeSrcRuns.lean, the kernel evaluating the
  model's side of the proviso and, for `sort`, the library's side).

  Setting (in addition to Lemmas/TaskSrc.lean, whose encoding `encHeap s` is used unchanged).
  * A FACADE OBJECT `_ChildrenList(parent, _list, _setter)` / `_PredecessorsList(parent, _list)` / … is only built by the
    getters of `Task` from the raw list of the task itself (checked by the translator), so a facade TAKEN FROM THE
    CURRENT STATE is the pair (owner `ref h`, field): `self._list` is the list object the attribute of the owner holds
    NOW - read, changed in place and written back through the owner (`attr`, `attrRemove`, `setAttr … (listInsert …)`).
    The first parameter of a translated facade method is the owner.  A facade taken earlier and used after the
    `predecessors` / `successors` setter rebound the attribute ("stale") is a different object graph: out of scope.
    `self.__setter(self._list)` is the call of the translated `Task.__set_children` (`self.__children = lst`) with the
    value the attribute already holds.
  * An `_ImmutableTaskList` is its list: the first parameter of `__add__`, `__lshift__`, `__rshift__`, `__setattr__` is a
    list VALUE (for the loops of stage 4: a list that no attribute of a task holds, e.g. a query result).
  * The program runs with `progH (facPrim L) facadeFuns F`: `facPrim L` gives `_root` the meaning it has in
    Lemmas/TaskSrc.lean and every other library primitive (`__getattribute__`, `str`, `join:<sep>`; only used by `sort`)
    the meaning `L` - the theorems hold for EVERY `L`.
-/
import PjVerif.Extracted.FacadeSrc
import PjVerif.Lemmas.TaskSrc
namespace Pj.FacadeSrc
open Pj.PyLite Pj.Extracted Pj.Extracted.Facade Pj.TaskSrc

/-- the meaning of the library primitives: name ↦ arguments ↦ result (`x.__getattribute__(k)` = `L "__getattribute__"
    [x, k]`, `str(v)` = `L "str" [v]`, `'-'.join(l)` = `L "join:-" l`) -/
abbrev Lib := String → List Atom → Res Atom

/-- no library primitive has a meaning (enough for everything but `sort`) -/
def noLib : Lib := fun _ _ => .error stuck

def facPrim (L : Lib) : String → List Atom → PState → Res Val := fun name args st =>
  if name = "_root" then taskPrim name args st else (L name args).map Val.atom

/-- call the k-th function of the extended program with at most `fuel` nested calls -/
def interpF (L : Lib) (fuel : Nat) (k : Nat) (args : List Val) (st : PState) : Res (Val × PState) :=
  runProg (facPrim L) facadeFuns fuel k args st

/-- an `int` -/
def intV (i : Int) : Val := .atom (.num (i : Rat))

/-! ### entry points: `h.children.remove(t)` … ; the facade is the one of the owner `h` in the state the call starts in -/

def interpChRemove (F : Nat) (h t : Uid) (st : PState) : Res (Val × PState) :=
  interpF noLib F fn_ChildrenList_remove [.atom (.ref h), .atom (.ref t)] st
def interpChInsert (F : Nat) (h : Uid) (i : Int) (t : Uid) (st : PState) : Res (Val × PState) :=
  interpF noLib F fn_ChildrenList_insert [.atom (.ref h), intV i, .atom (.ref t)] st
def interpPrAppend (F : Nat) (t x : Uid) (st : PState) : Res (Val × PState) :=
  interpF noLib F fn_PredecessorsList_append [.atom (.ref t), .atom (.ref x)] st
def interpPrRemove (F : Nat) (t x : Uid) (st : PState) : Res (Val × PState) :=
  interpF noLib F fn_PredecessorsList_remove [.atom (.ref t), .atom (.ref x)] st
def interpSuAppend (F : Nat) (t x : Uid) (st : PState) : Res (Val × PState) :=
  interpF noLib F fn_SuccessorsList_append [.atom (.ref t), .atom (.ref x)] st
def interpSuRemove (F : Nat) (t x : Uid) (st : PState) : Res (Val × PState) :=
  interpF noLib F fn_SuccessorsList_remove [.atom (.ref t), .atom (.ref x)] st
/-- `h // v`, `t << v`, `t >> v` for a Python value `v` -/
def interpFloordiv (F : Nat) (h : Uid) (v : Val) (st : PState) : Res (Val × PState) :=
  interpF noLib F fn_Task_floordiv [.atom (.ref h), v] st
def interpLshift (F : Nat) (t : Uid) (v : Val) (st : PState) : Res (Val × PState) :=
  interpF noLib F fn_Task_lshift [.atom (.ref t), v] st
def interpRshift (F : Nat) (t : Uid) (v : Val) (st : PState) : Res (Val × PState) :=
  interpF noLib F fn_Task_rshift [.atom (.ref t), v] st
/-- `h.children.move(v, before=b, after=a)` -/
def interpChMove (F : Nat) (h : Uid) (v : Val) (b a : Option Uid) (st : PState) : Res (Val × PState) :=
  interpF noLib F fn_ChildrenList_move [.atom (.ref h), v, .atom (optRef b), .atom (optRef a)] st
/-- `h.children.reorder(ids)` -/
def interpChReorder (F : Nat) (h : Uid) (ids : List Int) (st : PState) : Res (Val × PState) :=
  interpF noLib F fn_ChildrenList_reorder [.atom (.ref h), .list (ids.map idA)] st
/-- `h.children.sort(key, reverse)` -/
def interpChSort (L : Lib) (F : Nat) (h : Uid) (key : Val) (rev : Bool) (st : PState) : Res (Val × PState) :=
  interpF L F fn_ChildrenList_sort [.atom (.ref h), key, .atom (.bool rev)] st
/-- `ts << v`, `ts >> v`, `ts.parent = p` for a list of tasks `ts` (an `_ImmutableTaskList`) -/
def interpListLshift (F : Nat) (ts : List Uid) (v : Val) (st : PState) : Res (Val × PState) :=
  interpF noLib F fn_ImmutableTaskList_lshift [refs ts, v] st
def interpListRshift (F : Nat) (ts : List Uid) (v : Val) (st : PState) : Res (Val × PState) :=
  interpF noLib F fn_ImmutableTaskList_rshift [refs ts, v] st
def interpListSetParent (F : Nat) (ts : List Uid) (p : Option Uid) (st : PState) : Res (Val × PState) :=
  interpF noLib F fn_ImmutableTaskList_set_parent [refs ts, .atom (optRef p)] st

end Pj.FacadeSrc

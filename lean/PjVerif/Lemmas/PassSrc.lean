/-
  Lemmas/PassSrc.lean — the model of the recursive forward pass (Model/Sched.lean: `fwdPass`, `fwdPlace`) equals the
  interpretation of the CURRENT SOURCE of

    ForwardScheduler.__forward_pass(self, _task, min_date, resource_usage, calculated)

  (Extracted/PassSrc.lean, regenerated from src/pjplan/schedule.py by tools/extract_pass.py on every check), run by
  the pass layer of PyLite (`callP` / `Stmt.execP` / `Expr.evalP`: a heap of task objects, the list `calculated`,
  the scheduler's resource table, a scripted clock, handlers for calls of other methods, fuel for the recursion).

  Setting.
  * `encS env ms σ` is the Python state of the model state `σ : SS`: the task `u` is the object `ref u` with the
    attributes `encTask` (predecessors / children = lists of references, `wbs` = the one WBS object for members and
    `None` for outside tasks, `milestone` = the task's OWN flag `ms u`, `resource` = its name, `min_start`, and the
    mutable `start`, `end`, `estimate`, `spent`); the ledger rows are `encRow` of Lemmas/ScheduleSrc.lean;
    `calculated` = `σ.done`; `self.__resources` = `σ.res` (name ↦ the resource object `ref (resRef name)`); the
    clock has been read `σ.reads` times.  `decS` reads a Python state back (`decS_encOf`).
  * the ties do not depend on `encTask`: they are stated for `encOf E env ms σ`, the same state with the task objects
    `E info flag fields`, for every `E` with `PassEnc E` (the attributes read, and the four written are the four fields);
    `encS` is `encOf encTask`, `PassSrcBwd.encSB` is `encOf encTaskB`.
  * one space of references holds objects of three kinds - the task `u` is `ref u`, `task.wbs` of a member is `ref 0`,
    the resource named `k` is `ref (resRef k)` - which is sound because the translated methods never compare across
    kinds (`is` only between `wbs` attributes, `id(…) in calculated` only between tasks, resources only through the table).
  * the model's `milestone` is the effective one: `(env.info u).milestone = (ms u && children.isEmpty)`, asked of the
    tasks of a set `V` that the run does not leave (`Reach`; `Reach.all` for all tasks).
  * handlers `passH env wfuel calR`: `datetime.now()` = `env.clock`; the calls
    `self.__get_resource_nearest_available_date(…)` / `self.__shift_by_resource_usage_and_calendar(…)` are
    interpreted BY RUNNING THEIR TRANSLATED SOURCE (`interpNearestFwd` / `interpShiftFwd` of Lemmas/ScheduleSrc.lean)
    on the calendar `calR r` of the resource object `ref r`; `Resource(name)` constructs the object
    `ref (resRef name)`, whose calendar is the default one (`calRef res0`: the calendars of the table `res0`,
    `defaultCal` for every other name).
  * `self` = `passSelf env` (`__default_estimate`, `__balance_resources`, `__start` = the project start `env.bound`).
  * what `__backward_pass` has too - the statements both methods share, the statements after the loops as a whole
    (`tail_ok`) and the recursion (`callP_pass d`, against `d.pass` for a scheduler record `d` of Lemmas/SchedPass.lean) - is
    tied for any handlers; Lemmas/PassSrcBwd.lean uses it.  The judgments `StmtOK` / `BlockOK` are `Sim` of
    Lemmas/PyLogic.lean; `callP_fwdPass` is the tie of the whole method as a `SimR`, which `calc` (Lemmas/CalcSrc.lean)
    uses as the step of its loop.

  Results.
    Stage 1  `Check.*` (end of the file): runs on 6 concrete environments, instances of Stage 3 read back by `decS`
             (`agree_of_model`; `decide +kernel` evaluates the model's run only, `RunOK`).  The run with too little
             fuel, to which Stage 3 does not apply, is evaluated on both sides.
    Stage 2  `fwdTail_eq`: the statements after the two recursion loops (from `resource = …setdefault…` to
             `calculated.append(id(_task))`) do what `fwdPlace` does, in ANY local environment that binds `_task`,
             `min_date` and `max_predecessor_ends`; `fwdShiftMaxSteps < wfuel` is the fuel of the `while` loop inside
             the shift call.
    Stage 3  `interpFwdPass_eq`: for every env, fuel ≤ fuel', stk, σ, t, minDate with
                 fwdPass env fuel stk σ t minDate ≠ error (crash recursion)
             interpFwdPass env wfuel (calRef σ.res) fuel' (encS env ms σ) t minDate
                 = (fwdPass env fuel stk σ t minDate).map (encS env ms)
             The proviso is exactly the case the model adds to the source: `.crash .recursion` arises in the model
             only from fuel 0 and from the in-progress check `stk.contains t`; Python has no such check and would
             recurse up to its recursion limit, which the fuel of the interpreter plays.  The `member` filter of
             the model (`(env.info p).member == info.member`) is `pred.wbs is _task.wbs` on `encWbs`.
  No disagreement between the model and the translated method was found.  One disagreement between the model and
  the PROGRAM lies outside the translated method and outside PyLite (attributes are plain slots): the property
  setters `Task.estimate` / `Task.spent` (task.py) raise RuntimeError on a negative value, so with
  `default_estimate < 0` a leaf without estimate makes Python raise RuntimeError("Estimate < 0") where `fillEst`
  stores the negative estimate (checked on the snapshot: `ForwardScheduler(default_estimate=-1).calc(wbs)` with one
  task).  The theorems are about the slot semantics.
-/
import PjVerif.Extracted.PassSrc
import PjVerif.Lemmas.ScheduleSrc
import PjVerif.Lemmas.SchedPass
import PjVerif.Lemmas.PyLogic
namespace Pj.PassSrc
open Pj.PyLite Pj.Extracted Pj.SchedSrc
open Pj.TaskSrc (Env.get?_nil Env.get?_cons Env.get?_set natCast_succ_rat compLoopP_pure pyEq_num execBlockP_append execBlockP_cons
  execBlockP_nil)
set_option linter.unusedSimpArgs false

/-! ### the model's state as a Python state -/

/-- a resource name: `None` or a string (abstracted to its key) -/
def encKey : Option Nat → Atom
  | none => .none
  | some n => .str n

def optTime : Option Time → Val
  | none => .atom .none
  | some t => .atom (.time t)

def optNum : Option Rat → Val
  | none => .atom .none
  | some q => .atom (.num q)

/-- `task.wbs`: the WBS being scheduled (one object, `ref 0`) for its members, `None` for outside tasks -/
def encWbs (member : Bool) : Val := if member then .atom (.ref 0) else .atom .none

/-- the attributes of a task object; `flag` is the task's own `milestone` attribute (the model's `milestone` is
    the effective one: flagged and childless) -/
def encTask (info : TaskInfo) (flag : Bool) (fl : Fields) : PyLite.Env :=
  [("predecessors", .list (info.preds.map Atom.ref)), ("children", .list (info.children.map Atom.ref)),
   ("wbs", encWbs info.member), ("milestone", .atom (.bool flag)), ("resource", .atom (encKey info.resource)),
   ("min_start", optTime info.minStart), ("start", optTime fl.start), ("end", optTime fl.end_),
   ("estimate", optNum fl.est), ("spent", optNum fl.spent)]

def encHeap (env : Pj.Env) (ms : Uid → Bool) (f : Uid → Fields) : Nat → PyLite.Env :=
  fun u => encTask (env.info u) (ms u) (f u)

def encS (env : Pj.Env) (ms : Uid → Bool) (σ : SS) : PState :=
  { L := σ.rows.map encRow
    heap := encHeap env ms σ.f
    done := σ.done
    res := σ.res.map (fun p => (encKey p.1, resRef p.1))
    reads := σ.reads }

/-- the scheduler object: `__default_estimate`, `__balance_resources` and - read by the forward pass only, the
    translator accepts `self.__start` in `ForwardScheduler` only - the project start `__start` = `env.bound` -/
def passSelf (env : Pj.Env) : PyLite.Env :=
  [("default_estimate", .atom (.num env.defaultEst)), ("balance_resources", .atom (.bool env.balance)),
   ("start", .atom (.time env.bound))]

/-- the name of the resource object `ref r` -/
def keyOfRef (r : Nat) : Option Nat := if r = 0 then none else some (r - 1)

theorem keyOfRef_resRef (k : Option Nat) : keyOfRef (resRef k) = k := by
  cases k <;> simp [keyOfRef, resRef]

/-- the handlers: the clock of the environment; the two inner loops of the scheduler are interpreted BY RUNNING
    THEIR TRANSLATED SOURCE (`interpNearestFwd`, `interpShiftFwd` of Lemmas/ScheduleSrc.lean) on the calendar
    `calR r` of the resource object `ref r`; `Resource(name)` is the object `ref (resRef name)` -/
def passH (env : Pj.Env) (wfuel : Nat) (calR : Nat → Cal) : PHandlers :=
  { clock := env.clock
    call := fun m args L =>
      if m = "get_resource_nearest_available_date" then
        match args with
        | [.ref r, .time s, .ref t] =>
          (interpNearestFwd (calR r) env.balance r t L s).map (fun p => (Val.atom (.time p.1), p.2))
        | _ => throw stuck
      else if m = "shift_by_resource_usage_and_calendar" then
        match args with
        | [.ref r, .time s, .ref t, .num left] =>
          (interpShiftFwd wfuel (calR r) env.balance r t L s left).map (fun p => (Val.atom (.time p.1), p.2))
        | _ => throw stuck
      else throw stuck
    newResource := fun a =>
      match a with
      | .none => pure 0
      | .str n => pure (n + 1)
      | _ => throw stuck }

/-- the calendars of the resource objects: those of the table `res0`, the default calendar for every other name -/
def calRef (res0 : List (Option Nat × Cal)) (r : Nat) : Cal := calOf res0 (keyOfRef r)

/-- run the translated `__forward_pass(ref t, minDate, <ledger>, <calculated>)` with at most `fuel` nested
    activations; `wfuel` bounds the `while` loop of `__shift_by_resource_usage_and_calendar` -/
def interpFwdPass (env : Pj.Env) (wfuel : Nat) (calR : Nat → Cal) (fuel : Nat) (st : PState) (t : Uid)
    (minDate : Time) : Res PState :=
  (callP (passH env wfuel calR) (passSelf env) src_Fwd_pass_params src_Fwd_pass fuel
    [.ref t, .time minDate] st).map (·.2)

/-- the heap of the task objects `E info flag fields`: `encHeap` is `heapOf encTask`, `PassSrcBwd.encHeapB` is
    `heapOf encTaskB` -/
def _root_.Pj.PassSrcBwd.heapOf (E : TaskInfo → Bool → Fields → PyLite.Env) (env : Pj.Env) (ms : Uid → Bool)
    (f : Uid → Fields) : Nat → PyLite.Env := fun u => E (env.info u) (ms u) (f u)

open Pj.PassSrcBwd (heapOf)

/-- the state of a run whose task objects are `E info flag fields`: `encS` is `encOf encTask`, `PassSrcBwd.encSB` is
    `encOf encTaskB` -/
def encOf (E : TaskInfo → Bool → Fields → PyLite.Env) (env : Pj.Env) (ms : Uid → Bool) (σ : SS) : PState :=
  { L := σ.rows.map encRow
    heap := heapOf E env ms σ.f
    done := σ.done
    res := σ.res.map (fun p => (encKey p.1, resRef p.1))
    reads := σ.reads }

/-- what the ties of the passes need of an encoding `E` of task objects: the attributes they read, and that the four
    they write are the four fields.  Both `encTask` and `PassSrcBwd.encTaskB` (which also has `successors`) are such;
    the ties hold for every such `E`. -/
structure PassEnc (E : TaskInfo → Bool → Fields → PyLite.Env) : Prop where
  preds : ∀ info flag fl, (E info flag fl).get? "predecessors" = some (.list (info.preds.map Atom.ref))
  children : ∀ info flag fl, (E info flag fl).get? "children" = some (.list (info.children.map Atom.ref))
  wbs : ∀ info flag fl, (E info flag fl).get? "wbs" = some (encWbs info.member)
  milestone : ∀ info flag fl, (E info flag fl).get? "milestone" = some (.atom (.bool flag))
  resource : ∀ info flag fl, (E info flag fl).get? "resource" = some (.atom (encKey info.resource))
  min_start : ∀ info flag fl, (E info flag fl).get? "min_start" = some (optTime info.minStart)
  start : ∀ info flag fl, (E info flag fl).get? "start" = some (optTime fl.start)
  end_ : ∀ info flag fl, (E info flag fl).get? "end" = some (optTime fl.end_)
  estimate : ∀ info flag fl, (E info flag fl).get? "estimate" = some (optNum fl.est)
  spent : ∀ info flag fl, (E info flag fl).get? "spent" = some (optNum fl.spent)
  set_start : ∀ info flag fl v, Env.set (E info flag fl) "start" (optTime v) = E info flag { fl with start := v }
  set_end : ∀ info flag fl v, Env.set (E info flag fl) "end" (optTime v) = E info flag { fl with end_ := v }
  set_estimate : ∀ info flag fl v, Env.set (E info flag fl) "estimate" (optNum v) = E info flag { fl with est := v }
  set_spent : ∀ info flag fl v, Env.set (E info flag fl) "spent" (optNum v) = E info flag { fl with spent := v }

theorem _root_.Pj.PassSrcBwd.heapOf_apply (E : TaskInfo → Bool → Fields → PyLite.Env) (env : Pj.Env) (ms : Uid → Bool)
    (f : Uid → Fields) (u : Uid) : heapOf E env ms f u = E (env.info u) (ms u) (f u) := rfl

theorem passEnc_fwd : PassEnc encTask := by
  constructor <;> intros <;> simp [encTask, Env.get?, Env.set]

theorem _root_.Pj.PassSrcBwd.heapSet_heapOf {E : TaskInfo → Bool → Fields → PyLite.Env} (env : Pj.Env) (ms : Uid → Bool)
    (f : Uid → Fields) (t : Uid) (a : String) (v : Val) (g : Fields)
    (h : Env.set (E (env.info t) (ms t) (f t)) a v = E (env.info t) (ms t) g) :
    heapSet (heapOf E env ms f) t a v = heapOf E env ms (upd f t g) :=
  heapSet_eq_of (by simp [PassSrcBwd.heapOf, h]) fun j hj => by simp [PassSrcBwd.heapOf, upd, hj]

section
variable {E : TaskInfo → Bool → Fields → PyLite.Env} (hE : PassEnc E) (env : Pj.Env) (ms : Uid → Bool) (f : Uid → Fields)
  (t : Uid)
include hE
theorem PassEnc.heapSet_start (v : Time) : heapSet (heapOf E env ms f) t "start" (.atom (.time v)) =
    heapOf E env ms (upd f t { f t with start := some v }) :=
  PassSrcBwd.heapSet_heapOf env ms f t _ _ _ (hE.set_start _ _ _ (some v))
theorem PassEnc.heapSet_end (v : Time) : heapSet (heapOf E env ms f) t "end" (.atom (.time v)) =
    heapOf E env ms (upd f t { f t with end_ := some v }) :=
  PassSrcBwd.heapSet_heapOf env ms f t _ _ _ (hE.set_end _ _ _ (some v))
theorem PassEnc.heapSet_estimate (v : Rat) : heapSet (heapOf E env ms f) t "estimate" (.atom (.num v)) =
    heapOf E env ms (upd f t { f t with est := some v }) :=
  PassSrcBwd.heapSet_heapOf env ms f t _ _ _ (hE.set_estimate _ _ _ (some v))
theorem PassEnc.heapSet_spent (v : Rat) : heapSet (heapOf E env ms f) t "spent" (.atom (.num v)) =
    heapOf E env ms (upd f t { f t with spent := some v }) :=
  PassSrcBwd.heapSet_heapOf env ms f t _ _ _ (hE.set_spent _ _ _ (some v))
end

/-- the statements up to and including the loop over the children / after it -/
def fwdHead : List Stmt := src_Fwd_pass.take 4
def fwdTail : List Stmt := src_Fwd_pass.drop 4

structure TailParts where
  g0 : List Stmt
  msCond : Expr
  msThen : List Stmt
  iStart : Stmt
  iEst : Stmt
  iSpent : Stmt
  iEnd : Stmt
  fin : Stmt

def tailParts : TailParts :=
  match fwdTail with
  | [a, b, .ifElse c th [s1, s2, s3, s4], f] => ⟨[a, b], c, th, s1, s2, s3, s4, f⟩
  | _ => ⟨[], .none, [], .pass, .pass, .pass, .pass, .pass⟩

theorem fwdTail_shape : fwdTail = tailParts.g0 ++ [.ifElse tailParts.msCond tailParts.msThen
    [tailParts.iStart, tailParts.iEst, tailParts.iSpent, tailParts.iEnd], tailParts.fin] := rfl

theorem encHeap_apply (env : Pj.Env) (ms : Uid → Bool) (f : Uid → Fields) (u : Uid) :
    encHeap env ms f u = encTask (env.info u) (ms u) (f u) := rfl

theorem pyMax_time (a b : Time) : pyMax (.atom (.time a)) (.atom (.time b)) = .ok (.atom (.time (maxT a b))) := by
  by_cases h : a < b <;> simp [pyMax, PyLite.compare, cmpRat, maxT, h, bind, Except.bind, pure, Except.pure]
theorem pyMin_time (a b : Time) : pyMin (.atom (.time a)) (.atom (.time b)) = .ok (.atom (.time (minT a b))) := by
  by_cases h : b < a <;> simp [pyMin, PyLite.compare, cmpRat, minT, h, bind, Except.bind, pure, Except.pure]
theorem pyMax_num (a b : Rat) : pyMax (.atom (.num a)) (.atom (.num b)) = .ok (.atom (.num (if a < b then b else a))) := by
  by_cases h : a < b <;> simp [pyMax, PyLite.compare, cmpRat, Atom.asNum?, h, bind, Except.bind, pure, Except.pure]

theorem passH_call_nearest (env : Pj.Env) (wfuel : Nat) (calR : Nat → Cal) (rows : List Row) (k : Option Nat) (t : Uid)
    (s : Time) :
    (passH env wfuel calR).call "get_resource_nearest_available_date" [.ref (resRef k), .time s, .ref t] (rows.map encRow) =
      (nearestFwd (calR (resRef k)) (usedBy env rows k t) s).map (fun e => (Val.atom (.time e), rows.map encRow)) := by
  simp only [passH, if_true, interpNearestFwd_eq, usedOf_usedBy]
  cases nearestFwd (calR (resRef k)) (usedBy env rows k t) s <;> rfl

theorem passH_call_shift (env : Pj.Env) (wfuel : Nat) (hw : Extracted.fwdShiftMaxSteps < wfuel) (calR : Nat → Cal)
    (rows : List Row) (k : Option Nat) (t : Uid) (s : Time) (left : Rat) :
    (passH env wfuel calR).call "shift_by_resource_usage_and_calendar" [.ref (resRef k), .time s, .ref t, .num left]
        (rows.map encRow) =
      (shiftFwd (calR (resRef k)) (usedBy env rows k t) s left).map
        (fun p => (Val.atom (.time p.1), (rows ++ p.2.map (SchedSrc.mkRow k t)).map encRow)) := by
  have : ("shift_by_resource_usage_and_calendar" = "get_resource_nearest_available_date") = False := by decide
  simp only [passH, this, if_false, if_true, interpShiftFwd_eq _ _ _ _ _ _ _ _ hw, usedOf_usedBy]
  cases shiftFwd (calR (resRef k)) (usedBy env rows k t) s left <;> rfl

theorem passH_clock (env : Pj.Env) (wfuel : Nat) (calR : Nat → Cal) : (passH env wfuel calR).clock = env.clock := rfl

/-- the locals the statements after the loops rely on; `av` is the local that holds the date aggregated from the
    links (`max_predecessor_ends` / `min_successor_starts`) -/
structure TailEnv (av : String) (ρ : PyLite.Env) (t : Uid) (md mp : Time) (r : Nat) (leaf : Bool) : Prop where
  task : ρ.get? "_task" = some (.atom (.ref t))
  md : ρ.get? "min_date" = some (.atom (.time md))
  mp : ρ.get? av = some (.atom (.time mp))
  res : ρ.get? "resource" = some (.atom (.ref r))
  leaf : ρ.get? "is_leaf" = some (.atom (.bool leaf))

theorem TailEnv.set {av : String} {ρ : PyLite.Env} {t : Uid} {md mp : Time} {r : Nat} {leaf : Bool}
    (h : TailEnv av ρ t md mp r leaf) (x : String) (v : Val) (h1 : x ≠ "_task") (h0 : x ≠ "min_date") (h2 : x ≠ av)
    (h3 : x ≠ "resource") (h4 : x ≠ "is_leaf") : TailEnv av (Env.set ρ x v) t md mp r leaf :=
  ⟨by rw [Env.get?_set, if_neg h1]; exact h.task, by rw [Env.get?_set, if_neg h0]; exact h.md,
   by rw [Env.get?_set, if_neg h2]; exact h.mp,
   by rw [Env.get?_set, if_neg h3]; exact h.res, by rw [Env.get?_set, if_neg h4]; exact h.leaf⟩

theorem TailEnv.after_g0 {av : String} {ρ : PyLite.Env} {t : Uid} {md mp : Time} (r : Nat) (leaf : Bool)
    (hav : "resource" ≠ av ∧ "is_leaf" ≠ av) (h1 : ρ.get? "_task" = some (.atom (.ref t)))
    (h0 : ρ.get? "min_date" = some (.atom (.time md))) (h2 : ρ.get? av = some (.atom (.time mp))) :
    TailEnv av ((ρ.set "resource" (.atom (.ref r))).set "is_leaf" (.atom (.bool leaf))) t md mp r leaf :=
  ⟨by simp [Env.get?_set, h1], by simp [Env.get?_set, h0], by simp [Env.get?_set, hav.1, hav.2, h2],
   by simp [Env.get?_set], by simp [Env.get?_set]⟩

macro "tail_env" h:ident : tactic =>
  `(tactic| (repeat' (first | exact $h | (refine TailEnv.set ?_ _ _ (by decide) (by decide) (by decide) (by decide) (by decide)))))

attribute [pylite_step] pyMax_time pyMin_time pyMax_num PassSrcBwd.heapOf_apply

def optTimeA : Option Time → Atom
  | none => .none
  | some t => .time t
def optNumA : Option Rat → Atom
  | none => .none
  | some q => .num q
theorem optTime_eq (o : Option Time) : optTime o = .atom (optTimeA o) := by cases o <;> rfl
theorem optNum_eq (o : Option Rat) : optNum o = .atom (optNumA o) := by cases o <;> rfl

/-- `[x.a for x in <tasks> if x.a is not None]` for a datetime attribute `a` that holds `proj` of the task's fields -/
theorem evalP_comp_time (H : PHandlers) (self ρ : PyLite.Env) (heap : Nat → PyLite.Env) (f : Uid → Fields)
    (st : PState) (hh : st.heap = heap) (x a : String) (proj : Fields → Option Time)
    (hattr : ∀ c, (heap c).get? a = some (optTime (proj (f c))))
    (it : Expr) (lst : List Uid) (hit : it.evalP H self ρ st = .ok (.list (lst.map Atom.ref), st)) :
    (Expr.listComp (.attr (.var x) a) x it (.isNotNone (.attr (.var x) a))).evalP H self ρ st =
      .ok (.list ((lst.filterMap (fun c => proj (f c))).map Atom.time), st) := by
  simp only [Expr.evalP, hit, bind, Except.bind, iterOf, pure, Except.pure]
  rw [compLoopP_pure (g := fun v => match v with | .ref c => (proj (f c)).map Atom.time | _ => none)]
  · simp only [List.filterMap_map, List.map_filterMap]
    congr 3
  · intro v hv
    obtain ⟨c, _, rfl⟩ := List.mem_map.1 hv
    cases hp : proj (f c) <;>
      simp [Expr.evalP, Env.get?_set, hh, hattr, hp, optTime, truthP, bind, Except.bind, pure, Except.pure]

/-- `[x.a for x in <tasks>]` for a numeric attribute `a` -/
theorem evalP_comp_num (H : PHandlers) (self ρ : PyLite.Env) (heap : Nat → PyLite.Env) (f : Uid → Fields)
    (st : PState) (hh : st.heap = heap) (x a : String) (proj : Fields → Option Rat)
    (hattr : ∀ c, (heap c).get? a = some (optNum (proj (f c))))
    (it : Expr) (lst : List Uid) (hit : it.evalP H self ρ st = .ok (.list (lst.map Atom.ref), st)) :
    (Expr.listComp (.attr (.var x) a) x it (.bool true)).evalP H self ρ st =
      .ok (.list ((lst.map (fun c => proj (f c))).map optNumA), st) := by
  simp only [Expr.evalP, hit, bind, Except.bind, iterOf, pure, Except.pure]
  rw [compLoopP_pure (g := fun v => match v with | .ref c => some (optNumA (proj (f c))) | _ => none)]
  · simp only [List.filterMap_map, List.map_map]
    congr 2
    rw [← List.filterMap_eq_map]
    rfl
  · intro v hv
    obtain ⟨c, _, rfl⟩ := List.mem_map.1 hv
    simp [Expr.evalP, Env.get?_set, hh, hattr, optNum_eq, truthP, bind, Except.bind, pure, Except.pure]

theorem sumLoop_opt (l : List (Option Rat)) (a : Rat) :
    sumLoop (.atom (.num a)) (l.map optNumA) =
      (List.foldlM (m := Res) (fun acc v => match v with | some x => pure (acc + x) | none => throw (Err.crash .type)) a l).map
        (fun q => Val.atom (.num q)) := by
  induction l generalizing a with
  | nil => simp [sumLoop, pure, Except.pure, Except.map]
  | cons v l ih =>
    cases v with
    | none => simp [sumLoop, optNumA, arith, arithTime, Atom.asNum?, bind, Except.bind, throw, throwThe, MonadExceptOf.throw, Except.map]
    | some x => simp [sumLoop, optNumA, arith, arithTime, Atom.asNum?, bind, Except.bind, pure, Except.pure, ih]

/-- `max(…)` / `min(…)` of datetimes: `py` is `pyMax` with `op = maxT`, or `pyMin` with `op = minT` -/
theorem foldLoop_times {py : Val → Val → Res Val} {op : Time → Time → Time}
    (hpy : ∀ a b, py (.atom (.time a)) (.atom (.time b)) = .ok (.atom (.time (op a b)))) (l : List Time) (c : Time) :
    foldLoop py (.atom (.time c)) (l.map Atom.time) = .ok (.atom (.time (l.foldl op c))) := by
  induction l generalizing c with
  | nil => rfl
  | cons x l ih => simp [foldLoop, hpy, bind, Except.bind, ih]

/-- Python's `max(xs + [m])` / `min(xs + [m])` is the model's fold that starts from `m`: the two folds run over the same
    members -/
theorem foldList_append_single {py : Val → Val → Res Val} {op : Time → Time → Time} {R : Time → Time → Prop}
    (hpy : ∀ a b, py (.atom (.time a)) (.atom (.time b)) = .ok (.atom (.time (op a b)))) (h : Selects op R)
    (xs : List Time) (m : Time) :
    foldList py (.list ((xs ++ [m]).map Atom.time)) = .ok (.atom (.time (xs.foldl op m))) := by
  cases xs with
  | nil => rfl
  | cons e es =>
    simp only [List.cons_append, List.map_cons, foldList, foldLoop_times hpy]
    rw [h.fold_congr e m (es ++ [m]) (e :: es) fun x => by grind]

/-! ### stage 2: the statements after the two loops -/

/-- the statement `s`, run on the encoding of `σ`, does what the stage `r` of the model's placement does and leaves
    locals with `P` -/
abbrev StmtOK (H : PHandlers) (self : PyLite.Env) (rec : List Atom → PState → Res (Val × PState)) (s : Stmt)
    (ρ : PyLite.Env) (enc : SS → PState) (σ : SS) (r : Res SS) (P : PyLite.Env → Prop) : Prop :=
  Sim r (s.execP H self rec ρ (enc σ)) (fun σ' ρ' st => st = enc σ' ∧ P ρ')

abbrev BlockOK (H : PHandlers) (self : PyLite.Env) (rec : List Atom → PState → Res (Val × PState)) (ss : List Stmt)
    (ρ : PyLite.Env) (enc : SS → PState) (σ : SS) (r : Res SS) (P : PyLite.Env → Prop) : Prop :=
  Sim r (execBlockP H self rec ss ρ (enc σ)) (fun σ' ρ' st => st = enc σ' ∧ P ρ')

theorem StmtOK.of_eq {H : PHandlers} {self : PyLite.Env} {rec : List Atom → PState → Res (Val × PState)} {s : Stmt}
    {ρ : PyLite.Env} {enc : SS → PState} {σ : SS} {r : Res SS} {P : PyLite.Env → Prop}
    (h : s.execP H self rec ρ (enc σ) = match r with | .ok σ' => .normal ρ (enc σ') | .error e => .raise e)
    (hP : P ρ) : StmtOK H self rec s ρ enc σ r P := by
  cases r with
  | ok σ' => exact ⟨ρ, _, h, rfl, hP⟩
  | error e => exact fun _ => h

theorem evalP_task_attr (H : PHandlers) (self ρ : PyLite.Env) (st : PState) (x a : String) (u : Uid) (v : Val)
    (hx : ρ.get? x = some (.atom (.ref u))) (ha : (st.heap u).get? a = some v) :
    (Expr.attr (.var x) a).evalP H self ρ st = .ok (v, st) :=
  TaskSrc.evalP_attr (TaskSrc.evalP_var H self ρ st x _ hx) ha

/-- `x or datetime(1970, 1, 1)` for an optional date `x` -/
theorem evalP_or_epoch (H : PHandlers) (self ρ : PyLite.Env) (st : PState) (a : Expr) (m : Option Time)
    (ha : a.evalP H self ρ st = .ok (optTime m, st)) :
    (Expr.or a (.datetime 0)).evalP H self ρ st = .ok (.atom (.time (m.getD epoch)), st) := by
  cases m <;> simp [Expr.evalP, ha, optTime, truthP, epoch, bind, Except.bind, pure, Except.pure]

theorem natCast_succ_ne_zero (n : Nat) : ¬ ((n : Nat) : Rat) + 1 = 0 := by
  rw [natCast_succ_rat, Rat.natCast_eq_zero_iff]; omega

theorem sumLoop_opt' {α : Type} (g : α → Option Rat) (l : List α) (a : Rat) :
    sumLoop (.atom (.num a)) (l.map (optNumA ∘ g)) =
      (List.foldlM (m := Res) (fun acc v => match v with | some x => pure (acc + x) | none => throw (Err.crash .type)) a
        (l.map g)).map (fun q => Val.atom (.num q)) := by
  rw [← List.map_map]; exact sumLoop_opt _ _

theorem passSelf_default (env : Pj.Env) :
    (passSelf env).get? "default_estimate" = some (.atom (.num env.defaultEst)) := rfl

theorem passSelf_start (env : Pj.Env) : (passSelf env).get? "start" = some (.atom (.time env.bound)) := by
  simp [passSelf, Env.get?]

/-- the two halves of `fillEst` -/
def estPart (env : Pj.Env) (t : Uid) (σ : SS) : Res SS :=
  match (σ.f t).est with
  | some _ => pure σ
  | none =>
    if (env.info t).children.isEmpty then pure (setF σ t (fun g => { g with est := some env.defaultEst }))
    else do
      let e ← sumOpt ((env.info t).children.map (fun c => (σ.f c).est))
      pure (setF σ t (fun g => { g with est := some e }))

def spentPart (env : Pj.Env) (t : Uid) (σ : SS) : Res SS :=
  match (σ.f t).spent with
  | some _ => pure σ
  | none =>
    if (env.info t).children.isEmpty then pure (setF σ t (fun g => { g with spent := some 0 }))
    else do
      let e ← sumOpt ((env.info t).children.map (fun c => (σ.f c).spent))
      pure (setF σ t (fun g => { g with spent := some e }))

theorem fillEst_eq (env : Pj.Env) (t : Uid) (σ : SS) : fillEst env t σ = estPart env t σ >>= spentPart env t := rfl

section
variable {E : TaskInfo → Bool → Fields → PyLite.Env} (hE : PassEnc E) (env : Pj.Env) (ms : Uid → Bool) (wfuel : Nat)
  (calR : Nat → Cal) (rec : List Atom → PState → Res (Val × PState)) (σ : SS) (t : Uid) (md mp : Time) (ρ : PyLite.Env)
include hE

theorem iStart_ok (hρ : TailEnv "max_predecessor_ends" ρ t md mp (resRef (env.info t).resource) (env.info t).children.isEmpty) :
    StmtOK (passH env wfuel calR) (passSelf env) rec tailParts.iStart ρ (encOf E env ms) σ
      (fwdStart env (calR (resRef (env.info t).resource)) (usedBy env σ.rows (env.info t).resource t) t mp σ)
      (TailEnv "max_predecessor_ends" · t md mp (resRef (env.info t).resource) (env.info t).children.isEmpty) := by
  unfold StmtOK Sim fwdStart
  cases hs : (σ.f t).start with
  | some s0 =>
    refine ⟨ρ, _, ?_, rfl, hρ⟩
    simp [pylite_step, tailParts, fwdTail, src_Fwd_pass, encOf, hE.start, hρ.task, hs, optTime]
  | none =>
    cases hleaf : (env.info t).children.isEmpty with
    | true =>
      rw [hleaf] at hρ
      have hm := evalP_or_epoch (passH env wfuel calR) (passSelf env) ρ (encOf E env ms σ) _ _
        (evalP_task_attr _ _ _ _ _ _ t _ hρ.task (hE.min_start _ _ _))
      simp only [hleaf, if_true]
      simp only [encOf] at hm
      -- the call's result is named first, so that the assignment of it runs on a value
      rcases hn : nearestFwd (calR (resRef (env.info t).resource)) (usedBy env σ.rows (env.info t).resource t)
        (maxT (maxT mp (env.clock σ.reads)) ((env.info t).minStart.getD epoch)) with e | s <;>
      simp [pylite_step, and_assoc, ↓hm, tailParts, fwdTail, src_Fwd_pass, encOf, hE.start, hE.heapSet_start, hρ.task, hρ.mp,
        hρ.res, hρ.leaf, hs, optTime, passH_call_nearest, passH_clock, now, Except.map, hn, setF, upd_upd]
      tail_env hρ
    | false =>
      rw [hleaf] at hρ
      have hc := evalP_comp_time (passH env wfuel calR) (passSelf env) ρ (heapOf E env ms σ.f) σ.f (encOf E env ms σ)
        rfl "t" "start" (·.start) (fun _ => hE.start _ _ _) (.attr (.var "_task") "children") (env.info t).children
        (evalP_task_attr _ _ _ _ _ _ t _ hρ.task (hE.children _ _ _))
      simp only [hleaf, Bool.false_eq_true, if_false]
      simp only [encOf] at hc
      rcases hcs : (env.info t).children.filterMap (fun c => (σ.f c).start) with _ | ⟨c, rest⟩ <;>
      rw [hcs] at hc <;>
      simp [pylite_step, and_assoc, ↓hc, tailParts, fwdTail, src_Fwd_pass, encOf, hE.start, hE.heapSet_start, hρ.task, hρ.mp,
        hρ.res, hρ.leaf, hs, optTime, pyEq_num, natCast_succ_ne_zero, foldList, foldLoop, foldLoop_times pyMin_time, setF, epoch] <;>
      tail_env hρ

theorem iEnd_ok (hw : Extracted.fwdShiftMaxSteps < wfuel)
    (hρ : TailEnv "max_predecessor_ends" ρ t md mp (resRef (env.info t).resource) (env.info t).children.isEmpty)
    (h1 : (σ.f t).start.isSome) (h2 : (σ.f t).est.isSome) (h3 : (σ.f t).spent.isSome) :
    StmtOK (passH env wfuel calR) (passSelf env) rec tailParts.iEnd ρ (encOf E env ms) σ
      (fwdEnd env (calR (resRef (env.info t).resource)) (usedBy env σ.rows (env.info t).resource t) t σ)
      (TailEnv "max_predecessor_ends" · t md mp (resRef (env.info t).resource) (env.info t).children.isEmpty) := by
  unfold StmtOK Sim fwdEnd
  cases hs : (σ.f t).end_ with
  | some s0 =>
    refine ⟨ρ, _, ?_, rfl, hρ⟩
    simp [pylite_step, tailParts, fwdTail, src_Fwd_pass, encOf, hE.end_, hρ.task, hs, optTime]
  | none =>
    obtain ⟨st, hst⟩ := Option.isSome_iff_exists.1 h1
    obtain ⟨es, hes⟩ := Option.isSome_iff_exists.1 h2
    obtain ⟨sp, hsp⟩ := Option.isSome_iff_exists.1 h3
    cases hleaf : (env.info t).children.isEmpty with
    | true =>
      rw [hleaf] at hρ
      simp only [hleaf, if_true]
      -- the call's result is named first, so that the statements after it run on a value
      rcases hsh : shiftFwd (calR (resRef (env.info t).resource)) (usedBy env σ.rows (env.info t).resource t)
        (maxT st (env.clock σ.reads)) (if es - sp < 0 then 0 else es - sp) with e | ⟨e, new⟩
      · simp [pylite_step, tailParts, fwdTail, src_Fwd_pass, encOf, hE.start, hE.end_, hE.estimate, hE.spent, hρ.task, hρ.mp,
          hρ.res, hρ.leaf, hs, hst, hes, hsp, optTime, optNum, passH_call_shift _ _ hw, passH_clock, now, epoch, Except.map,
          leftOf, addRows, hsh]
      · by_cases hlt : env.bound < env.clock (σ.reads + 1) <;>
        simp [pylite_step, and_assoc, tailParts, fwdTail, src_Fwd_pass, encOf, hE.start, hE.end_, hE.estimate, hE.spent,
          hE.heapSet_end, hρ.task, hρ.mp, hρ.res, hρ.leaf, hs, hst, hes, hsp, optTime, optNum, passH_call_shift _ _ hw,
          passH_clock, now, epoch, Except.map, leftOf, addRows, hsh, setF, SchedSrc.mkRow, Nat.add_assoc, passSelf_start,
          hlt] <;>
        tail_env hρ
    | false =>
      rw [hleaf] at hρ
      have hc := evalP_comp_time (passH env wfuel calR) (passSelf env) ρ (heapOf E env ms σ.f) σ.f (encOf E env ms σ)
        rfl "t" "end" (·.end_) (fun _ => hE.end_ _ _ _) (.attr (.var "_task") "children") (env.info t).children
        (evalP_task_attr _ _ _ _ _ _ t _ hρ.task (hE.children _ _ _))
      simp only [hleaf, Bool.false_eq_true, if_false]
      simp only [encOf] at hc
      rcases hcs : (env.info t).children.filterMap (fun c => (σ.f c).end_) with _ | ⟨c, rest⟩ <;>
      rw [hcs] at hc <;>
      simp [pylite_step, and_assoc, ↓hc, tailParts, fwdTail, src_Fwd_pass, encOf, hE.end_, hE.heapSet_end, hρ.task, hρ.mp,
        hρ.res, hρ.leaf, hs, optTime, foldList, foldLoop, foldLoop_times pyMax_time, setF, epoch] <;>
      tail_env hρ
end

theorem decide_nil {α : Type} (l : List α) : decide (l = []) = l.isEmpty := by
  cases l <;> simp

theorem encKey_pyEq (a b : Option Nat) : (encKey a).pyEq (encKey b) = (a == b) := by
  cases a <;> cases b <;> simp [encKey, Atom.pyEq, Atom.norm]
  rw [Bool.eq_iff_iff]; simp

theorem find_enc (k : Option Nat) :
    ((fun p : Atom × Nat => p.1.pyEq (encKey k)) ∘ fun p : Option Nat × Cal => (encKey p.1, resRef p.1)) =
      fun p => p.1 == k := by
  funext p
  simp [encKey_pyEq]

section shared
variable {env : Pj.Env} {ms : Uid → Bool} {E : TaskInfo → Bool → Fields → PyLite.Env} (hE : PassEnc E) (H : PHandlers)
  (self : PyLite.Env) (rec : List Atom → PState → Res (Val × PState)) (σ : SS) (t : Uid) (ρ : PyLite.Env)
include hE

theorem iEst_ok (hd : self.get? "default_estimate" = some (.atom (.num env.defaultEst)))
    (ht : ρ.get? "_task" = some (.atom (.ref t)))
    (hl : ρ.get? "is_leaf" = some (.atom (.bool (env.info t).children.isEmpty))) :
    tailParts.iEst.execP H self rec ρ (encOf E env ms σ) =
      match estPart env t σ with
      | .ok σ' => .normal ρ (encOf E env ms σ')
      | .error e => .raise e := by
  unfold estPart
  cases hs : (σ.f t).est with
  | some s0 => simp [pylite_step, tailParts, fwdTail, src_Fwd_pass, encOf, hE.estimate, ht, hs, optNum]
  | none =>
    cases hleaf : (env.info t).children.isEmpty with
    | true =>
      rw [hleaf] at hl
      simp [pylite_step, tailParts, fwdTail, src_Fwd_pass, encOf, hE.estimate, hE.heapSet_estimate, ht, hl, hs, optNum, hd, setF]
    | false =>
      rw [hleaf] at hl
      have hc := evalP_comp_num H self ρ (heapOf E env ms σ.f) σ.f (encOf E env ms σ) rfl "ch" "estimate"
        (·.est) (fun _ => hE.estimate _ _ _) (.attr (.var "_task") "children") (env.info t).children
        (evalP_task_attr _ _ _ _ _ _ t _ ht (hE.children _ _ _))
      simp only [Bool.false_eq_true, if_false]
      simp only [encOf] at hc
      unfold sumOpt
      simp [pylite_step, ↓hc, tailParts, fwdTail, src_Fwd_pass, encOf, hE.estimate, hE.heapSet_estimate, ht, hl, hs, optNum,
        sumLoop_opt', Except.map]
      rcases List.foldlM _ _ _ with e | q
      · simp
      · simp [setF, hE.heapSet_estimate]

theorem iSpent_ok (ht : ρ.get? "_task" = some (.atom (.ref t)))
    (hl : ρ.get? "is_leaf" = some (.atom (.bool (env.info t).children.isEmpty))) :
    tailParts.iSpent.execP H self rec ρ (encOf E env ms σ) =
      match spentPart env t σ with
      | .ok σ' => .normal ρ (encOf E env ms σ')
      | .error e => .raise e := by
  unfold spentPart
  cases hs : (σ.f t).spent with
  | some s0 => simp [pylite_step, tailParts, fwdTail, src_Fwd_pass, encOf, hE.spent, ht, hs, optNum]
  | none =>
    cases hleaf : (env.info t).children.isEmpty with
    | true =>
      rw [hleaf] at hl
      simp [pylite_step, tailParts, fwdTail, src_Fwd_pass, encOf, hE.spent, hE.heapSet_spent, ht, hl, hs, optNum, setF]
    | false =>
      rw [hleaf] at hl
      have hc := evalP_comp_num H self ρ (heapOf E env ms σ.f) σ.f (encOf E env ms σ) rfl "ch" "spent"
        (·.spent) (fun _ => hE.spent _ _ _) (.attr (.var "_task") "children") (env.info t).children
        (evalP_task_attr _ _ _ _ _ _ t _ ht (hE.children _ _ _))
      simp only [Bool.false_eq_true, if_false]
      simp only [encOf] at hc
      unfold sumOpt
      simp [pylite_step, ↓hc, tailParts, fwdTail, src_Fwd_pass, encOf, hE.spent, hE.heapSet_spent, ht, hl, hs, optNum,
        sumLoop_opt', Except.map]
      rcases List.foldlM _ _ _ with e | q
      · simp
      · simp [setF, hE.heapSet_spent]

/-- `resource = self.__resources.setdefault(…)`, `is_leaf = len(_task.children) == 0` -/
theorem g0_ok (hn : ∀ k, H.newResource (encKey k) = .ok (resRef k)) (ht : ρ.get? "_task" = some (.atom (.ref t))) :
    execBlockP H self rec tailParts.g0 ρ (encOf E env ms σ) =
      .normal ((ρ.set "resource" (.atom (.ref (resRef (env.info t).resource)))).set "is_leaf"
          (.atom (.bool (env.info t).children.isEmpty)))
        (encOf E env ms { σ with res := (resLookup σ.res (env.info t).resource).1 }) := by
  have hk : (encKey (env.info t).resource).isName = true := by cases (env.info t).resource <;> rfl
  unfold resLookup
  cases hf : σ.res.find? (fun p => p.1 == (env.info t).resource) with
  | some p =>
    have hp' : p.1 = (env.info t).resource := by simpa using List.find?_some hf
    simp [pylite_step, tailParts, fwdTail, src_Fwd_pass, encOf, hE.resource, hE.children, ht, hk, hn, find_enc, hf, pyEq_num,
      Rat.natCast_eq_zero_iff, hp', decide_nil]
  | none =>
    simp [pylite_step, tailParts, fwdTail, src_Fwd_pass, encOf, hE.resource, hE.children, ht, hk, hn, find_enc, hf, pyEq_num,
      Rat.natCast_eq_zero_iff, decide_nil]

theorem msCond_ok (leaf : Bool) (ht : ρ.get? "_task" = some (.atom (.ref t)))
    (hl : ρ.get? "is_leaf" = some (.atom (.bool leaf))) :
    (do let (v, st') ← tailParts.msCond.evalP H self ρ (encOf E env ms σ)
        pure ((← truthP v), st')) = .ok ((ms t && leaf), encOf E env ms σ) := by
  cases hm : ms t <;> cases leaf <;>
    simp [pylite_step, tailParts, fwdTail, src_Fwd_pass, encOf, hE.milestone, ht, hl, hm]

omit hE in
theorem fin_ok (ht : ρ.get? "_task" = some (.atom (.ref t))) :
    tailParts.fin.execP H self rec ρ (encOf E env ms σ) = .normal ρ (encOf E env ms (markDone σ t)) := by
  simp [pylite_step, tailParts, fwdTail, src_Fwd_pass, encOf, ht, markDone]

/-- the milestone branch: `_task.start = _task.end = e` for a date `e`, `_task.estimate = _task.spent = 0` -/
theorem msThen_ok (e : Expr) (v : Time) (he : e.evalP H self ρ (encOf E env ms σ) = .ok (.atom (.time v), encOf E env ms σ))
    (ht : ρ.get? "_task" = some (.atom (.ref t))) :
    execBlockP H self rec (.assign "_chain_value" e :: tailParts.msThen.tail) ρ (encOf E env ms σ) =
      .normal (ρ.set "_chain_value" (.atom (.time v)))
        (encOf E env ms (setF σ t (fun _ => { start := some v, end_ := some v, est := some 0, spent := some 0 }))) := by
  rw [execBlockP_cons, TaskSrc.execP_assign (he := he)]
  simp [pylite_step, tailParts, fwdTail, src_Fwd_pass, encOf, hE.heapSet_start, hE.heapSet_end, hE.heapSet_estimate,
    hE.heapSet_spent, ht, setF, upd_upd]

theorem fill_ok {P : PyLite.Env → Prop} (hd : self.get? "default_estimate" = some (.atom (.num env.defaultEst)))
    (hP : ∀ ρ, P ρ → ρ.get? "_task" = some (.atom (.ref t)) ∧
      ρ.get? "is_leaf" = some (.atom (.bool (env.info t).children.isEmpty))) (hρ : P ρ) :
    BlockOK H self rec [tailParts.iEst, tailParts.iSpent] ρ (encOf E env ms) σ (fillEst env t σ) P := by
  rw [fillEst_eq]
  refine Sim.cons (StmtOK.of_eq (iEst_ok hE H self rec σ t ρ hd (hP ρ hρ).1 (hP ρ hρ).2) hρ) fun σ2 ρ2 _ ⟨hst, hρ2⟩ => ?_
  subst hst
  exact Sim.one (StmtOK.of_eq (iSpent_ok hE H self rec σ2 t ρ2 (hP ρ2 hρ2).1 (hP ρ2 hρ2).2) hρ2)

/-- the statements after the two loops, for any direction: `av` holds the date `v` aggregated from the links, the
    non-milestone branch `els` does `body`.  This is the common shape of `fwdPlace` and `bwdPlace`. -/
theorem tail_ok (hn : ∀ k, H.newResource (encKey k) = .ok (resRef k)) (av : String) (els : List Stmt)
    (body : SS → Res SS) (md v : Time) (hav : "resource" ≠ av ∧ "is_leaf" ≠ av)
    (h1 : ρ.get? "_task" = some (.atom (.ref t))) (h0 : ρ.get? "min_date" = some (.atom (.time md)))
    (h2 : ρ.get? av = some (.atom (.time v)))
    (hels : ∀ σ0 ρ0, TailEnv av ρ0 t md v (resRef (env.info t).resource) (env.info t).children.isEmpty →
      BlockOK H self rec els ρ0 (encOf E env ms) σ0 (body σ0)
        (TailEnv av · t md v (resRef (env.info t).resource) (env.info t).children.isEmpty)) :
    BlockOK H self rec (tailParts.g0 ++ [.ifElse tailParts.msCond
        (.assign "_chain_value" (.var av) :: tailParts.msThen.tail) els, tailParts.fin]) ρ (encOf E env ms) σ
      (if ms t && (env.info t).children.isEmpty then
        pure (markDone (setF { σ with res := (resLookup σ.res (env.info t).resource).1 } t
          (fun _ => { start := some v, end_ := some v, est := some 0, spent := some 0 })) t)
      else body { σ with res := (resLookup σ.res (env.info t).resource).1 } >>= fun σ' => pure (markDone σ' t))
      (fun _ => True) := by
  have hx0 := g0_ok (env := env) (ms := ms) hE H self rec σ t ρ hn h1
  have hρ0 := TailEnv.after_g0 (resRef (env.info t).resource) (env.info t).children.isEmpty hav h1 h0 h2
  generalize Env.set (Env.set ρ "resource" _) "is_leaf" _ = ρ0 at hx0 hρ0
  generalize ({ σ with res := (resLookup σ.res (env.info t).resource).1 } : SS) = σ0 at hx0 ⊢
  unfold BlockOK
  rw [execBlockP_append, hx0]
  simp only [execBlockP_cons, execBlockP_nil]
  simp only [Stmt.execP, msCond_ok hE H self σ0 t ρ0 _ hρ0.task hρ0.leaf]
  cases hm : (ms t && (env.info t).children.isEmpty) with
  | true =>
    simp only [if_true, msThen_ok hE H self rec σ0 t ρ0 _ v (TaskSrc.evalP_var _ _ _ _ _ _ hρ0.mp) hρ0.task,
      fin_ok _ _ rec _ t (ρ0.set "_chain_value" (.atom (.time v)))
        (by rw [Env.get?_set, if_neg (by decide)]; exact hρ0.task), pure, Except.pure]
    exact ⟨_, _, rfl, rfl, trivial⟩
  | false =>
    have he := hels σ0 ρ0 hρ0
    simp only [Bool.false_eq_true, if_false, bind, Except.bind]
    generalize body σ0 = r at he ⊢
    rcases r with e | σ3
    · intro hne
      simp only [he hne]
    · obtain ⟨ρ1, _, hx1, rfl, hρ1⟩ := he
      simp only [hx1, fin_ok _ _ rec _ t ρ1 hρ1.task, pure, Except.pure]
      exact ⟨_, _, rfl, rfl, trivial⟩

end shared

section
variable {E : TaskInfo → Bool → Fields → PyLite.Env} (hE : PassEnc E) (env : Pj.Env) (ms : Uid → Bool) (wfuel : Nat)
  (calR : Nat → Cal) (rec : List Atom → PState → Res (Val × PState)) (σ : SS) (t : Uid) (md mp : Time) (ρ : PyLite.Env)
include hE

theorem msElse_ok (hw : Extracted.fwdShiftMaxSteps < wfuel)
    (hρ : TailEnv "max_predecessor_ends" ρ t md mp (resRef (env.info t).resource) (env.info t).children.isEmpty) :
    BlockOK (passH env wfuel calR) (passSelf env) rec
      (tailParts.iStart :: ([tailParts.iEst, tailParts.iSpent] ++ [tailParts.iEnd])) ρ (encOf E env ms) σ
      (do
        let σ1 ← fwdStart env (calR (resRef (env.info t).resource)) (usedBy env σ.rows (env.info t).resource t) t mp σ
        let σ2 ← fillEst env t σ1
        fwdEnd env (calR (resRef (env.info t).resource)) (usedBy env σ.rows (env.info t).resource t) t σ2)
      (TailEnv "max_predecessor_ends" · t md mp (resRef (env.info t).resource) (env.info t).children.isEmpty) := by
  refine Sim.cons (iStart_ok hE env ms wfuel calR rec σ t md mp ρ hρ).and_ok fun σ1 ρ1 _ ⟨hs1, hst, hρ1⟩ => ?_
  subst hst
  refine Sim.append (fill_ok (P := (TailEnv _ · t md mp _ _)) hE _ _ rec σ1 t ρ1 (passSelf_default env)
    (fun _ h => ⟨h.task, h.leaf⟩) hρ1).and_ok fun σ3 ρ3 _ ⟨hs3, hst, hρ3⟩ => ?_
  subst hst
  obtain ⟨s, k, e1⟩ := fwdStart_ok hs1
  obtain ⟨e, sp, e3, _⟩ := fillEst_ok hs3
  have h4 := iEnd_ok hE env ms wfuel calR rec σ3 t md mp ρ3 hw hρ3 (by simp [e3, e1]) (by simp [e3]) (by simp [e3])
  rw [show σ3.rows = σ.rows by simp [e3, e1, SS.stage]] at h4
  exact Sim.one h4

/-- STAGE 2.  The statements of `__forward_pass` after the two recursion loops (from `resource = …setdefault…` to
    `calculated.append(id(_task))`), run on the encoding of a model state, do exactly what `fwdPlace` does. -/
theorem fwdTail_eq (hms : (env.info t).milestone = (ms t && (env.info t).children.isEmpty))
    (hw : Extracted.fwdShiftMaxSteps < wfuel)
    (hcal : calR (resRef (env.info t).resource) = (resLookup σ.res (env.info t).resource).2)
    (h1 : ρ.get? "_task" = some (.atom (.ref t))) (h0 : ρ.get? "min_date" = some (.atom (.time md)))
    (h2 : ρ.get? "max_predecessor_ends" = some (.atom (.time mp))) :
    BlockOK (passH env wfuel calR) (passSelf env) rec fwdTail ρ (encOf E env ms) σ (fwdPlace env σ t mp)
      (fun _ => True) := by
  have h := tail_ok (ms := ms) hE (passH env wfuel calR) (passSelf env) rec σ t ρ (fun k => by cases k <;> rfl)
    "max_predecessor_ends" _ _ md mp (by decide) h1 h0 h2
    (fun σ0 ρ0 hρ0 => msElse_ok hE env ms wfuel calR rec σ0 t md mp ρ0 hw hρ0)
  rw [fwdTail_shape]
  unfold fwdPlace
  simp only [hms, ← hcal, bind_assoc] at h ⊢
  exact h
end
/-! ### stage 3: the recursion -/

structure HeadParts where
  s0 : Stmt
  x1 : String
  it1 : Expr
  body1 : List Stmt
  s2 : Stmt
  x3 : String
  it3 : Expr

def headParts : HeadParts :=
  match fwdHead with
  | [a, .forIn x1 it1 b1, c, .forIn x3 it3 _] => ⟨a, x1, it1, b1, c, x3, it3⟩
  | _ => ⟨.pass, "", .none, [], .pass, "", .none⟩

theorem src_Fwd_pass_shape : src_Fwd_pass =
    [headParts.s0, .forIn headParts.x1 headParts.it1 headParts.body1, headParts.s2,
     .forIn headParts.x3 headParts.it3
       [.recurse (.listCons (.var headParts.x3) (.listCons (.var "max_predecessor_ends") .listNil))]] ++ fwdTail := rfl

theorem recurse_ok (H : PHandlers) (self : PyLite.Env) (rec : List Atom → PState → Res (Val × PState)) (x y : String)
    (ρ : PyLite.Env) (a b : Atom) (hx : ρ.get? x = some (.atom a)) (hy : ρ.get? y = some (.atom b)) (st : PState) :
    execBlockP H self rec [.recurse (.listCons (.var x) (.listCons (.var y) .listNil))] ρ st =
      match rec [a, b] st with
      | .ok (_, st') => .normal ρ st'
      | .error e => .raise e := by
  simp [pylite_step, hx, hy]
  rcases rec [a, b] st with e | ⟨v, st'⟩ <;> rfl

theorem recurse_sim {α : Type} (H : PHandlers) (self : PyLite.Env) (rec : List Atom → PState → Res (Val × PState))
    (x y : String) (ρ : PyLite.Env) (a b : Atom) (hx : ρ.get? x = some (.atom a)) (hy : ρ.get? y = some (.atom b))
    (st : PState) {r : Res α} {Q : α → Val → PState → Prop} (h : SimR r (rec [a, b] st) Q) :
    Sim r (execBlockP H self rec [.recurse (.listCons (.var x) (.listCons (.var y) .listNil))] ρ st)
      (fun a' ρ' st' => ρ' = ρ ∧ ∃ v, Q a' v st') := by
  rw [recurse_ok H self rec x y ρ a b hx hy]
  exact h.outcome

/-- what both loops of a pass keep: the state encodes the model's, the invariant of the run, the locals read -/
abbrev PassQ (enc : SS → PState) (I : SS → Prop) (bs : PyLite.Env) (σ : SS) (ρ : PyLite.Env) (st : PState) : Prop :=
  st = enc σ ∧ I σ ∧ Env.le bs ρ

section shared
variable {env : Pj.Env} {ms : Uid → Bool} {E : TaskInfo → Bool → Fields → PyLite.Env} (hE : PassEnc E) (H : PHandlers)
  (self : PyLite.Env) (rec : List Atom → PState → Res (Val × PState)) (σ : SS) (t : Uid) (ρ : PyLite.Env)
include hE

omit hE in
theorem s0_ok (ht : ρ.get? "_task" = some (.atom (.ref t))) :
    headParts.s0.execP H self rec ρ (encOf E env ms σ) =
      if σ.done.contains t then .ret (.atom .none) (encOf E env ms σ) else .normal ρ (encOf E env ms σ) := by
  by_cases hd : σ.done.contains t <;>
    simp [pylite_step, headParts, fwdHead, src_Fwd_pass, encOf, ht, hd]

end shared

/-! the recursion, for any direction: the model's run is `d.pass` for a scheduler record `d` (Lemmas/SchedPass.lean), the
    method consists of the statements both methods have (`headParts.s0`, the body of the first loop, the recursive call
    in the second) and of its own `it1`, `s2`, `it3`, `tail`, which are tied to `d.links`, `d.agg`, `d.kids`, `d.place`;
    `av` is the local that holds the aggregated date -/

/-- one step of the first loop: only the links on the task's own side of the WBS are followed -/
def linkStep (env : Pj.Env) (t : Uid) (pass : SS → Uid → Res SS) : SS → Uid → Res SS :=
  fun σ p => if (env.info p).member == (env.info t).member then pass σ p else pure σ

theorem gPass_succ (env : Pj.Env) (links kids : Uid → List Uid) (agg : SS → List Uid → Time → Time)
    (place : SS → Uid → Time → Time → Res SS) (fuel : Nat) (stk : List Uid) (σ : SS) (t : Uid) (m : Time) :
    gPass env links kids agg place (fuel + 1) stk σ t m =
      (if σ.done.contains t then pure σ
      else if stk.contains t then throw (.crash .recursion)
      else do
        let σ1 ← passList (linkStep env t (gPass env links kids agg place fuel (t :: stk) · · m)) σ (links t)
        let σ2 ← passList (gPass env links kids agg place fuel (t :: stk) · · (agg σ1 (links t) m)) σ1 (kids t)
        place σ2 t m (agg σ1 (links t) m)) := rfl

/-- a set `V` of tasks that a pass along `links` does not leave, and on which the flag `ms` of the task objects gives the
    model's (effective) milestone -/
structure Reach (env : Pj.Env) (ms : Uid → Bool) (links : Uid → List Uid) (V : Uid → Prop) : Prop where
  links : ∀ t, V t → ∀ p ∈ links t, V p
  kids : ∀ t, V t → ∀ c ∈ (env.info t).children, V c
  ms : ∀ u, V u → (env.info u).milestone = (ms u && (env.info u).children.isEmpty)

theorem Reach.all {env : Pj.Env} {ms : Uid → Bool} {links : Uid → List Uid}
    (hms : ∀ u, (env.info u).milestone = (ms u && (env.info u).children.isEmpty)) : Reach env ms links (fun _ => True) :=
  ⟨fun _ _ _ _ => trivial, fun _ _ _ _ => trivial, fun u _ => hms u⟩

/-- the resource table of a run that started from `res0` only grows by default resources -/
abbrev Tbl (res0 : List (Option Nat × Cal)) (σ : SS) : Prop := ∀ k, calOf σ.res k = calOf res0 k

theorem _root_.Pj.Sched.pass_tbl {env : Pj.Env} {d : Sched env} (hd : d.OK) (res0 : List (Option Nat × Cal)) (fuel : Nat)
    (stk : List Uid) (σ σ' : SS) (t : Uid) (m : Time) (hi : Tbl res0 σ) (h : d.pass fuel stk σ t m = .ok σ') : Tbl res0 σ' :=
  d.pass_inv hd (Tbl res0) (fun _ => True)
    (fun σ σ' t m v _ hi _ _ h k => by
      obtain ⟨o, rfl, _⟩ := hd.commit σ σ' t m v h
      exact (calOf_resLookup σ.res (env.info t).resource k).trans (hi k))
    (fun _ _ _ _ => trivial) (fun _ _ _ _ _ => trivial) fuel stk σ t m σ' trivial hi h

section dir
variable {env : Pj.Env} {ms : Uid → Bool} {E : TaskInfo → Bool → Fields → PyLite.Env} (hE : PassEnc E) (H : PHandlers)
  (self : PyLite.Env) (I : SS → Prop) {src tail : List Stmt} {it1 it3 : Expr} {s2 : Stmt} {av : String}
include hE

theorem body1_sim (rec : List Atom → PState → Res (Val × PState)) (σ : SS) (t : Uid) (ρ : PyLite.Env) (m : Time)
    (hρ : Env.le [("_task", .atom (.ref t)), ("min_date", .atom (.time m))] ρ) (u : Uid) (pass : SS → Uid → Res SS)
    (hrec : SimR (pass σ u) (rec [.ref u, .time m] (encOf E env ms σ)) (fun σ' _ st => st = encOf E env ms σ' ∧ I σ'))
    (hI : I σ) :
    Sim (linkStep env t pass σ u)
      (execBlockP H self rec headParts.body1 (ρ.set headParts.x1 (.atom (.ref u))) (encOf E env ms σ))
      (PassQ (encOf E env ms) I [("_task", .atom (.ref t)), ("min_date", .atom (.time m))]) := by
  have h1 := hρ.get "_task"
  have h2 := hρ.get "min_date"
  have hρ' := hρ.set_ne headParts.x1 (.atom (.ref u))
  unfold linkStep
  by_cases hm : (env.info u).member = (env.info t).member
  · rw [if_pos (by simpa using hm)]
    cases hR : pass σ u with
    | error e =>
      rw [hR] at hrec
      intro hne
      have hr := hrec hne
      simp only [encOf] at hr
      cases h3 : (env.info u).member <;> rw [h3] at hm <;>
        simp [pylite_step, headParts, fwdHead, src_Fwd_pass, encOf, hE.wbs, h1, h2, ← hm, h3, encWbs, hr]
    | ok σ' =>
      rw [hR] at hrec
      obtain ⟨v, st, hr, rfl, hI'⟩ := hrec
      refine ⟨_, _, ?_, rfl, hI', hρ'⟩
      simp only [encOf] at hr
      cases h3 : (env.info u).member <;> rw [h3] at hm <;>
        simp [pylite_step, headParts, fwdHead, src_Fwd_pass, encOf, hE.wbs, h1, h2, ← hm, h3, encWbs, hr]
  · rw [if_neg (by simpa using hm)]
    refine ⟨_, _, ?_, rfl, hI, hρ'⟩
    cases h3 : (env.info u).member <;> cases h4 : (env.info t).member <;> simp only [h3, h4] at hm <;>
      first
      | exact absurd trivial hm
      | simp [pylite_step, headParts, fwdHead, src_Fwd_pass, encOf, hE.wbs, h1, h2, h3, h4, encWbs]

theorem callP_pass (d : Sched env) (hd : d.OK) (res0 : List (Option Nat × Cal))
    (hsrc : src = [headParts.s0, .forIn headParts.x1 it1 headParts.body1, s2,
      .forIn headParts.x3 it3 [.recurse (.listCons (.var headParts.x3) (.listCons (.var av) .listNil))]] ++ tail)
    (hav : av ≠ "_task" ∧ av ≠ "min_date" ∧ headParts.x3 ≠ av)
    (hit1 : ∀ σ t ρ, ρ.get? "_task" = some (.atom (.ref t)) →
      (do let (v, st') ← it1.evalP H self ρ (encOf E env ms σ)
          pure ((← iterOf v), st')) = .ok ((d.links t).map Atom.ref, encOf E env ms σ))
    (hit3 : ∀ σ t ρ, ρ.get? "_task" = some (.atom (.ref t)) →
      (do let (v, st') ← it3.evalP H self ρ (encOf E env ms σ)
          pure ((← iterOf v), st')) = .ok ((d.kids t).map Atom.ref, encOf E env ms σ))
    (hs2 : ∀ rec σ t m ρ, ρ.get? "_task" = some (.atom (.ref t)) → ρ.get? "min_date" = some (.atom (.time m)) →
      s2.execP H self rec ρ (encOf E env ms σ) =
        .normal (ρ.set av (.atom (.time (d.agg σ (d.links t) m)))) (encOf E env ms σ))
    {V : Uid → Prop} (hV : Reach env ms d.links V)
    (htail : ∀ rec σ t m v ρ, (env.info t).milestone = (ms t && (env.info t).children.isEmpty) → Tbl res0 σ →
      ρ.get? "_task" = some (.atom (.ref t)) →
      ρ.get? "min_date" = some (.atom (.time m)) → ρ.get? av = some (.atom (.time v)) →
      BlockOK H self rec tail ρ (encOf E env ms) σ (d.place σ t m v) (fun _ => True)) :
    ∀ (fuel fuel' : Nat), fuel ≤ fuel' → ∀ (stk : List Uid) (σ : SS) (t : Uid) (m : Time), V t → Tbl res0 σ →
      SimR (d.pass fuel stk σ t m)
        (callP H self ["_task", "min_date"] src fuel' [.ref t, .time m] (encOf E env ms σ))
        (fun σ' v st => v = .atom .none ∧ st = encOf E env ms σ' ∧ Tbl res0 σ') := by
  intro fuel
  induction fuel with
  | zero => intro fuel' _ stk σ t m _ _ hne; exact absurd rfl hne
  | succ fuel ih =>
    intro fuel' hle stk σ t m hVt hI
    obtain ⟨f', rfl⟩ : ∃ f', fuel' = f' + 1 := ⟨fuel' - 1, by omega⟩
    have hrec : ∀ σ u v, V u → Tbl res0 σ → SimR (d.pass fuel (t :: stk) σ u v)
        (callP H self ["_task", "min_date"] src f' [.ref u, .time v] (encOf E env ms σ))
        (fun σ' _ st => st = encOf E env ms σ' ∧ Tbl res0 σ') :=
      fun σ u v hu hi => (ih f' (by omega) (t :: stk) σ u v hu hi).mono fun _ _ _ h => h.2
    -- the table invariant of the whole call comes from the model's run
    refine (SimR.and_ok (Q := fun σ' v st => v = .atom .none ∧ st = encOf E env ms σ') ?_).mono
      fun σ' _ _ ⟨hr, hv, hst⟩ => ⟨hv, hst, d.pass_tbl hd res0 _ stk σ σ' t m hI hr⟩
    unfold Sched.pass at hrec ⊢
    rw [gPass_succ, callP_bound (ρ := [("_task", .atom (.ref t)), ("min_date", .atom (.time m))]) rfl]
    generalize callP H self ["_task", "min_date"] src f' = rec at hrec ⊢
    -- the literal parameter list is forgotten; only what it binds is kept (both loops and `s2` assign to other locals)
    obtain ⟨ρ0, hρ0, hρ⟩ : ∃ ρ0, Env.le [("_task", .atom (.ref t)), ("min_date", .atom (.time m))] ρ0 ∧
        ρ0 = [("_task", Val.atom (.ref t)), ("min_date", Val.atom (.time m))] := ⟨_, Env.le.refl _, rfl⟩
    rw [← hρ]
    clear hρ
    rw [hsrc]
    simp only [List.cons_append, List.nil_append]
    rw [execBlockP_cons, s0_ok _ _ _ _ _ _ (hρ0.get "_task")]
    by_cases hdn : σ.done.contains t
    · simp only [hdn, if_true]; exact ⟨_, _, rfl, rfl, rfl⟩
    by_cases hs : stk.contains t
    · simp only [hdn, hs, if_true]; exact fun hne => absurd rfl hne
    simp only [hdn, hs, Bool.false_eq_true, if_false]
    refine Sim.retNone (Q := fun σ' st => st = encOf E env ms σ') ?_
    simp only [passList_eq_foldlM]
    refine Sim.cons (Q := PassQ (encOf E env ms) (Tbl res0) [("_task", .atom (.ref t)), ("min_date", .atom (.time m))])
      (Sim.forIn_iter (hit1 σ t ρ0 (hρ0.get "_task")) (fun σ u ρ _ hu ⟨hst, hi, hρ⟩ => by
        subst hst
        exact body1_sim hE H self (Tbl res0) rec σ t ρ m hρ u _ (hrec σ u m (hV.links t hVt u hu) hi) hi) ⟨rfl, hI, hρ0⟩)
      fun σ1 ρ1 _ ⟨hst, hI1, hρ1⟩ => ?_
    subst hst
    refine Sim.step (hs2 rec σ1 t m ρ1 (hρ1.get "_task") (hρ1.get "min_date")) ?_
    generalize d.agg σ1 (d.links t) m = v
    have hρ2 := hρ1.set_ne av (.atom (.time v)) (by simp [Env.get?, hav.1.symm, hav.2.1.symm])
    refine Sim.cons (Q := fun σ ρ st =>
        PassQ (encOf E env ms) (Tbl res0) [("_task", .atom (.ref t)), ("min_date", .atom (.time m))] σ ρ st ∧
        ρ.get? av = some (.atom (.time v)))
      (Sim.forIn_iter (hit3 σ1 t _ (hρ2.get "_task")) (fun σ u ρ _ hu ⟨⟨hst, hi, hρ⟩, hv⟩ => by
        subst hst
        refine (recurse_sim H self rec headParts.x3 av _ (.ref u) (.time v) (by rw [Env.get?_set, if_pos rfl])
          (by rw [Env.get?_set, if_neg hav.2.2]; exact hv) _ (hrec σ u v (hV.kids t hVt u ((hd.kids t u).1 hu)) hi)).mono ?_
        rintro σ' _ _ ⟨rfl, _, rfl, hi'⟩
        exact ⟨⟨rfl, hi', hρ.set_ne headParts.x3 _⟩, by rw [Env.get?_set, if_neg hav.2.2]; exact hv⟩)
        ⟨⟨rfl, hI1, hρ2⟩, by rw [Env.get?_set, if_pos rfl]⟩)
      fun σ2 ρ2 _ ⟨⟨hst, hI2, hρ2⟩, hv2⟩ => ?_
    subst hst
    exact (htail rec σ2 t m v ρ2 (hV.ms t hVt) hI2 (hρ2.get "_task") (hρ2.get "min_date") hv2).mono (fun _ _ _ h => h.1)
end dir

section
variable {E : TaskInfo → Bool → Fields → PyLite.Env} (hE : PassEnc E) (env : Pj.Env) (ms : Uid → Bool) (wfuel : Nat)
  (calR : Nat → Cal) (rec : List Atom → PState → Res (Val × PState)) (σ : SS) (t : Uid) (m : Time) (ρ : PyLite.Env)
include hE

theorem it1_ok (h : ρ.get? "_task" = some (.atom (.ref t))) :
    (do let (v, st') ← headParts.it1.evalP (passH env wfuel calR) (passSelf env) ρ (encOf E env ms σ)
        pure ((← iterOf v), st')) = .ok ((env.info t).preds.map Atom.ref, encOf E env ms σ) := by
  simp [pylite_step, headParts, fwdHead, src_Fwd_pass, encOf, hE.preds, h]

theorem it3_ok (h : ρ.get? "_task" = some (.atom (.ref t))) :
    (do let (v, st') ← headParts.it3.evalP (passH env wfuel calR) (passSelf env) ρ (encOf E env ms σ)
        pure ((← iterOf v), st')) = .ok ((env.info t).children.map Atom.ref, encOf E env ms σ) := by
  simp [pylite_step, headParts, fwdHead, src_Fwd_pass, encOf, hE.children, h]

theorem s2_ok (h1 : ρ.get? "_task" = some (.atom (.ref t))) (h2 : ρ.get? "min_date" = some (.atom (.time m))) :
    headParts.s2.execP (passH env wfuel calR) (passSelf env) rec ρ (encOf E env ms σ) =
      .normal (ρ.set "max_predecessor_ends" (.atom (.time (maxEnds σ (env.info t).preds m)))) (encOf E env ms σ) := by
  have hc := evalP_comp_time (passH env wfuel calR) (passSelf env) ρ (heapOf E env ms σ.f) σ.f (encOf E env ms σ)
    rfl "t" "end" (·.end_) (fun _ => hE.end_ _ _ _) (.attr (.var "_task") "predecessors") (env.info t).preds
    (evalP_task_attr _ _ _ _ _ _ t _ h1 (hE.preds _ _ _))
  simp only [encOf] at hc
  have hmx := foldList_append_single pyMax_time maxT_selects ((env.info t).preds.filterMap (fun c => (σ.f c).end_)) m
  simp only [List.map_append, List.map_cons, List.map_nil] at hmx
  simp [pylite_step, ↓hc, headParts, fwdHead, src_Fwd_pass, encOf, h1, h2, hmx, maxEnds]

end
theorem calRef_resRef (res0 : List (Option Nat × Cal)) (k : Option Nat) : calRef res0 (resRef k) = calOf res0 k := by
  simp [calRef, keyOfRef_resRef]

section
variable {E : TaskInfo → Bool → Fields → PyLite.Env} (hE : PassEnc E) (env : Pj.Env) (ms : Uid → Bool) (wfuel : Nat)

include hE in
theorem callP_fwdPass {V : Uid → Prop} (hV : Reach env ms (fun u => (env.info u).preds) V)
    (hw : Extracted.fwdShiftMaxSteps < wfuel) (res0 : List (Option Nat × Cal)) (fuel fuel' : Nat) (hle : fuel ≤ fuel')
    (stk : List Uid) (σ : SS) (t : Uid) (m : Time) (ht : V t) (hi : Tbl res0 σ) :
    SimR (fwdPass env fuel stk σ t m)
      (callP (passH env wfuel (calRef res0)) (passSelf env) src_Fwd_pass_params src_Fwd_pass fuel'
        [.ref t, .time m] (encOf E env ms σ))
      (fun σ' v st => v = .atom .none ∧ st = encOf E env ms σ' ∧ Tbl res0 σ') := by
  rw [fwdPass_eq_gPass]
  exact callP_pass (ms := ms) hE _ _ (Sched.fwd env) (Sched.fwd_ok env) res0 src_Fwd_pass_shape (by decide)
    (it1_ok hE env ms wfuel _) (it3_ok hE env ms wfuel _) (fun rec σ t m ρ => s2_ok hE env ms wfuel _ rec σ t m ρ) hV
    (fun rec σ t m v ρ hv hi h1 h0 h2 =>
      fwdTail_eq hE env ms wfuel (calRef res0) rec σ t m v ρ hv hw (by rw [calRef_resRef, resLookup_snd, hi]) h1 h0 h2)
    fuel fuel' hle stk σ t m ht hi

/-- STAGE 3.  Interpreting the translated `__forward_pass` on the encoding of a model state computes the encoding of
    the model's `fwdPass`, PROVIDED the model's run does not end in RecursionError (`.crash .recursion`: the fuel
    of the model runs out, or the model meets a task that is in progress - `stk.contains t`, a check Python does
    not have: there the recursion goes on until the recursion limit, which the fuel of the interpreter plays).
    The interpreter may have more fuel than the model.  `stk` is arbitrary.  The run may have started from another
    resource table `res0` with `calOf σ.res = calOf res0`: the table only grows by default resources. -/
theorem interpFwdPass_eq' (hms : ∀ u, (env.info u).milestone = (ms u && (env.info u).children.isEmpty))
    (hw : Extracted.fwdShiftMaxSteps < wfuel) (res0 : List (Option Nat × Cal)) (fuel fuel' : Nat) (hle : fuel ≤ fuel')
    (stk : List Uid) (σ : SS) (t : Uid) (minDate : Time) (hres : ∀ k, calOf σ.res k = calOf res0 k)
    (hne : fwdPass env fuel stk σ t minDate ≠ .error (.crash .recursion)) :
    interpFwdPass env wfuel (calRef res0) fuel' (encS env ms σ) t minDate =
      (fwdPass env fuel stk σ t minDate).map (encS env ms) := by
  unfold interpFwdPass
  rw [show encS env ms = encOf encTask env ms from rfl, SimR.eq_none_map
    ((callP_fwdPass passEnc_fwd env ms wfuel (Reach.all hms) hw res0 fuel fuel' hle stk σ t minDate trivial hres).mono
      fun _ _ _ h => ⟨h.1, h.2.1⟩) hne]
  cases fwdPass env fuel stk σ t minDate <;> rfl

/-- at the start of a run: `res0 = σ.res` -/
theorem interpFwdPass_eq (hms : ∀ u, (env.info u).milestone = (ms u && (env.info u).children.isEmpty))
    (hw : Extracted.fwdShiftMaxSteps < wfuel) (fuel fuel' : Nat) (hle : fuel ≤ fuel') (stk : List Uid) (σ : SS)
    (t : Uid) (minDate : Time) (hne : fwdPass env fuel stk σ t minDate ≠ .error (.crash .recursion)) :
    interpFwdPass env wfuel (calRef σ.res) fuel' (encS env ms σ) t minDate =
      (fwdPass env fuel stk σ t minDate).map (encS env ms) :=
  interpFwdPass_eq' env ms wfuel hms hw σ.res fuel fuel' hle stk σ t minDate (fun _ => rfl) hne

theorem interpFwdPass_ok (hms : ∀ u, (env.info u).milestone = (ms u && (env.info u).children.isEmpty))
    (hw : Extracted.fwdShiftMaxSteps < wfuel) (fuel : Nat) (σ σ' : SS) (t : Uid) (minDate : Time)
    (h : fwdPass env fuel [] σ t minDate = .ok σ') :
    interpFwdPass env wfuel (calRef σ.res) fuel (encS env ms σ) t minDate = .ok (encS env ms σ') := by
  rw [interpFwdPass_eq env ms wfuel hms hw fuel fuel (Nat.le_refl _) [] σ t minDate (by rw [h]; exact fun h => by cases h), h]
  rfl

end

/-! ### reading a Python state back: what the concrete runs observe -/

def decTime : Option Val → Option Time
  | some (.atom (.time t)) => some t
  | _ => none

def decNum : Option Val → Option Rat
  | some (.atom (.num q)) => some q
  | _ => none

def decFields (o : PyLite.Env) : Fields :=
  { start := decTime (o.get? "start"), end_ := decTime (o.get? "end"), est := decNum (o.get? "estimate"),
    spent := decNum (o.get? "spent") }

def decRow (x : LRow) : Row := { res := keyOfRef x.res, day := dayOf x.date, task := x.task, units := x.units }

def decS (calR : Nat → Cal) (st : PState) : SS :=
  { f := fun u => decFields (st.heap u)
    rows := st.L.map decRow
    done := st.done
    res := st.res.map (fun p => (keyOfRef p.2, calR p.2))
    reads := st.reads }

deriving instance DecidableEq for Fields
deriving instance DecidableEq for Row
deriving instance DecidableEq for Cal

deriving instance DecidableEq for Except

/-- what can be observed of a state: the fields of the tasks `0 … n-1`, the ledger, `calculated`, the resource
    table and the number of clock reads -/
structure View where
  fields : List Fields
  rows : List Row
  done : List Uid
  res : List (Option Nat × Cal)
  reads : Nat
  deriving DecidableEq, Repr

def view (n : Nat) (σ : SS) : View :=
  { fields := (List.range n).map σ.f, rows := σ.rows, done := σ.done, res := σ.res, reads := σ.reads }

/-- reading back an encoded state (`calR` must know the calendars of the table) -/
theorem decS_encOf {E : TaskInfo → Bool → Fields → PyLite.Env} (hE : PassEnc E) (env : Pj.Env) (ms : Uid → Bool)
    (calR : Nat → Cal) (σ : SS) (hc : ∀ p ∈ σ.res, calR (resRef p.1) = p.2) : decS calR (encOf E env ms σ) = σ := by
  have hf : (fun u => decFields ((encOf E env ms σ).heap u)) = σ.f := by
    funext u
    have e1 : decTime (some (optTime (σ.f u).start)) = (σ.f u).start := by cases (σ.f u).start <;> rfl
    have e2 : decTime (some (optTime (σ.f u).end_)) = (σ.f u).end_ := by cases (σ.f u).end_ <;> rfl
    have e3 : decNum (some (optNum (σ.f u).est)) = (σ.f u).est := by cases (σ.f u).est <;> rfl
    have e4 : decNum (some (optNum (σ.f u).spent)) = (σ.f u).spent := by cases (σ.f u).spent <;> rfl
    simp only [decFields, encOf, PassSrcBwd.heapOf_apply, hE.start, hE.end_, hE.estimate, hE.spent, e1, e2, e3, e4]
  have hr : (encOf E env ms σ).L.map decRow = σ.rows := by
    simp only [encOf, List.map_map]
    conv => rhs; rw [← List.map_id σ.rows]
    congr 1
    funext x
    simp [decRow, encRow, keyOfRef_resRef, dayOf_intCast]
  have hres : (encOf E env ms σ).res.map (fun p => (keyOfRef p.2, calR p.2)) = σ.res := by
    simp only [encOf, List.map_map]
    conv => rhs; rw [← List.map_id σ.res]
    apply List.map_congr_left
    intro p hp
    simp [keyOfRef_resRef, hc p hp]
  cases σ
  simp only [decS] at hf hr hres ⊢
  simp only [hf, hr, hres]
  rfl


/-- what is evaluated on the model's run from the resource table `res0`, given by its final table or its error: the
    run does not end in RecursionError (the proviso of the theorems), and the calendars of the final table are those
    `calRef res0` gives, so that `decS` reads the table back (`decS_encOf`) -/
def RunOK (res0 : List (Option Nat × Cal)) (r : Res (List (Option Nat × Cal))) : Prop :=
  match r with
  | .ok res => ∀ p ∈ res, calOf res0 p.1 = p.2
  | .error e => e ≠ .crash .recursion

instance (res0 r) : Decidable (RunOK res0 r) := by unfold RunOK; split <;> infer_instance

theorem RunOK.ne {α : Type} {res0 : List (Option Nat × Cal)} {r : Res α} {g : α → List (Option Nat × Cal)}
    (h : RunOK res0 (r.map g)) : r ≠ .error (.crash .recursion) := by
  intro hr; rw [hr] at h; exact h rfl

/-- a run of the translated source that is the encoded run `r` of the model (the pass theorems, encoding `E`), read
    back by `decS`, shows what `r` shows -/
theorem view_of_run {res0 : List (Option Nat × Cal)} {E : SS → PState}
    (hdec : ∀ σ, (∀ p ∈ σ.res, calRef res0 (resRef p.1) = p.2) → decS (calRef res0) (E σ) = σ)
    {r : Res SS} {run : Res PState} (hrun : RunOK res0 (r.map (·.res))) (n : Nat)
    (h : r ≠ .error (.crash .recursion) → run = r.map E) :
    run.map (fun st => view n (decS (calRef res0) st)) = r.map (view n) := by
  rw [h hrun.ne]
  cases r with
  | error e => rfl
  | ok σ =>
    show Except.ok (view n (decS (calRef res0) (E σ))) = _
    rw [hdec σ (fun p hp => by rw [calRef_resRef]; exact hrun p hp)]
    rfl

/-! ### stage 1: concrete runs

  `agree env ms n fuel σ t minDate`: interpreting the translated method on the encoding of `σ` and reading the
  result back (`decS`) gives what the model's `fwdPass env fuel [] σ t minDate` gives, observed on the tasks
  `0 … n-1`, the ledger, `calculated`, the resource table and the clock counter (`view`); errors must coincide. -/
namespace Check

def ti (children preds : List Uid) (member : Bool := true) (resource : Option Nat := some 0) (milestone : Bool := false)
    (minStart : Option Time := none) : TaskInfo :=
  { tid := 0, parent := none, children := children, preds := preds, succs := [], member := member,
    resource := resource, milestone := milestone, minStart := minStart }
def nof : Fields := { start := none, end_ := none, est := none, spent := none }
def wf : Nat := Extracted.fwdShiftMaxSteps + 1
/-- every `datetime.now()` is a little later than the one before -/
def clk : Nat → Time := fun k => 19000 + (k : Rat) / 24

def agree (env : Pj.Env) (ms : Uid → Bool) (n fuel : Nat) (σ : SS) (t : Uid) (m : Time) : Prop :=
  (interpFwdPass env wf (calRef σ.res) fuel (encS env ms σ) t m).map (fun st => view n (decS (calRef σ.res) st))
    = (fwdPass env fuel [] σ t m).map (view n)
instance (env ms n fuel σ t m) : Decidable (agree env ms n fuel σ t m) := by unfold agree; infer_instance

/-- `agree` is `interpFwdPass_eq` read back by `decS` -/
theorem agree_of_model {env : Pj.Env} {ms : Uid → Bool} {n fuel : Nat} {σ : SS} {t : Uid} {m : Time}
    (hms : ∀ u, (env.info u).milestone = (ms u && (env.info u).children.isEmpty))
    (hrun : RunOK σ.res ((fwdPass env fuel [] σ t m).map (·.res))) : agree env ms n fuel σ t m :=
  view_of_run (decS_encOf passEnc_fwd env ms _) hrun n
    (interpFwdPass_eq env ms wf hms (Nat.lt_succ_self _) fuel fuel (Nat.le_refl _) [] σ t m)

/-- a leaf with an estimate -/
def e1 : Pj.Env :=
  { n := 1, info := fun _ => ti [] [], roots := [0], balance := true, defaultEst := 4, clock := clk, bound := 19000 }
def s1 : SS :=
  { f := fun u => if u = 0 then { nof with est := some 20 } else nof, rows := [], done := [], res := [], reads := 1 }
example : agree e1 (fun _ => false) 2 3 s1 0 19000 := agree_of_model (fun _ => rfl) (by decide +kernel)

/-- a summary with two leaves on the same (supplied) resource; the second leaf has work spent; a row of another
    task is already in the ledger -/
def e2 : Pj.Env :=
  { n := 3, info := fun u => match u with
      | 0 => ti [1, 2] [] (resource := none)
      | _ => ti [] [] (resource := some 3),
    roots := [0], balance := true, defaultEst := 6, clock := clk, bound := 19000 }
def s2 : SS :=
  { f := fun u => if u = 2 then { nof with est := some 12, spent := some 2 } else nof,
    rows := [{ res := some 3, day := 19002, task := 7, units := 3 }], done := [],
    res := [(some 3, .weekly none none [6, 6, 6, 6, 6, 6, 6])], reads := 1 }
example : agree e2 (fun _ => false) 4 3 s2 0 19000 :=
  agree_of_model (fun u => by simp only [e2]; split <;> rfl) (by decide +kernel)
example : agree { e2 with balance := false } (fun _ => false) 4 3 s2 0 19000 :=
  agree_of_model (fun u => by simp only [e2]; split <;> rfl) (by decide +kernel)

/-- a predecessor chain 0 <- 1 <- 2 where 2 is outside the WBS (it keeps its dates) and has itself an unscheduled
    predecessor 3 -/
def e3 : Pj.Env :=
  { n := 4, info := fun u => match u with
      | 0 => ti [] [1]
      | 1 => ti [] [2] (resource := some 1)
      | 2 => ti [] [3] (member := false)
      | _ => ti [] [] (member := false),
    roots := [0, 1], balance := true, defaultEst := 5, clock := clk, bound := 19000 }
def s3 : SS :=
  { f := fun u => if u = 2 then { nof with start := some 19001, end_ := some ((38015 : Rat) / 2) } else nof,
    rows := [], done := [], res := [], reads := 1 }
example : agree e3 (fun _ => false) 5 5 s3 0 19000 :=
  agree_of_model (fun u => by simp only [e3]; split <;> rfl) (by decide +kernel)
/-- not enough fuel: RecursionError on both sides -/
example : agree e3 (fun _ => false) 5 1 s3 0 19000 := by decide +kernel

/-- a milestone leaf (1) after a leaf (0); the flagged SUMMARY (2, children 0 and 1) is not a milestone -/
def e4 : Pj.Env :=
  { n := 3, info := fun u => match u with
      | 0 => ti [] []
      | 1 => ti [] [0] (milestone := true)
      | _ => ti [0, 1] [],
    roots := [2], balance := true, defaultEst := 3, clock := clk, bound := 19000 }
def ms4 : Uid → Bool := fun u => u = 1 || u = 2
def s4 : SS := { f := fun _ => nof, rows := [], done := [], res := [], reads := 1 }
example : agree e4 ms4 4 5 s4 2 19000 :=
  agree_of_model (fun u => by simp only [e4, ms4]; split <;> simp_all [ti]) (by decide +kernel)

/-- `min_start` (0), a user-fixed start (1), a user-fixed start and end on the resource `None` (2) -/
def e5 : Pj.Env :=
  { n := 4, info := fun u => match u with
      | 0 => ti [] [] (minStart := some 19010)
      | 1 => ti [] []
      | 2 => ti [] [] (resource := none)
      | _ => ti [] [],
    roots := [0, 1, 2], balance := true, defaultEst := 3, clock := clk, bound := 19000 }
def s5 : SS :=
  { f := fun u => if u = 1 then { nof with start := some 18990, est := some 10 }
                  else if u = 2 then { nof with start := some 18990, end_ := some 18995 } else nof,
    rows := [], done := [], res := [], reads := 1 }
example : agree e5 (fun _ => false) 4 5 s5 0 19000 :=
  agree_of_model (fun u => by simp only [e5]; split <;> rfl) (by decide +kernel)
example : agree e5 (fun _ => false) 4 5 s5 1 19000 :=
  agree_of_model (fun u => by simp only [e5]; split <;> rfl) (by decide +kernel)
example : agree e5 (fun _ => false) 4 5 s5 2 19000 :=
  agree_of_model (fun u => by simp only [e5]; split <;> rfl) (by decide +kernel)

/-- errors coincide: the child 1 counts as calculated but has no estimate (TypeError in `sum`); a summary whose
    only child has no end (ValueError in `max`) -/
def e6 : Pj.Env :=
  { n := 2, info := fun u => match u with
      | 0 => ti [1] []
      | _ => ti [] [],
    roots := [0], balance := true, defaultEst := 3, clock := clk, bound := 19000 }
def s6 : SS := { f := fun _ => nof, rows := [], done := [1], res := [], reads := 1 }
def s6' : SS :=
  { f := fun u => if u = 1 then { nof with est := some 1, spent := some 0 } else nof, rows := [], done := [1], res := [],
    reads := 1 }
example : (fwdPass e6 3 [] s6 0 19000).map (view 2) = .error (.crash .type) := by decide +kernel
example : agree e6 (fun _ => false) 3 3 s6 0 19000 :=
  agree_of_model (fun u => by simp only [e6]; split <;> rfl) (by decide +kernel)
example : (fwdPass e6 3 [] s6' 0 19000).map (view 2) = .error (.crash .value) := by decide +kernel
example : agree e6 (fun _ => false) 3 3 s6' 0 19000 :=
  agree_of_model (fun u => by simp only [e6]; split <;> rfl) (by decide +kernel)

end Check


/-
  NEGATIVE SANITY CHECK (not compiled: the text of
  `__forward_pass` in a scratch copy of the snapshot schedule.py is edited, the translator is run on the mutated
  text, its output written to Extracted/PassSrc.lean, then `lake build PjVerif.Lemmas.PassSrc`; afterwards the file
  was regenerated from the real source and the build succeeded again).  `Check eN` = on the environment `eN` the
  mutated method and the model differ (`agree` evaluated on both sides with `decide +kernel`; in this file these runs
  are instances of `interpFwdPass_eq`, so on the mutant the lemma named fails first).  Every semantic mutation is a
  Miss of the translator or breaks a lemma:

    `+ [min_date]` dropped                                              s2_ok FAILS; Check e1 e2 e4 e5 e6
    `max([...] + [min_date])` -> `min(...)`                             s2_ok FAILS; Check e3 e4
    children get `min_date` instead of `max_predecessor_ends`           src_Fwd_pass_shape FAILS
    `and is_leaf` dropped                                               msCond_ok FAILS; Check e4
    milestone: `_task.spent = 0` omitted                                msThen_ok FAILS; Check e4
    milestone: `_task.start = _task.end = …` -> `_task.start = …`       msThen_ok FAILS; Check e4
    `datetime.now()` dropped from the start                             iStart_ok FAILS; Check e1 e2 e3 e4 e5
    `if pred.wbs is _task.wbs` -> `if True`                             body1_sim FAILS; Check e3
    `if id(_task) in calculated: return` removed                        src_Fwd_pass_shape, fwdTail_shape, … FAIL; Check e4 e6
    `calculated.append(id(_task))` -> `pass`                            fin_ok FAILS; Check e1 e2 e3 e4 e5
    `_task.min_start or datetime(1970, 1, 1)` -> `datetime(1970, 1, 2)` iStart_ok FAILS
    `left_hours = max(est - spent, 0)` -> `est - spent`                 iEnd_ok FAILS
    `start = max(_task.start, datetime.now())` -> `_task.start`         iEnd_ok FAILS; Check e1 e2 e3 e4 e5
    `_task.start` dropped from the final `max(shift, now, start)`       iEnd_ok FAILS
    (the end clamp `_task.end = max(end, now, _task.start) if now > self.__start else max(end, _task.start)`, which
     the translator renders with `assign "end"`, `assign "now"`, `ite`, `cmp gt`, `field "start"`):
    `now > self.__start` -> `now >= self.__start`                       iEnd_ok FAILS
    the unconditional `max(end, now, _task.start)`                      iEnd_ok FAILS
    the two branches of the conditional swapped                         iEnd_ok FAILS
    `self.__start` -> `min_date` in the test                            iEnd_ok FAILS
    `self.__start` read in `__backward_pass`                            MISS (field of the scheduler)
    shift called with `_task.start` instead of `start`                  iEnd_ok FAILS; Check e5
    last block guarded by `_task.start is None`                         iEnd_ok FAILS; Check e1 e2 e3 e4 e5 e6
    nearest called with `max_predecessor_ends` instead of `_task.start` iStart_ok FAILS; Check e5
    `min(children_starts)` -> `max(children_starts)`                    iStart_ok FAILS; Check e2 e4
    `_task.estimate = self.__default_estimate` -> `= 0`                 iEst_ok FAILS; Check e2 e3 e4 e5
    summary `spent` = sum of the children's ESTIMATES                   iSpent_ok FAILS; Check e2 e4
    `if t.end is not None` dropped (predecessor ends)                   s2_ok FAILS
    `is_leaf = len(children) == 0` -> `>= 0`                            g0_ok FAILS; Check e2 e4 e6
    children loop moved before the predecessor loop                     src_Fwd_pass_shape, s0_ok, … FAIL; Check e3
    `pred.wbs is _task.wbs` -> `==`                                     body1_sim FAILS
    `setdefault(k, Resource(k))` -> `self.__resources[k]`               MISS
    `setdefault(k, Resource(None))`                                     MISS
    aliasing `c = calculated; c.append(id(_task))`                      MISS
    the recursion passes `[]` instead of `calculated`                   MISS
    `id(_task) in calculated` -> `_task in calculated`                  MISS

  Harmless rewrites that still build: comments, a docstring, blank lines, `return None`, `sum([...], 0)` (same term);
  `estimate = 0` / `spent = 0` swapped in the milestone branch; `_task.start = x; _task.end = x` instead of the
  chained assignment; `max(max(a, now), c)` instead of `max(a, now, c)`; `if is_leaf and _task.milestone`;
  `if not (_task.start is not None)`; `_task.wbs is pred.wbs`; `0 == len(_task.children)` (same term: the translator
  orders the operands of `==`); renaming the local `task_min_start`; renaming the loop variable `pred`.  Harmless
  rewrites that break a proof or are a Miss (the proofs fix the names of the comprehension variables and do not know
  that `max` is symmetric): `len(children_starts) < 1` (iStart_ok), `max([min_date] + [...])` (s2_ok), the comprehension variable `t` renamed
  (s2_ok), `max(0, est - spent)` (iEnd_ok), `if not (id(_task) not in calculated)` (Miss).
-/

end Pj.PassSrc

/-
  Lemmas/FacadeSrcCheck.lean — the translated tie for the list facades of task.py on concrete graphs: runs of the
  translated source (Extracted/FacadeSrc.lean, run in the extended program `facadeFuns`) against the graph model
  (Model/GraphOps.lean).  A run on a well-formed graph is an instance of the general theorems
  (Lemmas/FacadeSrcRuns.lean), its proviso evaluated on the model (for `sort`: on the library); the runs on the cyclic `g3`
  and outside the encoding are evaluated.  The graphs `g1`, `g2`, `g3` and the comparison (`view`, `observe`) are those of
  Lemmas/TaskSrcCheck.lean; see Lemmas/FacadeSrc.lean for the setting.  This file: `_ChildrenList.remove / append`.
  FacadeSrcCheckI.lean: `insert`.  FacadeSrcCheckA.lean: the link facades.  FacadeSrcCheckA2.lean: the operators.
  FacadeSrcCheckB.lean: `move`, `reorder`.  FacadeSrcCheckC.lean: `sort`.  FacadeSrcCheckD.lean: the list-level
  operators.  FacadeSrcCheckR.lean: the sweeps of `remove / append`, the link facades and `move` over `g1`, `g2`, `g6`, `g7`.
-/
import PjVerif.Lemmas.FacadeSrc
import PjVerif.Lemmas.TaskSrcCheck
namespace Pj.FacadeSrc
open Pj.PyLite Pj.Extracted Pj.Extracted.Facade Pj.TaskSrc Pj.TaskSrc.Check
namespace Check

/-- what the run of a facade method is compared with: the returned value and the encoding of the model's new state, or
    the model's error -/
def expectR (n : Nat) (v : Val) (r : G × Option Err) : Res (Val × List PyLite.Env) :=
  match r with
  | (s', none) => .ok (v, view n (encHeap s'))
  | (_, some e) => .error e

def FF : Nat := 26

/-- run an entry point on the canonical encoding of `s` -/
def runE (s : G) (f : PState → Res (Val × PState)) : Res (Val × List PyLite.Env) := observe s.n (f (encSt s))

def noneV : Val := .atom .none

/-- `None` and every task -/
def anchorsOpt (s : G) : List (Option Uid) := none :: (List.range s.n).map some

/-! #### `_ChildrenList.remove(t)` = `chRemove`: returns whether `t` was a child -/

def agreeChRemove (s : G) (h t : Uid) : Prop :=
  runE s (interpChRemove FF h t) = expectR s.n (boolV ((s.children h).contains t)) (chRemove s h t)
instance (s h t) : Decidable (agreeChRemove s h t) := by unfold agreeChRemove; infer_instance

example : allU g3 (fun h => allU g3 (fun t => decide (agreeChRemove g3 h t))) = true := by decide +kernel
example : (chRemove g1 1 2).2 = none ∧ (chRemove g1 1 2).1.owner 2 = none ∧ (chRemove g1 1 2).1.children 1 = [] := by
  decide +kernel                                                              -- the removed task leaves the WBS
example : (chRemove g1 0 1).2 = none ∧ (chRemove g1 0 1).1.children 0 = [3] := by decide +kernel

/-! #### `_ChildrenList.append(t)` = `chAppend`, in the extended program -/

def agreeChAppend (s : G) (h t : Uid) : Prop :=
  runE s (interpF noLib FF fn_ChildrenList_append [refV h, refV t]) = expectR s.n noneV (chAppend s h t)
instance (s h t) : Decidable (agreeChAppend s h t) := by unfold agreeChAppend; infer_instance

example : runE g1 (interpF noLib FF fn_ChildrenList_append [refV 0, noneV]) = .error .runtime ∧
    runE g1 (interpF noLib FF fn_ChildrenList_remove [refV 0, noneV]) = .error .runtime := by decide +kernel

end Check
end Pj.FacadeSrc

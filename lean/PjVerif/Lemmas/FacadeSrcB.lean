/-
  Lemmas/FacadeSrcB.lean — stage 2 of the translated tie for the list facades of task.py (general theorems):
  `_ChildrenList.move` = `chMove` / `moveOne`, `_ChildrenList.reorder` = `chReorder` / `reorderLoop`.
  See Lemmas/FacadeSrc.lean for the setting and Lemmas/FacadeSrcD.lean for the list of results.
-/
import PjVerif.Lemmas.FacadeSrcA
import PjVerif.Lemmas.Res
namespace Pj.FacadeSrc
open Pj.PyLite Pj.Extracted Pj.Extracted.Facade Pj.TaskSrc
set_option linter.unusedSimpArgs false
set_option linter.unusedVariables false

/-- `list.insert(i, x)` for an index inside the list -/
theorem pyInsertA_nat (l : List Atom) (n : Nat) (x : Atom) (hn : n ≤ l.length) :
    pyInsertA l (n : Int) x = l.take n ++ [x] ++ l.drop n := by
  unfold pyInsertA
  have h1 : ¬ ((n : Int) < 0) := by omega
  have h2 : ¬ ((n : Int) > (l.length : Int)) := by omega
  simp only [h1, h2, if_false, Int.toNat_natCast]

theorem pyIndexOf_refs (l : List Uid) (x : Uid) :
    pyIndexOf (l.map Atom.ref) (.ref x) = if l.contains x then some (l.idxOf x) else none := by
  induction l with
  | nil => rfl
  | cons a l ih =>
    simp only [List.map_cons, pyIndexOf, pyEq_ref, ih, List.contains_cons, List.idxOf_cons]
    by_cases h : a = x
    · subst h; simp
    · have h' : ¬ x = a := fun e => h e.symm
      have hb : (a == x) = false := by simpa using h
      have hb' : (x == a) = false := by simpa using h'
      simp only [h, decide_false, Bool.false_eq_true, if_false, hb', hb, Bool.false_or, cond_false]
      cases l.contains x <;> simp

theorem any_ref_pyEq_none (l : List Uid) : (l.map Atom.ref).any (fun v => v.pyEq Atom.none) = false := by
  induction l with
  | nil => rfl
  | cons a l ih => simp [pyEq_ref_none, ih]

def sw (s : G) (h : Uid) (l : List Uid) : G := { s with children := upd s.children h l }

theorem sw_children (s : G) (h : Uid) (l : List Uid) : (sw s h l).children h = l := by simp [sw]
theorem sw_sw (s : G) (h : Uid) (l l' : List Uid) : sw (sw s h l) h l' = sw s h l' := by
  simp only [sw, upd_upd]
theorem sw_self (s : G) (h : Uid) : sw s h (s.children h) = s := by
  simp only [sw, upd_self]

theorem heapSet_sw (s : G) (h : Uid) (l l' : List Uid) :
    heapSet (encHeap (sw s h l)) h "children" (refs l') = encHeap (sw s h l') := by
  rw [heapSet_children]
  exact congrArg encHeap (sw_sw s h l l')

/-! ### `Task.__set_children` -/

theorem tf_set_children : facadeFuns fn_Task_set_children = some (src_Task_set_children_params, src_Task_set_children) :=
  rfl

/-- `h.__set_children(l)`: `h.__children = l` -/
theorem set_children_spec (L : Lib) (s : G) (st : PState) (hh : st.heap = encHeap s) (F : Nat) (h : Uid) (l : List Uid) :
    (Hf L (F + 1)).fnV fn_Task_set_children [.atom (.ref h), refs l] st =
      .ok (.atom .none, withG st (sw s h l)) := by
  rw [fnVf_succ _ _ _ _ _ tf_set_children]
  unfold sw
  have hset := heapSet_children s h l
  simp [pylite_step, src_Task_set_children_params, src_Task_set_children, hh, hset, mk_withG]

/-! ### `self._list` of the facade of the owner `h`, rewritten in place: `sw s h l` -/

section cell
variable (H : PHandlers) (self : PyLite.Env) (rec : List Atom → PState → Res (Val × PState)) (s : G) {st : PState}
  (hh : st.heap = encHeap s) (h : Uid) {ρ : PyLite.Env} {o : String} (ho : ρ.get? o = some (.atom (.ref h)))
include hh ho

/-- `self._list[:] = e` -/
theorem execP_list_set {e : Expr} {l2 : List Uid} (he : e.evalP H self ρ st = .ok (refs l2, st)) :
    (Stmt.setAttr (.var o) "children" e).execP H self rec ρ st = .normal ρ (withG st (sw s h l2)) := by
  rw [execP_setAttr (he := he) (ho := evalP_var _ _ _ _ _ _ ho)]
  exact congrArg (OutcomeP.normal ρ) (setHeap_eq _ _ _ (by rw [hh]; exact heapSet_children s h l2))

/-- `self._list.remove(x)` for an entry `t` -/
theorem execP_list_remove {x : String} {t : Uid} (hx : ρ.get? x = some (.atom (.ref t))) (ht : t ∈ s.children h) :
    (Stmt.attrRemove (.var o) "children" (.var x)).execP H self rec ρ st =
      .normal ρ (withG st (sw s h ((s.children h).erase t))) := by
  have her : pyErase ((s.children h).map Atom.ref) (.ref t) = some (((s.children h).erase t).map Atom.ref) := by
    rw [pyErase_refs]; simp [ht]
  simp only [Stmt.execP, Expr.evalP, ho, hx, bind, Except.bind, pure, Except.pure, hh, encHeap_apply, encTask_children,
    refs, her]
  exact congrArg (OutcomeP.normal ρ) (setHeap_eq _ _ _ (heapSet_children s h _))

end cell

/-- `self.__setter(self._list)` after the list was updated in place: nothing changes -/
theorem so_last (L : Lib) (s : G) (st : PState) (h : Uid) (F : Nat) (ρ : PyLite.Env)
    (ho : ρ.get? "_facade_parent" = some (.atom (.ref h))) (l2 : List Uid) :
    (Stmt.expr (.callFn fn_Task_set_children (.listCons (.var "_facade_parent")
      (.listCons (.attr (.var "_facade_parent") "children") .listNil)))).execP (Hf L (F + 1)) [] noRec ρ
        (withG st (sw s h l2)) = .normal ρ (withG st (sw s h l2)) := by
  have hset := set_children_spec L (sw s h l2) (withG st (sw s h l2)) rfl F h l2
  rw [sw_sw, withG_withG] at hset
  have hlist := evalP_attr_children (Hf L (F + 1)) [] ρ (sw s h l2) (withG st (sw s h l2)) rfl "_facade_parent" h ho
  rw [sw_children] at hlist
  rw [execP_expr (he := by rw [evalP_callFn2 (ha := evalP_var _ _ _ _ _ _ ho) (hb := hlist)]; exact hset)]

/-! ### `_ChildrenList.move` -/

theorem tf_ch_move : facadeFuns fn_ChildrenList_move = some (src_ChildrenList_move_params, src_ChildrenList_move) := rfl

def mvL1 : Stmt := match src_ChildrenList_move with | _ :: l :: _ => l | _ => .pass
def mvB1 : List Stmt := match mvL1 with | .forIn _ _ b => b | _ => []
def mvChecks : List Stmt := (src_ChildrenList_move.drop 2).take 5
def mvL2 : Stmt := match src_ChildrenList_move.drop 7 with | l :: _ => l | _ => .pass
def mvB2 : List Stmt := match mvL2 with | .forIn _ _ b => b | _ => []
def mvLast : Stmt := match src_ChildrenList_move.drop 8 with | l :: _ => l | _ => .pass

theorem mv_shape : src_ChildrenList_move =
    .assign "tasks" (.callFn fn_to_list (.listCons (.var "tasks") .listNil)) :: mvL1 :: (mvChecks ++ [mvL2, mvLast]) := rfl
theorem mvL1_eq : mvL1 = .forIn "task" (.var "tasks") mvB1 := rfl
theorem mvL2_eq : mvL2 = .forIn "task" (.var "tasks") mvB2 := rfl

/-- the local environment of `move` after `tasks = _to_list(tasks)` -/
structure MvEnv (ρ : PyLite.Env) (h : Uid) (ts : List Uid) (b a : Option Uid) : Prop where
  owner : ρ.get? "_facade_parent" = some (.atom (.ref h))
  tasks : ρ.get? "tasks" = some (refs ts)
  before : ρ.get? "before" = some (.atom (optRef b))
  after : ρ.get? "after" = some (.atom (optRef a))

theorem MvEnv.set {ρ : PyLite.Env} {h : Uid} {ts : List Uid} {b a : Option Uid} (hρ : MvEnv ρ h ts b a) (v : Val) :
    MvEnv (ρ.set "task" v) h ts b a :=
  ⟨by rw [Env.get?_set, if_neg (by decide)]; exact hρ.owner, by rw [Env.get?_set, if_neg (by decide)]; exact hρ.tasks,
   by rw [Env.get?_set, if_neg (by decide)]; exact hρ.before, by rw [Env.get?_set, if_neg (by decide)]; exact hρ.after⟩

/-- `if c: raise RuntimeError(…)` in front of a block -/
theorem execBlockP_check (H : PHandlers) (self : PyLite.Env) (rec : List Atom → PState → Res (Val × PState)) (c : Expr)
    (rest : List Stmt) (ρ : PyLite.Env) (st : PState) (b : Bool) (hc : c.evalP H self ρ st = .ok (.atom (.bool b), st)) :
    execBlockP H self rec (.ifElse c [.raiseRuntime] [] :: rest) ρ st =
      if b then .raise .runtime else execBlockP H self rec rest ρ st := by
  rw [execBlockP_cons, execP_ifElse (hc := hc) (hb := rfl)]
  cases b <;> simp [execBlockP, Stmt.execP]

/-- `x in l` for a variable `x` that holds a task or `None` and a list of tasks -/
theorem evalP_isIn_opt (H : PHandlers) (self ρ : PyLite.Env) (st : PState) (x : String) (e : Expr) (o : Option Uid)
    (l : List Uid) (hx : ρ.get? x = some (.atom (optRef o))) (he : e.evalP H self ρ st = .ok (refs l, st)) :
    (Expr.isIn (.var x) e).evalP H self ρ st =
      .ok (.atom (.bool (match o with | some y => l.contains y | none => false)), st) := by
  cases o with
  | none => simp only [Expr.evalP, hx, he, refs, optRef, any_ref_pyEq_none, bind, Except.bind, pure, Except.pure]
  | some y => simp only [Expr.evalP, hx, he, refs, optRef, any_ref_pyEq, bind, Except.bind, pure, Except.pure]

section move
variable (L : Lib) (s : G) (st : PState) (hh : st.heap = encHeap s) (h : Uid) (ts : List Uid) (b a : Option Uid) (F : Nat)
include hh

/-- the first loop: every task to move is a child -/
theorem mv_l1 (ρ : PyLite.Env) (hρ : MvEnv ρ h ts b a) :
    if ts.any (fun t => !(s.children h).contains t) then mvL1.execP (Hf L F) [] noRec ρ st = .raise .runtime
    else ∃ ρ', MvEnv ρ' h ts b a ∧ mvL1.execP (Hf L F) [] noRec ρ st = .normal ρ' st := by
  rw [mvL1_eq, execP_forIn (hit := evalP_var _ _ _ _ _ _ hρ.tasks)]
  have := forLoopP_findSome "task" (fun ρ st => execBlockP (Hf L F) [] noRec mvB1 ρ st) Atom.ref (MvEnv · h ts b a)
    (fun t => if !(s.children h).contains t then some .runtime else none) (fun _ => False) st ts
    (by
      intro ρ c _ hP
      have hP' := hP.set (.atom (.ref c))
      have hany := any_ref_pyEq (s.children h) c
      cases hc : (s.children h).contains c <;> rw [hc] at hany
      · exact fun _ => by simp [pylite_step, mvB1, mvL1, src_ChildrenList_move, hP'.owner, hh, refs, hany]
      · exact ⟨_, hP', by simp [pylite_step, mvB1, mvL1, src_ChildrenList_move, hP'.owner, hh, refs, hany]⟩)
    ρ hρ
  rw [findSome_if] at this
  split <;> rename_i hc <;> simp only [hc, if_true, if_false, Bool.false_eq_true] at this
  · exact this (fun hf => hf)
  · exact this

/-- what the five `if` statements of `move` reject -/
def mvBad (l ts : List Uid) (b a : Option Uid) : Bool :=
  (match b with | some x => !l.contains x | none => false) ||
  (match a with | some x => !l.contains x | none => false) ||
  (b.isSome && a.isSome) || (b.isNone && a.isNone) ||
  ((match b with | some x => ts.contains x | none => false) || (match a with | some x => ts.contains x | none => false))

theorem mv_checks (ρ : PyLite.Env) (hρ : MvEnv ρ h ts b a) :
    execBlockP (Hf L F) [] noRec mvChecks ρ st =
      if mvBad (s.children h) ts b a then .raise .runtime else .normal ρ st := by
  have hl := evalP_attr_children (Hf L F) [] ρ s st hh "_facade_parent" h hρ.owner
  have ht := evalP_var (Hf L F) [] ρ st "tasks" _ hρ.tasks
  have nb := evalP_isNotNone_var (Hf L F) [] ρ st "before" _ hρ.before
  have na := evalP_isNotNone_var (Hf L F) [] ρ st "after" _ hρ.after
  have ib := evalP_isNone_var (Hf L F) [] ρ st "before" _ hρ.before
  have ia := evalP_isNone_var (Hf L F) [] ρ st "after" _ hρ.after
  show execBlockP _ _ _ [_, _, _, _, _] _ _ = _
  rw [execBlockP_check (hc := evalP_and_bool (ha := nb) (hb := fun _ => evalP_not_bool (ha := evalP_isIn_opt (hx := hρ.before) (he := hl)))),
    execBlockP_check (hc := evalP_and_bool (ha := na) (hb := fun _ => evalP_not_bool (ha := evalP_isIn_opt (hx := hρ.after) (he := hl)))),
    execBlockP_check (hc := evalP_and_bool (ha := nb) (hb := fun _ => na)),
    execBlockP_check (hc := evalP_and_bool (ha := ib) (hb := fun _ => ia)),
    execBlockP_check (hc := evalP_or_bool (ha := evalP_isIn_opt (hx := hρ.before) (he := ht))
      (hb := fun _ => evalP_isIn_opt (hx := hρ.after) (he := ht))), execBlockP_nil]
  -- what is left: the five `bool`s are the disjuncts of `mvBad`
  cases b <;> cases a <;> simp [mvBad, optRef] <;> split <;> simp_all

end move

/-- the anchor of a validated `move`: `before` if given, else `after` -/
def anchorOf (b a : Option Uid) : Option Uid :=
  match b with
  | some x => some x
  | none => a

theorem mem_moveOne (l : List Uid) (t : Uid) (b a : Option Uid) (x : Uid) (ht : t ∈ l) (hx : anchorOf b a = some x)
    (y : Uid) : y ∈ moveOne l t b a ↔ y ∈ l :=
  (moveOne_perm l t b a ht (by cases b <;> cases a <;> simp [anchorOf] at hx ⊢)).mem_iff

section moveLoop
variable (L : Lib) (s : G) (st : PState) (h : Uid) (ts : List Uid) (b a : Option Uid) (F : Nat)

theorem arithP_add_num (x y : Rat) :
    arithP .add (.atom (.num x)) (.atom (.num y)) = .ok (.atom (.num (x + y))) := by
  simp [arithP, arith, arithTime, Atom.asNum?, pure, Except.pure]

theorem evalP_indexOf (H : PHandlers) (self ρ : PyLite.Env) (st st1 st2 : PState) (l e : Expr) (vs : List Atom) (a : Atom)
    (n : Nat) (hl : l.evalP H self ρ st = .ok (.list vs, st1)) (he : e.evalP H self ρ st1 = .ok (.atom a, st2))
    (hi : pyIndexOf vs a = some n) :
    (Expr.indexOf l e).evalP H self ρ st = .ok (.atom (.num ((n : Nat) : Rat)), st2) := by
  simp only [Expr.evalP, hl, he, hi, bind, Except.bind, pure, Except.pure]

theorem evalP_listInsert (H : PHandlers) (self ρ : PyLite.Env) (st st1 st2 st3 : PState) (l i e : Expr) (vs : List Atom)
    (a x : Atom) (j : Int) (hl : l.evalP H self ρ st = .ok (.list vs, st1)) (hi : i.evalP H self ρ st1 = .ok (.atom a, st2))
    (he : e.evalP H self ρ st2 = .ok (.atom x, st3)) (hj : a.asInt? = some j) :
    (Expr.listInsert l i e).evalP H self ρ st = .ok (.list (pyInsertA vs j x), st3) := by
  simp only [Expr.evalP, hl, hi, he, hj, bind, Except.bind, pure, Except.pure]

/-- one iteration of the move loop: `self._list.remove(task)`, then `insert` before / after the anchor -/
theorem mv_body (ρ : PyLite.Env) (hρ : MvEnv ρ h ts b a) (cur : List Uid) (t x : Uid) (ht : t ∈ cur)
    (hx : anchorOf b a = some x) (hxc : x ∈ cur) (hxt : x ≠ t) :
    execBlockP (Hf L F) [] noRec mvB2 (ρ.set "task" (.atom (.ref t))) (withG st (sw s h cur)) =
      .normal (ρ.set "task" (.atom (.ref t))) (withG st (sw s h (moveOne cur t b a))) := by
  have hP := hρ.set (.atom (.ref t))
  have hcv : (Env.set ρ "task" (.atom (.ref t))).get? "task" = some (.atom (.ref t)) := by rw [Env.get?_set, if_pos rfl]
  generalize Env.set ρ "task" (.atom (.ref t)) = ρ' at hP hcv
  have hx1 : x ∈ cur.erase t := (List.mem_erase_of_ne hxt).2 hxc
  unfold moveOne mvB2 mvL2
  simp only [src_ChildrenList_move, List.drop]
  rw [execBlockP_cons, execP_list_remove (Hf L F) [] noRec (sw s h cur) rfl h hP.owner hcv (by rwa [sw_children]),
    sw_children, sw_sw, withG_withG]
  generalize cur.erase t = l1 at hx1
  have hlt : l1.idxOf x < l1.length := List.idxOf_lt_length_of_mem hx1
  have hlist := evalP_attr_children (Hf L F) [] ρ' (sw s h l1) (withG st (sw s h l1)) rfl _ h hP.owner
  rw [sw_children] at hlist
  -- `self._list.insert(i, task)` for `i` = the index of the anchor, or one more
  have hidx : ∀ y, ρ'.get? y = some (.atom (.ref x)) →
      (Expr.indexOf (.attr (.var "_facade_parent") "children") (.var y)).evalP (Hf L F) [] ρ' (withG st (sw s h l1)) =
        .ok (.atom (.num ((l1.idxOf x : Nat) : Rat)), withG st (sw s h l1)) := fun y hy =>
    evalP_indexOf _ _ _ _ _ _ _ _ _ _ _ hlist (evalP_var _ _ _ _ _ _ hy) (by rw [pyIndexOf_refs]; simp [hx1])
  have hins : ∀ (ie : Expr) (n : Nat), n ≤ l1.length →
      ie.evalP (Hf L F) [] ρ' (withG st (sw s h l1)) = .ok (.atom (.num ((n : Nat) : Rat)), withG st (sw s h l1)) →
      (Stmt.setAttr (.var "_facade_parent") "children"
        (.listInsert (.attr (.var "_facade_parent") "children") ie (.var "task"))).execP (Hf L F) [] noRec ρ'
          (withG st (sw s h l1)) = .normal ρ' (withG st (sw s h (l1.take n ++ [t] ++ l1.drop n))) := by
    intro ie n hn hi
    rw [execP_list_set (Hf L F) [] noRec (sw s h l1) rfl h hP.owner (l2 := l1.take n ++ [t] ++ l1.drop n), sw_sw, withG_withG]
    rw [evalP_listInsert (hl := hlist) (hi := hi) (he := evalP_var _ _ _ _ _ _ hcv) (hj := asInt?_nat _),
      pyInsertA_nat _ _ _ (by simpa using hn)]
    simp [refs, List.map_take, List.map_drop]
  dsimp only
  cases b with
  | some b' =>
    obtain rfl : b' = x := by simpa [anchorOf] using hx
    have hb := hP.before
    rw [execBlockP_cons, execP_ifElse (hc := evalP_isNotNone_var _ _ _ _ _ _ hb) (hb := rfl)]
    simp [execBlockP_cons, execBlockP_nil, hins _ _ (Nat.le_of_lt hlt) (hidx _ hb)]
  | none =>
    obtain rfl : a = some x := by simpa [anchorOf] using hx
    have hb := hP.before
    have ha := hP.after
    rw [execBlockP_cons, execP_ifElse (hc := evalP_isNotNone_var _ _ _ _ _ _ hb) (hb := rfl)]
    simp only [optRef_none, decide_true, Bool.not_true, Bool.false_eq_true, if_false]
    rw [execBlockP_cons, execP_ifElse (hc := evalP_isNotNone_var _ _ _ _ _ _ ha) (hb := rfl)]
    simp [execBlockP_cons, execBlockP_nil, hins _ (l1.idxOf x + 1) hlt (by
      rw [evalP_bin (ha := hidx _ ha) (hb := evalP_num _ _ _ _ _) (hr := arithP_add_num _ _), natCast_succ_rat])]

theorem mv_loop (x : Uid) (hx : anchorOf b a = some x) (ts' cur : List Uid) (hmem : ∀ t ∈ ts', t ∈ cur)
    (hxc : x ∈ cur) (hxn : x ∉ ts') (ρ : PyLite.Env) (hρ : MvEnv ρ h ts b a) :
    ∃ ρ', MvEnv ρ' h ts b a ∧
      forLoopP "task" (fun ρ st => execBlockP (Hf L F) [] noRec mvB2 ρ st) (ts'.map Atom.ref) ρ (withG st (sw s h cur)) =
        .normal ρ' (withG st (sw s h (ts'.foldl (fun acc t => moveOne acc t b a) cur))) := by
  -- the anchor and the tasks still to move stay in the list
  obtain ⟨ρ', _, hl, hρ', rfl, -⟩ := forLoopP_foldl "task" (fun ρ st => execBlockP (Hf L F) [] noRec mvB2 ρ st) Atom.ref
    (fun acc ρ st' => MvEnv ρ h ts b a ∧ st' = withG st (sw s h acc) ∧ x ∈ acc ∧ ∀ t ∈ ts', t ∈ acc)
    (fun acc t => moveOne acc t b a) ts'
    (by
      rintro acc t ρ _ ht ⟨hρ, rfl, hxa, hm⟩
      have hta := hm t ht
      exact ⟨_, _, mv_body L s st h ts b a F ρ hρ acc t x hta hx hxa (fun e => hxn (e ▸ ht)), hρ.set _, rfl,
        (mem_moveOne acc t b a x hta hx x).2 hxa, fun t' ht' => (mem_moveOne acc t b a x hta hx t').2 (hm t' ht')⟩)
    cur ρ _ ⟨hρ, rfl, hxc, hmem⟩
  exact ⟨ρ', hρ', hl⟩

end moveLoop

theorem ite_ite_same {α : Type} (a b : Bool) (x y : α) :
    (if a then x else if b then x else y) = if (a || b) then x else y := by
  cases a <;> rfl

theorem chMove_eq (s : G) (h : Uid) (ts : List Uid) (b a : Option Uid) :
    chMove s h ts b a =
      if ts.any (fun t => !(s.children h).contains t) then (s, some .runtime)
      else if mvBad (s.children h) ts b a then (s, some .runtime)
      else (sw s h (ts.foldl (fun acc t => moveOne acc t b a) (s.children h)), none) := by
  unfold chMove mvBad sw
  simp only [ite_ite_same, Bool.or_assoc]
  rfl

theorem mvBad_anchor (l ts : List Uid) (b a : Option Uid) (hb : mvBad l ts b a = false) :
    ∃ x, anchorOf b a = some x ∧ x ∈ l ∧ x ∉ ts := by
  cases b <;> cases a <;> simp [mvBad, anchorOf] at hb ⊢
  · exact hb
  · exact hb

theorem tf_mvLast : mvLast = .expr (.callFn fn_Task_set_children
    (.listCons (.var "_facade_parent") (.listCons (.attr (.var "_facade_parent") "children") .listNil))) := rfl

/-- STAGE 2.  `h.children.move(v, before=b, after=a)` = `chMove`, for EVERY state `s`: no recursion is involved, any
    limit `F ≥ 3` will do -/
theorem ch_move_spec (L : Lib) (s : G) (st : PState) (hh : st.heap = encHeap s) (h : Uid) (v : Val) (ts : List Uid)
    (hv : ValueOf v ts) (b a : Option Uid) (F : Nat) (hF : 3 ≤ F) :
    (Hf L F).fnV fn_ChildrenList_move [.atom (.ref h), v, .atom (optRef b), .atom (optRef a)] st =
      opResult st (.atom .none) (chMove s h ts b a) := by
  obtain ⟨F, rfl, hF⟩ := fuel_split 3 hF
  rw [fnVf_succ _ _ _ _ _ tf_ch_move, callPV_eq]
  simp only [src_ChildrenList_move_params, bindParamsV, pure, Except.pure, bind, Except.bind, mv_shape]
  rw [execBlockP_cons, execP_assign (he := by
    rw [evalP_callFn1 (ha := evalP_var _ _ _ _ _ _ rfl)]; exact to_list_f L hv st (F + 1))]
  dsimp only
  have hρ : MvEnv (Env.set [("_facade_parent", Val.atom (Atom.ref h)), ("tasks", v), ("before", Val.atom (optRef b)),
      ("after", Val.atom (optRef a))] "tasks" (refs ts)) h ts b a :=
    ⟨by simp [Env.get?_set, Env.get?_cons], by simp [Env.get?_set, Env.get?_cons],
     by simp [Env.get?_set, Env.get?_cons], by simp [Env.get?_set, Env.get?_cons]⟩
  generalize Env.set [("_facade_parent", Val.atom (Atom.ref h)), ("tasks", v), ("before", Val.atom (optRef b)),
      ("after", Val.atom (optRef a))] "tasks" (refs ts) = ρ at hρ
  rw [chMove_eq]
  have h1 := mv_l1 L s st hh h ts b a (F + 2) ρ hρ
  rw [execBlockP_cons]
  by_cases c0 : (ts.any fun t => !(s.children h).contains t) = true
  · rw [if_pos c0] at h1 ⊢
    simp only [h1, opResult]
  · rw [if_neg c0] at h1 ⊢
    obtain ⟨ρ1, hρ1, h1⟩ := h1
    simp only [h1]
    rw [execBlockP_append, mv_checks L s st hh h ts b a (F + 2) ρ1 hρ1]
    cases hbad : mvBad (s.children h) ts b a with
    | true => simp only [if_true, opResult]
    | false =>
      simp only [Bool.false_eq_true, if_false]
      obtain ⟨x, hx, hxl, hxt⟩ := mvBad_anchor _ _ _ _ hbad
      obtain ⟨ρ2, hρ2, hl⟩ := mv_loop L s st h ts b a (F + 2) x hx ts (s.children h)
        (mem_of_not_any_not_contains _ _ c0) hxl hxt ρ1 hρ1
      rw [sw_self, withG_self st s hh] at hl
      rw [execBlockP_cons, mvL2_eq, execP_forIn (vs := ts.map Atom.ref) (st' := st)
        (hit := by simp [pylite_step, hρ1.tasks, refs]), hl]
      dsimp only
      rw [execBlockP_cons, tf_mvLast, so_last L s st h (F + 1) ρ2 hρ2.owner]
      simp only [execBlockP_nil, opResult]

/-! ### `_ChildrenList.reorder` -/

theorem tf_ch_reorder : facadeFuns fn_ChildrenList_reorder =
    some (src_ChildrenList_reorder_params, src_ChildrenList_reorder) := rfl

def roLoop : Stmt := match src_ChildrenList_reorder.drop 3 with | l :: _ => l | _ => .pass
def roBody : List Stmt := match roLoop with | .forIn _ _ b => b | _ => []
def roTail : List Stmt := src_ChildrenList_reorder.drop 4
theorem ro_shape : src_ChildrenList_reorder =
    [.ifElse (.isNone (.fnRef fn_Task_set_children)) [.raiseRuntime] [],
     .assign "_all" (.listOf (.attr (.var "_facade_parent") "children")),
     .assign "new_list" .listNil, roLoop] ++ roTail := rfl
theorem roLoop_eq : roLoop = .forIn "_id" (.var "ids") roBody := rfl

/-- the local environment of `reorder` inside its loop -/
structure RoEnv (ρ : PyLite.Env) (h : Uid) (new rest : List Uid) : Prop where
  owner : ρ.get? "_facade_parent" = some (.atom (.ref h))
  all : ρ.get? "_all" = some (refs rest)
  new : ρ.get? "new_list" = some (refs new)

/-- one round of `reorderLoop`; the accumulator is (`new_list`, `_all`) -/
def roStep (s : G) (l : List Uid) (acc : List Uid × List Uid) (i : Int) : Except Err (List Uid × List Uid) :=
  match l.find? (fun t => s.tid t == i) with
  | none => throw (.crash .stopIteration)
  | some ch => if acc.2.contains ch then pure (acc.1 ++ [ch], acc.2.erase ch) else throw (.crash .value)

theorem reorderLoop_eq (s : G) (l : List Uid) : ∀ (ids : List Int) (new rest : List Uid),
    reorderLoop s l ids new rest = ids.foldlM (roStep s l) (new, rest) >>= fun acc => pure (acc.1 ++ acc.2)
  | [], _, _ => rfl
  | i :: ids, new, rest => by
    simp only [reorderLoop, List.foldlM_cons, roStep]
    cases l.find? (fun t => s.tid t == i) with
    | none => rfl
    | some ch =>
      dsimp only
      split
      · exact reorderLoop_eq s l ids _ _
      · rfl

theorem reorderLoop_ne_recursion (s : G) (l : List Uid) : ∀ (ids : List Int) (new rest : List Uid),
    reorderLoop s l ids new rest ≠ .error (.crash .recursion)
  | [], _, _ => nofun
  | i :: ids, new, rest => by
    unfold reorderLoop
    split
    · nofun
    · split
      · exact reorderLoop_ne_recursion s l ids _ _
      · nofun

section reorder
variable (L : Lib) (s : G) (st : PState) (hh : st.heap = encHeap s) (h : Uid) (F : Nat)
include hh

/-- one iteration: the first child with the id, appended to `new_list`, removed from `_all` -/
theorem ro_body (ρ : PyLite.Env) (acc : List Uid × List Uid) (hρ : RoEnv ρ h acc.1 acc.2) (i : Int) :
    Sim (roStep s (s.children h) acc i) (execBlockP (Hf L F) [] noRec roBody (ρ.set "_id" (.atom (idA i))) st)
      fun acc' ρ' st' => RoEnv ρ' h acc'.1 acc'.2 ∧ st' = st := by
  obtain ⟨new, rest⟩ := acc
  have ho : (Env.set ρ "_id" (.atom (idA i))).get? "_facade_parent" = some (.atom (.ref h)) := by
    rw [Env.get?_set, if_neg (by decide)]; exact hρ.owner
  have hall : (Env.set ρ "_id" (.atom (idA i))).get? "_all" = some (refs rest) := by
    rw [Env.get?_set, if_neg (by decide)]; exact hρ.all
  have hnew : (Env.set ρ "_id" (.atom (idA i))).get? "new_list" = some (refs new) := by
    rw [Env.get?_set, if_neg (by decide)]; exact hρ.new
  have hid : (Env.set ρ "_id" (.atom (idA i))).get? "_id" = some (.atom (idA i)) := by rw [Env.get?_set, if_pos rfl]
  generalize Env.set ρ "_id" (.atom (idA i)) = ρ1 at ho hall hnew hid
  have hnext := evalP_nextComp_pure (Hf L F) [] ρ1 st st (.var "t") (.cmp .eq (.attr (.var "t") "id") (.var "_id"))
    (.attr (.var "_facade_parent") "children") "t" ((s.children h).map Atom.ref) (refP (fun t => s.tid t == i)) (fun a => a)
    (evalP_attr_children _ _ _ s st hh _ h ho)
    (by
      intro v hv
      obtain ⟨c, _, rfl⟩ := List.mem_map.1 hv
      simp [pylite_step, hid, hh, pyEq_idA, refP] <;> rfl)
    (by
      intro v _ _
      simp [Expr.evalP, Env.get?_set, pure, Except.pure])
  rw [find?_refP] at hnext
  unfold roBody roLoop roStep
  simp only [src_ChildrenList_reorder, List.drop]
  cases hf : (s.children h).find? (fun t => s.tid t == i) with
  | none =>
    rw [hf, Option.map_none] at hnext
    exact Sim.error (by simp only [execBlockP, Stmt.execP, hnext])
  | some ch =>
    rw [hf] at hnext
    simp only [Option.map_some] at hnext
    have her := pyErase_refs rest ch
    simp only [refs] at hall hnew
    cases hc : rest.contains ch with
    | true =>
      rw [hc, if_pos rfl] at her
      simp only [hc, if_true]
      refine Sim.ok (ρ := Env.set (Env.set (Env.set ρ1 "ch" (.atom (.ref ch))) "new_list" (refs (new ++ [ch]))) "_all"
        (refs (rest.erase ch))) ?_ ⟨⟨?_, ?_, ?_⟩, rfl⟩
      · simp [pylite_step, ↓hnext, hall, hnew, her, refs]
      · simp [Env.get?_set, ho]
      · simp [Env.get?_set]
      · simp [Env.get?_set]
    | false =>
      rw [hc, if_neg (by decide)] at her
      simp only [hc, Bool.false_eq_true, if_false]
      exact Sim.error (by simp [pylite_step, ↓hnext, hall, hnew, her, refs])

end reorder

/-- STAGE 2.  `h.children.reorder(ids)` = `chReorder`, for EVERY state `s`: an unknown id ends in StopIteration, a
    repeated one in ValueError (`_all.remove(ch)`), on both sides; any limit `F ≥ 2` will do -/
theorem ch_reorder_spec (L : Lib) (s : G) (st : PState) (hh : st.heap = encHeap s) (h : Uid) (ids : List Int) (F : Nat)
    (hF : 2 ≤ F) :
    (Hf L F).fnV fn_ChildrenList_reorder [.atom (.ref h), .list (ids.map idA)] st =
      opResult st (.atom .none) (chReorder s h ids) := by
  obtain ⟨F, rfl, hF⟩ := fuel_split 2 hF
  rw [fnVf_succ _ _ _ _ _ tf_ch_reorder, callPV_bound rfl, ro_shape, execBlockP_append]
  -- the statements up to the loop run as `reorderLoop`
  have hl : Sim (reorderLoop s (s.children h) ids [] (s.children h))
      (execBlockP (Hf L (F + 1)) [] noRec
        [.ifElse (.isNone (.fnRef fn_Task_set_children)) [.raiseRuntime] [],
         .assign "_all" (.listOf (.attr (.var "_facade_parent") "children")), .assign "new_list" .listNil, roLoop]
        [("_facade_parent", .atom (.ref h)), ("ids", .list (ids.map idA))] st)
      fun fin ρ' st' => (∃ new rest, RoEnv ρ' h new rest ∧ new ++ rest = fin) ∧ st' = st := by
    rw [reorderLoop_eq, show ∀ a b c d : Stmt, [a, b, c, d] = [a, b, c] ++ [d] from fun _ _ _ _ => rfl, execBlockP_append,
      show execBlockP (Hf L (F + 1)) [] noRec _ _ st = .normal (Env.set (Env.set [("_facade_parent", .atom (.ref h)),
        ("ids", .list (ids.map idA))] "_all" (refs (s.children h))) "new_list" (refs [])) st by simp [pylite_step, hh, refs],
      roLoop_eq]
    refine (Sim.forIn (g := idA) (step := roStep s (s.children h)) (Inv := fun acc ρ st' => RoEnv ρ h acc.1 acc.2 ∧ st' = st)
      (evalP_var _ _ _ _ _ _ (by simp [Env.get?_set, Env.get?_cons])) ?_
      ⟨⟨by simp [Env.get?_set, Env.get?_cons], by simp [Env.get?_set, Env.get?_cons],
        by simp [Env.get?_set, Env.get?_cons]⟩, rfl⟩).one.bind_pure fun acc ρ' st' hq => ⟨⟨_, _, hq.1, rfl⟩, hq.2⟩
    rintro acc i ρ _ _ ⟨hρ, e⟩
    rw [e]
    exact ro_body L s st hh h (F + 1) ρ acc hρ i
  unfold chReorder
  cases hr : reorderLoop s (s.children h) ids [] (s.children h) with
  | error e =>
    rw [hr] at hl
    rw [hl fun e' => reorderLoop_ne_recursion s _ ids _ _ (e' ▸ hr)]
    rfl
  | ok fin =>
    rw [hr] at hl
    obtain ⟨ρ', st', hl, ⟨new', rest', hρ', rfl⟩, e⟩ := hl
    rw [e] at hl
    rw [hl]
    show blockRes (execBlockP _ _ _ [.setAttr _ _ (.bin .add (.var "new_list") (.var "_all")), mvLast] ρ' st) = _
    rw [execBlockP_cons, execP_list_set _ _ _ s hh h hρ'.owner (l2 := new' ++ rest')
      (by simp [pylite_step, hρ'.new, hρ'.all, refs])]
    dsimp only
    rw [execBlockP_one, tf_mvLast, so_last L s st h F ρ' hρ'.owner]
    rfl

end Pj.FacadeSrc

/-
  Lemmas/RenderSrcB.lean — the translated tie for the Mermaid renderers (general theorems): state and line of one Gantt task.
  `MermaidGantt.__mermaid_task_state` = `stateOf`, `MermaidGantt.__mermaid_task` = `ganttLine`, for every task description,
  clock and string library.  (`MermaidGantt.__src` = `ganttSrc`: Lemmas/RenderSrcC.lean.)
  The summary of the results and the NEGATIVE CHECK are the comment block at the end.  See Lemmas/RenderSrc.lean.
-/
import PjVerif.Lemmas.RenderSrcA
namespace Pj.RenderSrc
open Pj.PyLite Pj.Render Pj.Extracted.Render
open Pj.PrintSrc (Lib lookupA refsA one oneStr D_s text_s pyEq_s any_dict s_ne_none)
open Pj.TaskSrc (callPV_eq execBlockP_cons execBlockP_nil execP_forIn noRec)
set_option linter.unusedVariables false

variable (S : Lib) (V : View) (pts : Nat → RTask)

theorem lit_colon (st : PState) : renderPrim S V pts "lit::" [] st = .ok (.atom (S.s [':'])) := by
  simp [prim_lit, lit]

theorem prim_now (st : PState) : renderPrim S V pts "datetime.now" [] st = .ok (.atom (.time V.now)) := by prim_of renderPrim
theorem prim_ms (t : Nat) (st : PState) : renderPrim S V pts "milestone" [.ref t] st = .ok (.atom (.bool (pts t).milestone)) := by prim_of renderPrim
theorem prim_start (t : Nat) (st : PState) : renderPrim S V pts "start" [.ref t] st = .ok (.atom (.time (pts t).start)) := by prim_of renderPrim
theorem prim_end (t : Nat) (st : PState) : renderPrim S V pts "end" [.ref t] st = .ok (.atom (.time (pts t).end_)) := by prim_of renderPrim
theorem prim_strftime (t : Time) (st : PState) :
    renderPrim S V pts "strftime:%d.%m.%Y %H:%M" [.time t] st = .ok (.atom (S.s (S.fmt t))) := by prim_of renderPrim

attribute [pylite_step] lit_colon prim_now prim_ms prim_start prim_end prim_strftime

theorem lit_sp_id : lit " id_" = ' ' :: lit "id_" := by decide

variable {S}

/-! ### `__mermaid_task_state` -/

theorem pf_state : renderFuns fn_task_state = some (src_task_state_params, src_task_state) := rfl

theorem task_state_spec (F t : Nat) (st : PState) :
    (Hr S V pts (F + 1)).fnV fn_task_state [.atom (.ref t)] st = .ok (.atom (S.s (stateOf (toGTask S V (pts t)))), st) := by
  rw [rfnV_succ _ _ _ _ _ _ _ pf_state]
  by_cases h1 : (pts t).milestone = true
  · simp [pylite_step, src_task_state_params, src_task_state, stateOf, toGTask, h1]
  · have h1' : (pts t).milestone = false := by simpa using h1
    by_cases h2 : (pts t).end_ ≤ V.now
    · simp [pylite_step, src_task_state_params, src_task_state, stateOf, toGTask, h1', h2]
    · by_cases h3 : (pts t).start < V.now
      · simp [pylite_step, src_task_state_params, src_task_state, stateOf, toGTask, h1', h2, h3]
      · simp [pylite_step, src_task_state_params, src_task_state, stateOf, toGTask, h1', h2, h3]

/-! ### `__mermaid_task` -/

theorem pf_line : renderFuns fn_mermaid_task = some (src_mermaid_task_params, src_mermaid_task) := rfl

theorem gantt_line_spec (hS : S.OK) (F t : Nat) (st : PState) :
    (Hr S V pts (F + 2)).fnV fn_mermaid_task [.atom (.ref 0), .atom (.ref t)] st =
      .ok (.atom (S.s (ganttLine (toGTask S V (pts t)))), st) := by
  rw [rfnV_succ _ _ _ _ _ _ _ pf_line]
  have hst := task_state_spec (S := S) V pts F t st
  have hr := prim_replace' V pts hS (pts t).name [':'] [] rfl st
  rw [pyReplace_single, flatMap_del] at hr
  have e : (toGTask S V (pts t)).name = (pts t).name := rfl
  have e2 : (toGTask S V (pts t)).idText = S.text (pts t).id := rfl
  have e3 : (toGTask S V (pts t)).start = S.fmt (pts t).start := rfl
  have e4 : (toGTask S V (pts t)).end_ = S.fmt (pts t).end_ := rfl
  simp [pylite_step, src_mermaid_task_params, src_mermaid_task, hst, hr, prim_concat' V pts hS, text_s hS, ganttLine, e, e2, e3, e4,
    lit_sp_id, List.append_assoc]

theorem interpTaskState_eq (F t : Nat) (hF : 1 ≤ F) :
    interpTaskState S V pts F t = .ok (.atom (S.s (stateOf (toGTask S V (pts t))))) :=
  interp_eq V pts hF fun F => task_state_spec V pts F t st0

theorem interpGanttLine_eq (hS : S.OK) (F t : Nat) (hF : 2 ≤ F) :
    interpGanttLine S V pts F t = .ok (.atom (S.s (ganttLine (toGTask S V (pts t))))) :=
  interp_eq V pts hF fun F => gantt_line_spec V pts hS F t st0

/-
  The theorems (`label_spec`, `network_src_spec`, `task_state_spec`, `gantt_line_spec`; `gantt_src_spec` in RenderSrcC.lean)
  hold for every string library `S` with `S.OK` (`task_state_spec` needs none), every task description `pts`, view `V` (WBS
  members, title, flags, clock), state and enough fuel.  The network source: labels, one edge per entry of the predecessor
  list - inside or outside the WBS, repetitions kept -, a Start edge exactly for the tasks without predecessors, then the
  style lines.  `s.replace(c, new)` for a one-character `c` is the model's single pass (`pyReplace_single`); the two brace
  replacements one after the other are `escLabel` (`flatMap_esc`).
  Concrete runs (RenderSrcCheck.lean, RenderSrcCheckB.lean; WBS `w1`, six views): title / no title / empty title, weekends,
  tick interval missing / empty, two and three sections with unsectioned tasks, one named section, '-' written out, no
  task; with the exact texts.
  Domain (Lemmas/RenderSrc.lean): `name` a str, `start` / `end` datetimes, `milestone` a bool, `gantt_section` any value
  (the model reads `str` of it: two values with the same text but different types are outside the model);
  `__dict_to_style`, `__styles`, `to_html` and the templates are not translated.
  Disagreements between the model and the translated source inside the model's domain: none found.

  NEGATIVE CHECK (scratch copies of network.py / gantt.py, translated by tools/extract_render.py; the statements of the five
  families of checks of RenderSrcCheck.lean / RenderSrcCheckB.lean evaluated on the mutant program: label, net, state, line,
  gantt.  In the build those checks are instances of `label_spec`, `network_src_spec`, `task_state_spec`, `gantt_line_spec`,
  `gantt_src_spec`, whose proofs are about the unmutated term: on a mutant the theorem of the family fails first.
  MISS = the translator refuses the edited source (it leaves the translatable fragment), which the check reports as a
  broken tie):
    label escaping of one brace only (`}` kept)      label, net FAIL         quotes kept in labels                    label, net FAIL
    predecessors de-duplicated by id (dict comp.)    MISS                    edges taken from `t.successors`          MISS
    Start edge for every task                        net FAIL                `done` decided before the milestone flag state, line, gantt FAIL
    a single named section written as a section      gantt FAIL              dates formatted without minutes          line, gantt FAIL
      (`len(sections) == 0`)                                                   (the primitive "strftime:%d.%m.%Y %H" has no meaning)
    `active` decided by `<=`                         state, line, gantt FAIL colon kept in task names                 line, gantt FAIL
  Harmless rewrites that still pass all five families: `res = res + f"…"` instead of `res += …`, `0 == len(t.predecessors)`,
  `f'id_{t.id}'` instead of `'id_' + str(t.id)`, an `elif` chain in `__mermaid_task_state` (the last three change the term:
  the general theorems have to be re-run / the shape lemmas re-stated).
-/

end Pj.RenderSrc

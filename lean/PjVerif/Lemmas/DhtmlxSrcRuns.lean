/-
  Lemmas/DhtmlxSrcRuns.lean — the general theorem `interpOut_eq` (Lemmas/DhtmlxSrcA.lean) in the forms the concrete runs of
  DhtmlxSrcCheckB.lean apply: the list `data` of a run is the model's `expData`.  This file holds no run.
-/
import PjVerif.Lemmas.DhtmlxSrcCheck
namespace Pj.DhtmlxSrc.Check
open Pj.PyLite Pj.Render
open Pj.PrintSrc (cLib_ok)

theorem interpOut_plain (V : View) (w : Nat → RTask) (hd : ∀ t, (w t).dict = []) :
    interpOut S V w FC [] = .ok (some (expData S V w [], expLinks S V w)) :=
  interpOut_eq V w cLib_ok (fun t _ => by rw [hd t]; exact List.nodup_nil) FC (by decide) []

/-- stated for every view and task table, so that nothing is evaluated: unfolding `outData` on a concrete run would make
    the kernel run the interpreter -/
theorem outData_eq (V : View) (w : Nat → RTask)
    (hnd : ∀ t ∈ dhtmlxOrder (dAll V w) V.n V.roots, ((w t).dict.map (·.1)).Nodup) :
    outData V w = expData S V w tc := by
  have h := interpOut_eq (S := S) V w cLib_ok hnd FC (by decide) tc
  unfold outData
  rw [h]

theorem outData_w1 : outData V1 w1 = expData S V1 w1 tc := outData_eq V1 w1 (by decide +kernel)

end Pj.DhtmlxSrc.Check

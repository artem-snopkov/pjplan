/-
  Lemmas/SchedC08.lean — C08 on the model, clause by clause.  Date encoding and "no idle days" are read, at the end of
  the forward run, off what the ledger shows of each placed leaf (`SubjectSeen`: `Seen` of Lemmas/SchedCore.lean and what
  its placement computed, `LeafPlaced`).  WBS order: the ledger is sorted by the order of placement, and leaves that take
  part in no dependency are placed in WBS order.
-/
import PjVerif.Lemmas.SchedCore
namespace Pj.C08

theorem maxT_eq_right {a b : Time} (h : a ≤ b) : maxT a b = b := by unfold maxT; split <;> grind

theorem maxEnds_cases (σ : SS) (l : List Uid) (m : Time) :
    maxEnds σ l m = m ∨ ∃ p ∈ l, (σ.f p).end_ = some (maxEnds σ l m) := by
  rcases foldl_maxT_mem (l.filterMap (fun t => (σ.f t).end_)) m with h | h
  · exact Or.inl h
  · obtain ⟨p, hp, he⟩ := List.mem_filterMap.1 h
    exact Or.inr ⟨p, hp, he⟩

theorem maxEnds_congr (σ σ' : SS) (l : List Uid) (m : Time) (h : ∀ p ∈ l, (σ'.f p).end_ = (σ.f p).end_) :
    maxEnds σ' l m = maxEnds σ l m := Pj.maxEnds_congr σ σ' l m h

theorem dayOf_le_self (a : Time) : ((dayOf a : Int) : Rat) ≤ a := Pj.dayOf_le_self a

theorem lt_of_dayOf_lt {a : Time} {d : Int} (h : dayOf a < d) : a < (d : Rat) :=
  Pj.lt_of_dayOf_lt (b := (d : Rat)) (by rwa [dayOf_intCast])

theorem le_of_lt_le_lt {a b c d : Rat} (h1 : a < b) (h2 : b ≤ c) (h3 : c < d) : a ≤ d := by grind

theorem div_le_div_right {a b c : Rat} (h : a ≤ b) (hc : 0 < c) : a / c ≤ b / c := by
  rw [Rat.div_def, Rat.div_def]
  exact Rat.mul_le_mul_of_nonneg_right h (Rat.le_of_lt (Rat.inv_pos.2 hc))

/-- what the placement of a non-milestone leaf whose dates are both open computed, from the calendar `cal` and the ledger
    view `used`, when no clock reading lies on a later day than the date the availability search starts from (`from_`):
    `d` = the first day with capacity left, `c` its capacity, `s` the start it encodes, `e` the end the fill computes -/
structure LeafPlaced (env : Env) (cal : Cal) (used : Int → Rat) (from_ : Time) (d : Int) (c : Rat) (s e : Time)
    (o : Outcome) : Prop where
  dge : dayOf from_ ≤ d
  cap : capR cal (d : Rat) = .ok c
  avail : 0 < c - used d
  fullBefore : ∀ d', dayOf from_ ≤ d' → d' < d → DayFull cal used d'
  sEq : s = (d : Rat) + used d / c
  sDay : dayOf s = d
  start : o.g.start = some s
  end_ : ∃ k, o.g.end_ = some (maxT (if env.bound < env.clock k then maxT e (env.clock k) else e) s)
  fill : o.new = [] ∨ ∃ dayL dauL left, FillSpec 1 cal used (d - 1) left o.new dayL dauL ∧
    o.new ≠ [] ∧ (dayL : Rat) < e ∧ e = (dayL : Rat) + (used dayL + daySum o.new dayL) / dauL

theorem fwdLeaf_placed {env : Env} {cal : Cal} {used : Int → Rat} {ms : Option Time} {v : Time} {r : Nat} {g : Fields}
    {o : Outcome} (hu : ∀ d, 0 ≤ used d) (hs : g.start = none) (he : g.end_ = none)
    (hclk : ∀ k k', dayOf (env.clock k) ≤ dayOf (maxT (maxT v (env.clock k')) (ms.getD epoch)))
    (h : fwdLeaf env.clock env.bound env.defaultEst ms cal used v r g = .ok o) :
    ∃ k0 d c s e, LeafPlaced env cal used (maxT (maxT v (env.clock k0)) (ms.getD epoch)) d c s e o := by
  obtain ⟨s, k, hsk, hend⟩ := fwdLeaf_ok h
  rcases fwdLeafStart_ok hsk with ⟨hx, _⟩ | ⟨_, rfl, hn⟩
  · exact nomatch hs.symm.trans hx
  · rcases hend with ⟨_, hx, _⟩ | ⟨_, e, rows, hsh, rfl⟩
    · exact nomatch he.symm.trans hx
    · obtain ⟨d, c, hd0, hcap, hav, hsd, hds, hbefore⟩ := nearestFwd_spec _ _ _ _ hu hn
      refine ⟨_, d, c, s, e, hd0, hcap, hav, hbefore, hsd, hds, rfl, ⟨r + 1 + 1, rfl⟩, ?_⟩
      obtain ⟨dayL, dauL, hspec, _, hp⟩ := shiftFwd_spec _ _ _ _ _ _ (workLeft_nonneg _ _) hu hsh
      by_cases hne : rows = []
      · exact Or.inl hne
      · obtain ⟨hlt, _, hee⟩ := hp hne
        rw [nearestFwd_day_maxT hu hn (hclk (r + 1) r), hds] at hspec
        exact Or.inr ⟨dayL, dauL, _, hspec, hne, hlt, hee⟩

theorem c08Subject_spec {env : Env} {f0 : Uid → Fields} {t : Uid} (h : c08Subject env f0 t = true) :
    (env.info t).children.isEmpty = true ∧ (env.info t).milestone = false ∧ (f0 t).start = none ∧
      (f0 t).end_ = none := by
  simpa [c08Subject, isLeaf, and_assoc] using h

/-- what the ledger of `σ` shows of a subject of C08 that is done; `L` is what is known of the day its search started on -/
def SubjectSeen (env : Env) (σ : SS) (t : Uid) (L : Int → Prop) : Prop :=
  ∃ cal used o from_ d c s e, Seen env σ t cal used o ∧ LeafPlaced env cal used from_ d c s e o ∧ L (dayOf from_)

theorem SubjectSeen.keep {env : Env} {σ σ' : SS} {t : Uid} {L L' : Int → Prop} (h : SubjectSeen env σ t L)
    (he : Ext σ σ') (hl' : LedgerOK env σ') (ht : t ∈ σ.done) (hL : ∀ x, L x → L' x) : SubjectSeen env σ' t L' := by
  obtain ⟨cal, used, o, from_, d, c, s, e, hS, hp, hl⟩ := h
  exact ⟨cal, used, o, from_, d, c, s, e, hS.keep he hl' ht, hp, hL _ hl⟩

theorem subject_placed {env : Env} {f0 : Uid → Fields} {mem : List Uid} {σ1 σ σ' : SS} {t : Uid} {m : Time}
    (h : Placing env (prepare env f0 mem) (Sched.fwd env) σ1 σ σ' t m) (hsub : c08Subject env f0 t = true)
    (hclk : ∀ k k', dayOf (env.clock k) ≤
      dayOf (maxT (maxT (maxEnds σ1 (env.info t).preds m) (env.clock k')) ((env.info t).minStart.getD epoch))) :
    ∃ k0, SubjectSeen env σ' t (· = dayOf (maxT (maxT (maxEnds σ1 (env.info t).preds m) (env.clock k0))
      ((env.info t).minStart.getD epoch))) := by
  obtain ⟨hleaf, hm, hs, hen⟩ := c08Subject_spec hsub
  have hrun : fwdPlace env σ t (maxEnds σ1 (env.info t).preds m) = .ok σ' := h.run
  rw [fwdPlace_leaf_eq env σ t _ hm hleaf, h.init, prepare_leaf env f0 mem t hleaf] at hrun
  obtain ⟨o, ho, rfl⟩ := Res.map_ok hrun
  obtain ⟨k0, d, c, s, e, hp⟩ := fwdLeaf_placed (h.core.used_nonneg t) hs hen hclk ho
  exact ⟨k0, _, _, o, _, d, c, s, e, Seen.commit h.core h.fresh, hp, rfl⟩

/-- the body of `c08Encode` for one task -/
def encT (env : Env) (o : Output) (t : Uid) : Bool :=
  let k := (env.info t).resource
  match firstDay (rowsOf o.rows t), lastDay (rowsOf o.rows t), (o.f t).start, (o.f t).end_ with
  | some d1, some d2, some s, some e =>
    let c1 := capMid o.res k d1
    let c2 := capMid o.res k d2
    decide (0 < c1) && decide (0 < c2) &&
    s == (d1 : Rat) + bookedBefore env o k d1 t / c1 &&
    e == (d2 : Rat) + bookedUpTo env o k d2 t / c2
  | none, none, _, _ => true
  | _, _, _, _ => false

theorem c08Encode_eq (env : Env) (f0 : Uid → Fields) (o : Output) :
    c08Encode env f0 o = (memberList env).all (fun t => !c08Subject env f0 t || encT env o t) := rfl

theorem encT_norows (env : Env) (o : Output) (t : Uid) (h : rowsOf o.rows t = []) : encT env o t = true := by
  unfold encT
  rw [h]
  rfl

theorem encT_of (env : Env) (o : Output) (t : Uid) (d1 d2 : Int) (s e : Time)
    (h1 : firstDay (rowsOf o.rows t) = some d1) (h2 : lastDay (rowsOf o.rows t) = some d2)
    (h3 : (o.f t).start = some s) (h4 : (o.f t).end_ = some e)
    (h5 : 0 < capMid o.res (env.info t).resource d1) (h6 : 0 < capMid o.res (env.info t).resource d2)
    (h7 : s = (d1 : Rat) + bookedBefore env o (env.info t).resource d1 t / capMid o.res (env.info t).resource d1)
    (h8 : e = (d2 : Rat) + bookedUpTo env o (env.info t).resource d2 t / capMid o.res (env.info t).resource d2) :
    encT env o t = true := by
  unfold encT
  simp only [h1, h2, h3, h4]
  simp [h5, h6, ← h7, ← h8]

/-- the dates of a subject encode what the ledger shows of its placement, when no clock reading is later than the project
    start -/
theorem enc_of_seen {env : Env} {σ : SS} {t : Uid} {L : Int → Prop} (hb : ∀ k, env.clock k ≤ env.bound)
    (h : SubjectSeen env σ t L) : encT env (outOf σ) t = true := by
  obtain ⟨cal, used, o, from_, d, c, s, e, hS, hp, _⟩ := h
  have hu := hS.nonneg
  have hrowsOf : rowsOf (outOf σ).rows t = o.new.map (mkRow (env.info t).resource t) := hS.rows
  rcases hp.fill with hnil | ⟨dayL, dauL, left, hspec, hne, hlt, hee⟩
  · exact encT_norows _ _ _ (by rw [hrowsOf, hnil]; rfl)
  · have hcapL := (hspec.last hne).2
    obtain ⟨u, hlast⟩ := hspec.last_mem hne
    have hdauL : 0 < dauL := by
      obtain ⟨c', hc', h0, h1⟩ := hspec.fits _ hlast
      rw [hcapL] at hc'
      cases hc'
      have := hu dayL
      grind
    obtain ⟨hdL, u1, hdmem⟩ := hspec.first_mem (Or.inl rfl) hne hp.cap hp.avail
    have hc0 : 0 < c := by have := hu d; have := hp.avail; grind
    -- the stored end is the computed one: the clock does not clamp it, and it is not before the start
    have hse : s ≤ e := by
      have hsum0 : 0 ≤ daySum o.new dayL := daySum_nonneg o.new (fun p hp' => (hspec.fits p hp').choose_spec.2.1) dayL
      rw [hp.sEq]
      by_cases hsame : dayL = d
      · subst hsame
        rw [hp.cap] at hcapL
        cases hcapL
        rw [hee]
        have := div_le_div_right (a := used dayL) (b := used dayL + daySum o.new dayL) (c := c) (by grind) hc0
        grind
      · have hfrac := div_nonneg_lt_one (u := used d) (c := c) (hu d) (by have := hp.avail; grind)
        have := int_succ_le_cast (a := d) (b := dayL) (by omega)
        grind
    obtain ⟨k2, he'⟩ := hp.end_
    rw [if_neg (Rat.not_lt.2 (hb k2)), maxT_eq_left hse] at he'
    refine encT_of env (outOf σ) t d dayL s e ?_ ?_ ((congrArg Fields.start hS.f).trans hp.start) ((congrArg Fields.end_ hS.f).trans he') ?_ ?_ ?_ ?_
    · rw [hrowsOf]
      exact firstDay_mk _ _ o.new d ⟨_, hdmem, rfl⟩ (fun p hp' => by have := hspec.range p hp'; omega)
    · rw [hrowsOf]
      exact lastDay_mk _ _ o.new dayL ⟨_, hlast, rfl⟩ (fun p hp' => by have := (hspec.range p hp').2; omega)
    · rw [show capMid (outOf σ).res _ d = c from hS.cap hp.cap]; exact hc0
    · rw [show capMid (outOf σ).res _ dayL = dauL from hS.cap hcapL]; exact hdauL
    · rw [show capMid (outOf σ).res _ d = c from hS.cap hp.cap, hS.before hne d]; exact hp.sEq
    · rw [show capMid (outOf σ).res _ dayL = dauL from hS.cap hcapL]
      unfold bookedUpTo
      rw [hS.before hne dayL]
      show e = (dayL : Rat) + (_ + reserved σ.rows _ _ _) / dauL
      rw [hS.own dayL]
      exact hee

structure Base (env : Env) (f0 : Uid → Fields) (σ : SS) : Prop where
  ledger : LedgerOK env σ
  rowsDone : ∀ r ∈ σ.rows, r.task ∈ σ.done
  leafF : ∀ t, t ∉ σ.done → (env.info t).children.isEmpty = true → σ.f t = f0 t

/-- every task is called with a date not before the project start (`Q`) -/
theorem encode_tasks (env : Env) (f0 : Uid → Fields) (mem : List Uid) (hb : ∀ k, env.clock k ≤ env.bound) :
    Tasks env (prepare env f0 mem) (Sched.fwd env)
      (fun σ t => c08Subject env f0 t = true → SubjectSeen env σ t (fun _ => True)) (fun _ m => env.bound ≤ m) where
  keep := fun σ σ' t _ hc' he ht h hsub => (h hsub).keep he hc'.ledger ht (fun _ _ => trivial)
  new := fun σ1 σ σ' t m h hq _ hsub => by
    obtain ⟨_, cal, used, o, from_, d, c, s, e, hS, hp, _⟩ := subject_placed h hsub (fun k k' => dayOf_mono
      (Rat.le_trans (hb k) (Rat.le_trans hq (Rat.le_trans (maxEnds_ge _ _ _).1
        (Rat.le_trans (le_maxT_left _ _) (le_maxT_left _ _))))))
    exact ⟨cal, used, o, from_, d, c, s, e, hS, hp, trivial⟩

theorem encode_partial (env : Env) (f0 : Uid → Fields) (res0 : List (Option Nat × Cal)) (o : Output)
    (hf : env.flagsOK) (hb : ∀ k, env.clock k ≤ env.bound)
    (h : forwardCalc env f0 res0 = .ok o) : c08Encode env f0 o = true := by
  obtain ⟨σ, rfl, _, hall⟩ := (Sched.fwd env).run_tasks (Sched.fwd_ok env) hf _ _ (encode_tasks env f0 _ hb) (fun _ _ => Rat.le_refl)
    (fun _ _ _ _ _ hq _ => Rat.le_trans hq (maxEnds_ge _ _ _).1) (fun _ _ _ _ hq _ _ => hq) (fwdRun_eq env ▸ forwardCalc_run env f0 res0 o h)
  rw [c08Encode_eq, all_imp_iff]
  exact fun t ht hsub => enc_of_seen hb ((hall t ht).2 hsub)

/-- the body of `c08NoIdle` for one task -/
def idleT (env : Env) (o : Output) (t : Uid) : Bool :=
  let k := (env.info t).resource
  let last : Int := match lastDay (rowsOf o.rows t) with
    | some d => d
    | none => match (o.f t).start with | some s => dayOf s | none => releaseDay env o t
  (daysBetween (releaseDay env o t) last).all (fun d => fullDay env o k d t)

theorem c08NoIdle_eq (env : Env) (f0 : Uid → Fields) (o : Output) :
    c08NoIdle env f0 o =
      (!env.balance || (memberList env).all (fun t => !c08Subject env f0 t || idleT env o t)) := rfl

/-- `r0` is not later than one of the days the release day is the maximum of (or the epoch) -/
def RelLow (env : Env) (σ : SS) (t : Uid) (r0 : Int) : Prop :=
  r0 ≤ dayOf epoch ∨ r0 ≤ dayOf env.bound ∨ r0 ≤ dayOf (env.clock 0) ∨
  (∃ ms, (env.info t).minStart = some ms ∧ r0 ≤ dayOf ms) ∨
  ∃ p ∈ (env.info t).preds, (p ∈ σ.done ∨ (env.info p).member = false) ∧ ∃ e, (σ.f p).end_ = some e ∧ r0 ≤ dayOf e

theorem RelLow.keep {env : Env} {σ σ' : SS} {t : Uid} {r0 : Int} (h : RelLow env σ t r0) (he : Ext σ σ')
    (hmem : ∀ x ∈ σ'.done, (env.info x).member = true) : RelLow env σ' t r0 := by
  rcases h with h | h | h | h | ⟨p, hp, hpd, e, hpe, hle⟩
  · exact Or.inl h
  · exact Or.inr (Or.inl h)
  · exact Or.inr (Or.inr (Or.inl h))
  · exact Or.inr (Or.inr (Or.inr (Or.inl h)))
  · refine Or.inr (Or.inr (Or.inr (Or.inr ⟨p, hp, hpd.imp he.done_sub id, e, ?_, hle⟩)))
    rcases hpd with hpd | hpd
    · rw [he.frozen p hpd]; exact hpe
    · rw [he.untouched p (fun hc => by have := hmem p hc; rw [hpd] at this; cases this)]; exact hpe

/-- the day the search for the start started on is one of the release days -/
theorem relLow_from (env : Env) (σ1 σ' : SS) (t : Uid) (k0 : Nat) (hc : env.clockOK)
    (hpred : ∀ p ∈ (env.info t).preds, (p ∈ σ'.done ∨ (env.info p).member = false) ∧ (σ'.f p).end_ = (σ1.f p).end_) :
    RelLow env σ' t (dayOf (maxT (maxT (maxEnds σ1 (env.info t).preds env.bound) (env.clock k0))
      ((env.info t).minStart.getD epoch))) := by
  rcases maxT_cases (maxT (maxEnds σ1 (env.info t).preds env.bound) (env.clock k0))
    ((env.info t).minStart.getD epoch) with ⟨h1, _⟩ | ⟨h1, _⟩
  · rw [h1]
    rcases maxT_cases (maxEnds σ1 (env.info t).preds env.bound) (env.clock k0) with ⟨h2, _⟩ | ⟨h2, _⟩
    · rw [h2]
      rcases maxEnds_cases σ1 (env.info t).preds env.bound with h3 | ⟨p, hp', hpe⟩
      · rw [h3]; exact Or.inr (Or.inl (Int.le_refl _))
      · exact Or.inr (Or.inr (Or.inr (Or.inr ⟨p, hp', (hpred p hp').1, _, (hpred p hp').2.trans hpe, Int.le_refl _⟩)))
    · rw [h2, hc.2 k0]; exact Or.inr (Or.inr (Or.inl (Int.le_refl _)))
  · rw [h1]
    cases hms : (env.info t).minStart with
    | none => exact Or.inl (Int.le_refl _)
    | some ms => exact Or.inr (Or.inr (Or.inr (Or.inl ⟨ms, hms, Int.le_refl _⟩)))

theorem mem_prereqLeaves_of_pred (env : Env) (t p : Uid) (hp : p ∈ (env.info t).preds)
    (hleaf : (env.info p).children.isEmpty = true) : p ∈ prereqLeaves env t := by
  exact mem_waitsFor.2 ⟨t, List.mem_cons_self, p, hp, by simp [leavesOf_leaf env p hleaf]⟩

theorem relLow_le_release (env : Env) (σ : SS) (t : Uid) (r0 : Int)
    (he : epoch ≤ env.clock 0 ∨ epoch ≤ env.bound)
    (hpl : ∀ p ∈ (env.info t).preds, (p ∈ σ.done ∨ (env.info p).member = false) → (env.info p).children.isEmpty = true)
    (h : RelLow env σ t r0) : r0 ≤ releaseDay env (outOf σ) t := by
  unfold releaseDay
  have h2 : ∀ x ∈ _, x ≤ _ := (max_selects.foldl
    ([dayOf env.bound, dayOf (env.clock 0)] ++ ((env.info t).minStart.toList.map dayOf) ++
      ((prereqLeaves env t).filterMap (fun p => (((outOf σ).f p).end_).map dayOf))) (dayOf env.bound)).2.2
  have hb := h2 (dayOf env.bound) (by simp)
  have hc := h2 (dayOf (env.clock 0)) (by simp)
  rcases h with h | h | h | ⟨ms, hms, h⟩ | ⟨p, hp, hpd, e, hpe, h⟩
  · rcases he with he | he
    · have := dayOf_mono he; omega
    · have := dayOf_mono he; omega
  · omega
  · omega
  · have := h2 (dayOf ms) (by simp [hms])
    omega
  · have hmem := mem_prereqLeaves_of_pred env t p hp (hpl p hp hpd)
    have := h2 (dayOf e) (by
      apply List.mem_append_right
      exact List.mem_filterMap.2 ⟨p, hmem, by show ((σ.f p).end_).map dayOf = some (dayOf e); rw [hpe]; rfl⟩)
    omega

/-- with balancing on, every day from the release day up to the last work day of a subject (its start day when it has no
    work) is full: the days the search passed over were, the days the fill left behind are -/
theorem idle_of_seen {env : Env} {σ : SS} {t : Uid} (hbal : env.balance = true) (hl : LedgerOK env σ)
    (h : SubjectSeen env σ t (RelLow env σ t))
    (hrel : ∀ r0, RelLow env σ t r0 → r0 ≤ releaseDay env (outOf σ) t) : idleT env (outOf σ) t = true := by
  obtain ⟨cal, used, o, from_, d, c, s, e, hS, hp, hlow⟩ := h
  have hr := hrel _ hlow
  have hrows : rowsOf (outOf σ).rows t = o.new.map (mkRow (env.info t).resource t) := hS.rows
  have hst : ((outOf σ).f t).start = some s := (congrArg Fields.start hS.f).trans hp.start
  obtain ⟨last, hlast, hfull⟩ : ∃ last, (match lastDay (rowsOf (outOf σ).rows t) with
      | some d => d
      | none => match ((outOf σ).f t).start with | some s => dayOf s | none => releaseDay env (outOf σ) t) = last ∧
      ∀ d', dayOf from_ ≤ d' → d' < last →
        capMid σ.res (env.info t).resource d' ≤ reserved σ.rows (env.info t).resource d' none := by
    rcases hp.fill with hnil | ⟨dayL, dauL, left, hspec, hne, _, _⟩
    · refine ⟨d, by rw [hrows, hnil, hst, ← hp.sDay]; rfl, fun d' h1 h2 => hS.full hbal hl (hp.fullBefore d' h1 h2)⟩
    · obtain ⟨u, hlast⟩ := hspec.last_mem hne
      refine ⟨dayL, by rw [hrows, lastDay_mk _ _ o.new dayL ⟨_, hlast, rfl⟩
        (fun p hp' => by have := (hspec.range p hp').2; omega)], fun d' h1 h2 => ?_⟩
      by_cases hd' : d' < d
      · exact hS.full hbal hl (hp.fullBefore d' h1 hd')
      · obtain ⟨c', hc', hfull⟩ := hspec.day_full (d := d') (by omega) (by omega)
        exact hS.full_of_le hbal hc' hfull
  unfold idleT
  simp only [hlast, List.all_eq_true, mem_daysBetween]
  intro d' hd'
  unfold fullDay booked
  simp only [hbal, if_true, decide_eq_true_eq]
  exact hfull d' (by omega) hd'.2

/-- every task is called with the project start (`Q`) -/
theorem idle_tasks (env : Env) (f0 : Uid → Fields) (mem : List Uid) (hclk : env.clockOK) :
    Tasks env (prepare env f0 mem) (Sched.fwd env)
      (fun σ t => c08Subject env f0 t = true → SubjectSeen env σ t (RelLow env σ t)) (fun _ m => m = env.bound) where
  keep := fun σ σ' t _ hc' he ht h hsub =>
    (h hsub).keep he hc'.ledger ht (fun _ hr => hr.keep he hc'.doneMem)
  new := fun σ1 σ σ' t m h hq _ hsub => by
    subst hq
    obtain ⟨k0, cal, used, o, from_, d, c, s, e, hS, hp, hfrom⟩ := subject_placed h hsub (fun k k' => by
      rw [hclk.2 k, ← hclk.2 k']
      exact dayOf_mono (Rat.le_trans (le_maxT_right _ _) (le_maxT_left _ _)))
    exact ⟨cal, used, o, from_, d, c, s, e, hS, hp, hfrom ▸ relLow_from env σ1 σ' t k0 hclk (fun p hp =>
      ⟨(h.linked hp).2.2.imp (h.ext1.trans h.ext).done_sub id, congrArg Fields.end_ (h.linked hp).1⟩)⟩

theorem maxEnds_nil (σ : SS) (m : Time) : maxEnds σ [] m = m := rfl

/-- `C08_noIdle_partial` (with link symmetry and the clock or the project start not before the epoch: a leaf
    without `min_start` never starts before 1970-01-01, which the release day does not know about) -/
theorem noIdle_partial (env : Env) (f0 : Uid → Fields) (res0 : List (Option Nat × Cal)) (o : Output)
    (hf : env.flagsOK) (hc : env.clockOK) (hs : noSummaryLinks env = true) (ho : outsideLeaves env = true)
    (hl : env.linksSym) (he : epoch ≤ env.clock 0 ∨ epoch ≤ env.bound)
    (h : forwardCalc env f0 res0 = .ok o) : c08NoIdle env f0 o = true := by
  rw [c08NoIdle_eq]
  cases hbal : env.balance with
  | false => rfl
  | true =>
  obtain ⟨σ, rfl, hcore, hall⟩ := (Sched.fwd env).run_tasks (Sched.fwd_ok env) hf _ _ (idle_tasks env f0 _ hc) (fun _ _ => rfl)
    (fun σ t c _ ht hq hcc => hq ▸ (nsl_agg env hs ht hcc σ _).1)
    (fun _ _ _ _ hq _ _ => hq) (fwdRun_eq env ▸ forwardCalc_run env f0 res0 o h)
  rw [Bool.not_true, Bool.false_or, all_imp_iff]
  exact fun t ht hsub => idle_of_seen hbal hcore.ledger ((hall t ht).2 hsub) (fun r0 hr0 =>
    relLow_le_release env σ t r0 he (fun p hp _ => pred_leaf env hs hl ho t ht p hp) hr0)

theorem free_anc (env : Env) (mem : List Uid) (hm : members env = some mem)
    (hch : ∀ t c, t ∈ mem → c ∈ (env.info t).children → (env.info c).parent = some t)
    (y : Uid) (hy : freeLeaf env y = true) (u : Uid) (hu : u ∈ mem)
    (h : RTC (fun a b => b ∈ (env.info a).children) u y) :
    (env.info u).preds = [] ∧ (env.info u).succs = [] := by
  simp only [freeLeaf, Bool.and_eq_true, List.all_eq_true] at hy
  have := hy.2 u (mem_ancestorsOf env mem hm hch u y hu h)
  simpa [List.isEmpty_iff] using this

theorem pair_sublist_append {x y : Uid} {l1 l2 : List Uid} (h : List.Sublist [x, y] (l1 ++ l2)) :
    List.Sublist [x, y] (l1) ∨ (x ∈ l1 ∧ y ∈ l2) ∨ List.Sublist [x, y] (l2) := by
  obtain ⟨a, b, hab, ha, hb⟩ := List.sublist_append_iff.1 h
  cases a with
  | nil =>
    simp only [List.nil_append] at hab
    subst hab
    exact Or.inr (Or.inr hb)
  | cons a0 a' =>
    cases a' with
    | nil =>
      simp only [List.cons_append, List.nil_append, List.cons.injEq] at hab
      obtain ⟨rfl, rfl⟩ := hab
      exact Or.inr (Or.inl ⟨List.singleton_sublist.1 ha, List.singleton_sublist.1 hb⟩)
    | cons a1 a'' =>
      simp only [List.cons_append, List.cons.injEq] at hab
      obtain ⟨rfl, rfl, hnil⟩ := hab
      have : a'' = [] ∧ b = [] := by simpa using hnil.symm
      rw [this.1] at ha
      exact Or.inl ha

theorem pair_sublist_mem {x y : Uid} {l : List Uid} (h : List.Sublist [x, y] (l)) : x ∈ l ∧ y ∈ l :=
  ⟨h.subset (by simp), h.subset (by simp)⟩

theorem pair_sublist_of_lt (l : List Uid) (i j : Nat) (hij : i < j) (hj : j < l.length) :
    List.Sublist [l[i]'(by omega), l[j]] l := by
  have hi : i < l.length := by omega
  have h1 : l = l.take i ++ l[i] :: l.drop (i + 1) := by
    rw [← List.drop_eq_getElem_cons hi, List.take_append_drop]
  have h2 : l[j] ∈ l.drop (i + 1) := by
    have hlen : j - (i + 1) < (l.drop (i + 1)).length := by simp; omega
    have := List.getElem_mem hlen
    rw [List.getElem_drop] at this
    simpa [show i + 1 + (j - (i + 1)) = j by omega] using this
  have h3 : List.Sublist [l[i], l[j]] (l.take i ++ l[i] :: l.drop (i + 1)) := by
    have : [l[i], l[j]] = [] ++ l[i] :: [l[j]] := rfl
    rw [this]
    exact List.Sublist.append (List.nil_sublist _) ((List.singleton_sublist.2 h2).cons_cons _)
  have h4 : List.Sublist (l.take i ++ l[i] :: l.drop (i + 1)) l := by
    rw [← h1]; exact List.Sublist.refl _
  exact h3.trans h4

theorem idxOf_ext {d l : List Uid} {x : Uid} (hx : x ∈ d) : (d ++ l).idxOf x = d.idxOf x := by
  rw [List.idxOf_append, if_pos hx]

theorem idxOf_new {d l : List Uid} {y : Uid} (hy : y ∉ d) : d.length ≤ (d ++ l).idxOf y := by
  rw [List.idxOf_append, if_neg hy]
  omega

/-! ### WBS order: free leaves become done in WBS order -/

section order
variable (env : Env) (mem : List Uid) (hm : members env = some mem)
  (hmemb : ∀ t, (env.info t).member = true ↔ t ∈ mem)
  (hl : env.linksSym)
  (hch : ∀ t c, t ∈ mem → c ∈ (env.info t).children → (env.info c).parent = some t)

include hm hmemb hl hch in
theorem free_untouched (y : Uid) (hy : freeLeaf env y = true) (fuel : Nat) (stk : List Uid) (σ : SS) (t : Uid)
    (m : Time) (σ' : SS) (ht : t ∈ mem) (hnt : ¬ RTC (fun a b => b ∈ (env.info a).children) t y)
    (hyd : y ∉ σ.done) (h : (Sched.fwd env).pass fuel stk σ t m = .ok σ') : y ∉ σ'.done := by
  refine (Sched.fwd env).pass_inv2 (Sched.fwd_ok env) (fun σ => y ∉ σ.done)
    (fun t _ => t ∈ mem ∧ ¬ RTC (fun a b => b ∈ (env.info a).children) t y) ?_ ?_ ?_ fuel stk σ t m σ' ⟨ht, hnt⟩ hyd h
  · intro σ1 σ σ' t m hq hi htd _ _ _ _ hpl
    obtain ⟨_, hd⟩ := (Sched.fwd env).place_ext (Sched.fwd_ok env) σ σ' t m _ htd hpl
    rw [hd]
    intro hc
    rcases List.mem_append.1 hc with hc | hc
    · exact hi hc
    · simp only [List.mem_singleton] at hc
      subst hc
      exact hq.2 RTC.refl
  · intro σ1 t c m hq hc
    exact ⟨members_children env mem hm t hq.1 c hc, fun hr => hq.2 (RTC.head hc hr)⟩
  · intro t p m hq hp hpm
    have hpmem : p ∈ mem := (hmemb p).1 (hpm.trans ((hmemb t).2 hq.1))
    refine ⟨hpmem, fun hr => ?_⟩
    have := (free_anc env mem hm hch y hy p hpmem hr).2
    have hts := (hl p t).1 hp
    rw [this] at hts
    cases hts

theorem passList_subtrees_done (fuel : Nat) (stk : List Uid) (m : Time) (ts : List Uid) (g : Nat)
    (ls : List (List Uid)) (σ σ' : SS) (hcl : DoneClosed env σ)
    (hp : passList (fun σ c => (Sched.fwd env).pass fuel stk σ c m) σ ts = .ok σ')
    (hls : ts.mapM (fun c => (descF (kidsF env) g c).map (fun r => c :: r)) = some ls) :
    DoneClosed env σ' ∧ ∀ z ∈ ls.flatten, z ∈ σ'.done := by
  have hcl' : DoneClosed env σ' :=
    passList_inv (DoneClosed env) _ _ (fun a x b _ ha hh => (Sched.fwd env).pass_doneClosed (Sched.fwd_ok env) _ _ _ _ _ _ ha hh) _ _ hcl hp
  have hdone : ∀ c ∈ ts, c ∈ σ'.done :=
    passList_all_done _ _ (fun a x b _ hh => (Sched.fwd env).pass_ext (Sched.fwd_ok env) _ _ _ _ _ _ hh) _ _ hp
  refine ⟨hcl', ?_⟩
  intro z hz
  obtain ⟨b, hb, hzb⟩ := List.mem_flatten.1 hz
  obtain ⟨c, hc, hg⟩ := mapM_some_mem_inv _ _ _ hls b hb
  simp only [Option.map_eq_some_iff] at hg
  obtain ⟨r, hr, rfl⟩ := hg
  rcases List.mem_cons.1 hzb with rfl | hzr
  · exact hdone _ hc
  · exact hcl'.desc (hdone c hc) (descF_sound _ _ _ _ hr z hzr)

/-- what a pass establishes about the free leaves of a listing `S`: those that were not done before are done
    afterwards, in the order of `S` -/
def OrderedNew (env : Env) (σ σ' : SS) (S : List Uid) : Prop :=
  ∀ x y, freeLeaf env x = true → freeLeaf env y = true → List.Sublist [x, y] S → y ∉ σ.done →
    x ∈ σ'.done ∧ y ∈ σ'.done ∧ σ'.done.idxOf x < σ'.done.idxOf y

theorem order_ext {σ1 σ' : SS} (he : Ext σ1 σ') {x y : Uid} (hx : x ∈ σ1.done) (hy : y ∈ σ1.done)
    (hlt : σ1.done.idxOf x < σ1.done.idxOf y) :
    x ∈ σ'.done ∧ y ∈ σ'.done ∧ σ'.done.idxOf x < σ'.done.idxOf y := by
  obtain ⟨l, hl, _⟩ := he.done
  refine ⟨he.done_sub hx, he.done_sub hy, ?_⟩
  rw [hl, idxOf_ext hx, idxOf_ext hy]
  exact hlt

theorem order_new {σ1 σ' : SS} (he : Ext σ1 σ') {x y : Uid} (hx : x ∈ σ1.done) (hy : y ∉ σ1.done)
    (hy' : y ∈ σ'.done) : x ∈ σ'.done ∧ y ∈ σ'.done ∧ σ'.done.idxOf x < σ'.done.idxOf y := by
  obtain ⟨l, hl, _⟩ := he.done
  refine ⟨he.done_sub hx, hy', ?_⟩
  rw [hl, idxOf_ext hx]
  have h1 := List.idxOf_lt_length_of_mem hx
  have h2 := idxOf_new (l := l) hy
  omega

include hm hmemb hl hch in
theorem order_list (fuel : Nat)
    (hP : ∀ (stk : List Uid) (σ : SS) (t : Uid) (m : Time) (σ' : SS) (g : Nat) (l : List Uid),
      (Sched.fwd env).pass fuel stk σ t m = .ok σ' → t ∈ mem → DoneClosed env σ → descF (kidsF env) g t = some l →
      (t :: l).Nodup → OrderedNew env σ σ' (t :: l)) :
    ∀ (ts : List Uid) (stk : List Uid) (m : Time) (g : Nat) (ls : List (List Uid)) (σ σ' : SS),
      passList (fun σ c => (Sched.fwd env).pass fuel stk σ c m) σ ts = .ok σ' → (∀ c ∈ ts, c ∈ mem) → DoneClosed env σ →
      ts.mapM (fun c => (descF (kidsF env) g c).map (fun r => c :: r)) = some ls → ls.flatten.Nodup →
      OrderedNew env σ σ' ls.flatten := by
  intro ts
  induction ts with
  | nil =>
    intro stk m g ls σ σ' _ _ _ hls _ x y _ _ hsub _
    simp only [List.mapM_nil] at hls
    cases hls
    cases hsub
  | cons c cs ih =>
    intro stk m g ls σ σ' hp hmemts hcl hls hnd x y hx hy hsub hyd
    obtain ⟨b, bs, hb, hbs, rfl⟩ := (mapM_some_cons _ c cs ls).mp hls
    simp only [Option.map_eq_some_iff] at hb
    obtain ⟨lc, hlc, rfl⟩ := hb
    simp only [passList, bind, Except.bind] at hp
    split at hp
    · cases hp
    · rename_i σ1 h1
      have hcmem := hmemts c List.mem_cons_self
      obtain ⟨e1, hc1⟩ := (Sched.fwd env).pass_ext (Sched.fwd_ok env) _ _ _ _ _ _ h1
      have hcl1 := (Sched.fwd env).pass_doneClosed (Sched.fwd_ok env) _ _ _ _ _ _ hcl h1
      have e2 : Ext σ1 σ' := passList_ext _ (fun a z b hh => ((Sched.fwd env).pass_ext (Sched.fwd_ok env) _ _ _ _ _ _ hh).1) _ _ _ hp
      have hsub1 : ∀ z ∈ c :: lc, z ∈ σ1.done := by
        intro z hz
        rcases List.mem_cons.1 hz with rfl | hz
        · exact hc1
        · exact hcl1.desc hc1 (descF_sound _ _ _ _ hlc z hz)
      simp only [List.flatten_cons] at hnd hsub
      obtain ⟨hnd1, hnd2, hdisj⟩ := List.nodup_append.1 hnd
      -- a free leaf listed later is not placed by the pass on `c`
      have hlater : y ∈ bs.flatten → y ∉ σ1.done := by
        intro hyb
        refine free_untouched env mem hm hmemb hl hch y hy _ _ _ _ _ _ hcmem ?_ hyd h1
        intro hr
        have : y ∈ c :: lc := by
          rcases RTC.cases_eq_or_TC hr with rfl | htc
          · exact List.mem_cons_self
          · exact List.mem_cons_of_mem _ (descF_complete _ _ _ _ hlc y htc)
        exact hdisj y this y hyb rfl
      obtain ⟨_, hall⟩ := passList_subtrees_done env _ _ _ cs g bs σ1 σ' hcl1 hp hbs
      rcases pair_sublist_append hsub with h | ⟨hx1, hy2⟩ | h
      · obtain ⟨a1, a2, a3⟩ := hP _ _ _ _ _ _ _ h1 hcmem hcl hlc hnd1 x y hx hy h hyd
        exact order_ext e2 a1 a2 a3
      · exact order_new e2 (hsub1 x hx1) (hlater hy2) (hall y hy2)
      · exact ih stk m g bs σ1 σ' hp (fun z hz => hmemts z (List.mem_cons_of_mem _ hz)) hcl1 hbs hnd2 x y hx hy h
          (hlater (pair_sublist_mem h).2)

include hm hmemb hl hch in
theorem order_pass : ∀ (fuel : Nat) (stk : List Uid) (σ : SS) (t : Uid) (m : Time) (σ' : SS) (g : Nat) (l : List Uid),
    (Sched.fwd env).pass fuel stk σ t m = .ok σ' → t ∈ mem → DoneClosed env σ → descF (kidsF env) g t = some l →
    (t :: l).Nodup → OrderedNew env σ σ' (t :: l) := by
  intro fuel
  induction fuel with
  | zero => intro stk σ t m σ' g l h; cases h
  | succ fuel ih =>
    intro stk σ t m σ' g l h htm hcl hd hnd x y hx hy hsub hyd
    have hymem := (pair_sublist_mem hsub).2
    rcases gPass_succ_cases env _ _ _ _ fuel stk σ t m σ' h with ⟨hdone, rfl⟩ | ⟨hdone, hs, σ1, σ2, h1, h2, h3⟩
    · -- already done: so is the whole subtree
      exfalso
      apply hyd
      rcases List.mem_cons.1 hymem with rfl | hyl
      · exact hdone
      · exact hcl.desc hdone (descF_sound _ _ _ _ hd y hyl)
    · cases g with
      | zero => simp [descF] at hd
      | succ g =>
        simp only [descF, Option.map_eq_some_iff] at hd
        obtain ⟨ls, hls, rfl⟩ := hd
        -- `x` is a leaf, so it is not `t`
        have hxy : List.Sublist [x, y] ls.flatten := by
          rcases List.sublist_cons_iff.1 hsub with h | ⟨r, hr, hr'⟩
          · exact h
          · exfalso
            simp only [List.cons.injEq] at hr
            obtain ⟨rfl, rfl⟩ := hr
            have hyl : y ∈ ls.flatten := List.singleton_sublist.1 hr'
            have hleaf : (env.info x).children = [] := by
              simp only [freeLeaf, isLeaf, Bool.and_eq_true, List.isEmpty_iff] at hx
              exact hx.1
            simp only [kidsF, hleaf, List.mapM_nil, Option.pure_def, Option.some.injEq] at hls
            subst hls
            cases hyl
        have hyl := (pair_sublist_mem hxy).2
        have htc : TC (fun a b => b ∈ (env.info a).children) t y :=
          descF_sound (kidsF env) (g + 1) t ls.flatten (by simp only [descF, hls]; rfl) y hyl
        have hpreds := (free_anc env mem hm hch y hy t htm htc.toRTC).1
        change passList _ σ (env.info t).preds = _ at h1
        simp only [hpreds, passList, pure, Except.pure, Except.ok.injEq] at h1
        subst h1
        have hon := order_list env mem hm hmemb hl hch fuel ih (env.info t).children (t :: stk) _ g ls σ σ2 h2
          (fun c hc => members_children env mem hm t htm c hc) hcl hls (List.nodup_cons.1 hnd).2 x y hx hy hxy hyd
        have e1 : ExtS (t :: stk) σ σ2 := passList_extS _ _ _
          (fun a z b _ hh => ((Sched.fwd env).pass_extS (Sched.fwd_ok env) fuel (t :: stk) a z _ b hh).1) _ _ h2
        have ht2 : t ∉ σ2.done := e1.2 t List.mem_cons_self hdone
        obtain ⟨e3, _⟩ := (Sched.fwd env).place_ext (Sched.fwd_ok env) σ2 σ' t m _ ht2 h3
        exact order_ext e3 hon.1 hon.2.1 hon.2.2

end order

/-! ### WBS order: the ledger is sorted by the order in which tasks became done -/

structure SortedI (σ : SS) : Prop where
  nodup : σ.done.Nodup
  rowsDone : ∀ r ∈ σ.rows, r.task ∈ σ.done
  sorted : σ.rows.Pairwise (fun r r' => σ.done.idxOf r.task ≤ σ.done.idxOf r'.task)

theorem SortedI.place {env : Env} {σ σ' : SS} {t : Uid} {v : Time} (hi : SortedI σ) (ht : t ∉ σ.done)
    (h : fwdPlace env σ t v = .ok σ') : SortedI σ' := by
  obtain ⟨o, rfl, _⟩ := (Sched.fwd_ok env).commit σ σ' t v v h
  have hd : (σ.commit env t o).done = σ.done ++ [t] := rfl
  have hr : (σ.commit env t o).rows = σ.rows ++ o.new.map (mkRow (env.info t).resource t) := rfl
  refine ⟨?_, ?_, ?_⟩
  · rw [hd]
    exact List.nodup_append.2 ⟨hi.nodup, by simp, fun a ha b hb hab => by
      simp only [List.mem_singleton] at hb; exact ht (hb ▸ hab ▸ ha)⟩
  · intro r hr'
    rw [hr] at hr'
    rw [hd]
    rcases List.mem_append.1 hr' with h | h
    · exact List.mem_append_left _ (hi.rowsDone r h)
    · obtain ⟨p, _, rfl⟩ := List.mem_map.1 h
      simp [mkRow]
  · rw [hr, hd]
    refine List.pairwise_append.2 ⟨?_, ?_, ?_⟩
    · refine List.Pairwise.imp_of_mem ?_ hi.sorted
      intro a b ha hb hab
      rw [idxOf_ext (hi.rowsDone a ha), idxOf_ext (hi.rowsDone b hb)]
      exact hab
    · rw [List.pairwise_map]
      exact List.pairwise_of_forall (fun _ _ => Nat.le_refl _)
    · intro a ha b hb
      obtain ⟨p, _, rfl⟩ := List.mem_map.1 hb
      rw [idxOf_ext (hi.rowsDone a ha)]
      have h1 := List.idxOf_lt_length_of_mem (hi.rowsDone a ha)
      have h2 := idxOf_new (l := [t]) ht
      simp only [mkRow]
      omega

/-- `C08_order`, for a forest (`membersNodup`, `childrenOK`) with links stored on both ends -/
theorem order_holds (env : Env) (f0 : Uid → Fields) (res0 : List (Option Nat × Cal)) (o : Output)
    (hf : env.flagsOK) (hl : env.linksSym) (hch : env.childrenOK) (hn : env.membersNodup)
    (h : forwardCalc env f0 res0 = .ok o) : c08Order env o = true := by
  obtain ⟨mem, σ, hm, hp, hout⟩ := (Sched.fwd env).run_ok (fwdRun_eq env ▸ forwardCalc_run env f0 res0 o h)
  have hml := memberList_eq env mem hm
  have hmemb : ∀ t, (env.info t).member = true ↔ t ∈ mem := fun t => by rw [← hml]; exact hf t
  have hch' : ∀ t c, t ∈ mem → c ∈ (env.info t).children → (env.info c).parent = some t := by
    intro t c ht hc; exact hch t c (by rw [hml]; exact ht) hc
  have hnd : mem.Nodup := by rw [← hml]; exact hn
  have hS : SortedI σ := by
    refine passList_inv SortedI _ _ ?_ _ _ ⟨List.nodup_nil, (fun r hr => by cases hr), List.Pairwise.nil⟩ hp
    intro a x b _ ha hh
    exact (Sched.fwd env).pass_inv (Sched.fwd_ok env) SortedI (fun _ => True)
      (fun σ σ' t _ v _ hi ht _ hpl => hi.place ht hpl)
      (fun _ _ _ _ => trivial) (fun _ _ _ _ _ => trivial) _ _ _ _ _ _ trivial ha hh
  have hmem' := hm
  unfold members at hmem'
  simp only [Option.map_eq_some_iff] at hmem'
  obtain ⟨ls, hls, hflat⟩ := hmem'
  have hON : OrderedNew env { f := prepare env f0 mem, rows := [], done := [], res := res0, reads := 1 } σ mem := by
    have := order_list env mem hm hmemb hl hch' (env.n + 1)
      (order_pass env mem hm hmemb hl hch' (env.n + 1)) env.roots [] env.bound (env.n + 1) ls _ σ hp
      (members_root env mem hm) (by intro x hx; cases hx) hls (by rw [hflat]; exact hnd)
    rw [hflat] at this
    exact this
  subst hout
  unfold c08Order outOf
  simp only [List.all_eq_true, List.mem_range, List.mem_filter, Bool.or_eq_true, Bool.not_eq_true',
    decide_eq_false_iff_not, decide_eq_true_eq, hml, and_imp]
  intro i hi j hj
  by_cases hij : i < j
  · right
    intro a ha hta b hb htb
    have hxi : ((mem.filter (freeLeaf env)).getD i 0) = (mem.filter (freeLeaf env))[i] := by simp [hi]
    have hxj : ((mem.filter (freeLeaf env)).getD j 0) = (mem.filter (freeLeaf env))[j] := by simp [hj]
    have hra : σ.rows.getD a default = σ.rows[a] := by simp [ha]
    have hrb : σ.rows.getD b default = σ.rows[b] := by simp [hb]
    rw [hxi, hra] at hta
    rw [hxj, hrb] at htb
    have hta' : σ.rows[a].task = (mem.filter (freeLeaf env))[i] := by simpa using hta
    have htb' : σ.rows[b].task = (mem.filter (freeLeaf env))[j] := by simpa using htb
    have hsub : List.Sublist [(mem.filter (freeLeaf env))[i], (mem.filter (freeLeaf env))[j]] mem :=
      (pair_sublist_of_lt _ i j hij hj).trans List.filter_sublist
    have hfi : freeLeaf env (mem.filter (freeLeaf env))[i] = true :=
      (List.mem_filter.1 (List.getElem_mem hi)).2
    have hfj : freeLeaf env (mem.filter (freeLeaf env))[j] = true :=
      (List.mem_filter.1 (List.getElem_mem hj)).2
    obtain ⟨_, _, hlt⟩ := hON _ _ hfi hfj hsub (by simp)
    rw [← hta', ← htb'] at hlt
    apply Classical.byContradiction
    intro hab
    rcases Nat.lt_or_ge b a with hba | hba
    · have := (List.pairwise_iff_getElem.1 hS.sorted) b a hb ha hba
      omega
    · have : a = b := by omega
      subst this
      omega
  · left; exact hij

end Pj.C08

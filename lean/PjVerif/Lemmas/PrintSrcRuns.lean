/-
  Lemmas/PrintSrcRuns.lean — what makes the concrete runs of PrintSrcCheckB.lean instances of the general theorems
  (PrintSrcA / B / C): the WBS `Check.w1` of PrintSrcCheck.lean satisfies their side conditions (`colOK_w1`, `depth_w1`;
  `cLib_ok` is in PrintSrcLib.lean), and the theorems on `w1` (`*_w1`).  This file holds no run.
-/
import PjVerif.Lemmas.PrintSrcC
import PjVerif.Lemmas.PrintSrcCheck
namespace Pj.PrintSrc
open Pj.PyLite Pj.Print Pj.Extracted.Print

/-- `ColOK` on one task, decided: the key of a `print_color` text is the key `S` gives its text -/
def colB (S : Lib) (p : PyTask) : Bool :=
  match lookupA p.dict pcKey with
  | none | some .none => true
  | some (.str k) => S.I (S.D k) == k
  | some _ => false

theorem colOK_mk {S : Lib} (l : List PyTask) (h : (l.all (colB S)) = true) : ColOK S (Check.mk l) := by
  intro t v hv
  have hp : colB S (Check.mk l t) = true := by
    unfold Check.mk List.getD
    cases ht : l[t]? with
    | none => rfl
    | some p => exact List.all_eq_true.1 h p (List.mem_of_getElem? ht)
  simp only [colB, hv] at hp
  cases v with
  | none => exact .inl rfl
  | str k => exact .inr ⟨S.D k, by simp only [Lib.s, beq_iff_eq.1 hp]⟩
  | _ => cases hp

instance (pts : Nat → PyTask) : (n t : Nat) → Decidable (DepthOK pts n t)
  | 0, _ => isFalse id
  | n + 1, t =>
    have : ∀ c, Decidable (DepthOK pts n c) := instDecidableDepthOK pts n
    inferInstanceAs (Decidable (∀ c ∈ (pts t).children, DepthOK pts n c))

theorem DepthOK.succ {pts : Nat → PyTask} : ∀ {n t : Nat}, DepthOK pts n t → DepthOK pts (n + 1) t
  | 0, _, h => h.elim
  | _ + 1, _, h => fun c hc => (h c hc).succ

/-- a task outside the list has no children: enough to look at the tasks of the list -/
theorem depthOK_mk (l : List PyTask) (n : Nat) (h : ∀ t < l.length, DepthOK (Check.mk l) (n + 1) t) (t : Nat) :
    DepthOK (Check.mk l) (n + 1) t := by
  by_cases ht : t < l.length
  · exact h t ht
  · intro c hc
    have : Check.mk l t = default := by simp [Check.mk, List.getD, List.getElem?_eq_none (Nat.le_of_not_lt ht)]
    rw [this] at hc; cases hc

namespace Check

theorem colOK_w1 : ColOK S w1 := colOK_mk _ (by decide +kernel)

theorem depth_w1 : ∀ t, DepthOK w1 7 t := depthOK_mk _ 6 (by decide +kernel)

/-! the entry points on `w1` at the fuel `FC` and the model's fuel 8 of the Check files -/

theorem fieldValue_w1 (t : Nat) (f : Str) : interpFieldValue S w1 FC t f = .ok (.atom (S.s (fieldValue ts1 t f))) :=
  interpFieldValue_eq_all w1 cLib_ok FC t f (by decide)

theorem linkedId_w1 (t l : Nat) : interpLinkedId S w1 FC t (some l) = .ok (.atom (S.s (linkedId ts1 t l))) :=
  interpLinkedId_eq w1 cLib_ok FC t (some l) (by decide)

theorem titleLen_w1 (t lv cur : Nat) : interpTitleLen S w1 FC t lv cur = .ok (.atom (i (titleLen ts1 8 lv t cur))) :=
  interpTitleLen_eq w1 cLib_ok FC 7 t lv cur (depth_w1 t).succ (by decide)

theorem maxFieldLen_w1 (l : List Nat) (f : Str) :
    interpMaxFieldLen S w1 FC l f = .ok (.atom (i (maxFieldLen ts1 f 8 l))) :=
  interpMaxFieldLen_eq w1 cLib_ok FC 7 l f (fun t _ => depth_w1 t) (by decide)

theorem subtree_w1 (th : PyTheme) (fields : List Str) (children : Bool) (level t : Nat) (log : List Atom) :
    interpSubtree S w1 th FC t fields level children log =
      .ok (log ++ logOfRows S (subtreeRows ts1 fields children (toTheme th) 8 level t)) :=
  interpSubtree_eq w1 th cLib_ok colOK_w1 FC 7 t level fields children log (fun _ => (depth_w1 t).succ) (by decide)

theorem repr_w1 (th : PyTheme) (tasks : List Nat) (fields : List Str) (children : Bool) :
    interpRepr S w1 th FC tasks fields children =
      .ok (.atom (S.s (sheet ts1 7 tasks fields children (toTheme th))),
        logOfRows S (sheetRows ts1 7 tasks fields children (toTheme th))) ∧
    rowsOfLog S (logOfRows S (sheetRows ts1 7 tasks fields children (toTheme th))) =
      some (sheetRows ts1 7 tasks fields children (toTheme th)) :=
  ⟨interpRepr_eq w1 th cLib_ok colOK_w1 FC 7 tasks fields children (fun _ t _ => (depth_w1 t).succ) (by decide),
   rowsOfLog_logOfRows cLib_ok _ (sheetRows_ok ts1 7 tasks fields children (toTheme th))⟩

end Check
end Pj.PrintSrc

/-
  Lemmas/DhtmlxSrcCheck.lean — concrete runs of the translated `DhtmlxGantt.__data` (Extracted/DhtmlxSrc.lean) against
  the DHTMLX part of Model/Render.lean, with the concrete string library `cLib` of Lemmas/PrintSrc.lean: instances of
  `interpOut_eq` (Lemmas/DhtmlxSrcA.lean), the model's values evaluated by the kernel.  See Lemmas/DhtmlxSrc.lean.
-/
import PjVerif.Lemmas.DhtmlxSrcA
import PjVerif.Lemmas.PrintSrcLib
namespace Pj.DhtmlxSrc
open Pj.PyLite Pj.Render Pj.Extracted.Dhtmlx
open Pj.PrintSrc (Lib cLib enc dec cLib_ok)

deriving instance DecidableEq for Except

namespace Check

def FC : Nat := 5
def S : Lib := cLib
def mk (l : List RTask) : Nat → RTask := fun u => l.getD u default
def s (x : String) : Atom := cLib.s x.toList
def i (n : Int) : Atom := .num (n : Rat)

/-- the clock reads 100.  Tasks 0-5 are the WBS (roots 0, 4, 5; `wbs.tasks` = 0 1 3 2 4 5); 6 and 7 are outside it.
    0 "Phase"   root, children 1 and 2, no estimate; user attributes `text` (clashes), `note` = 7 (carried as "7"),
                a private `_Task__x` (dropped)
    1 "Build"   child of 0, child 3, estimate 10 spent 4; predecessors 2 (EMITTED LATER) and 6 (OUTSIDE the WBS);
                user attributes `progress` (clashes), `gantt_open` = "false" (read by `open`, and carried too); a css class
    2 "Gate"    milestone, child of 0; user attribute `type` (clashes)
    3 "Sub"     child of 1, spent 12 ABOVE the estimate 8; predecessor 1; user attributes `open` (clashes), `color`
    4 "Past"    root, ended before now (progress 1 whatever the numbers); predecessor 3 twice
    5 "Orphan"  its `parent` (7) is NOT a task of the WBS: parent 0; estimate 5, nothing spent yet -/
def w1 : Nat → RTask := mk
  [ { id := 1, name := "Phase".toList, milestone := false, start := 110, end_ := 150, resource := none, estimate := 0,
      spent := none, parent := none, children := [1, 2], preds := [],
      dict := [("_Task__x".toList, i 1), ("text".toList, s "HACK"), ("note".toList, i 7)] },
    { id := 2, name := "Build".toList, milestone := false, start := 110, end_ := 130, resource := some "ann".toList,
      estimate := 10, spent := some 4, parent := some 0, children := [3], preds := [2, 6],
      dict := [("progress".toList, i 5), ("gantt_open".toList, s "false")] },
    { id := 3, name := "Gate".toList, milestone := true, start := 150, end_ := 150, resource := none, estimate := 0,
      spent := none, parent := some 0, children := [], preds := [], dict := [("type".toList, s "project")] },
    { id := 4, name := "Sub".toList, milestone := false, start := 110, end_ := 120, resource := none, estimate := 8,
      spent := some 12, parent := some 1, children := [], preds := [1],
      dict := [("open".toList, .bool false), ("color".toList, s "red")] },
    { id := 5, name := "Past".toList, milestone := false, start := 10, end_ := 99, resource := none, estimate := 0,
      spent := some 3, parent := none, children := [], preds := [3, 3], dict := [] },
    { id := 6, name := "Orphan".toList, milestone := false, start := 100, end_ := 100, resource := none, estimate := 5,
      spent := none, parent := some 7, children := [], preds := [], dict := [] },
    { id := 70, name := "Ext".toList, milestone := false, start := 0, end_ := 1, resource := none, estimate := 1,
      spent := none, parent := none, children := [], preds := [], dict := [] } ]

def V1 : View := { roots := [0, 4, 5], tasks := [0, 1, 3, 2, 4, 5], n := 7, now := 100, fmt := cLib.fmt, alloc := 1000 }
/-- a sub-plan: the root is task 1 only (its parent 0 is then outside: parent 0) -/
def V2 : View := { V1 with roots := [1], tasks := [1, 3] }
def V3 : View := { V1 with roots := [], tasks := [] }
/-- spent 0 -/
def w2 : Nat → RTask := fun u => if u = 5 then { w1 5 with spent := some 0 } else w1 u

def tc : PDict := [(i 2, s "dhtmlx_bar_0")]

/-! ### the program's lists = the model's entries and links, completed by `entryDict` / `linkDict` -/

/- instances of `interpOut_eq`: the names of every `__dict__` are distinct (evaluated) -/
example : interpOut S V1 w1 FC tc = .ok (some (expData S V1 w1 tc, expLinks S V1 w1)) :=
  interpOut_eq V1 w1 cLib_ok (by decide +kernel) FC (by decide) tc
example : interpOut S V2 w1 FC tc = .ok (some (expData S V2 w1 tc, expLinks S V2 w1)) :=
  interpOut_eq V2 w1 cLib_ok (by decide +kernel) FC (by decide) tc
example : interpOut S V3 w1 FC tc = .ok (some ([], [])) := by
  rewrite [interpOut_eq (S := S) V3 w1 cLib_ok (by decide +kernel) FC (by decide) tc]; decide +kernel
example : interpOut S V1 w2 FC [] = .ok (some (expData S V1 w2 [], expLinks S V1 w2)) :=
  interpOut_eq V1 w2 cLib_ok (by decide +kernel) FC (by decide) []

/-- the model's values (= the program's, by the examples above): children before their parent, the root last -/
example : dhtmlxOrder (dAll V1 w1) V1.n V1.roots = [1, 3, 2, 0, 4, 5] := by decide +kernel
example : (dhtmlxData (dAll V1 w1) V1.n V1.roots).map (fun e => (e.id, e.milestone, e.parent, e.progress)) =
    [(2, false, 1, 2/5), (4, false, 2, 1), (3, true, 1, 0), (1, false, 0, 0), (5, false, 0, 1), (6, false, 0, 0)] := by
  decide +kernel
example : (dhtmlxLinks (dAll V1 w1) V1.n V1.roots).map (fun l => (l.id, l.source, l.target)) =
    [(1, 3, 2), (2, 70, 2), (3, 2, 4), (4, 4, 5), (5, 4, 5)] := by decide +kernel
example : (dhtmlxData (dAll V2 w1) V2.n V2.roots).map (fun e => (e.id, e.parent)) = [(4, 2), (2, 0)] := by decide +kernel

/-! ### the user attributes: computed keys win, other names are carried as text (the examples: DhtmlxSrcCheckB.lean) -/

def outData (V : View) (w : Nat → RTask) : List PDict :=
  match interpOut S V w FC tc with
  | .ok (some x) => x.1
  | _ => []

def field (d : PDict) (x : String) : Option Atom := Dict.get? d (s x)

/-- too little fuel (the objects holding the dicts are constructed by a call): the recursion limit -/
example : (interpData S V1 w1 1 tc).map (·.1) = .error (.crash .recursion) := by decide +kernel

end Check
end Pj.DhtmlxSrc

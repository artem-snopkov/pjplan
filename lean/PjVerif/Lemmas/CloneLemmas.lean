/-
  Lemmas/CloneLemmas.lean — C10: `cloneSel` (Model/Clone.lean) as a simulation over its setter calls (`cloneOps`: four
  calls per selected task, then the new root's `children = …`), all on the extended universe `extend s sel`.
  * Every call has fresh uids in hierarchy position (`CloneOpKind`), so it keeps the invariant (`CInv`) and the frame:
    hierarchy and owners of the old uids (`HFrame`); members of the source keep their link lists, the other old tasks
    only gain fresh entries (`LFrame`).
  * Soundness (`Sound`): every edge at a fresh uid is the image, under `src`, of an edge of the source; hence the
    validations of the next call pass and no call is rejected.
  * Completeness (`Complete`, for a selection in pre-order, `PreOK`): after the calls for `sel[0..m)` the children lists
    and link lists of their clones are the mirrored ones, the children lists up to a rotation (`rot`: re-setting a
    parent moves the child to the end of the list).
  * The last call and independent roots give the mirrored structure (`Mirror`), from which the executable predicates of
    Spec/Clone.lean are read off.
-/
import PjVerif.Spec.Clone
import PjVerif.Lemmas.GraphEffLemmas
namespace Pj

/-- `omega` does not look through the abbreviation `Uid := Nat` in instance arguments -/
macro "uomega" : tactic => `(tactic| ((try simp only [Uid] at *); omega))

theorem ne_of_lt_of_le {u N c : Nat} (hu : u < N) (hc : N ≤ c) : u ≠ c := Nat.ne_of_lt (Nat.lt_of_lt_of_le hu hc)

theorem seqOps_cons_err (f : G → G × Option Err) (fs : List (G → G × Option Err)) (s s' : G) (e : Err)
    (h : f s = (s', some e)) : seqOps id s (f :: fs) = (s', some e) := by
  simp only [seqOps, h]

theorem seqOps_cons_ok (f : G → G × Option Err) (fs : List (G → G × Option Err)) (s s' : G)
    (h : f s = (s', none)) : seqOps id s (f :: fs) = seqOps id s' fs := by
  simp only [seqOps, h, id]

theorem seqOps_singleton (f : G → G × Option Err) (s : G) : seqOps id s [f] = f s := by
  rcases hfs : f s with ⟨s', e⟩
  cases e with
  | some e => exact seqOps_cons_err f [] s s' e hfs
  | none => exact seqOps_cons_ok f [] s s' hfs

theorem seqOps_preserves (P : G → Prop) : ∀ (ops : List (G → G × Option Err)) (s : G),
    (∀ f ∈ ops, ∀ g, P g → P (f g).1) → P s → P (seqOps id s ops).1 := by
  intro ops
  induction ops with
  | nil => intro s _ hs; exact hs
  | cons f fs ih =>
    intro s h hs
    have h1 := h f List.mem_cons_self s hs
    rcases hfs : f s with ⟨s', e⟩
    rw [hfs] at h1
    cases e with
    | some e => rw [seqOps_cons_err f fs s s' e hfs]; exact h1
    | none =>
      rw [seqOps_cons_ok f fs s s' hfs]
      exact ih s' (fun f' hf' => h f' (List.mem_cons_of_mem _ hf')) h1

theorem seqOps_append_ok : ∀ (A B : List (G → G × Option Err)) (g : G), (seqOps id g A).2 = none →
    seqOps id g (A ++ B) = seqOps id (seqOps id g A).1 B := by
  intro A
  induction A with
  | nil => intro B g _; rfl
  | cons f fs ih =>
    intro B g h
    rcases hfs : f g with ⟨g', e⟩
    cases e with
    | some e =>
      rw [seqOps_cons_err f fs g g' e hfs] at h
      cases h
    | none =>
      rw [seqOps_cons_ok f fs g g' hfs] at h
      rw [List.cons_append, seqOps_cons_ok f (fs ++ B) g g' hfs, seqOps_cons_ok f fs g g' hfs]
      exact ih B g' h

/-- `Q` is indexed by the number of blocks `f t` already run -/
theorem seqOps_flatMap (Q : Nat → G → Prop) (f : Uid → List (G → G × Option Err)) :
    ∀ (l : List Uid) (m : Nat) (g : G),
      (∀ i t g, l[i]? = some t → Q (m + i) g → ∃ g', seqOps id g (f t) = (g', none) ∧ Q (m + i + 1) g') →
      Q m g → ∃ g', seqOps id g (l.flatMap f) = (g', none) ∧ Q (m + l.length) g' := by
  intro l
  induction l with
  | nil => intro m g _ hq; exact ⟨g, rfl, hq⟩
  | cons t l ih =>
    intro m g hstep hq
    obtain ⟨g1, h1, h2⟩ := hstep 0 t g rfl hq
    obtain ⟨g', h3, h4⟩ := ih (m + 1) g1 (fun i t' g' hi hq' => by
      have := hstep (i + 1) t' g' (by simpa using hi) (by rw [← Nat.add_assoc, Nat.add_right_comm]; exact hq')
      rw [← Nat.add_assoc, Nat.add_right_comm m i 1] at this
      exact this) h2
    refine ⟨g', ?_, ?_⟩
    · rw [List.flatMap_cons, seqOps_append_ok _ _ g (by rw [h1]), h1]
      exact h3
    · rw [List.length_cons, ← Nat.add_assoc, Nat.add_right_comm]
      exact h4

theorem cloneOf_some (n : Nat) (sel : List Uid) (x c : Uid) (h : cloneOf n sel x = some c) :
    ∃ i, ∃ hi : i < sel.length, c = n + i ∧ sel[i] = x ∧ ∀ j (hj : j < i), sel[j]'(Nat.lt_trans hj hi) ≠ x := by
  unfold cloneOf at h
  split at h
  · rename_i i hidx
    obtain ⟨hi, h1, h2⟩ := List.idxOf?_eq_some_iff.mp hidx
    cases h
    exact ⟨i, hi, rfl, h1, fun j hj => h2 j hj⟩
  · cases h

theorem cloneOf_none_iff (n : Nat) (sel : List Uid) (x : Uid) : cloneOf n sel x = none ↔ x ∉ sel := by
  unfold cloneOf
  split
  · rename_i i hidx
    constructor
    · intro h; cases h
    · intro h
      obtain ⟨hi, h1, _⟩ := List.idxOf?_eq_some_iff.mp hidx
      exact absurd (h1 ▸ List.getElem_mem hi) h
  · rename_i hidx
    exact ⟨fun _ => List.idxOf?_eq_none_iff.mp hidx, fun _ => rfl⟩

theorem cloneOf_mem (n : Nat) (sel : List Uid) (x : Uid) (hx : x ∈ sel) : ∃ c, cloneOf n sel x = some c := by
  cases h : cloneOf n sel x with
  | some c => exact ⟨c, rfl⟩
  | none => exact absurd hx ((cloneOf_none_iff n sel x).mp h)

theorem cloneOf_cons (n : Nat) (h : Uid) (l : List Uid) (x : Uid) :
    cloneOf n (h :: l) x = if h = x then some n else cloneOf (n + 1) l x := by
  unfold cloneOf
  simp only [List.idxOf?_cons]
  by_cases e : h = x
  · simp [e]
  · have : (h == x) = false := by simpa using e
    simp only [this, e, if_false, Bool.false_eq_true]
    cases l.idxOf? x with
    | none => rfl
    | some i => simp only [Option.map_some]; exact congrArg some (by show (n + (i + 1) : Nat) = n + 1 + i; omega)

theorem getD_eq_getElem (l : List Uid) (i : Nat) (hi : i < l.length) : l.getD i 0 = l[i] := by
  simp [List.getD, hi]

/-- the four setter calls `cloneSel` makes for the selected task `t`, on its clone -/
def perTask (s : G) (w : Uid) (sel : List Uid) (t : Uid) : List (G → G × Option Err) :=
  match cloneOf s.n sel t with
  | none => []
  | some c =>
    [ (fun g => setParent g c ((s.pubParent t).bind (cloneOf s.n sel))),
      (fun g => setChildren g c ((s.children t).filterMap (cloneOf s.n sel))),
      (fun g => setPreds g c ((s.preds t).filterMap (linkTarget s w s.n sel))),
      (fun g => setSuccs g c ((s.succs t).filterMap (linkTarget s w s.n sel))) ]

def finalOp (s : G) (roots sel : List Uid) : G → G × Option Err :=
  fun g => setChildren g (s.n + sel.length) (roots.filterMap (cloneOf s.n sel))

def cloneOps (s : G) (w : Uid) (roots sel : List Uid) : List (G → G × Option Err) :=
  sel.flatMap (perTask s w sel) ++ [finalOp s roots sel]

theorem cloneSel_eq (s : G) (w : Uid) (roots : List Uid) (subs : List (List Uid))
    (h : roots.mapM (fun r => subtreeF s.children s.fuel r) = some subs) :
    cloneSel s w roots =
      ((seqOps id (extend s (dedupFirst subs.flatten)) (cloneOps s w roots (dedupFirst subs.flatten))).1,
       (seqOps id (extend s (dedupFirst subs.flatten)) (cloneOps s w roots (dedupFirst subs.flatten))).2,
       s.n + (dedupFirst subs.flatten).length) := by
  unfold cloneSel
  rw [h]
  rfl

theorem cloneSel_none (s : G) (w : Uid) (roots : List Uid)
    (h : roots.mapM (fun r => subtreeF s.children s.fuel r) = none) :
    cloneSel s w roots = (s, some (.crash .recursion), 0) := by
  unfold cloneSel
  rw [h]

theorem extend_tid_lt (s : G) (sel : List Uid) (u : Uid) (hu : u < s.n) : (extend s sel).tid u = s.tid u := by
  simp [extend, hu]

theorem extend_tid_clone (s : G) (sel : List Uid) (i : Nat) (hi : i < sel.length) :
    (extend s sel).tid (s.n + i) = s.tid (sel.getD i 0) := by
  have h1 : ¬ s.n + i < s.n := by omega
  simp [extend, hi, h1]

theorem extend_tid_root (s : G) (sel : List Uid) : (extend s sel).tid (s.n + sel.length) = emptyId := by
  have h1 : ¬ s.n + sel.length < s.n := by omega
  simp [extend, h1]

theorem extend_tid_gt (s : G) (sel : List Uid) (u : Uid) (hu : s.n + sel.length < u) :
    (extend s sel).tid u = s.tid u := by
  have h1 : ¬ u < s.n := by uomega
  have h2 : ¬ u < s.n + sel.length := by uomega
  have h3 : ¬ u = s.n + sel.length := by uomega
  simp [extend, h1, h2, h3]

def IsClone (s : G) (sel : List Uid) (c : Uid) : Prop := ∃ i, i < sel.length ∧ c = s.n + i

/-- the task a uid stands for: a clone stands for the task it copies, an old uid for itself -/
def src (s : G) (sel : List Uid) (u : Uid) : Uid := if u < s.n then u else sel.getD (u - s.n) 0

theorem src_lt (s : G) (sel : List Uid) (u : Uid) (h : u < s.n) : src s sel u = u := by
  unfold src; rw [if_pos h]

theorem src_clone (s : G) (sel : List Uid) (i : Nat) : src s sel (s.n + i) = sel.getD i 0 := by
  unfold src
  have h1 : ¬ s.n + i < s.n := by omega
  have h2 : s.n + i - s.n = i := by omega
  rw [if_neg h1, h2]

/-- a task that does not belong to the source WBS -/
def Outside (s : G) (w : Uid) (v : Uid) : Prop := v < s.n ∧ s.owner v ≠ some w ∧ s.hidden v = false

inductive CloneOpKind (s : G) (w : Uid) (sel : List Uid) : (G → G × Option Err) → Prop
  | par (c : Uid) (p : Option Uid) : IsClone s sel c → (∀ q, p = some q → IsClone s sel q) →
      CloneOpKind s w sel (fun g => setParent g c p)
  | chi (c : Uid) (l : List Uid) : (IsClone s sel c ∨ c = s.n + sel.length) → (∀ v ∈ l, IsClone s sel v) →
      CloneOpKind s w sel (fun g => setChildren g c l)
  | prd (c : Uid) (l : List Uid) : IsClone s sel c → (∀ v ∈ l, IsClone s sel v ∨ Outside s w v) →
      CloneOpKind s w sel (fun g => setPreds g c l)
  | suc (c : Uid) (l : List Uid) : IsClone s sel c → (∀ v ∈ l, IsClone s sel v ∨ Outside s w v) →
      CloneOpKind s w sel (fun g => setSuccs g c l)

theorem cloneOf_src (s : G) (sel : List Uid) (x c : Uid) (h : cloneOf s.n sel x = some c) :
    IsClone s sel c ∧ src s sel c = x := by
  obtain ⟨i, hi, rfl, hx, _⟩ := cloneOf_some s.n sel x c h
  refine ⟨⟨i, hi, rfl⟩, ?_⟩
  rw [src_clone, getD_eq_getElem sel i hi, hx]

theorem cloneOf_isClone (s : G) (sel : List Uid) (x c : Uid) (h : cloneOf s.n sel x = some c) : IsClone s sel c :=
  (cloneOf_src s sel x c h).1

theorem mem_filterMap_cloneOf (s : G) (sel l : List Uid) (v : Uid) (hv : v ∈ l.filterMap (cloneOf s.n sel)) :
    IsClone s sel v ∧ src s sel v ∈ l := by
  obtain ⟨x, hx, hxv⟩ := List.mem_filterMap.mp hv
  obtain ⟨a, b⟩ := cloneOf_src s sel x v hxv
  exact ⟨a, b ▸ hx⟩

theorem filterMap_cloneOf_isClone (s : G) (sel l : List Uid) :
    ∀ v ∈ l.filterMap (cloneOf s.n sel), IsClone s sel v :=
  fun v hv => (mem_filterMap_cloneOf s sel l v hv).1

theorem parentArg_ok (s : G) (sel : List Uid) (t q : Uid)
    (hq : (s.pubParent t).bind (cloneOf s.n sel) = some q) :
    IsClone s sel q ∧ s.parent t = some (src s sel q) := by
  obtain ⟨tp, h1, h2⟩ := Option.bind_eq_some_iff.mp hq
  obtain ⟨a, b⟩ := cloneOf_src s sel tp q h2
  exact ⟨a, b ▸ ((pubParent_eq_some_iff s t tp).mp h1).1⟩

theorem childrenArg_ok (s : G) (hw : WF s) (sel : List Uid) (t v : Uid)
    (hv : v ∈ (s.children t).filterMap (cloneOf s.n sel)) :
    IsClone s sel v ∧ s.parent (src s sel v) = some t := by
  obtain ⟨a, b⟩ := mem_filterMap_cloneOf s sel _ v hv
  exact ⟨a, (hw.listed _ t).mpr b⟩

theorem linkTarget_ok (s : G) (w : Uid) (sel : List Uid) (x v : Uid) (hx : x < s.n ∧ s.hidden x = false)
    (h : linkTarget s w s.n sel x = some v) : (IsClone s sel v ∨ Outside s w v) ∧ src s sel v = x := by
  unfold linkTarget at h
  split at h
  · exact (cloneOf_src s sel x v h).imp_left Or.inl
  · rename_i hne
    cases h
    exact ⟨Or.inr ⟨hx.1, hne, hx.2⟩, src_lt s sel x hx.1⟩

theorem predsArg_ok (s : G) (hi : Inv s) (w : Uid) (sel : List Uid) (t v : Uid)
    (hv : v ∈ (s.preds t).filterMap (linkTarget s w s.n sel)) :
    (IsClone s sel v ∨ Outside s w v) ∧ src s sel v ∈ s.preds t := by
  obtain ⟨x, hx, hxv⟩ := List.mem_filterMap.mp hv
  have := preds_ok s hi t x hx
  obtain ⟨a, b⟩ := linkTarget_ok s w sel x v ⟨this.2, this.1⟩ hxv
  exact ⟨a, b ▸ hx⟩

theorem succsArg_ok (s : G) (hi : Inv s) (w : Uid) (sel : List Uid) (t v : Uid)
    (hv : v ∈ (s.succs t).filterMap (linkTarget s w s.n sel)) :
    (IsClone s sel v ∨ Outside s w v) ∧ src s sel v ∈ s.succs t :=
  predsArg_ok s.rev hi.rev w sel t v hv

theorem cloneOps_kind (s : G) (w : Uid) (roots sel : List Uid) (hi : Inv s) :
    ∀ f ∈ cloneOps s w roots sel, CloneOpKind s w sel f := by
  intro f hf
  unfold cloneOps at hf
  rcases List.mem_append.mp hf with hf | hf
  · obtain ⟨t, _, hft⟩ := List.mem_flatMap.mp hf
    unfold perTask at hft
    split at hft
    · cases hft
    · rename_i c hc
      have hcl := cloneOf_isClone s sel t c hc
      simp only [List.mem_cons, List.not_mem_nil, or_false] at hft
      rcases hft with rfl | rfl | rfl | rfl
      · exact CloneOpKind.par c _ hcl (fun q hq => (parentArg_ok s sel t q hq).1)
      · exact CloneOpKind.chi c _ (Or.inl hcl) (filterMap_cloneOf_isClone s sel _)
      · exact CloneOpKind.prd c _ hcl (fun v hv => (predsArg_ok s hi w sel t v hv).1)
      · exact CloneOpKind.suc c _ hcl (fun v hv => (succsArg_ok s hi w sel t v hv).1)
  · simp only [List.mem_cons, List.not_mem_nil, or_false] at hf
    subst hf
    exact CloneOpKind.chi _ _ (Or.inr rfl) (filterMap_cloneOf_isClone s sel _)

theorem cloneOps_n_tid (s : G) (w : Uid) (roots sel : List Uid) :
    ∀ f ∈ cloneOps s w roots sel, ∀ g, (f g).1.n = g.n ∧ (f g).1.tid = g.tid := by
  intro f hf g
  unfold cloneOps at hf
  rcases List.mem_append.mp hf with hf | hf
  · obtain ⟨t, _, hft⟩ := List.mem_flatMap.mp hf
    unfold perTask at hft
    split at hft
    · cases hft
    · simp only [List.mem_cons, List.not_mem_nil, or_false] at hft
      rcases hft with rfl | rfl | rfl | rfl
      · exact ⟨setParent_n _ _ _, setParent_tid _ _ _⟩
      · exact ⟨setChildren_n _ _ _, setChildren_tid _ _ _⟩
      · exact ⟨setPreds_n _ _ _, setPreds_tid _ _ _⟩
      · exact ⟨setSuccs_n _ _ _, setSuccs_tid _ _ _⟩
  · simp only [List.mem_cons, List.not_mem_nil, or_false] at hf
    subst hf
    exact ⟨setChildren_n _ _ _, setChildren_tid _ _ _⟩

theorem seqOps_n_tid (s : G) (w : Uid) (roots sel : List Uid) (s0 : G) :
    (seqOps id s0 (cloneOps s w roots sel)).1.n = s0.n ∧ (seqOps id s0 (cloneOps s w roots sel)).1.tid = s0.tid := by
  refine seqOps_preserves (fun g => g.n = s0.n ∧ g.tid = s0.tid) _ s0 ?_ ⟨rfl, rfl⟩
  intro f hf g hg
  obtain ⟨h1, h2⟩ := cloneOps_n_tid s w roots sel f hf g
  exact ⟨h1.trans hg.1, h2.trans hg.2⟩

theorem not_hidden_of_ge (s : G) (hi : Inv s) (u : Uid) (hu : s.n ≤ u) : s.hidden u = false := by
  cases h : s.hidden u with
  | false => rfl
  | true => exact absurd (hi.bnd.owner u u (hi.own.root u h)).1 (Nat.not_lt.mpr hu)

theorem extend_hidden_lt (s : G) (sel : List Uid) (u : Uid) (hu : u < s.n) :
    (extend s sel).hidden u = s.hidden u := by
  unfold G.hidden; rw [extend_tid_lt s sel u hu]

theorem extend_hidden_clone (s : G) (sel : List Uid) (hsel : ∀ t ∈ sel, s.hidden t = false) (i : Nat)
    (hi : i < sel.length) : (extend s sel).hidden (s.n + i) = false := by
  unfold G.hidden; rw [extend_tid_clone s sel i hi, getD_eq_getElem sel i hi]
  exact hsel _ (List.getElem_mem hi)

theorem extend_hidden_root (s : G) (sel : List Uid) : (extend s sel).hidden (s.n + sel.length) = true := by
  unfold G.hidden; rw [extend_tid_root]; simp

theorem extend_hidden_gt (s : G) (sel : List Uid) (u : Uid) (hu : s.n + sel.length < u) :
    (extend s sel).hidden u = s.hidden u := by
  unfold G.hidden
  rw [extend_tid_gt s sel u hu]

theorem extend_hidden_cases (s : G) (sel : List Uid) (hi : Inv s) (hsel : ∀ t ∈ sel, s.hidden t = false) (u : Uid) :
    (u < s.n ∧ (extend s sel).hidden u = s.hidden u) ∨
    (s.n ≤ u ∧ u ≠ s.n + sel.length ∧ (extend s sel).hidden u = false) ∨
    (u = s.n + sel.length ∧ (extend s sel).hidden u = true) := by
  by_cases h1 : u < s.n
  · exact Or.inl ⟨h1, extend_hidden_lt s sel u h1⟩
  · have h1 := Nat.le_of_not_lt h1
    by_cases h3 : u = s.n + sel.length
    · exact Or.inr (Or.inr ⟨h3, h3 ▸ extend_hidden_root s sel⟩)
    · refine Or.inr (Or.inl ⟨h1, h3, ?_⟩)
      by_cases h2 : u < s.n + sel.length
      · obtain ⟨i, rfl⟩ := Nat.exists_eq_add_of_le h1
        exact extend_hidden_clone s sel hsel i (Nat.lt_of_add_lt_add_left h2)
      · rw [extend_hidden_gt s sel u (Nat.lt_of_le_of_ne (Nat.le_of_not_lt h2) (Ne.symm h3))]
        exact not_hidden_of_ge s hi u h1

theorem extend_owner (s : G) (sel : List Uid) (u : Uid) :
    (extend s sel).owner u = if u = s.n + sel.length then some (s.n + sel.length) else s.owner u := rfl

theorem extend_Inv (s : G) (sel : List Uid) (hi : Inv s) (hsel : ∀ t ∈ sel, s.hidden t = false) :
    Inv (extend s sel) := by
  have hpar : par (extend s sel) = par s := rfl
  have hn : s.n ≤ (extend s sel).n := Nat.le_trans (Nat.le_add_right _ _) (Nat.le_add_right _ _)
  have hlt : ∀ {a b : Uid}, a < s.n ∧ b < s.n → a < (extend s sel).n ∧ b < (extend s sel).n :=
    fun h => ⟨Nat.lt_of_lt_of_le h.1 hn, Nat.lt_of_lt_of_le h.2 hn⟩
  refine ⟨⟨hi.wf.listed, hi.wf.once, hi.wf.forest, ?_, hi.wf.sym, hi.wf.dag, hi.wf.noAncDep⟩, ⟨?_, ?_, ?_, ?_⟩, ?_,
    ⟨fun u p h => hlt (hi.bnd.parent u p h), fun u c h => hlt (hi.bnd.children u c h),
     fun u c h => hlt (hi.bnd.preds u c h), fun u c h => hlt (hi.bnd.succs u c h), ?_⟩⟩
  · intro r hr
    show s.parent r = none ∧ s.preds r = [] ∧ s.succs r = []
    by_cases h1 : r < s.n
    · rw [extend_hidden_lt s sel r h1] at hr
      exact hi.wf.rootsTop r hr
    · obtain ⟨a, _, b, c, _⟩ := hi.bnd.blank r (Nat.le_of_not_lt h1)
      exact ⟨a, b, c⟩
  · intro t p hp
    have hp' : s.parent t = some p := hp
    obtain ⟨h1, h2⟩ := hi.bnd.parent t p hp'
    rw [extend_owner, extend_owner, if_neg (ne_of_lt_of_le h1 (Nat.le_add_right _ _)),
      if_neg (ne_of_lt_of_le h2 (Nat.le_add_right _ _))]
    exact hi.own.inherit t p hp'
  · intro r hr
    rcases extend_hidden_cases s sel hi hsel r with ⟨h1, h2⟩ | ⟨_, _, h2⟩ | ⟨h1, _⟩
    · rw [h2] at hr
      rw [extend_owner, if_neg (ne_of_lt_of_le h1 (Nat.le_add_right _ _))]
      exact hi.own.root r hr
    · rw [h2] at hr; cases hr
    · rw [extend_owner, if_pos h1, h1]
  · intro t hp hh
    have hp' : s.parent t = none := hp
    rcases extend_hidden_cases s sel hi hsel t with ⟨h1, h2⟩ | ⟨h1, h3, _⟩ | ⟨_, h2⟩
    · rw [h2] at hh
      rw [extend_owner, if_neg (ne_of_lt_of_le h1 (Nat.le_add_right _ _))]
      exact hi.own.free t hp' hh
    · rw [extend_owner, if_neg h3]
      exact (hi.bnd.blank t h1).2.2.2.2
    · rw [h2] at hh; cases hh
  · intro t w ho
    rw [extend_owner] at ho
    split at ho
    · cases ho; exact extend_hidden_root s sel
    · have := hi.bnd.owner t w ho
      rw [extend_hidden_lt s sel w this.2]
      exact hi.own.isRoot t w ho
  · -- UniqueIds: two different uids of one tree are old uids
    intro a b hab ha hb hst
    obtain ⟨r, h1, h2⟩ := hst
    rw [hpar] at h1 h2
    have hlt : ∀ x y, x ≠ y → RTC (par s) x r → RTC (par s) y r → x < s.n := by
      intro x y hxy hx hy
      rcases hx.cases_eq_or_TC with e | e
      · subst e
        rcases hy.cases_eq_or_TC with e' | e'
        · exact absurd e'.symm hxy
        · rcases e'.tail_cases with h | ⟨z, _, h⟩ <;> exact (hi.bnd.parent _ _ h).2
      · rcases e.head_cases with h | ⟨z, h, _⟩ <;> exact (hi.bnd.parent _ _ h).1
    have ha' := hlt a b hab h1 h2
    have hb' := hlt b a (Ne.symm hab) h2 h1
    rw [extend_hidden_lt s sel a ha'] at ha
    rw [extend_hidden_lt s sel b hb'] at hb
    rw [extend_tid_lt s sel a ha', extend_tid_lt s sel b hb']
    exact hi.ids a b hab ha hb ⟨r, h1, h2⟩
  · intro u x h
    rw [extend_owner] at h
    split at h
    · rename_i hu
      cases h
      rw [hu]
      exact ⟨Nat.lt_succ_self _, Nat.lt_succ_self _⟩
    · exact hlt (hi.bnd.owner u x h)

/-- the facts carried along the sequence: invariant, universe and ids of the extended state -/
def CInv (s : G) (sel : List Uid) (g : G) : Prop :=
  Inv g ∧ g.n = s.n + sel.length + 1 ∧ g.tid = (extend s sel).tid

theorem CInv.inv {s : G} {sel : List Uid} {g : G} (h : CInv s sel g) : Inv g := h.1
theorem CInv.n {s : G} {sel : List Uid} {g : G} (h : CInv s sel g) : g.n = s.n + sel.length + 1 := h.2.1
theorem CInv.tid {s : G} {sel : List Uid} {g : G} (h : CInv s sel g) : g.tid = (extend s sel).tid := h.2.2

theorem CInv.hidden {s : G} {sel : List Uid} {g : G} (h : CInv s sel g) (u : Uid) :
    g.hidden u = (extend s sel).hidden u := hidden_of_tid _ _ h.2.2 u

theorem CInv.rev {s : G} {sel : List Uid} {g : G} (h : CInv s sel g) : CInv s.rev sel g.rev := ⟨h.1.rev, h.2.1, h.2.2⟩

theorem CInv.clone {s : G} {sel : List Uid} {g : G} (h : CInv s sel g) (hsel : ∀ t ∈ sel, s.hidden t = false)
    {c : Uid} (hc : IsClone s sel c) : g.hidden c = false ∧ c < g.n := by
  obtain ⟨i, hi, rfl⟩ := hc
  rw [h.hidden, h.2.1]
  exact ⟨extend_hidden_clone s sel hsel i hi, Nat.lt_succ_of_lt (Nat.add_lt_add_left hi s.n)⟩

theorem CInv.outside {s : G} {sel : List Uid} {g : G} (h : CInv s sel g) {w v : Uid} (hv : Outside s w v) :
    g.hidden v = false ∧ v < g.n := by
  rw [h.hidden, h.2.1, extend_hidden_lt s sel v hv.1]
  exact ⟨hv.2.2, Nat.lt_of_lt_of_le hv.1 (Nat.le_trans (Nat.le_add_right _ _) (Nat.le_add_right _ _))⟩

theorem CInv.target {s : G} {sel : List Uid} {g : G} (h : CInv s sel g) (hsel : ∀ t ∈ sel, s.hidden t = false)
    {w v : Uid} (hv : IsClone s sel v ∨ Outside s w v) : g.hidden v = false ∧ v < g.n :=
  hv.elim (h.clone hsel) h.outside

theorem CloneOpKind.cinv {s : G} {w : Uid} {sel : List Uid} {f : G → G × Option Err} (k : CloneOpKind s w sel f)
    (hsel : ∀ t ∈ sel, s.hidden t = false) (g : G) (h : CInv s sel g) : CInv s sel (f g).1 := by
  cases k with
  | par c p hc hp =>
    have := h.clone hsel hc
    exact ⟨setParent_Inv g c p h.1 this.1 this.2 (fun q hq => (h.clone hsel (hp q hq)).2),
      (setParent_n _ _ _).trans h.2.1, (setParent_tid _ _ _).trans h.2.2⟩
  | chi c l hc hl =>
    have hcn : c < g.n := by
      rcases hc with hc | hc
      · exact (h.clone hsel hc).2
      · rw [h.2.1, hc]; exact Nat.lt_succ_self _
    exact ⟨setChildren_Inv g c l h.1 (fun v hv => (h.clone hsel (hl v hv)).1) hcn
        (fun v hv => (h.clone hsel (hl v hv)).2),
      (setChildren_n _ _ _).trans h.2.1, (setChildren_tid _ _ _).trans h.2.2⟩
  | prd c l hc hl =>
    have := h.clone hsel hc
    exact ⟨setPreds_Inv g c l h.1 this.1 (fun v hv => (h.target hsel (hl v hv)).1) this.2
        (fun v hv => (h.target hsel (hl v hv)).2),
      (setPreds_n _ _ _).trans h.2.1, (setPreds_tid _ _ _).trans h.2.2⟩
  | suc c l hc hl =>
    have := h.clone hsel hc
    exact ⟨setSuccs_Inv g c l h.1 this.1 (fun v hv => (h.target hsel (hl v hv)).1) this.2
        (fun v hv => (h.target hsel (hl v hv)).2),
      (setSuccs_n _ _ _).trans h.2.1, (setSuccs_tid _ _ _).trans h.2.2⟩

theorem CInv.extend (s : G) (sel : List Uid) (hi : Inv s) (hsel : ∀ t ∈ sel, s.hidden t = false) :
    CInv s sel (extend s sel) := ⟨extend_Inv s sel hi hsel, rfl, rfl⟩

theorem subs_eq (s : G) (roots : List Uid) (subs : List (List Uid))
    (h : roots.mapM (fun r => subtreeF s.children s.fuel r) = some subs) :
    subs = roots.map (fun r => r :: dsc s.children s.fuel r) ∧
    ∀ r ∈ roots, descF s.children s.fuel r = some (dsc s.children s.fuel r) := by
  have key : ∀ r b, subtreeF s.children s.fuel r = some b →
      descF s.children s.fuel r = some (dsc s.children s.fuel r) ∧ b = r :: dsc s.children s.fuel r := by
    intro r b hb
    obtain ⟨d, hd, rfl⟩ := Option.map_eq_some_iff.mp hb
    simp [dsc, hd]
  refine ⟨mapM_some_eq_map _ _ _ _ h (fun a _ b hb => (key a b hb).2), fun r hr => ?_⟩
  obtain ⟨b, _, hb⟩ := mapM_some_mem _ _ _ h r hr
  exact (key r b hb).1

theorem mem_sel_iff (s : G) (hw : WF s) (roots : List Uid) (subs : List (List Uid))
    (h : roots.mapM (fun r => subtreeF s.children s.fuel r) = some subs) (x : Uid) :
    x ∈ dedupFirst subs.flatten ↔ ∃ r ∈ roots, RTC (par s) x r := by
  unfold dedupFirst
  rw [List.mem_eraseDups]
  exact subtreeF_flatten_mem s hw.listed s.fuel roots subs h x

theorem sel_closed (s : G) (hw : WF s) (roots : List Uid) (subs : List (List Uid))
    (h : roots.mapM (fun r => subtreeF s.children s.fuel r) = some subs) :
    ∀ t ∈ dedupFirst subs.flatten, ∀ ch ∈ s.children t, ch ∈ dedupFirst subs.flatten := by
  intro t ht ch hch
  obtain ⟨r, hr, hx⟩ := (mem_sel_iff s hw roots subs h t).mp ht
  exact (mem_sel_iff s hw roots subs h ch).mpr ⟨r, hr, RTC.trans (RTC.tail RTC.refl ((hw.listed ch t).mpr hch)) hx⟩

theorem sel_visible (s : G) (w : Uid) (hi : Inv s) (roots : List Uid) (subs : List (List Uid))
    (h : roots.mapM (fun r => subtreeF s.children s.fuel r) = some subs)
    (hm : ∀ r ∈ roots, s.owner r = some w ∧ s.hidden r = false) :
    ∀ t ∈ dedupFirst subs.flatten, s.hidden t = false := by
  intro t ht
  obtain ⟨r, hr, hx⟩ := (mem_sel_iff s hi.wf roots subs h t).mp ht
  exact below_not_hidden s hi.wf (hm r hr).2 hx

theorem cloneSel_CInv (s : G) (w : Uid) (roots : List Uid) (subs : List (List Uid)) (hi : Inv s)
    (h : roots.mapM (fun r => subtreeF s.children s.fuel r) = some subs)
    (hm : ∀ r ∈ roots, s.owner r = some w ∧ s.hidden r = false) :
    CInv s (dedupFirst subs.flatten) (cloneSel s w roots).1 := by
  rw [cloneSel_eq s w roots subs h]
  have hsel := sel_visible s w hi roots subs h hm
  refine seqOps_preserves (CInv s (dedupFirst subs.flatten)) _ _ ?_ (CInv.extend s _ hi hsel)
  intro f hf g hg
  exact (cloneOps_kind s w roots _ hi f hf).cinv hsel g hg

theorem cloneSel_Inv (s : G) (w : Uid) (roots : List Uid) (hi : Inv s)
    (hm : ∀ r ∈ roots, s.owner r = some w ∧ s.hidden r = false) : Inv (cloneSel s w roots).1 := by
  cases h : roots.mapM (fun r => subtreeF s.children s.fuel r) with
  | none => rw [cloneSel_none s w roots h]; exact hi
  | some subs => exact (cloneSel_CInv s w roots subs hi h hm).1

/-! ### frame: what the setter calls cannot touch

  All hierarchy arguments of the calls are fresh uids (`≥ N`, with `N` the size of the source universe).  The fresh
  part of the state is closed under parent, children and owner, so no hierarchy field of an old uid changes. -/

structure HFrame (N : Nat) (s g : G) : Prop where
  parent : ∀ u, u < N → g.parent u = s.parent u
  children : ∀ u, u < N → g.children u = s.children u
  owner : ∀ u, u < N → g.owner u = s.owner u
  parentUp : ∀ u p, N ≤ u → g.parent u = some p → N ≤ p
  childDown : ∀ u x, N ≤ u → x ∈ g.children u → N ≤ x
  ownerUp : ∀ u x, N ≤ u → g.owner u = some x → N ≤ x

theorem HFrame.hclosed {N : Nat} {s g : G} (hf : HFrame N s g) : HClosed (fun u => N ≤ u) g :=
  ⟨fun u p hu hp => hf.parentUp u p hu hp, fun u x hu hx => hf.childDown u x hu hx, fun u w hu hw => hf.ownerUp u w hu hw⟩

theorem HFrame.of_hlocal {N : Nat} {s g g' : G} (hf : HFrame N s g) (h : HLocal (fun u => N ≤ u) g g') : HFrame N s g' :=
  ⟨fun u hu => (h.parent u (Nat.not_le.mpr hu)).trans (hf.parent u hu),
   fun u hu => (h.children u (Nat.not_le.mpr hu)).trans (hf.children u hu),
   fun u hu => (h.owner u (Nat.not_le.mpr hu)).trans (hf.owner u hu),
   fun u p => h.closed.parent u p, fun u x => h.closed.children u x, fun u w => h.closed.owner u w⟩

theorem HFrame.setParent {N : Nat} {s g : G} (hf : HFrame N s g) (c : Uid) (p : Option Uid) (hc : N ≤ c)
    (hp : ∀ q, p = some q → N ≤ q) : HFrame N s (setParent g c p).1 :=
  hf.of_hlocal (setParent_hlocal hf.hclosed c p hc hp)

theorem HFrame.foldSetParent {N : Nat} {s : G} (h : Uid) (hh : N ≤ h) :
    ∀ (l : List Uid) (g : G), HFrame N s g → (∀ v ∈ l, N ≤ v) → HFrame N s (foldSetParent g l h).1 := by
  intro l g hf hl
  rw [foldSetParent_eq_forEach]
  exact forEach_preserves_mem (HFrame N s) _ l g
    (fun g' v hv hf' => hf'.setParent v (some h) (hl v hv) (fun q hq => by cases hq; exact hh)) hf

theorem HFrame.setChildren {N : Nat} {s g : G} (hf : HFrame N s g) (h : Uid) (l : List Uid) (hh : N ≤ h)
    (hl : ∀ v ∈ l, N ≤ v) : HFrame N s (setChildren g h l).1 :=
  hf.of_hlocal (setChildren_hlocal hf.hclosed h l hh hl)

theorem setParent_links (g : G) (c : Uid) (p : Option Uid) :
    (setParent g c p).1.preds = g.preds ∧ (setParent g c p).1.succs = g.succs :=
  have h := setParent_hlocal (HClosed.univ g) c p trivial (fun _ _ => trivial)
  ⟨h.preds, h.succs⟩

theorem setChildren_links (g : G) (h : Uid) (l : List Uid) :
    (setChildren g h l).1.preds = g.preds ∧ (setChildren g h l).1.succs = g.succs :=
  have h := setChildren_hlocal (HClosed.univ g) h l trivial (fun _ _ => trivial)
  ⟨h.preds, h.succs⟩

theorem HFrame.congr {N : Nat} {s g g' : G} (hf : HFrame N s g) (hp : g'.parent = g.parent)
    (hc : g'.children = g.children) (ho : g'.owner = g.owner) : HFrame N s g' := by
  refine ⟨?_, ?_, ?_, ?_, ?_, ?_⟩
  · rw [hp]; exact hf.parent
  · rw [hc]; exact hf.children
  · rw [ho]; exact hf.owner
  · rw [hp]; exact hf.parentUp
  · rw [hc]; exact hf.childDown
  · rw [ho]; exact hf.ownerUp

/-- members of the source WBS keep their link lists; the other old tasks only gain fresh entries -/
structure LFrame (N : Nat) (s : G) (w : Uid) (g : G) : Prop where
  member : ∀ u, u < N → s.owner u = some w → g.preds u = s.preds u ∧ g.succs u = s.succs u
  outside : ∀ u, u < N → s.owner u ≠ some w →
    (g.preds u).filter (fun x => decide (x < N)) = s.preds u ∧ (g.succs u).filter (fun x => decide (x < N)) = s.succs u

theorem LFrame.congr {N : Nat} {s g g' : G} {w : Uid} (hf : LFrame N s w g) (hp : g'.preds = g.preds)
    (hs : g'.succs = g.succs) : LFrame N s w g' := by
  constructor
  · rw [hp, hs]; exact hf.member
  · rw [hp, hs]; exact hf.outside

/-- the mirror update of a link setter (`mutPreds`, `mutSuccs`): what becomes of the list `L` of `v` when `c`, whose
    own list was `old`, is given the list `lc` -/
def mirrorUpd (L : List Uid) (c v : Uid) (lc old : List Uid) : List Uid :=
  if lc.contains v ∧ !(if old.contains v then L.filter (fun x => x != c) else L).contains c
    then (if old.contains v then L.filter (fun x => x != c) else L) ++ [c]
    else (if old.contains v then L.filter (fun x => x != c) else L)

theorem mutPreds_fields (g : G) (c : Uid) (l : List Uid) :
    (mutPreds g c l).preds = upd g.preds c l ∧
    ∀ v, (mutPreds g c l).succs v = mirrorUpd (g.succs v) c v l (g.preds c) :=
  ⟨rfl, fun _ => rfl⟩

theorem mirror_member (L S : List Uid) (c v : Uid) (lc old : List Uid) (hS : ∀ x ∈ S, x ≠ c) (hv : v ∉ lc) (hL : L = S) :
    mirrorUpd L c v lc old = S := by
  unfold mirrorUpd
  subst hL
  have h1 : L.filter (fun x => x != c) = L := List.filter_eq_self.mpr (fun a ha => by simpa using hS a ha)
  simp [h1, hv]

theorem mirror_outside (N : Nat) (L S : List Uid) (c v : Uid) (lc old : List Uid) (hc : N ≤ c)
    (hL : L.filter (fun x => decide (x < N)) = S) :
    (mirrorUpd L c v lc old).filter (fun x => decide (x < N)) = S := by
  unfold mirrorUpd
  have h1 : (L.filter (fun x => x != c)).filter (fun x => decide (x < N)) = S := by
    rw [List.filter_filter, ← hL]
    apply List.filter_congr
    intro x _
    by_cases hx : x < N
    · have : x ≠ c := ne_of_lt_of_le hx hc
      simp [hx, this]
    · simp [hx]
  have h2 : ([c] : List Uid).filter (fun x => decide (x < N)) = [] := by
    have : ¬ c < N := Nat.not_lt.mpr hc
    simp [this]
  split <;> split <;> simp [List.filter_append, h1, h2, hL]

theorem LFrame.setPreds {N : Nat} {s g : G} {w : Uid} (hf : LFrame N s w g) (c : Uid) (l : List Uid) (hc : N ≤ c)
    (hb : ∀ u v, v ∈ s.succs u → v < N)
    (hl : ∀ v ∈ l, N ≤ v ∨ s.owner v ≠ some w) : LFrame N s w (setPreds g c l).1 := by
  unfold Pj.setPreds
  split
  · exact hf
  · obtain ⟨fp, fs⟩ := mutPreds_fields g c l
    constructor
    · intro u hu hw
      constructor
      · rw [fp, upd_other _ _ _ _ (ne_of_lt_of_le hu hc)]
        exact (hf.member u hu hw).1
      · rw [fs]
        refine mirror_member (g.succs u) (s.succs u) c u l (g.preds c) ?_ ?_ (hf.member u hu hw).2
        · exact fun x hx => ne_of_lt_of_le (hb u x hx) hc
        · intro hul
          rcases hl u hul with h | h
          · exact absurd hu (Nat.not_lt.mpr h)
          · exact h hw
    · intro u hu hw
      constructor
      · rw [fp, upd_other _ _ _ _ (ne_of_lt_of_le hu hc)]
        exact (hf.outside u hu hw).1
      · rw [fs]
        exact mirror_outside N (g.succs u) (s.succs u) c u l (g.preds c) hc (hf.outside u hu hw).2

theorem LFrame.rev {N : Nat} {s g : G} {w : Uid} (hf : LFrame N s w g) : LFrame N s.rev w g.rev :=
  ⟨fun u hu hw => (hf.member u hu hw).symm, fun u hu hw => (hf.outside u hu hw).symm⟩

theorem LFrame.setSuccs {N : Nat} {s g : G} {w : Uid} (hf : LFrame N s w g) (c : Uid) (l : List Uid) (hc : N ≤ c)
    (hb : ∀ u v, v ∈ s.preds u → v < N)
    (hl : ∀ v ∈ l, N ≤ v ∨ s.owner v ≠ some w) : LFrame N s w (setSuccs g c l).1 := by
  rw [setSuccs_eq_rev]
  exact (hf.rev.setPreds c l hc hb hl).rev

def CFrame (s : G) (w : Uid) (g : G) : Prop := HFrame s.n s g ∧ LFrame s.n s w g

theorem CFrame.hier {s : G} {w : Uid} {g : G} (h : CFrame s w g) : HFrame s.n s g := h.1
theorem CFrame.links {s : G} {w : Uid} {g : G} (h : CFrame s w g) : LFrame s.n s w g := h.2

theorem CFrame.rev {s : G} {w : Uid} {g : G} (h : CFrame s w g) : CFrame s.rev w g.rev :=
  ⟨⟨h.1.parent, h.1.children, h.1.owner, h.1.parentUp, h.1.childDown, h.1.ownerUp⟩, h.2.rev⟩

theorem IsClone.ge {s : G} {sel : List Uid} {c : Uid} (h : IsClone s sel c) : s.n ≤ c := by
  obtain ⟨i, _, rfl⟩ := h
  exact Nat.le_add_right _ _

theorem CloneOpKind.cframe {s : G} {w : Uid} {sel : List Uid} {f : G → G × Option Err} (k : CloneOpKind s w sel f)
    (hb : Bounded s) (g : G) (h : CFrame s w g) : CFrame s w (f g).1 := by
  cases k with
  | par c p hc hp =>
    exact ⟨h.1.setParent c p hc.ge (fun q hq => (hp q hq).ge),
      h.2.congr (setParent_links g c p).1 (setParent_links g c p).2⟩
  | chi c l hc hl =>
    have hcn : s.n ≤ c := by
      rcases hc with hc | hc
      · exact hc.ge
      · rw [hc]; exact Nat.le_add_right _ _
    exact ⟨h.1.setChildren c l hcn (fun v hv => (hl v hv).ge),
      h.2.congr (setChildren_links g c l).1 (setChildren_links g c l).2⟩
  | prd c l hc hl =>
    have hh := setPreds_hier g c l
    exact ⟨h.1.congr hh.1 hh.2.1 hh.2.2, h.2.setPreds c l hc.ge (fun u v hv => (hb.succs u v hv).2)
      (fun v hv => (hl v hv).imp IsClone.ge (fun ho => ho.2.1))⟩
  | suc c l hc hl =>
    have hh := setSuccs_hier g c l
    exact ⟨h.1.congr hh.1 hh.2.1 hh.2.2, h.2.setSuccs c l hc.ge (fun u v hv => (hb.preds u v hv).2)
      (fun v hv => (hl v hv).imp IsClone.ge (fun ho => ho.2.1))⟩

theorem filter_lt_self (N : Nat) (l : List Uid) (h : ∀ x ∈ l, x < N) : l.filter (fun x => decide (x < N)) = l :=
  List.filter_eq_self.mpr (fun a ha => by simpa using h a ha)

theorem CFrame.self (s : G) (w : Uid) (hb : Bounded s) : CFrame s w s := by
  refine ⟨⟨fun _ _ => rfl, fun _ _ => rfl, fun _ _ => rfl, ?_, ?_, ?_⟩, ⟨fun _ _ _ => ⟨rfl, rfl⟩, ?_⟩⟩
  · exact fun u p hu hp => absurd (hb.parent u p hp).1 (Nat.not_lt.mpr hu)
  · exact fun u x hu hx => absurd (hb.children u x hx).1 (Nat.not_lt.mpr hu)
  · exact fun u x hu hx => absurd (hb.owner u x hx).1 (Nat.not_lt.mpr hu)
  · intro u _ _
    exact ⟨filter_lt_self _ _ (fun x hx => (hb.preds u x hx).2), filter_lt_self _ _ (fun x hx => (hb.succs u x hx).2)⟩

theorem CFrame.extend (s : G) (w : Uid) (sel : List Uid) (hb : Bounded s) : CFrame s w (extend s sel) := by
  obtain ⟨h1, h2⟩ := CFrame.self s w hb
  refine ⟨⟨h1.parent, h1.children, ?_, h1.parentUp, h1.childDown, ?_⟩, ⟨h2.member, h2.outside⟩⟩
  · intro u hu
    rw [extend_owner, if_neg (ne_of_lt_of_le hu (Nat.le_add_right _ _))]
  · intro u x hu hx
    rw [extend_owner] at hx
    split at hx
    · cases hx; exact Nat.le_add_right _ _
    · exact h1.ownerUp u x hu hx

theorem cloneSel_CFrame (s : G) (w : Uid) (roots : List Uid) (hi : Inv s) : CFrame s w (cloneSel s w roots).1 := by
  cases h : roots.mapM (fun r => subtreeF s.children s.fuel r) with
  | none => rw [cloneSel_none s w roots h]; exact CFrame.self s w hi.bnd
  | some subs =>
    rw [cloneSel_eq s w roots subs h]
    refine seqOps_preserves (CFrame s w) _ _ ?_ (CFrame.extend s w _ hi.bnd)
    intro f hf g hg
    exact (cloneOps_kind s w roots _ hi f hf).cframe hi.bnd g hg

theorem cloneSel_tid_lt (s : G) (w : Uid) (roots : List Uid) (u : Uid) (hu : u < s.n) :
    (cloneSel s w roots).1.tid u = s.tid u := by
  cases h : roots.mapM (fun r => subtreeF s.children s.fuel r) with
  | none => rw [cloneSel_none s w roots h]
  | some subs =>
    rw [cloneSel_eq s w roots subs h]
    show (seqOps id _ _).1.tid u = _
    rw [(seqOps_n_tid s w roots _ _).2]
    exact extend_tid_lt s _ u hu

theorem cloneSel_sourceFrame (s : G) (w : Uid) (roots : List Uid) (hi : Inv s) :
    sourceFrameB s (cloneSel s w roots).1 w = true := by
  obtain ⟨hh, hl⟩ := cloneSel_CFrame s w roots hi
  unfold sourceFrameB
  rw [List.all_eq_true]
  intro u hu
  have hu' : u < s.n := List.mem_range.mp hu
  by_cases hw : s.owner u = some w
  · have := hl.member u hu' hw
    simp [hw, cloneSel_tid_lt s w roots u hu', hh.parent u hu', hh.children u hu', hh.owner u hu', this.1, this.2]
  · simp [hw]

theorem cloneSel_outsideFrame (s : G) (w : Uid) (roots : List Uid) (hi : Inv s) :
    outsideFrameB s (cloneSel s w roots).1 w = true := by
  obtain ⟨hh, hl⟩ := cloneSel_CFrame s w roots hi
  unfold outsideFrameB
  rw [List.all_eq_true]
  intro u hu
  have hu' : u < s.n := List.mem_range.mp hu
  by_cases hw : s.owner u = some w
  · simp [hw]
  · have := hl.outside u hu' hw
    simp [hh.parent u hu', hh.children u hu', hh.owner u hu', this.1, this.2]

theorem mem_mirrorUpd (L : List Uid) (c v x : Uid) (lc old : List Uid) (h : (x ≠ c ∧ x ∈ L) ∨ (x = c ∧ v ∈ lc)) :
    x ∈ mirrorUpd L c v lc old := by
  unfold mirrorUpd
  generalize hB : (if old.contains v then L.filter (fun x => x != c) else L) = B
  rcases h with ⟨hx, hL⟩ | ⟨rfl, hv⟩
  · have hxB : x ∈ B := by
      rw [← hB]
      split
      · exact List.mem_filter.mpr ⟨hL, bne_iff_ne.mpr hx⟩
      · exact hL
    split
    · exact List.mem_append_left _ hxB
    · exact hxB
  · by_cases hc : x ∈ B
    · rw [if_neg (fun h => by simpa [hc] using h.2)]; exact hc
    · rw [if_pos ⟨List.contains_iff_mem.mpr hv, by simpa using hc⟩]
      exact List.mem_append_right _ List.mem_cons_self

/-- what `cloneSel` is proved under: `s` reachable, `w` a WBS of it, `sel` distinct visible members of `w` -/
structure SelOK (s : G) (w : Uid) (sel : List Uid) : Prop where
  inv : Inv s
  wbs : s.hidden w = true
  nodup : sel.Nodup
  mem : ∀ t ∈ sel, s.owner t = some w ∧ s.hidden t = false ∧ t < s.n

theorem SelOK.rev {s : G} {w : Uid} {sel : List Uid} (ok : SelOK s w sel) : SelOK s.rev w sel :=
  ⟨ok.inv.rev, ok.wbs, ok.nodup, ok.mem⟩

theorem SelOK.visible {s : G} {w : Uid} {sel : List Uid} (ok : SelOK s w sel) : ∀ t ∈ sel, s.hidden t = false :=
  fun t ht => (ok.mem t ht).2.1

theorem getD_mem (sel : List Uid) (i : Nat) (hi : i < sel.length) : sel.getD i 0 ∈ sel := by
  rw [getD_eq_getElem sel i hi]; exact List.getElem_mem hi

theorem SelOK.cloneOf_getD {s : G} {w : Uid} {sel : List Uid} (h : SelOK s w sel) (i : Nat) (hi : i < sel.length) :
    cloneOf s.n sel (sel.getD i 0) = some (s.n + i) := by
  obtain ⟨c, hc⟩ := cloneOf_mem s.n sel _ (getD_mem sel i hi)
  obtain ⟨j, hj, rfl, hjx, _⟩ := cloneOf_some s.n sel _ c hc
  rw [hc]
  rw [getD_eq_getElem sel i hi] at hjx
  have : j = i := by
    have h1 := h.nodup.idxOf_getElem j hj
    have h2 := h.nodup.idxOf_getElem i hi
    rw [hjx] at h1
    omega
  rw [this]

theorem IsClone.src_mem {s : G} {sel : List Uid} {c : Uid} (h : IsClone s sel c) : src s sel c ∈ sel := by
  obtain ⟨i, hi, rfl⟩ := h
  rw [src_clone]; exact getD_mem sel i hi

theorem IsClone.cloneOf_src {s : G} {w : Uid} {sel : List Uid} (ok : SelOK s w sel) {c : Uid} (h : IsClone s sel c) :
    cloneOf s.n sel (src s sel c) = some c := by
  obtain ⟨i, hi, rfl⟩ := h
  rw [src_clone]; exact ok.cloneOf_getD i hi

theorem IsClone.src_inj {s : G} {w : Uid} {sel : List Uid} (ok : SelOK s w sel) {a b : Uid} (ha : IsClone s sel a)
    (hb : IsClone s sel b) (h : src s sel a = src s sel b) : a = b := by
  have h1 := ha.cloneOf_src ok
  have h2 := hb.cloneOf_src ok
  rw [h] at h1
  rw [h1] at h2
  exact Option.some.inj h2

theorem SelOK.tid_ne {s : G} {w : Uid} {sel : List Uid} (ok : SelOK s w sel) (a x : Uid) (ha : a ∈ sel)
    (hx : s.owner x = some w) (hxh : s.hidden x = false) (hax : a ≠ x) : s.tid a ≠ s.tid x := by
  obtain ⟨oa, ha', _⟩ := ok.mem a ha
  exact ok.inv.ids a x hax ha' hxh
    ⟨w, ((owner_iff_root s ok.inv a w).mp oa).1, ((owner_iff_root s ok.inv x w).mp hx).1⟩

theorem SelOK.tid_inj {s : G} {w : Uid} {sel : List Uid} (ok : SelOK s w sel) (a b : Uid) (ha : a ∈ sel)
    (hb : b ∈ sel) (hab : a ≠ b) : s.tid a ≠ s.tid b :=
  ok.tid_ne a b ha (ok.mem b hb).1 (ok.mem b hb).2.1 hab

/-! ### soundness: the fresh part of the state only contains mirrored edges -/

/-- a uid created by the call: a clone or the new WBS root -/
def Fresh (s : G) (sel : List Uid) (u : Uid) : Prop := s.n ≤ u ∧ u ≤ s.n + sel.length

theorem IsClone.fresh {s : G} {sel : List Uid} {c : Uid} (h : IsClone s sel c) : Fresh s sel c := by
  obtain ⟨i, hi, rfl⟩ := h
  exact ⟨Nat.le_add_right _ _, by uomega⟩

theorem Fresh.cases {s : G} {sel : List Uid} {c : Uid} (h : Fresh s sel c) : IsClone s sel c ∨ c = s.n + sel.length := by
  by_cases e : c = s.n + sel.length
  · exact Or.inr e
  · refine Or.inl ⟨c - s.n, ?_, ?_⟩
    · have := h.1; have := h.2; uomega
    · have := h.1; uomega

structure Sound (s : G) (w : Uid) (sel : List Uid) (g : G) : Prop where
  ci : CInv s sel g
  fr : CFrame s w g
  par : ∀ x y, IsClone s sel x → g.parent x = some y →
    IsClone s sel y ∧ s.parent (src s sel x) = some (src s sel y)
  lnk : ∀ a b, a ∈ g.preds b → s.n ≤ a ∨ s.n ≤ b → src s sel a ∈ s.preds (src s sel b)

namespace Sound
variable {s : G} {w : Uid} {sel : List Uid} {g : G}

theorem rev (h : Sound s w sel g) (ok : SelOK s w sel) : Sound s.rev w sel g.rev := by
  refine ⟨h.ci.rev, h.fr.rev, h.par, ?_⟩
  intro a b hab hfr
  exact (ok.inv.wf.sym _ _).mp (h.lnk b a ((h.ci.inv.wf.sym b a).mpr hab) hfr.symm)

theorem tid_lt (h : Sound s w sel g) (u : Uid) (hu : u < s.n) : g.tid u = s.tid u := by
  rw [h.ci.tid]; exact extend_tid_lt s sel u hu

theorem hidden_lt (h : Sound s w sel g) (u : Uid) (hu : u < s.n) : g.hidden u = s.hidden u := by
  rw [h.ci.hidden]; exact extend_hidden_lt s sel u hu

theorem pub_lt (h : Sound s w sel g) (ok : SelOK s w sel) (t : Uid) (ht : t < s.n) :
    g.pubParent t = s.pubParent t := by
  unfold G.pubParent
  rw [h.fr.hier.parent t ht]
  cases hp : s.parent t with
  | none => rfl
  | some p => simp only [h.hidden_lt p (ok.inv.bnd.parent t p hp).2]

theorem hidden_clone (h : Sound s w sel g) (ok : SelOK s w sel) {c : Uid} (hc : IsClone s sel c) :
    g.hidden c = false :=
  (h.ci.clone ok.visible hc).1

theorem hidden_root (h : Sound s w sel g) : g.hidden (s.n + sel.length) = true := by
  rw [h.ci.hidden]; exact extend_hidden_root s sel

theorem dep (h : Sound s w sel g) (a b : Uid) (hab : a ∈ g.preds b) :
    src s sel a ∈ s.preds (src s sel b) := by
  by_cases h1 : s.n ≤ a ∨ s.n ≤ b
  · exact h.lnk a b hab h1
  · have ha : a < s.n := by uomega
    have hb : b < s.n := by uomega
    rw [src_lt s sel a ha, src_lt s sel b hb]
    by_cases hw : s.owner b = some w
    · rw [← (h.fr.links.member b hb hw).1]; exact hab
    · rw [← (h.fr.links.outside b hb hw).1]
      exact List.mem_filter.mpr ⟨hab, by simpa using ha⟩

theorem link_fresh (h : Sound s w sel g) (a b : Uid) (hab : a ∈ g.preds b) :
    (s.n ≤ a → IsClone s sel a) ∧ (s.n ≤ b → IsClone s sel b) := by
  have hbd := h.ci.inv.bnd.preds b a hab
  rw [h.ci.n] at hbd
  have hr := h.ci.inv.wf.rootsTop _ h.hidden_root
  constructor
  · intro ha
    rcases (Fresh.cases (s := s) (sel := sel) (c := a) ⟨ha, by uomega⟩) with h1 | h1
    · exact h1
    · have : b ∈ g.succs a := (h.ci.inv.wf.sym a b).mp hab
      rw [h1, hr.2.2] at this
      cases this
  · intro hb
    rcases (Fresh.cases (s := s) (sel := sel) (c := b) ⟨hb, by uomega⟩) with h1 | h1
    · exact h1
    · rw [h1, hr.2.1] at hab
      cases hab

theorem fresh_below (h : Sound s w sel g) {x c : Uid} (hx : RTC (Pj.par g) x c) (hc : Fresh s sel c) :
    Fresh s sel x := by
  induction hx with
  | refl => exact hc
  | tail hxb hstep ih =>
    rename_i b c'
    apply ih
    have hbd := h.ci.inv.bnd.parent b c' hstep
    rw [h.ci.n] at hbd
    exact ⟨h.fr.hier.childDown c' b hc.1 ((h.ci.inv.wf.listed b c').mp hstep), by uomega⟩

theorem fresh_above (h : Sound s w sel g) {c y : Uid} (hy : RTC (Pj.par g) c y) (hc : Fresh s sel c) :
    Fresh s sel y := by
  induction hy with
  | refl => exact hc
  | tail hxb hstep ih =>
    rename_i b c'
    have hbd := h.ci.inv.bnd.parent b c' hstep
    rw [h.ci.n] at hbd
    exact ⟨h.fr.hier.parentUp b c' ih.1 hstep, by uomega⟩

theorem clone_of_parent (h : Sound s w sel g) {b c : Uid} (hstep : g.parent b = some c) (hb : Fresh s sel b) :
    IsClone s sel b := by
  rcases hb.cases with h1 | h1
  · exact h1
  · have := (h.ci.inv.wf.rootsTop _ h.hidden_root).1
    rw [← h1, hstep] at this
    cases this

theorem edge (h : Sound s w sel g) {x y : Uid} (hxy : g.parent x = some y)
    (hc : IsClone s sel x ∨ IsClone s sel y) :
    IsClone s sel x ∧ IsClone s sel y ∧ Pj.par s (src s sel x) (src s sel y) := by
  have hx : IsClone s sel x :=
    hc.elim id (fun hy => h.clone_of_parent hxy (h.fresh_below (RTC.tail RTC.refl hxy) hy.fresh))
  exact ⟨hx, h.par x y hx hxy⟩

theorem tc (h : Sound s w sel g) {x y : Uid} (hxy : TC (Pj.par g) x y)
    (hc : IsClone s sel x ∨ IsClone s sel y) :
    IsClone s sel x ∧ IsClone s sel y ∧ TC (Pj.par s) (src s sel x) (src s sel y) :=
  TC_map_on (IsClone s sel) (src s sel) (fun _ _ hab hp => h.edge hab hp) hxy hc

theorem rtc (h : Sound s w sel g) {x y : Uid} (hxy : RTC (Pj.par g) x y)
    (hc : IsClone s sel x ∨ IsClone s sel y) :
    IsClone s sel x ∧ IsClone s sel y ∧ RTC (Pj.par s) (src s sel x) (src s sel y) :=
  RTC_map_on (IsClone s sel) (src s sel) (fun _ _ hab hp => h.edge hab hp) hxy hc

theorem owner_none (h : Sound s w sel g) (ok : SelOK s w sel) {c : Uid} (hc : IsClone s sel c) : g.owner c = none := by
  cases ho : g.owner c with
  | none => rfl
  | some w' =>
    obtain ⟨h1, h2⟩ := (owner_iff_root g h.ci.inv c w').mp ho
    have := h.hidden_clone ok (h.rtc h1 (Or.inl hc)).2.1
    rw [this] at h2; cases h2

theorem tid_clone (h : Sound s w sel g) {c : Uid} (hc : IsClone s sel c) : g.tid c = s.tid (src s sel c) := by
  obtain ⟨i, hi, rfl⟩ := hc
  rw [h.ci.tid, extend_tid_clone s sel i hi, src_clone]

theorem tid_inj (h : Sound s w sel g) (ok : SelOK s w sel) {a b : Uid} (ha : Fresh s sel a) (hb : Fresh s sel b)
    (hab : a ≠ b) : g.tid a ≠ g.tid b := by
  rcases ha.cases with ha | ha <;> rcases hb.cases with hb | hb
  · rw [h.tid_clone ha, h.tid_clone hb]
    exact ok.tid_inj _ _ ha.src_mem hb.src_mem (fun e => hab (IsClone.src_inj ok ha hb e))
  · exact tid_ne_of_hidden g (h.hidden_clone ok ha) (hb ▸ h.hidden_root)
  · exact (tid_ne_of_hidden g (h.hidden_clone ok hb) (ha ▸ h.hidden_root)).symm
  · exact absurd (ha.trans hb.symm) hab

theorem fresh_tree (h : Sound s w sel g) {x p : Uid} (hx : SameTree g x p) (hp : Fresh s sel p) :
    Fresh s sel x := by
  obtain ⟨r, h1, h2⟩ := hx
  exact h.fresh_below h1 (h.fresh_above h2 hp)

theorem idsOK (h : Sound s w sel g) (ok : SelOK s w sel) (p : Uid) (chs : List Uid) (hp : Fresh s sel p)
    (hchs : ∀ c ∈ chs, Fresh s sel c) : IdsOK g p chs := by
  constructor
  · intro a ⟨c, hc, hac⟩ hnt b hbt
    have ha := h.fresh_below hac (hchs c hc)
    have hb := h.fresh_tree hbt hp
    exact h.tid_inj ok ha hb (fun e => hnt (e ▸ hbt))
  · intro a a' ⟨c, hc, hac⟩ ⟨c', hc', hac'⟩ _ _ hne
    exact h.tid_inj ok (h.fresh_below hac (hchs c hc)) (h.fresh_below hac' (hchs c' hc')) hne

theorem nolink (h : Sound s w sel g) (ok : SelOK s w sel) {x y : Uid}
    (hxy : TC (Pj.par s) (src s sel x) (src s sel y)) : ¬ Pj.lnk g x y := by
  rintro (e | e)
  · exact (ok.inv.wf.noAncDep _ _ (h.dep x y e)).1 hxy
  · exact (ok.inv.wf.noAncDep _ _ (h.dep y x e)).2 hxy

theorem attach (h : Sound s w sel g) (ok : SelOK s w sel) {c q : Uid} (hc : IsClone s sel c) (hq : IsClone s sel q)
    (hstep : Pj.par s (src s sel c) (src s sel q)) : Attach g c q := by
  refine ⟨fun e => ?_, fun htc => ?_, fun x y hx hy => h.nolink ok ?_⟩
  · rw [e] at hstep
    exact ok.inv.wf.forest _ (TC.single hstep)
  · exact ok.inv.wf.forest _ (TC.tail (h.tc htc (Or.inr hc)).2.2 hstep)
  · exact TC_RTC (TC.of_RTC_step (h.rtc hx (Or.inr hc)).2.2 hstep) (h.rtc hy (Or.inl hq)).2.2

theorem setParent_ok (h : Sound s w sel g) (ok : SelOK s w sel) {c : Uid} (hc : IsClone s sel c) (p : Option Uid)
    (hp : ∀ q, p = some q → IsClone s sel q ∧ s.parent (src s sel c) = some (src s sel q)) :
    (setParent g c p).2 = none := by
  have hw := h.ci.inv.wf
  cases p with
  | none =>
    show (setParentNone g c).2 = none
    unfold setParentNone
    rw [h.owner_none ok hc]
  | some q =>
    obtain ⟨hq, hpar⟩ := hp q rfl
    have hchk : chkParentSome g c q = none := by
      refine chkParentSome_ok g c q hw h.ci.inv.bnd ?_ ?_ (h.attach ok hc hq hpar)
      · intro w' ho
        rw [h.owner_none ok hc] at ho; cases ho
      · intro _
        refine (hasId_false_iff g hw h.ci.inv.bnd q [c]).mpr (h.idsOK ok q [c] hq.fresh ?_)
        intro x hx
        rw [List.mem_singleton.mp hx]; exact hc.fresh
    exact (setParentSome_Moved g c q hw hchk).2

theorem setChildren_ok (h : Sound s w sel g) (ok : SelOK s w sel) {c : Uid} (hc : IsClone s sel c) (l : List Uid)
    (hl : ∀ v ∈ l, IsClone s sel v ∧ s.parent (src s sel v) = some (src s sel c)) :
    (setChildren g c l).2 = none := by
  have hw := h.ci.inv.wf
  have hsel := ok.visible
  have hchk : chkChildren g c l = none :=
    (chkChildren_accepts_iff g c l hw h.ci.inv.bnd).mpr ⟨fun v hv => Or.inl (h.owner_none ok (hl v hv).1),
      h.idsOK ok c l hc.fresh (fun v hv => (hl v hv).1.fresh), fun ch hch => h.attach ok (hl ch hch).1 hc (hl ch hch).2⟩
  exact setChildren_atomic g c l h.ci.inv (fun v hv => (h.ci.clone hsel (hl v hv).1).1) (h.ci.clone hsel hc).2
    (fun v hv => (h.ci.clone hsel (hl v hv).1).2) hchk

theorem final_ok (h : Sound s w sel g) (ok : SelOK s w sel) (l : List Uid) (hl : ∀ v ∈ l, IsClone s sel v) :
    (setChildren g (s.n + sel.length) l).2 = none := by
  have hw := h.ci.inv.wf
  have hsel := ok.visible
  have hfr : Fresh s sel (s.n + sel.length) := ⟨Nat.le_add_right _ _, Nat.le_refl _⟩
  have hchk : chkChildren g (s.n + sel.length) l = none := by
    refine (chkChildren_accepts_iff g _ l hw h.ci.inv.bnd).mpr ⟨fun v hv => Or.inl (h.owner_none ok (hl v hv)),
      h.idsOK ok _ l hfr (fun v hv => (hl v hv).fresh), fun ch hch => attach_root g hw h.hidden_root fun e => ?_⟩
    obtain ⟨i, hi, hci⟩ := hl ch hch
    exact Nat.ne_of_lt (Nat.add_lt_add_left hi _) (hci.symm.trans e.symm)
  have hn : s.n + sel.length < g.n := by rw [h.ci.n]; omega
  exact setChildren_atomic g _ l h.ci.inv (fun v hv => (h.ci.clone hsel (hl v hv)).1) hn
    (fun v hv => (h.ci.clone hsel (hl v hv)).2) hchk

theorem setPreds_ok (h : Sound s w sel g) (ok : SelOK s w sel) {c : Uid} (hc : IsClone s sel c) (l : List Uid)
    (hl : ∀ v ∈ l, src s sel v ∈ s.preds (src s sel c)) : (setPreds g c l).2 = none := by
  have hw := h.ci.inv.wf
  have hchk : chkLinks g g.preds c l = none := by
    refine chkLinks_ok g hw h.ci.inv.bnd g.preds (descF_preds_total g hw h.ci.inv.bnd) c l ?_
    intro v hv
    have hd : Pj.dep s (src s sel v) (src s sel c) := hl v hv
    refine ⟨?_, ?_, ?_, ?_⟩
    · intro e
      rw [e] at hd
      exact ok.inv.wf.dag _ (TC.single hd)
    · intro htc
      exact (ok.inv.wf.noAncDep _ _ hd).2 (h.tc htc (Or.inl hc)).2.2
    · intro htc
      exact (ok.inv.wf.noAncDep _ _ hd).1 (h.tc htc (Or.inr hc)).2.2
    · intro htc
      have h1 : TC (fun a b => Pj.dep s b a) (src s sel v) (src s sel c) :=
        TC_map (src s sel) (fun a b hab => h.dep b a hab) htc
      exact ok.inv.wf.dag _ (TC.tail h1.flip hd)
  unfold Pj.setPreds
  rw [hchk]

theorem setSuccs_ok (h : Sound s w sel g) (ok : SelOK s w sel) {c : Uid} (hc : IsClone s sel c) (l : List Uid)
    (hl : ∀ v ∈ l, src s sel v ∈ s.succs (src s sel c)) : (setSuccs g c l).2 = none := by
  rw [setSuccs_eq_rev]
  exact (h.rev ok).setPreds_ok ok.rev hc l hl

theorem setParent_sound (h : Sound s w sel g) (ok : SelOK s w sel) {c : Uid} (hc : IsClone s sel c) (p : Option Uid)
    (hp : ∀ q, p = some q → IsClone s sel q ∧ s.parent (src s sel c) = some (src s sel q)) :
    Sound s w sel (setParent g c p).1 := by
  have hk : CloneOpKind s w sel (fun g => setParent g c p) := CloneOpKind.par c p hc (fun q hq => (hp q hq).1)
  have hpar := (setParent_effect g _ c p h.ci.inv.wf (h.owner_none ok hc) (eq_of_ok _ (h.setParent_ok ok hc p hp))).1
  refine ⟨hk.cinv ok.visible g h.ci, hk.cframe ok.inv.bnd g h.fr, ?_, ?_⟩
  · intro x y hx hxy
    rw [hpar] at hxy
    by_cases e : x = c
    · subst e
      rw [upd_same] at hxy
      exact hp y hxy
    · rw [upd_other _ _ _ _ e] at hxy
      exact h.par x y hx hxy
  · intro a b hab
    rw [(setParent_links g c p).1] at hab
    exact h.lnk a b hab

theorem setChildren_sound (h : Sound s w sel g) (ok : SelOK s w sel) {c : Uid} (hc : IsClone s sel c) (l : List Uid)
    (hl : ∀ v ∈ l, IsClone s sel v ∧ s.parent (src s sel v) = some (src s sel c)) :
    Sound s w sel (setChildren g c l).1 := by
  have hk : CloneOpKind s w sel (fun g => setChildren g c l) := CloneOpKind.chi c l (Or.inl hc) (fun v hv => (hl v hv).1)
  refine ⟨hk.cinv ok.visible g h.ci, hk.cframe ok.inv.bnd g h.fr, ?_, ?_⟩
  · intro x y hx hxy
    have hcl := fun v hv => h.ci.clone ok.visible (hl v hv).1
    rw [(setChildren_effect g _ c l h.ci.inv (fun v hv => (hcl v hv).1) (h.ci.clone ok.visible hc).2
      (fun v hv => (hcl v hv).2) (eq_of_ok _ (h.setChildren_ok ok hc l hl))).1] at hxy
    split at hxy
    · rename_i hxl
      cases hxy
      exact ⟨hc, (hl x hxl).2⟩
    · split at hxy
      · cases hxy
      · exact h.par x y hx hxy
  · intro a b hab
    rw [(setChildren_links g c l).1] at hab
    exact h.lnk a b hab

theorem setPreds_sound (h : Sound s w sel g) (ok : SelOK s w sel) {c : Uid} (hc : IsClone s sel c) (l : List Uid)
    (hl : ∀ v ∈ l, (IsClone s sel v ∨ Outside s w v) ∧ src s sel v ∈ s.preds (src s sel c)) :
    Sound s w sel (setPreds g c l).1 := by
  have hk : CloneOpKind s w sel (fun g => setPreds g c l) := CloneOpKind.prd c l hc (fun v hv => (hl v hv).1)
  refine ⟨hk.cinv ok.visible g h.ci, hk.cframe ok.inv.bnd g h.fr, ?_, ?_⟩
  · intro x y hx hxy
    rw [(setPreds_hier g c l).1] at hxy
    exact h.par x y hx hxy
  · intro a b hab hfr
    rcases setPreds_result g c l with ⟨e, _, he⟩ | he
    · rw [he] at hab; exact h.lnk a b hab hfr
    · rw [he] at hab
      have hab' : a ∈ upd g.preds c l b := hab
      by_cases e : b = c
      · subst e
        rw [upd_same] at hab'
        exact (hl a hab').2
      · rw [upd_other _ _ _ _ e] at hab'
        exact h.lnk a b hab' hfr

theorem setSuccs_sound (h : Sound s w sel g) (ok : SelOK s w sel) {c : Uid} (hc : IsClone s sel c) (l : List Uid)
    (hl : ∀ v ∈ l, (IsClone s sel v ∨ Outside s w v) ∧ src s sel v ∈ s.succs (src s sel c)) :
    Sound s w sel (setSuccs g c l).1 := by
  rw [setSuccs_eq_rev]
  exact ((h.rev ok).setPreds_sound ok.rev hc l hl).rev ok.rev

theorem extend (ok : SelOK s w sel) : Sound s w sel (extend s sel) := by
  refine ⟨CInv.extend s sel ok.inv ok.visible, CFrame.extend s w sel ok.inv.bnd, ?_, ?_⟩
  · intro x y hx hxy
    have hxy' : s.parent x = some y := hxy
    exact absurd (ok.inv.bnd.parent x y hxy').1 (Nat.not_lt.mpr hx.ge)
  · intro a b hab hfr
    have hab' : a ∈ s.preds b := hab
    have := ok.inv.bnd.preds b a hab'
    exact hfr.elim (fun h => absurd this.2 (Nat.not_lt.mpr h)) (fun h => absurd this.1 (Nat.not_lt.mpr h))

end Sound

/-- the children / predecessor / successor list the clone of `sel[i]` is given -/
def Lc (s : G) (sel : List Uid) (i : Nat) : List Uid := (s.children (sel.getD i 0)).filterMap (cloneOf s.n sel)
def tgtP (s : G) (w : Uid) (sel : List Uid) (j : Nat) : List Uid :=
  (s.preds (sel.getD j 0)).filterMap (linkTarget s w s.n sel)
def tgtS (s : G) (w : Uid) (sel : List Uid) (j : Nat) : List Uid :=
  (s.succs (sel.getD j 0)).filterMap (linkTarget s w s.n sel)

/-- the arguments of the four calls for `sel[m]`: each is the image of what `sel[m]` has in the source -/
theorem SelOK.args {s : G} {w : Uid} {sel : List Uid} (ok : SelOK s w sel) (m : Nat) :
    (∀ q, (s.pubParent (sel.getD m 0)).bind (cloneOf s.n sel) = some q →
      IsClone s sel q ∧ s.parent (src s sel (s.n + m)) = some (src s sel q)) ∧
    (∀ v ∈ Lc s sel m, IsClone s sel v ∧ s.parent (src s sel v) = some (src s sel (s.n + m))) ∧
    (∀ v ∈ tgtP s w sel m, (IsClone s sel v ∨ Outside s w v) ∧ src s sel v ∈ s.preds (src s sel (s.n + m))) ∧
    (∀ v ∈ tgtS s w sel m, (IsClone s sel v ∨ Outside s w v) ∧ src s sel v ∈ s.succs (src s sel (s.n + m))) := by
  rw [src_clone]
  exact ⟨parentArg_ok s sel _, childrenArg_ok s ok.inv.wf sel _, predsArg_ok s ok.inv w sel _,
    succsArg_ok s ok.inv w sel _⟩

theorem SelOK.perTask_eq {s : G} {w : Uid} {sel : List Uid} (ok : SelOK s w sel) (m : Nat) (hm : m < sel.length) :
    perTask s w sel (sel.getD m 0) =
      [ (fun g => setParent g (s.n + m) ((s.pubParent (sel.getD m 0)).bind (cloneOf s.n sel))),
        (fun g => setChildren g (s.n + m) ((s.children (sel.getD m 0)).filterMap (cloneOf s.n sel))),
        (fun g => setPreds g (s.n + m) ((s.preds (sel.getD m 0)).filterMap (linkTarget s w s.n sel))),
        (fun g => setSuccs g (s.n + m) ((s.succs (sel.getD m 0)).filterMap (linkTarget s w s.n sel))) ] := by
  unfold perTask
  rw [ok.cloneOf_getD m hm]

theorem getElem?_getD (l : List Uid) (i : Nat) (t : Uid) (h : l[i]? = some t) : i < l.length ∧ t = l.getD i 0 := by
  obtain ⟨hi, ht⟩ := List.getElem?_eq_some_iff.mp h
  exact ⟨hi, by rw [getD_eq_getElem l i hi, ht]⟩

theorem Sound.task_chain {s : G} {w : Uid} {sel : List Uid} (ok : SelOK s w sel) (m : Nat) (hm : m < sel.length)
    (g : G) (h : Sound s w sel g) :
    ∃ g1 g2 g3 g4,
      setParent g (s.n + m) ((s.pubParent (sel.getD m 0)).bind (cloneOf s.n sel)) = (g1, none) ∧ Sound s w sel g1 ∧
      setChildren g1 (s.n + m) (Lc s sel m) = (g2, none) ∧ Sound s w sel g2 ∧
      setPreds g2 (s.n + m) (tgtP s w sel m) = (g3, none) ∧ Sound s w sel g3 ∧
      setSuccs g3 (s.n + m) (tgtS s w sel m) = (g4, none) ∧ Sound s w sel g4 := by
  have hc : IsClone s sel (s.n + m) := ⟨m, hm, rfl⟩
  obtain ⟨a1, a2, a3, a4⟩ := ok.args m
  have h1 := h.setParent_sound ok hc _ a1
  have h2 := h1.setChildren_sound ok hc _ a2
  have h3 := h2.setPreds_sound ok hc _ a3
  have h4 := h3.setSuccs_sound ok hc _ a4
  exact ⟨_, _, _, _, eq_of_ok _ (h.setParent_ok ok hc _ a1), h1, eq_of_ok _ (h1.setChildren_ok ok hc _ a2), h2,
    eq_of_ok _ (h2.setPreds_ok ok hc _ (fun v hv => (a3 v hv).2)), h3,
    eq_of_ok _ (h3.setSuccs_ok ok hc _ (fun v hv => (a4 v hv).2)), h4⟩

theorem SelOK.perTask_run {s : G} {w : Uid} {sel : List Uid} (ok : SelOK s w sel) (m : Nat) (hm : m < sel.length)
    {g g1 g2 g3 g4 : G}
    (e1 : setParent g (s.n + m) ((s.pubParent (sel.getD m 0)).bind (cloneOf s.n sel)) = (g1, none))
    (e2 : setChildren g1 (s.n + m) (Lc s sel m) = (g2, none)) (e3 : setPreds g2 (s.n + m) (tgtP s w sel m) = (g3, none))
    (e4 : setSuccs g3 (s.n + m) (tgtS s w sel m) = (g4, none)) :
    seqOps id g (perTask s w sel (sel.getD m 0)) = (g4, none) := by
  rw [ok.perTask_eq m hm, seqOps_cons_ok _ _ g g1 e1, seqOps_cons_ok _ _ g1 g2 e2, seqOps_cons_ok _ _ g2 g3 e3,
    seqOps_cons_ok _ _ g3 g4 e4]
  rfl

theorem SelOK.of_args (s : G) (w : Uid) (roots : List Uid) (subs : List (List Uid)) (hi : Inv s)
    (hwbs : s.hidden w = true)
    (hm : ∀ r ∈ roots, s.owner r = some w ∧ s.hidden r = false)
    (h : roots.mapM (fun r => subtreeF s.children s.fuel r) = some subs) :
    SelOK s w (dedupFirst subs.flatten) := by
  refine ⟨hi, hwbs, nodup_eraseDups _, ?_⟩
  intro t ht
  obtain ⟨r, hr, hx⟩ := (mem_sel_iff s hi.wf roots subs h t).mp ht
  have ho : s.owner t = some w := (owner_of_RTC s hi.own.inherit hx).trans (hm r hr).1
  exact ⟨ho, below_not_hidden s hi.wf (hm r hr).2 hx, (hi.bnd.owner t w ho).1⟩

/-! ### sibling order: re-setting the parent of a child moves it to the end of the list

  `c.parent = p` removes `c` from `p.children` and appends it again.  The children of a clone are re-adopted one by
  one in index order, so that the list is rotated once around and ends up in the original order. -/

def rot (A : Nat) (L : List Uid) : List Uid :=
  L.filter (fun x => decide (A ≤ x)) ++ L.filter (fun x => decide (x < A))

theorem mem_rot (A : Nat) (L : List Uid) (x : Uid) : x ∈ rot A L ↔ x ∈ L := by
  unfold rot
  rw [List.mem_append, List.mem_filter, List.mem_filter]
  constructor
  · rintro (h | h) <;> exact h.1
  · intro h
    by_cases e : A ≤ x
    · exact Or.inl ⟨h, by simpa using e⟩
    · exact Or.inr ⟨h, by simpa using Nat.lt_of_not_le e⟩

theorem rot_succ_of_not_mem (A : Nat) (L : List Uid) (h : A ∉ L) :
    (rot A L).filter (fun x => x != A) = rot (A + 1) L := by
  have hne : ∀ x ∈ rot A L, x ≠ A := fun x hx e => h (e ▸ (mem_rot A L x).mp hx)
  rw [List.filter_eq_self.mpr (fun x hx => bne_iff_ne.mpr (hne x hx))]
  unfold rot
  have hL : ∀ x ∈ L, x ≠ A := fun x hx e => h (e ▸ hx)
  congr 1
  · apply List.filter_congr
    intro x hx
    exact decide_eq_decide.mpr ⟨fun h => Nat.lt_of_le_of_ne h (Ne.symm (hL x hx)), Nat.le_of_succ_le⟩
  · apply List.filter_congr
    intro x hx
    exact decide_eq_decide.mpr ⟨Nat.lt_succ_of_lt, fun h => Nat.lt_of_le_of_ne (Nat.le_of_lt_succ h) (hL x hx)⟩

theorem rot_append (B : Nat) (lo hi : List Uid) (hlo : ∀ x ∈ lo, x < B) (hhi : ∀ x ∈ hi, B ≤ x) :
    rot B (lo ++ hi) = hi ++ lo := by
  unfold rot
  rw [List.filter_append, List.filter_append,
    List.filter_eq_nil_iff.mpr (fun x hx h => Nat.not_le.mpr (hlo x hx) (of_decide_eq_true h)),
    List.filter_eq_self.mpr (fun x hx => decide_eq_true (hhi x hx)),
    List.filter_eq_self.mpr (fun x hx => decide_eq_true (hlo x hx)),
    List.filter_eq_nil_iff.mpr (fun x hx h => Nat.not_le.mpr (of_decide_eq_true h) (hhi x hx)),
    List.nil_append, List.append_nil]

theorem rot_succ_of_mem (A : Nat) (L : List Uid) (h : A ∈ L) (hs : L.Pairwise (· < ·)) :
    (rot A L).filter (fun x => x != A) ++ [A] = rot (A + 1) L := by
  obtain ⟨lo, hi, rfl⟩ := List.append_of_mem h
  obtain ⟨_, h2, h3⟩ := List.pairwise_append.mp hs
  have hlo : ∀ x ∈ lo, x < A := fun x hx => h3 x hx A List.mem_cons_self
  have hhi : ∀ x ∈ hi, A < x := (List.pairwise_cons.mp h2).1
  have hne : ∀ x ∈ hi ++ lo, (x != A) = true := fun x hx => bne_iff_ne.mpr
    ((List.mem_append.mp hx).elim (fun hx => Nat.ne_of_gt (hhi x hx)) (fun hx => Nat.ne_of_lt (hlo x hx)))
  rw [rot_append A lo (A :: hi) hlo (fun x hx => (List.mem_cons.mp hx).elim (fun e => e ▸ Nat.le_refl A)
      (fun hx => Nat.le_of_lt (hhi x hx))),
    List.append_cons lo A hi,
    rot_append (A + 1) (lo ++ [A]) hi (fun x hx => (List.mem_append.mp hx).elim
      (fun hx => Nat.lt_succ_of_lt (hlo x hx)) (fun hx => List.mem_singleton.mp hx ▸ Nat.lt_succ_self A)) hhi,
    List.cons_append, List.filter_cons_of_neg (by simp), List.filter_eq_self.mpr hne, List.append_assoc]

theorem rot_of_ge (A : Nat) (L : List Uid) (h : ∀ x ∈ L, A ≤ x) : rot A L = L := by
  have := rot_append A [] L (fun _ hx => nomatch hx) h
  rwa [List.nil_append, List.append_nil] at this

theorem rot_of_lt (A : Nat) (L : List Uid) (h : ∀ x ∈ L, x < A) : rot A L = L := by
  have := rot_append A L [] h (fun _ hx => nomatch hx)
  rwa [List.append_nil, List.nil_append] at this

theorem nodup_of_sorted (L : List Uid) (h : L.Pairwise (· < ·)) : L.Nodup :=
  List.nodup_iff_pairwise_ne.mpr (h.imp (fun hab => Nat.ne_of_lt hab))

/-- the selection is in pre-order: the clones of the children of a task have increasing uids, all above the
    uid of the clone of the task -/
structure PreOK (s : G) (sel : List Uid) : Prop where
  sorted : ∀ i, i < sel.length → (Lc s sel i).Pairwise (· < ·)
  above : ∀ i, i < sel.length → ∀ v ∈ Lc s sel i, s.n + i < v

theorem mem_Lc {s : G} {w : Uid} {sel : List Uid} (ok : SelOK s w sel) (i : Nat) (v : Uid) :
    v ∈ Lc s sel i ↔ IsClone s sel v ∧ s.parent (src s sel v) = some (sel.getD i 0) :=
  ⟨childrenArg_ok s ok.inv.wf sel _ v, fun ⟨hv, hp⟩ =>
    List.mem_filterMap.mpr ⟨_, (ok.inv.wf.listed _ _).mp hp, hv.cloneOf_src ok⟩⟩

theorem SelOK.getD_inj {s : G} {w : Uid} {sel : List Uid} (ok : SelOK s w sel) (i j : Nat) (hi : i < sel.length)
    (hj : j < sel.length) (h : sel.getD i 0 = sel.getD j 0) : i = j := by
  have h1 := ok.cloneOf_getD i hi
  have h2 := ok.cloneOf_getD j hj
  rw [h, h2] at h1
  have := Option.some.inj h1
  omega

theorem Lc_disjoint {s : G} {w : Uid} {sel : List Uid} (ok : SelOK s w sel) (i j : Nat) (hi : i < sel.length)
    (hj : j < sel.length) (v : Uid) (h1 : v ∈ Lc s sel i) (h2 : v ∈ Lc s sel j) : i = j := by
  have a := ((mem_Lc ok i v).mp h1).2
  have b := ((mem_Lc ok j v).mp h2).2
  rw [a] at b
  exact ok.getD_inj i j hi hj (Option.some.inj b)

theorem linkTarget_member {s : G} {w : Uid} {sel : List Uid} (ok : SelOK s w sel) (j : Nat) (hj : j < sel.length) :
    linkTarget s w s.n sel (sel.getD j 0) = some (s.n + j) := by
  unfold linkTarget
  rw [if_pos (ok.mem _ (getD_mem sel j hj)).1]
  exact ok.cloneOf_getD j hj

theorem mem_tgtP_clone {s : G} {w : Uid} {sel : List Uid} (ok : SelOK s w sel) (j m : Nat) (hj : j < sel.length)
    (h : sel.getD j 0 ∈ s.preds (sel.getD m 0)) : s.n + j ∈ tgtP s w sel m :=
  List.mem_filterMap.mpr ⟨_, h, linkTarget_member ok j hj⟩

/-- progress of the sequence: the parent calls for `sel[0..a)`, the children calls for `sel[0..b)`, the predecessor
    calls for `sel[0..c)` and the successor calls for `sel[0..d)` are done.  The children lists of the first `b` clones
    are the mirrored ones rotated at the next clone to be re-parented, the link lists hold all mirrored entries -/
structure Complete (s : G) (w : Uid) (sel : List Uid) (a b c d : Nat) (g : G) : Prop where
  cc : ∀ i, i < b → g.children (s.n + i) = rot (s.n + a) (Lc s sel i)
  cp : ∀ j, j < c → ∀ v ∈ tgtP s w sel j, v ∈ g.preds (s.n + j)
  cs : ∀ j, j < d → ∀ v ∈ tgtS s w sel j, v ∈ g.succs (s.n + j)

theorem Complete.rev {s : G} {w : Uid} {sel : List Uid} {a b c d : Nat} {g : G} (h : Complete s w sel a b c d g) :
    Complete s.rev w sel a b d c g.rev := ⟨h.cc, h.cs, h.cp⟩

section steps
variable {s : G} {w : Uid} {sel : List Uid}

theorem Complete.step1 (ok : SelOK s w sel) (pk : PreOK s sel) (m : Nat) (hm : m < sel.length) {g g1 : G}
    (hs : Sound s w sel g)
    (e1 : setParent g (s.n + m) ((s.pubParent (sel.getD m 0)).bind (cloneOf s.n sel)) = (g1, none))
    (hc : Complete s w sel m m m m g) : Complete s w sel (m + 1) m m m g1 := by
  have hcl : IsClone s sel (s.n + m) := ⟨m, hm, rfl⟩
  have eff := (setParent_effect g g1 _ _ hs.ci.inv.wf (hs.owner_none ok hcl) e1).2
  have hlinks := setParent_links g (s.n + m) ((s.pubParent (sel.getD m 0)).bind (cloneOf s.n sel))
  rw [e1] at hlinks
  refine ⟨?_, ?_, ?_⟩
  · intro i hi
    have hik : i < sel.length := Nat.lt_trans hi hm
    rw [eff, hc.cc i hi]
    by_cases e : (s.pubParent (sel.getD m 0)).bind (cloneOf s.n sel) = some (s.n + i)
    · rw [if_pos e]
      have hmem : s.n + m ∈ Lc s sel i :=
        (mem_Lc ok i _).mpr ⟨hcl, by rw [((ok.args m).1 _ e).2, src_clone]⟩
      exact rot_succ_of_mem (s.n + m) _ hmem (pk.sorted i hik)
    · rw [if_neg e]
      apply rot_succ_of_not_mem
      intro hx
      have h1 := ((mem_Lc ok i _).mp hx).2
      rw [src_clone] at h1
      apply e
      rw [(pubParent_eq_some_iff s _ _).mpr ⟨h1, (ok.mem _ (getD_mem sel i hik)).2.1⟩]
      exact ok.cloneOf_getD i hik
  · intro j hj v hv
    rw [hlinks.1]; exact hc.cp j hj v hv
  · intro j hj v hv
    rw [hlinks.2]; exact hc.cs j hj v hv

theorem Complete.step2 (ok : SelOK s w sel) (pk : PreOK s sel) (m : Nat) (hm : m < sel.length) {g g2 : G}
    (hs : Sound s w sel g) (e2 : setChildren g (s.n + m) (Lc s sel m) = (g2, none))
    (hc : Complete s w sel (m + 1) m m m g) : Complete s w sel (m + 1) (m + 1) m m g2 := by
  have hcl := fun v hv => hs.ci.clone ok.visible ((ok.args m).2.1 v hv).1
  have eff := (setChildren_effect g g2 (s.n + m) (Lc s sel m) hs.ci.inv (fun v hv => (hcl v hv).1)
    (hs.ci.clone ok.visible ⟨m, hm, rfl⟩).2 (fun v hv => (hcl v hv).2) e2).2
  have hlinks := setChildren_links g (s.n + m) (Lc s sel m)
  rw [e2] at hlinks
  refine ⟨?_, ?_, ?_⟩
  · intro i hi
    rw [eff]
    by_cases e : i = m
    · subst e
      rw [if_pos rfl, dedupLast_of_nodup _ (nodup_of_sorted _ (pk.sorted i hm))]
      exact (rot_of_ge _ _ (fun x hx => pk.above i hm x hx)).symm
    · have him : i < m := by omega
      rw [if_neg (fun h => e (Nat.add_left_cancel h)), hc.cc i him]
      apply List.filter_eq_self.mpr
      intro x hx
      have hx' := (mem_rot _ _ _).mp hx
      have : x ∉ Lc s sel m := fun h2 => e (Lc_disjoint ok i m (Nat.lt_trans him hm) hm x hx' h2)
      simpa using this
  · intro j hj v hv
    rw [hlinks.1]; exact hc.cp j hj v hv
  · intro j hj v hv
    rw [hlinks.2]; exact hc.cs j hj v hv

/-- the predecessor lists of the clones of `sel[0..m]` are complete after the call for `sel[m]`; the call also enters
    the clone of `sel[m]` into the successor lists of its new predecessors, which keeps those complete -/
theorem Complete.step3 (ok : SelOK s w sel) (m : Nat) (hm : m < sel.length) {a b d : Nat} (hd : d ≤ sel.length)
    {g g3 : G} (e3 : setPreds g (s.n + m) (tgtP s w sel m) = (g3, none))
    (hc : Complete s w sel a b m d g) : Complete s w sel a b (m + 1) d g3 := by
  rcases setPreds_result g (s.n + m) (tgtP s w sel m) with ⟨_, _, he⟩ | he <;> rw [he] at e3 <;> cases e3
  obtain ⟨fp, fs⟩ := mutPreds_fields g (s.n + m) (tgtP s w sel m)
  refine ⟨hc.cc, ?_, ?_⟩
  · intro j hj v hv
    rw [fp]
    by_cases e : j = m
    · subst e; rw [upd_same]; exact hv
    · rw [upd_other _ _ _ _ (fun h => e (Nat.add_left_cancel h))]
      exact hc.cp j (by omega) v hv
  · intro j hj v hv
    rw [fs]
    refine mem_mirrorUpd (g.succs (s.n + j)) (s.n + m) (s.n + j) v (tgtP s w sel m) (g.preds (s.n + m)) ?_
    by_cases e : v = s.n + m
    · -- `sel[m]` is a successor of `sel[j]`, so the clone of `sel[j]` is among the new predecessors
      have h1 := (succsArg_ok s ok.inv w sel _ v hv).2
      rw [e, src_clone] at h1
      exact Or.inr ⟨e, mem_tgtP_clone ok j m (Nat.lt_of_lt_of_le hj hd) ((ok.inv.wf.sym _ _).mpr h1)⟩
    · exact Or.inl ⟨e, hc.cs j hj v hv⟩

theorem Complete.step4 (ok : SelOK s w sel) (m : Nat) (hm : m < sel.length) {g g4 : G}
    (e4 : setSuccs g (s.n + m) (tgtS s w sel m) = (g4, none))
    (hc : Complete s w sel (m + 1) (m + 1) (m + 1) m g) :
    Complete s w sel (m + 1) (m + 1) (m + 1) (m + 1) g4 := by
  rw [setSuccs_eq_rev] at e4
  injection e4 with h1 h2
  rw [← h1]
  exact (Complete.step3 ok.rev m hm hm (eq_of_ok _ h2) hc.rev).rev

end steps

/-- the state before the final call: sound, and for a selection in pre-order every task completed -/
theorem cloneOps_run {s : G} {w : Uid} {sel : List Uid} (ok : SelOK s w sel) (roots : List Uid) :
    ∃ gP, Sound s w sel gP ∧
      (PreOK s sel → Complete s w sel sel.length sel.length sel.length sel.length gP) ∧
      seqOps id (extend s sel) (cloneOps s w roots sel) = finalOp s roots sel gP := by
  obtain ⟨gP, e, hs, hc⟩ := seqOps_flatMap
    (fun m g => Sound s w sel g ∧ (PreOK s sel → Complete s w sel m m m m g)) (perTask s w sel) sel 0 (extend s sel)
    (by
      intro i t g hi ⟨h, hc⟩
      obtain ⟨hi', rfl⟩ := getElem?_getD sel i t hi
      rw [Nat.zero_add] at hc ⊢
      obtain ⟨g1, g2, g3, g4, e1, h1, e2, h2, e3, h3, e4, h4⟩ := h.task_chain ok i hi' g
      exact ⟨g4, ok.perTask_run i hi' e1 e2 e3 e4, h4, fun pk =>
        (((hc pk).step1 ok pk i hi' h e1).step2 ok pk i hi' h1 e2 |>.step3 ok i hi' (Nat.le_of_lt hi') e3).step4 ok i hi' e4⟩)
    ⟨Sound.extend ok, fun _ => ⟨fun i hi => absurd hi (Nat.not_lt_zero i), fun i hi => absurd hi (Nat.not_lt_zero i),
      fun i hi => absurd hi (Nat.not_lt_zero i)⟩⟩
  rw [Nat.zero_add] at hc
  refine ⟨gP, hs, hc, ?_⟩
  unfold cloneOps
  rw [seqOps_append_ok _ _ _ (by rw [e]), e]
  exact seqOps_singleton _ gP

theorem cloneSel_accepted (s : G) (w : Uid) (roots : List Uid) (hi : Inv s) (hwbs : s.hidden w = true)
    (hm : ∀ r ∈ roots, s.owner r = some w ∧ s.hidden r = false) : (cloneSel s w roots).2.1 = none := by
  obtain ⟨subs, hsubs⟩ := mapM_total (fun r => subtreeF s.children s.fuel r) roots
    (fun a _ => subtreeF_children_total s hi.wf hi.bnd a)
  have ok := SelOK.of_args s w roots subs hi hwbs hm hsubs
  obtain ⟨gP, hs, _, e⟩ := cloneOps_run ok roots
  rw [cloneSel_eq s w roots subs hsubs]
  show (seqOps id _ (cloneOps s w roots _)).2 = none
  rw [e]
  exact hs.final_ok ok _ (filterMap_cloneOf_isClone s _ roots)

/-- what independence of the roots provides -/
structure RootsOK (s : G) (sel roots : List Uid) : Prop where
  nodup : roots.Nodup
  mem : ∀ r ∈ roots, r ∈ sel
  top : ∀ r ∈ roots, ∀ p, s.parent r = some p → p ∉ sel
  cover : ∀ t ∈ sel, t ∈ roots ∨ ∃ p ∈ sel, s.parent t = some p

/-- the mirrored structure, as propositions -/
structure Mirror (s : G) (w : Uid) (sel roots : List Uid) (g : G) : Prop where
  children : ∀ i, i < sel.length → g.children (s.n + i) = Lc s sel i
  rootChildren : g.children (s.n + sel.length) = roots.filterMap (cloneOf s.n sel)
  rootHidden : g.hidden (s.n + sel.length) = true
  rootOwner : g.owner (s.n + sel.length) = some (s.n + sel.length)
  owner : ∀ i, i < sel.length → g.owner (s.n + i) = some (s.n + sel.length)
  parentIn : ∀ j i, j < sel.length → i < sel.length → s.parent (sel.getD j 0) = some (sel.getD i 0) →
    g.parent (s.n + j) = some (s.n + i)
  parentTop : ∀ j, j < sel.length → sel.getD j 0 ∈ roots → g.parent (s.n + j) = some (s.n + sel.length)
  predsIn : ∀ j, j < sel.length → ∀ v ∈ tgtP s w sel j, v ∈ g.preds (s.n + j)
  succsIn : ∀ j, j < sel.length → ∀ v ∈ tgtS s w sel j, v ∈ g.succs (s.n + j)
  predsOut : ∀ j, j < sel.length → ∀ v ∈ g.preds (s.n + j), v ∈ tgtP s w sel j
  succsOut : ∀ j, j < sel.length → ∀ v ∈ g.succs (s.n + j), v ∈ tgtS s w sel j

theorem filterMap_cloneOf_nodup (s : G) (sel : List Uid) (l : List Uid)
    (hl : l.Nodup) : (l.filterMap (cloneOf s.n sel)).Nodup := by
  rw [List.nodup_iff_pairwise_ne] at hl ⊢
  refine List.Pairwise.filterMap _ ?_ hl
  intro a a' hne b hb b' hb' e
  subst e
  have h1 := (cloneOf_src s sel a b hb).2
  have h2 := (cloneOf_src s sel a' b hb').2
  exact hne (h1.symm.trans h2)

/-- an entry of a link list of a clone is what `linkTarget` makes of its source: the clone of a selected task, or a
    task outside the source WBS itself -/
theorem Sound.link_target {s : G} {w : Uid} {sel : List Uid} {g : G} (h : Sound s w sel g) (ok : SelOK s w sel)
    (a c : Uid) (hc : IsClone s sel c) (hl : a ∈ g.preds c ∨ a ∈ g.succs c) :
    linkTarget s w s.n sel (src s sel a) = some a := by
  have hw := h.ci.inv.wf
  by_cases ha : s.n ≤ a
  · have hacl : IsClone s sel a := by
      rcases hl with hl | hl
      · exact (h.link_fresh a c hl).1 ha
      · exact (h.link_fresh c a ((hw.sym c a).mpr hl)).2 ha
    unfold linkTarget
    rw [if_pos (ok.mem _ hacl.src_mem).1]
    exact hacl.cloneOf_src ok
  · have ha' : a < s.n := Nat.lt_of_not_le ha
    rw [src_lt s sel a ha']
    unfold linkTarget
    have hno : s.owner a ≠ some w := by
      intro ho
      have hm := h.fr.links.member a ha' ho
      have hcge := hc.ge
      rcases hl with hl | hl
      · have : c ∈ g.succs a := (hw.sym a c).mp hl
        rw [hm.2] at this
        exact absurd (ok.inv.bnd.succs a c this).2 (Nat.not_lt.mpr hcge)
      · have : c ∈ g.preds a := (hw.sym c a).mpr hl
        rw [hm.1] at this
        exact absurd (ok.inv.bnd.preds a c this).2 (Nat.not_lt.mpr hcge)
    rw [if_neg hno]

theorem final_mirror {s : G} {w : Uid} {sel roots : List Uid} (ok : SelOK s w sel) (pk : PreOK s sel)
    (rk : RootsOK s sel roots) (g : G) (hs : Sound s w sel g)
    (hc : Complete s w sel sel.length sel.length sel.length sel.length g) :
    Mirror s w sel roots (setChildren g (s.n + sel.length) (roots.filterMap (cloneOf s.n sel))).1 := by
  have hw := hs.ci.inv.wf
  have hlr : ∀ v ∈ roots.filterMap (cloneOf s.n sel), IsClone s sel v := filterMap_cloneOf_isClone s sel roots
  have hcl := fun v hv => hs.ci.clone ok.visible (hlr v hv)
  have effc := (setChildren_effect g _ _ _ hs.ci.inv (fun v hv => (hcl v hv).1) (by rw [hs.ci.n]; exact Nat.lt_succ_self _)
    (fun v hv => (hcl v hv).2) (eq_of_ok _ (hs.final_ok ok _ hlr))).2
  rw [dedupLast_of_nodup _ (filterMap_cloneOf_nodup s sel roots rk.nodup)] at effc
  obtain ⟨effp, effs⟩ := setChildren_links g (s.n + sel.length) (roots.filterMap (cloneOf s.n sel))
  have hk : CloneOpKind s w sel (fun g => setChildren g (s.n + sel.length) (roots.filterMap (cloneOf s.n sel))) :=
    CloneOpKind.chi _ _ (Or.inr rfl) hlr
  have hci := hk.cinv ok.visible g hs.ci
  generalize (setChildren g (s.n + sel.length) (roots.filterMap (cloneOf s.n sel))).1 = g' at effc effp effs hci
  have hw' := hci.1.wf
  have hrootsrc : ∀ v ∈ roots.filterMap (cloneOf s.n sel), src s sel v ∈ roots :=
    fun v hv => (mem_filterMap_cloneOf s sel roots v hv).2
  have hrootmem : ∀ j, j < sel.length → sel.getD j 0 ∈ roots → s.n + j ∈ roots.filterMap (cloneOf s.n sel) :=
    fun j hj hr => List.mem_filterMap.mpr ⟨_, hr, ok.cloneOf_getD j hj⟩
  have hchildren : ∀ i, i < sel.length → g'.children (s.n + i) = Lc s sel i := by
    intro i hi
    rw [effc, if_neg (Nat.ne_of_lt (Nat.add_lt_add_left hi _)), hc.cc i hi]
    have hlt : ∀ x ∈ Lc s sel i, x < s.n + sel.length := by
      intro x hx
      obtain ⟨j, hj, rfl⟩ := ((mem_Lc ok i x).mp hx).1
      exact Nat.add_lt_add_left hj _
    rw [rot_of_lt _ _ hlt]
    apply List.filter_eq_self.mpr
    intro x hx
    have : x ∉ roots.filterMap (cloneOf s.n sel) := by
      intro hxr
      exact rk.top _ (hrootsrc x hxr) _ ((mem_Lc ok i x).mp hx).2 (getD_mem sel i hi)
    simpa using this
  have hrootch : g'.children (s.n + sel.length) = roots.filterMap (cloneOf s.n sel) := by
    rw [effc, if_pos rfl]
  have hrh : g'.hidden (s.n + sel.length) = true := by
    rw [hci.hidden]; exact extend_hidden_root s sel
  have hparIn : ∀ j i, j < sel.length → i < sel.length → s.parent (sel.getD j 0) = some (sel.getD i 0) →
      g'.parent (s.n + j) = some (s.n + i) := by
    intro j i hj hi hp
    apply (hw'.listed _ _).mpr
    rw [hchildren i hi]
    exact (mem_Lc ok i _).mpr ⟨⟨j, hj, rfl⟩, by rw [src_clone]; exact hp⟩
  have hparTop : ∀ j, j < sel.length → sel.getD j 0 ∈ roots → g'.parent (s.n + j) = some (s.n + sel.length) := by
    intro j hj hr
    apply (hw'.listed _ _).mpr
    rw [hrootch]
    exact hrootmem j hj hr
  have hro : g'.owner (s.n + sel.length) = some (s.n + sel.length) := hci.1.own.root _ hrh
  have howner : ∀ i, i < sel.length → g'.owner (s.n + i) = some (s.n + sel.length) := by
    intro i
    induction i using Nat.strongRecOn with
    | _ i ih =>
      intro hi
      rcases rk.cover _ (getD_mem sel i hi) with hr | ⟨p, hp, hpar⟩
      · rw [hci.1.own.inherit _ _ (hparTop i hi hr)]; exact hro
      · obtain ⟨j, hj, hpj⟩ := List.mem_iff_getElem.mp hp
        have hpj' : sel.getD j 0 = p := by rw [getD_eq_getElem sel j hj]; exact hpj
        rw [← hpj'] at hpar
        have hji : j < i := by
          have h1 : s.n + i ∈ Lc s sel j := (mem_Lc ok j _).mpr ⟨⟨i, hi, rfl⟩, by rw [src_clone]; exact hpar⟩
          exact Nat.lt_of_add_lt_add_left (pk.above j hj _ h1)
        rw [hci.1.own.inherit _ _ (hparIn i j hi hj hpar)]
        exact ih j hji hj
  -- links: the final call does not touch them
  have hsound_dep : ∀ a b, a ∈ g'.preds b → src s sel a ∈ s.preds (src s sel b) := by
    intro a b hab
    rw [effp] at hab
    exact hs.dep a b hab
  refine ⟨hchildren, hrootch, hrh, hro, howner, hparIn, hparTop, ?_, ?_, ?_, ?_⟩
  · intro j hj v hv
    rw [effp]; exact hc.cp j hj v hv
  · intro j hj v hv
    rw [effs]; exact hc.cs j hj v hv
  · intro j hj v hv
    rw [effp] at hv
    have hcl : IsClone s sel (s.n + j) := ⟨j, hj, rfl⟩
    have h1 := hs.dep v _ hv
    rw [src_clone] at h1
    exact List.mem_filterMap.mpr ⟨_, h1, hs.link_target ok v _ hcl (Or.inl hv)⟩
  · intro j hj v hv
    rw [effs] at hv
    have hcl : IsClone s sel (s.n + j) := ⟨j, hj, rfl⟩
    have h1 := hs.dep _ v ((hs.ci.inv.wf.sym _ _).mpr hv)
    rw [src_clone] at h1
    exact List.mem_filterMap.mpr ⟨_, (ok.inv.wf.sym _ _).mp h1, hs.link_target ok v _ hcl (Or.inr hv)⟩

theorem sameSet_of_mem (a b : List Uid) (h1 : ∀ x ∈ a, x ∈ b) (h2 : ∀ x ∈ b, x ∈ a) : sameSet a b = true := by
  unfold sameSet
  simp only [Bool.and_eq_true, List.all_eq_true, List.contains_iff_mem]
  exact ⟨h1, h2⟩

theorem tgt_eq_linkTarget (s : G) (w : Uid) (sel : List Uid) :
    (fun (x : Uid) => if (s.owner x == some w) = true then cloneOf s.n sel x else some x) = linkTarget s w s.n sel := by
  funext x
  unfold linkTarget
  by_cases h : s.owner x = some w
  · simp [h]
  · simp [h]

theorem Mirror.linksB {s : G} {w : Uid} {sel roots : List Uid} {g : G} (m : Mirror s w sel roots g) :
    cloneLinksB s g w sel = true := by
  unfold cloneLinksB
  simp only [tgt_eq_linkTarget]
  rw [List.all_eq_true]
  intro i hi
  have hi' : i < sel.length := List.mem_range.mp hi
  rw [Bool.and_eq_true]
  exact ⟨sameSet_of_mem _ _ (m.predsOut i hi') (m.predsIn i hi'),
    sameSet_of_mem _ _ (m.succsOut i hi') (m.succsIn i hi')⟩

theorem Mirror.hierarchyB {s : G} {w : Uid} {sel roots : List Uid} {g : G} (m : Mirror s w sel roots g)
    (ok : SelOK s w sel) (rk : RootsOK s sel roots)
    (htid : ∀ i, i < sel.length → g.tid (s.n + i) = s.tid (sel.getD i 0)) :
    cloneHierarchyB s g (s.n + sel.length) sel roots = true := by
  unfold cloneHierarchyB
  simp only [Bool.and_eq_true, beq_iff_eq]
  refine ⟨⟨⟨?_, m.rootChildren⟩, m.rootHidden⟩, m.rootOwner⟩
  rw [List.all_eq_true]
  intro i hi
  have hi' : i < sel.length := List.mem_range.mp hi
  simp only [Bool.and_eq_true, beq_iff_eq]
  refine ⟨⟨⟨htid i hi', m.children i hi'⟩, m.owner i hi'⟩, ?_⟩
  have hroot : (∀ p ∈ sel, s.parent (sel.getD i 0) ≠ some p) → g.parent (s.n + i) = some (s.n + sel.length) := by
    intro hno
    rcases rk.cover _ (getD_mem sel i hi') with hr | ⟨p, hp, hpar⟩
    · exact m.parentTop i hi' hr
    · exact absurd hpar (hno p hp)
  cases hpp : s.pubParent (sel.getD i 0) with
  | none =>
    simp only [beq_iff_eq]
    apply hroot
    intro p hp hpar
    rw [(pubParent_eq_some_iff s _ p).mpr ⟨hpar, (ok.mem p hp).2.1⟩] at hpp
    cases hpp
  | some p =>
    have hpar := ((pubParent_eq_some_iff s _ p).mp hpp).1
    cases hco : cloneOf s.n sel p with
    | none =>
      simp only [hco, beq_iff_eq]
      apply hroot
      intro p' hp' hpar'
      rw [hpar] at hpar'
      have := Option.some.inj hpar'
      subst this
      exact (cloneOf_none_iff s.n sel p).mp hco hp'
    | some cp =>
      simp only [hco, beq_iff_eq]
      obtain ⟨j, hj, rfl, hjx, _⟩ := cloneOf_some s.n sel p cp hco
      refine m.parentIn i j hi' hj ?_
      rw [hpar, getD_eq_getElem sel j hj, hjx]

/-! ### independent roots: the selection is a concatenation of pre-order enumerations -/

theorem indep_facts (s : G) (hw : WF s) (roots : List Uid) (h : rootsIndependentB s roots = true) :
    roots.Nodup ∧ ∀ r ∈ roots, ∀ q ∈ roots, r ≠ q → ¬ TC (par s) r q := by
  unfold rootsIndependentB at h
  rw [Bool.and_eq_true] at h
  obtain ⟨h1, h2⟩ := h
  refine ⟨nodup_of_eraseDups_length roots (by simpa [nodupB] using h1), ?_⟩
  intro r hr q hq hne htc
  have h3 := List.all_eq_true.mp (List.all_eq_true.mp h2 r hr) q hq
  rw [Bool.or_eq_true] at h3
  rcases h3 with h3 | h3
  · exact hne (by simpa using h3)
  · split at h3
    · rename_i d hd
      have : r ∈ d := (descF_mem s hw.listed _ q d hd r).mpr htc
      simp [this] at h3
    · cases h3

theorem RootsOK.of_indep (s : G) (hi : Inv s) (roots : List Uid) (subs : List (List Uid))
    (h : roots.mapM (fun r => subtreeF s.children s.fuel r) = some subs)
    (hind : rootsIndependentB s roots = true) : RootsOK s (dedupFirst subs.flatten) roots := by
  obtain ⟨hnd, hindep⟩ := indep_facts s hi.wf roots hind
  have hmem := mem_sel_iff s hi.wf roots subs h
  refine ⟨hnd, ?_, ?_, ?_⟩
  · intro r hr
    exact (hmem r).mpr ⟨r, hr, RTC.refl⟩
  · intro r hr p hp hps
    obtain ⟨q, hq, hpq⟩ := (hmem p).mp hps
    have htc : TC (par s) r q := TC.of_step_RTC hp hpq
    by_cases e : r = q
    · subst e; exact hi.wf.forest r htc
    · exact hindep r hr q hq e htc
  · intro t ht
    obtain ⟨r, hr, htr⟩ := (hmem t).mp ht
    rcases htr.cases_eq_or_TC with e | e
    · left; rw [e]; exact hr
    · right
      rcases e.head_cases with h1 | ⟨b, h1, h2⟩
      · exact ⟨r, (hmem r).mpr ⟨r, hr, RTC.refl⟩, h1⟩
      · exact ⟨b, (hmem b).mpr ⟨r, hr, h2.toRTC⟩, h1⟩

theorem sel_nodup (s : G) (hi : Inv s) (roots : List Uid) (subs : List (List Uid))
    (h : roots.mapM (fun r => subtreeF s.children s.fuel r) = some subs)
    (hind : rootsIndependentB s roots = true) : subs.flatten.Nodup := by
  obtain ⟨hnd, hindep⟩ := indep_facts s hi.wf roots hind
  have hw := hi.wf
  obtain ⟨hsubs, hdesc⟩ := subs_eq s roots subs h
  have hmemg : ∀ r ∈ roots, ∀ x, x ∈ r :: dsc s.children s.fuel r → RTC (par s) x r := by
    intro r hr x hx
    rcases List.mem_cons.mp hx with rfl | hx
    · exact RTC.refl
    · exact ((descF_mem s hw.listed _ r _ (hdesc r hr) x).mp hx).toRTC
  rw [hsubs]
  refine flatten_map_nodup _ roots hnd ?_ ?_
  · intro r hr
    refine List.nodup_cons.mpr ⟨?_, descF_children_nodup s hw _ r _ (hdesc r hr)⟩
    intro hrr
    exact hw.forest r ((descF_mem s hw.listed _ r _ (hdesc r hr) r).mp hrr)
  · intro r hr q hq hne x hx hx'
    rcases par_chain s (hmemg r hr x hx) (hmemg q hq x hx') with h1 | h1
    · rcases h1.cases_eq_or_TC with e | e
      · exact hne e
      · exact hindep r hr q hq hne e
    · rcases h1.cases_eq_or_TC with e | e
      · exact hne e.symm
      · exact hindep q hq r hr (Ne.symm hne) e

theorem SelOK.cloneOf_idxOf {s : G} {w : Uid} {sel : List Uid} (ok : SelOK s w sel) (x c : Uid)
    (h : cloneOf s.n sel x = some c) : c = s.n + sel.idxOf x := by
  obtain ⟨i, hi, rfl, hx, _⟩ := cloneOf_some s.n sel x c h
  rw [← hx, ok.nodup.idxOf_getElem i hi]

theorem nodup_pairwise_idx (C : List Uid) (h : C.Nodup) : C.Pairwise (fun a a' => C.idxOf a < C.idxOf a') := by
  rw [List.pairwise_iff_getElem]
  intro i j hi hj hij
  rw [h.idxOf_getElem i hi, h.idxOf_getElem j hj]; exact hij

theorem PreOK.of_sublist {s : G} {w : Uid} {sel : List Uid} (ok : SelOK s w sel)
    (h : ∀ t ∈ sel, (t :: s.children t).Sublist sel) : PreOK s sel := by
  -- the clones are numbered along `sel`, so a sublist of `sel` has increasing clones
  have hs : (sel.filterMap (cloneOf s.n sel)).Pairwise (· < ·) :=
    List.Pairwise.filterMap _ (fun a a' h b hb b' hb' => by
      rw [ok.cloneOf_idxOf a b hb, ok.cloneOf_idxOf a' b' hb']; exact Nat.add_lt_add_left h _)
      (nodup_pairwise_idx sel ok.nodup)
  have key : ∀ i, i < sel.length → ((s.n + i) :: Lc s sel i).Pairwise (· < ·) := fun i hi => by
    have := List.Pairwise.sublist ((h _ (getD_mem sel i hi)).filterMap (cloneOf s.n sel)) hs
    rwa [List.filterMap_cons, ok.cloneOf_getD i hi] at this
  exact ⟨fun i hi => (List.pairwise_cons.mp (key i hi)).2, fun i hi => (List.pairwise_cons.mp (key i hi)).1⟩

/-- C10 (mirror part): with independent roots the copy has exactly the mirrored structure -/
theorem cloneSel_iso (s : G) (w : Uid) (roots : List Uid) (subs : List (List Uid)) (hi : Inv s)
    (hwbs : s.hidden w = true) (hm : ∀ r ∈ roots, s.owner r = some w ∧ s.hidden r = false)
    (hsubs : roots.mapM (fun r => subtreeF s.children s.fuel r) = some subs)
    (hind : rootsIndependentB s roots = true) :
    cloneHierarchyB s (cloneSel s w roots).1 (s.n + (dedupFirst subs.flatten).length) (dedupFirst subs.flatten) roots = true ∧
    cloneLinksB s (cloneSel s w roots).1 w (dedupFirst subs.flatten) = true := by
  have ok := SelOK.of_args s w roots subs hi hwbs hm hsubs
  have rk := RootsOK.of_indep s hi roots subs hsubs hind
  have pk : PreOK s (dedupFirst subs.flatten) := by
    refine PreOK.of_sublist ok ?_
    rw [dedupFirst, eraseDups_eq_self_of_nodup _ (sel_nodup s hi roots subs hsubs hind)]
    intro t ht
    obtain ⟨sub, hsub, hts⟩ := List.mem_flatten.mp ht
    obtain ⟨r, _, hr⟩ := mapM_some_mem_inv _ _ _ hsubs sub hsub
    exact (subtreeF_preorder _ _ r sub hr t hts).trans (List.sublist_flatten_of_mem hsub)
  obtain ⟨gP, hs, hc, e⟩ := cloneOps_run ok roots
  have hmir := final_mirror ok pk rk gP hs (hc pk)
  have htid : ∀ i, i < (dedupFirst subs.flatten).length →
      (finalOp s roots (dedupFirst subs.flatten) gP).1.tid (s.n + i) = s.tid ((dedupFirst subs.flatten).getD i 0) := by
    intro i hi'
    rw [← e, (seqOps_n_tid s w roots _ _).2]
    exact extend_tid_clone s _ i hi'
  rw [cloneSel_eq s w roots subs hsubs]
  show cloneHierarchyB s (seqOps id _ (cloneOps s w roots _)).1 _ _ _ = true ∧
    cloneLinksB s (seqOps id _ (cloneOps s w roots _)).1 _ _ = true
  rw [e]
  exact ⟨hmir.hierarchyB ok rk htid, hmir.linksB⟩

end Pj

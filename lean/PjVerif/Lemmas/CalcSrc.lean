/-
  Lemmas/CalcSrc.lean — the PRE-CHECKS and the two `calc` methods of schedule.py: the model (Model/Sched.lean:
  `isolationOk`, `leavesOf`, `waitsFor`, `loopsFrom`, `checkLoops`, `forwardCalc`, `backwardCalc`, `prepare`) equals the
  interpretation of the CURRENT SOURCE of

    _validate_graph_isolation(project)            _leaves(task)            _waits_for(leaf)
    _check_loops(project)                         _check_loops_from_task(task, visited_tasks, validated, waits_for)
    ForwardScheduler.__check_no_end_dates_in_future(project)
    ForwardScheduler.calc(self, wbs)              BackwardScheduler.calc(self, project)
    ForwardScheduler.__prepare_tasks(project) / BackwardScheduler.__prepare_tasks(project)   (with `project.tasks` as a primitive)

  (Extracted/CalcSrc.lean, regenerated from src/pjplan/schedule.py by tools/extract_calc.py on every check), run by the
  pass layer of PyLite with its calc constructs (`callP` / `Stmt.execP` / `Expr.evalP`: containers = boxes of the
  state, function values, handlers `prim` / `fn`).

  Setting.
  * The store is that of Lemmas/PassSrc.lean / PassSrcBwd.lean: the task `u` is the object `ref u` with the attributes
    `encTask` (forward) or `encTaskB` (backward: also `successors`); the theorems about the checks hold for every
    encoding `E` with `CalcEnc E` (`predecessors`, `children`, `start`, `end` are read) and for EVERY state whose heap
    is `heapOf E env ms f` - ledger, `calculated`, resource table, clock counter and container store are arbitrary.
  * Library calls that are not defined in schedule.py are primitives with the model's meaning (`calcPrim env mem w`):
    `<wbs>.tasks` on the WBS object `ref w` = `mem` (the theorems about whole checks take `mem` as a parameter; the
    `calc` theorems assume `members env = some mem`), `<wbs>.roots` = `env.roots`, `<wbs>.clone()` = the same object
    (the model's own simplification: it schedules the uids of the input, the clone being isomorphic - comment on
    `forwardCalc`), `task.all_children` = `descF … (env.n + 1)` (the empty list when that fuel is exhausted, the
    reading `leavesOf` / `waitsFor` use), `task.all_parents` = `ancestorsOf env (env.n + 1)`; `id(x)` of `ref i` is
    the int `i`; `datetime.now()` = `env.clock`.
  * Calls are resolved level by level, each callee BY RUNNING ITS TRANSLATED SOURCE: `baseH` (no function values) <
    `waitsH` (`_leaves`) < `clftH` (the `lambda x: x.predecessors` of `_check_loops`, `_waits_for`) < `loopsH fuel`
    (`_check_loops_from_task`, at most `fuel` nested activations = Python's recursion limit) < `calcHF` / `calcHB`
    (the checks, `__prepare_tasks` and the pass - `src_Fwd_pass` / `src_Bwd_pass` of Extracted/PassSrc.lean with the
    handlers `passH` / `passHB` and `self` = `passSelf env` of Lemmas/PassSrc(Bwd).lean).
  * Containers: `visited_tasks` is a list box holding the tasks in progress (the model's `visiting`, last first),
    `validated` / `members` are set boxes holding identities `idA u` (a set is the list of the items added; the model's
    `validated ++ [t]` is exactly `validated.add(id(task))`, and `visiting.contains t` is `any(t is task for …)`).

  Results.
    Stage 1  `Check.*`: runs on 8 + 1 environments: the five translated functions against the model (`agree`), and the
             two `calc` methods against `forwardCalc` / `backwardCalc` (`agreeF` / `agreeB`).  They are instances
             of the theorems of stages 2 - 4 (`agree_of_model`, `agreeF_of_model`, `agreeB_of_model`), where
             `decide +kernel` only evaluates the model's side of the proviso (the runs of `calc` take the tasks
             `< env.n` as the set the run does not leave: the catch-all branch of `c1` flags the uids ≥ 5 as milestones,
             which `ms1` does not); only the run of `interpLoopsFrom` on `e6` with fuel 3 (too little fuel, outside the
             proviso) evaluates the interpreter as well.
    Stage 2  `interpIsolation_eq`, `interpLeaves_eq`, `interpWaitsFor_eq`, `interpCheckFuture_eq`: each function returns /
             raises what `isolationOk`, `leavesOf`, `waitsFor`, `futureOk` (the last step of `fwdPrecheck`: `futureOk_eq`)
             say, for every env, mem, w, f and every st with `st.heap = heapOf E env ms f`; isolation leaves the box
             `members` behind, the future check one clock reading.  (The letters A, B, D in the docstrings of these
             theorems are the sections of the negative check at the end of the file.)
    Stage 3  `callP_loopsFrom`: with boxes a ≠ b holding `visiting` (reversed) / `validated` and a function value `fn k`
             that returns `next u`, the call of `_check_loops_from_task` refines `loopsFrom next fuel visiting validated t`
             (`SimR` of Lemmas/PyLogic.lean; box b := the new validated, box a as before).  `interpCheckLoops_eq`: for
             env.n + 2 ≤ fuel', `_check_loops` is `checkLoops` unless that ends in `.crash .recursion`, and a successful
             run changes nothing but the container store.  The proviso is exactly the case the model adds to the
             source: `.crash .recursion` arises in `loopsFrom` only from fuel 0 (the model gives every search the fuel
             `env.n + 2`); Python recurses up to its recursion limit, which `fuel'` plays.
    Stage 4  `callP_wb` (frame): a method without calc constructs (`noBoxB`, e.g. both passes) runs the same with any
             container store and leaves it alone (`SimR.wb` puts it on the tie `callP_fwdPass` / `callP_bwdPass` of a
             pass, which is then the step of the loop of `calc`).  `callP_calc_prepare`: `__prepare_tasks` = `prepare`.
             `interpFwdCalc_eq`: for members env = some mem, a set `V` of tasks with the roots in it that the run does
             not leave and on which the milestone flags are the model's (`PassSrc.Reach`; all tasks: `Reach.all hms`),
             env.n + 2 ≤ fuel, fwdShiftMaxSteps < wfuel, env.n + 1 ≤ pfuel, any ledger / `calculated` / container
             store at the start: `ForwardScheduler.calc` on `encS env ms ⟨f0, …, res0, 0⟩` is `forwardCalc env f0 res0`
             (the WBS object is returned, the store then encodes the model's output) unless that ends in
             `.crash .recursion`.  `interpBwdCalc_eq`: the same for `BackwardScheduler.calc` / `backwardCalc` on
             `encSB`, `self` = `calcSelfB`.
  No disagreement between the model and the translated functions was found.  Limitations: see the end of the file.
-/
import PjVerif.Extracted.CalcSrc
import PjVerif.Lemmas.PassSrc
import PjVerif.Lemmas.PassSrcBwd
import PjVerif.Lemmas.PyLogic
namespace Pj.CalcSrc
open Pj.PyLite Pj.Extracted Pj.PassSrc Pj.PassSrcBwd Pj.SchedSrc
open Pj.TaskSrc (Env.get?_cons Env.get?_set compLoopP_pure pyEq_num pyEq_natCast execBlockP_append execBlockP_cons execBlockP_nil
  execBlockP_one evalP_listComp_id execP_forIn execP_assign)

/-- `task.all_children` in the model: the descendants in depth-first order (`descF`; the empty list when the
    hierarchy is deeper than the fuel - the reading `leavesOf` / `waitsFor` use) -/
def allChildren (env : Pj.Env) (t : Uid) : List Uid :=
  (descF (fun u => (env.info u).children) (env.n + 1) t).getD []

/-- the library attributes that are not defined in schedule.py, with the model's meaning: `<wbs>.tasks` on the WBS
    object `ref w` = `mem` (the model's `members env`, in `WBS.tasks` order), `<wbs>.roots` = `env.roots`,
    `<wbs>.clone()` = the same object (the model schedules the uids of the input, the clone being isomorphic: see
    Model/Sched.lean), `task.all_children` = `descF`, `task.all_parents` = `ancestorsOf` (nearest first) -/
def calcPrim (env : Pj.Env) (mem : List Uid) (w : Nat) : String → List Atom → PState → Res Val :=
  fun name args _ =>
    match args with
    | [.ref t] =>
      if name = "tasks" then (if t = w then pure (.list (mem.map Atom.ref)) else throw stuck)
      else if name = "roots" then (if t = w then pure (.list (env.roots.map Atom.ref)) else throw stuck)
      else if name = "clone" then (if t = w then pure (.atom (.ref w)) else throw stuck)
      else if name = "all_children" then pure (.list ((allChildren env t).map Atom.ref))
      else if name = "all_parents" then pure (.list ((ancestorsOf env (env.n + 1) t).map Atom.ref))
      else throw stuck
    | _ => throw stuck

/-- level 0: no function values -/
def baseH (env : Pj.Env) (mem : List Uid) (w : Nat) : PHandlers :=
  { clock := env.clock
    call := fun _ _ _ => throw stuck
    newResource := fun _ => throw stuck
    prim := calcPrim env mem w }

/-- `_leaves(task)`: run the translated source -/
def interpLeaves (env : Pj.Env) (mem : List Uid) (w : Nat) (args : List Atom) (st : PState) : Res (Val × PState) :=
  callP (baseH env mem w) [] src_leaves_params src_leaves 1 args st

/-- the `lambda x: x.predecessors` of `_check_loops` -/
def interpLambda0 (env : Pj.Env) (mem : List Uid) (w : Nat) (args : List Atom) (st : PState) : Res (Val × PState) :=
  callP (baseH env mem w) [] src_lambda_0_params src_lambda_0 1 args st

/-- level 1: `_leaves` is callable -/
def waitsH (env : Pj.Env) (mem : List Uid) (w : Nat) : PHandlers :=
  { baseH env mem w with
    fn := fun k args st => if k = fn_leaves then interpLeaves env mem w args st else throw stuck }

/-- `_waits_for(leaf)` -/
def interpWaitsFor (env : Pj.Env) (mem : List Uid) (w : Nat) (args : List Atom) (st : PState) : Res (Val × PState) :=
  callP (waitsH env mem w) [] src_waits_for_params src_waits_for 1 args st

/-- level 2: the two function values `_check_loops` passes as `waits_for` -/
def clftH (env : Pj.Env) (mem : List Uid) (w : Nat) : PHandlers :=
  { baseH env mem w with
    fn := fun k args st =>
      if k = fn_lambda_0 then interpLambda0 env mem w args st
      else if k = fn_waits_for then interpWaitsFor env mem w args st
      else throw stuck }

/-- `_check_loops_from_task(task, visited_tasks, validated, waits_for)` with at most `fuel` nested activations -/
def interpLoopsFrom (env : Pj.Env) (mem : List Uid) (w : Nat) (fuel : Nat) (args : List Atom) (st : PState) :
    Res (Val × PState) :=
  callP (clftH env mem w) [] src_check_loops_from_task_params src_check_loops_from_task fuel args st

/-- level 3: `_check_loops_from_task` is callable -/
def loopsH (env : Pj.Env) (mem : List Uid) (w : Nat) (fuel : Nat) : PHandlers :=
  { baseH env mem w with
    fn := fun k args st => if k = fn_check_loops_from_task then interpLoopsFrom env mem w fuel args st else throw stuck }

/-- `_check_loops(project)` on the WBS object `ref w`; `fuel` = the recursion limit -/
def interpCheckLoops (env : Pj.Env) (mem : List Uid) (w : Nat) (fuel : Nat) (args : List Atom) (st : PState) :
    Res (Val × PState) :=
  callP (loopsH env mem w fuel) [] src_check_loops_params src_check_loops 1 args st

/-- `_validate_graph_isolation(project)` -/
def interpIsolation (env : Pj.Env) (mem : List Uid) (w : Nat) (args : List Atom) (st : PState) : Res (Val × PState) :=
  callP (baseH env mem w) [] src_validate_isolation_params src_validate_isolation 1 args st

/-- `ForwardScheduler.__check_no_end_dates_in_future(project)` -/
def interpCheckFuture (env : Pj.Env) (mem : List Uid) (w : Nat) (args : List Atom) (st : PState) : Res (Val × PState) :=
  callP (baseH env mem w) [] src_Fwd_check_future_params src_Fwd_check_future 1 args st

/-- the model's `__check_no_end_dates_in_future` (the last lines of `fwdPrecheck`) -/
def futureOk (now : Time) (f : Uid → Fields) (mem : List Uid) : Bool :=
  !mem.any (fun t => match (f t).end_ with | some e => decide (now < e) | none => false)

/-- the checks both `calc` methods begin with (`bwdPrecheck`, and `fwdPrecheck` without its last step) -/
def graphChecks (env : Pj.Env) (f : Uid → Fields) (mem : List Uid) : Res Unit := do
  if !isolationOk env f mem then throw Err.runtime
  checkLoops env mem

def unit {α : Type} (r : Res α) : Res Unit := r.map (fun _ => ())

def okIf (b : Bool) : Res Unit := if b then .ok () else .error .runtime

/-! ### stage 2: `_leaves`, `_waits_for`, `_validate_graph_isolation`, `__check_no_end_dates_in_future` -/

/-- what the proofs need of an encoding of task objects (`PassSrc.encTask` for the forward scheduler,
    `PassSrcBwd.encTaskB` - which also has `successors` - for the backward one) -/
structure CalcEnc (E : TaskInfo → Bool → Fields → PyLite.Env) : Prop extends TaskEnc E where
  preds : ∀ info flag fl, (E info flag fl).get? "predecessors" = some (.list (info.preds.map Atom.ref))
  start : ∀ info flag fl, (E info flag fl).get? "start" = some (optTime fl.start)
  end_ : ∀ info flag fl, (E info flag fl).get? "end" = some (optTime fl.end_)

theorem _root_.Pj.PassSrc.PassEnc.calc {E : TaskInfo → Bool → Fields → PyLite.Env} (h : PassEnc E) : CalcEnc E :=
  { h.task with preds := h.preds, start := h.start, end_ := h.end_ }

theorem heapOf_fwd (env : Pj.Env) (ms : Uid → Bool) (f : Uid → Fields) : heapOf encTask env ms f = encHeap env ms f := rfl
theorem heapOf_bwd (env : Pj.Env) (ms : Uid → Bool) (f : Uid → Fields) : heapOf encTaskB env ms f = encHeapB env ms f := rfl

/-- `id(task)` of the task object `ref u` -/
def idA (u : Uid) : Atom := .num ((u : Nat) : Rat)

theorem flatLoopP_pure (f : Atom → PState → Res (List Atom × PState)) (g : Atom → List Atom) (st : PState)
    (vs : List Atom) (h : ∀ v ∈ vs, f v st = .ok (g v, st)) : flatLoopP f vs st = .ok (vs.flatMap g, st) := by
  induction vs with
  | nil => rfl
  | cons v vs ih =>
    have h1 := h v (List.mem_cons_self)
    have h2 := ih (fun w hw => h w (List.mem_cons_of_mem _ hw))
    simp only [flatLoopP, h1, h2, bind, Except.bind, pure, Except.pure, List.flatMap_cons]

theorem anyLoopP_pure (f : Atom → PState → Res (Bool × PState)) (g : Atom → Bool) (st : PState)
    (vs : List Atom) (h : ∀ v ∈ vs, f v st = .ok (g v, st)) : anyLoopP f vs st = .ok (vs.any g, st) := by
  induction vs with
  | nil => rfl
  | cons v vs ih =>
    have h1 := h v (List.mem_cons_self)
    have h2 := ih (fun w hw => h w (List.mem_cons_of_mem _ hw))
    simp only [anyLoopP, h1, h2, bind, Except.bind, pure, Except.pure, List.any_cons]
    cases g v <;> simp

theorem idA_pyEq (a b : Uid) : (idA a).pyEq (idA b) = decide (a = b) := pyEq_natCast a b

theorem filterMap_ref (p : Uid → Bool) (l : List Uid) :
    (l.map Atom.ref).filterMap (fun v => match v with
      | .ref c => if p c then some (Atom.ref c) else none | _ => none) = (l.filter p).map Atom.ref := by
  induction l with
  | nil => rfl
  | cons x l ih =>
    simp only [List.map_cons, List.filterMap_cons, List.filter_cons]
    cases p x <;> simp [ih]

theorem Env.get?_nil (y : String) : Env.get? [] y = none := rfl

theorem any_idA (l : List Uid) (p : Uid) : (l.map idA).any (fun v => v.pyEq (idA p)) = l.contains p :=
  any_map_contains idA _ p (fun a => idA_pyEq a p) l

section
variable (env : Pj.Env) (ms : Uid → Bool) (mem : List Uid) (w : Nat) {E : TaskInfo → Bool → Fields → PyLite.Env}

theorem getD_map_filter {α : Type} (o : Option (List α)) (p : α → Bool) :
    (o.map (fun l => l.filter p)).getD [] = (o.getD []).filter p := by
  cases o <;> rfl

theorem leavesOf_getD (t : Uid) : (leavesOf env t).getD [] =
    if (env.info t).children.isEmpty then [t]
    else (allChildren env t).filter (fun x => (env.info x).children.isEmpty) := by
  unfold leavesOf allChildren
  split
  · rfl
  · exact getD_map_filter _ _

theorem evalP_noChildren (hE : CalcEnc E) (H : PHandlers) (self ρ : PyLite.Env) (x : String) (t : Uid)
    (hx : ρ.get? x = some (.atom (.ref t))) (f : Uid → Fields) (st : PState) (hh : st.heap = heapOf E env ms f) :
    (Expr.cmp .eq (.len (.attr (.var x) "children")) (.num 0)).evalP H self ρ st =
      .ok (.atom (.bool (env.info t).children.isEmpty), st) := by
  cases hc : (env.info t).children with
  | nil => simp [pylite_step, hx, hh, heapOf, hE.children, hc, pyEq_num]
  | cons c cs =>
    have hne : ¬ (((cs.length : Nat) : Rat) + 1 = 0) := natCast_succ_ne_zero _
    simp [pylite_step, hx, hh, heapOf, hE.children, hc, pyEq_num, hne]

/-- `[x for x in <tasks> if c]`, `c` a test on the task `x` -/
theorem evalP_listComp_filter (H : PHandlers) (self ρ : PyLite.Env) (st : PState) (it cond : Expr) (x : String)
    (l : List Uid) (p : Uid → Bool) (hit : it.evalP H self ρ st = .ok (.list (l.map Atom.ref), st))
    (hcond : ∀ c ∈ l, cond.evalP H self (ρ.set x (.atom (.ref c))) st = .ok (.atom (.bool (p c)), st)) :
    (Expr.listComp (.var x) x it cond).evalP H self ρ st = .ok (.list ((l.filter p).map Atom.ref), st) := by
  rw [TaskSrc.evalP_listComp_pure H self ρ st st (.var x) cond it x (l.map Atom.ref)
    (fun v => match v with | .ref c => p c | _ => false) id hit, List.map_id, List.filter_map]
  · rfl
  · intro v hv
    obtain ⟨c, hc, rfl⟩ := List.mem_map.1 hv
    exact hcond c hc
  · intro v _ _
    simp only [Expr.evalP, Env.get?_set, if_true, id, pure, Except.pure]

/-- STAGE 2 (B).  `_leaves(task)` = `leavesOf` -/
theorem interpLeaves_eq (hE : CalcEnc E) (f : Uid → Fields) (st : PState) (hh : st.heap = heapOf E env ms f) (t : Uid) :
    interpLeaves env mem w [.ref t] st = .ok (.list (((leavesOf env t).getD []).map Atom.ref), st) := by
  rw [leavesOf_getD]
  unfold interpLeaves
  rw [callP_bound (ρ := [("task", .atom (.ref t))]) rfl]
  generalize callP (baseH env mem w) [] src_leaves_params src_leaves 0 = rec
  have ht : Env.get? [("task", Val.atom (.ref t))] "task" = some (.atom (.ref t)) := rfl
  simp only [src_leaves, execBlockP_cons, Stmt.execP,
    evalP_noChildren env ms hE _ _ _ "task" t ht f st hh, truthP, bind, Except.bind, pure, Except.pure]
  cases (env.info t).children.isEmpty with
  | true =>
    simp only [if_true, Expr.evalP, ht, bind, Except.bind, pure, Except.pure]
    rfl
  | false =>
    simp only [Bool.false_eq_true, if_false, execBlockP_nil]
    rw [evalP_listComp_filter (l := allChildren env t) (p := fun c => (env.info c).children.isEmpty)]
    · rfl
    · simp [Expr.evalP, ht, baseH, calcPrim, bind, Except.bind, pure, Except.pure]
    · intro c _
      exact evalP_noChildren env ms hE _ _ _ "t" c (by rw [Env.get?_set, if_pos rfl]) f st hh

theorem flatMap_map_ref (l : List Uid) (g : Uid → List Uid) :
    (l.map Atom.ref).flatMap (fun v => match v with | .ref c => (g c).map Atom.ref | _ => []) =
      (l.flatMap g).map Atom.ref := by
  induction l with
  | nil => rfl
  | cons x l ih => simp [ih]

/-- `[… for x in <tasks> …]` whose remaining clauses give the tasks `g x` -/
theorem evalP_flatComp_tasks (H : PHandlers) (self ρ : PyLite.Env) (st : PState) (inner it : Expr) (x : String)
    (l : List Uid) (g : Uid → List Uid)
    (hit : it.evalP H self ρ st = .ok (.list (l.map Atom.ref), st))
    (hinner : ∀ c ∈ l, inner.evalP H self (ρ.set x (.atom (.ref c))) st = .ok (.list ((g c).map Atom.ref), st)) :
    (Expr.flatComp inner x it (.bool true)).evalP H self ρ st = .ok (.list ((l.flatMap g).map Atom.ref), st) := by
  simp only [Expr.evalP, hit, bind, Except.bind, pure, Except.pure, iterOf]
  rw [flatLoopP_pure (g := fun v => match v with | .ref c => (g c).map Atom.ref | _ => [])]
  · rw [flatMap_map_ref]
  · intro v hv
    obtain ⟨c, hc, rfl⟩ := List.mem_map.1 hv
    simp only [truthP, pure, Except.pure, if_true, hinner c hc]

theorem waitsH_fn_leaves (hE : CalcEnc E) (f : Uid → Fields) (st : PState) (hh : st.heap = heapOf E env ms f) (t : Uid) :
    (waitsH env mem w).fn fn_leaves [.ref t] st = .ok (.list (((leavesOf env t).getD []).map Atom.ref), st) := by
  simp only [waitsH, if_true]
  exact interpLeaves_eq env ms mem w hE f st hh t

/-- STAGE 2 (B).  `_waits_for(leaf)` = `waitsFor` -/
theorem interpWaitsFor_eq (hE : CalcEnc E) (f : Uid → Fields) (st : PState) (hh : st.heap = heapOf E env ms f) (t : Uid) :
    interpWaitsFor env mem w [.ref t] st = .ok (.list ((waitsFor env t).map Atom.ref), st) := by
  unfold interpWaitsFor waitsFor
  simp only [callP, src_waits_for_params, bindParams, pure, Except.pure, bind, Except.bind]
  generalize callP (waitsH env mem w) [] ["leaf"] src_waits_for 0 = rec
  have hl : Env.get? [("leaf", Val.atom (Atom.ref t))] "leaf" = some (.atom (.ref t)) := rfl
  generalize [("leaf", Val.atom (Atom.ref t))] = ρ at hl
  simp only [src_waits_for, execBlockP, Stmt.execP]
  rw [evalP_flatComp_tasks (l := t :: ancestorsOf env (env.n + 1) t)
    (g := fun x => (env.info x).preds.flatMap (fun p => (leavesOf env p).getD []))]
  · rw [List.flatMap_assoc]
  · simp only [Expr.evalP, hl, bind, Except.bind, pure, Except.pure, iterOf, arithP, waitsH, baseH, calcPrim, if_true]
    simp only [show ("all_parents" = "tasks") = False by decide, show ("all_parents" = "all_children") = False by decide,
      if_false]
    rfl
  · intro x _
    apply evalP_flatComp_tasks
    · simp only [Expr.evalP, Env.get?_set, if_true, hh, heapOf, hE.preds, bind, Except.bind, pure, Except.pure]
    · intro p _
      apply evalP_listComp_id
      simp only [Expr.evalP, Env.get?_set, if_true, bind, Except.bind, pure, Except.pure]
      exact waitsH_fn_leaves env ms mem w hE f st hh p

theorem calcPrim_tasks (st : PState) : calcPrim env mem w "tasks" [.ref w] st = .ok (.list (mem.map Atom.ref)) := by
  simp [calcPrim, pure, Except.pure]

theorem evalP_tasks (H : PHandlers) (hprim : H.prim = calcPrim env mem w) (self ρ : PyLite.Env) (st : PState)
    (x : String) (hx : ρ.get? x = some (.atom (.ref w))) :
    (Expr.prim "tasks" (.listCons (.var x) .listNil)).evalP H self ρ st = .ok (.list (mem.map Atom.ref), st) := by
  simp only [Expr.evalP, hx, bind, Except.bind, pure, Except.pure, hprim, calcPrim_tasks]

structure IsoParts where
  comp : Expr
  it2 : Expr
  body : List Stmt

def isoParts : IsoParts :=
  match src_validate_isolation with
  | [.assign _ (.newBox c), .forIn _ _ [.forIn _ it2 b]] => ⟨c, it2, b⟩
  | _ => ⟨.none, .none, []⟩

theorem src_validate_isolation_shape : src_validate_isolation =
    [.assign "members" (.newBox isoParts.comp),
     .forIn "t" (.prim "tasks" (.listCons (.var "project") .listNil)) [.forIn "pr" isoParts.it2 isoParts.body]] := rfl

/-- STAGE 2 (A).  `_validate_graph_isolation(project)` raises RuntimeError iff `isolationOk` fails; otherwise it
    returns `None` and leaves behind the set `members` (a new box) -/
theorem interpIsolation_eq (hE : CalcEnc E) (f : Uid → Fields) (st : PState) (hh : st.heap = heapOf E env ms f) :
    interpIsolation env mem w [.ref w] st =
      if isolationOk env f mem then .ok (.atom .none, { st with boxes := st.boxes ++ [mem.map idA] })
      else .error .runtime := by
  unfold interpIsolation isolationOk
  rw [callP_bound (ρ := [("project", .atom (.ref w))]) rfl, src_validate_isolation_shape]
  refine Sim.blockRes_if ?_
  -- members = set([id(task) for task in project.tasks])
  have hcomp : (Expr.newBox isoParts.comp).evalP (baseH env mem w) [] [("project", .atom (.ref w))] st =
      .ok (.atom (.box st.boxes.length), { st with boxes := st.boxes ++ [mem.map idA] }) := by
    have hp : Env.get? [("project", Val.atom (Atom.ref w))] "project" = some (.atom (.ref w)) := rfl
    simp only [isoParts, src_validate_isolation, Expr.evalP, hp, bind, Except.bind, pure, Except.pure, iterOf, baseH,
      calcPrim_tasks]
    rw [compLoopP_pure (g := fun v => match v with | .ref c => some (idA c) | _ => none)]
    · simp [List.filterMap_map, Function.comp_def]
    · intro v hv
      obtain ⟨c, _, rfl⟩ := List.mem_map.1 hv
      simp [truthP, pure, Except.pure, Env.get?_set, idA]
  refine Sim.step (execP_assign hcomp) (Sim.one ?_)
  generalize hst1 : ({ st with boxes := st.boxes ++ [mem.map idA] } : PState) = st1
  have hh1 : st1.heap = heapOf E env ms f := by rw [← hst1]; exact hh
  have hb1 : st1.boxes[st.boxes.length]? = some (mem.map idA) := by
    rw [← hst1]; exact List.getElem?_concat_length
  -- both loops keep the state and `members`
  let I : PyLite.Env → PState → Prop := fun ρ st' =>
    st' = st1 ∧ Env.le [("members", .atom (.box st.boxes.length))] ρ
  refine (Sim.forIn_all (g := Atom.ref) (I := I) (evalP_tasks env mem w _ rfl [] _ _ "project" rfl) ?_
    ⟨rfl, (Env.le.nil _).set "members" _⟩).mono (fun _ _ _ h => h.1)
  rintro t ρ _ _ ⟨rfl, hρ⟩
  refine Sim.one (Sim.forIn_all (g := Atom.ref) (I := I) ?_ ?_ ⟨rfl, hρ.set_ne "t" _⟩)
  · simp only [isoParts, src_validate_isolation, Expr.evalP, Env.get?_set, if_true, hh1, heapOf, hE.preds,
      bind, Except.bind, pure, Except.pure]
  · rintro p ρ _ _ ⟨rfl, hρ⟩
    refine Sim.of_if (ρ := ρ.set "pr" (.atom (.ref p))) ?_ ⟨rfl, hρ.set_ne "pr" _⟩
    have hm := hρ.get "members"
    have hany := any_idA mem p
    simp only [idA] at hany hb1
    -- `and` / `or` stop at the first operand that decides: the dates are only looked at when they matter
    by_cases hc : p ∈ mem
    · simp [pylite_step, isoParts, src_validate_isolation, hm, hb1, hany, hc]
    · cases hs : (f p).start with
      | none => simp [pylite_step, isoParts, src_validate_isolation, hm, hh1, heapOf, hE.start, hb1, optTime, hs, hany, hc]
      | some s =>
        cases he : (f p).end_ <;>
          simp [pylite_step, isoParts, src_validate_isolation, hm, hh1, heapOf, hE.start, hE.end_, hb1, optTime, hs, he, hany, hc]

def futBody : List Stmt :=
  match src_Fwd_check_future with
  | [.assign _ _, .forIn _ _ b] => b
  | _ => []

theorem src_Fwd_check_future_shape : src_Fwd_check_future =
    [.assign "now" .now, .forIn "t" (.prim "tasks" (.listCons (.var "project") .listNil)) futBody] := rfl

theorem futureOk_all (nw : Time) (f : Uid → Fields) (mem : List Uid) :
    futureOk nw f mem = mem.all (fun t => match (f t).end_ with | some e => !decide (nw < e) | none => true) := by
  unfold futureOk
  rw [List.any_eq_not_all_not, Bool.not_not]
  congr 1
  funext t
  cases (f t).end_ <;> simp

/-- STAGE 2 (D).  `ForwardScheduler.__check_no_end_dates_in_future(project)` reads the clock once and raises
    RuntimeError iff a member task has an end later than that reading (`futureOk`) -/
theorem interpCheckFuture_eq (hE : CalcEnc E) (f : Uid → Fields) (st : PState) (hh : st.heap = heapOf E env ms f) :
    interpCheckFuture env mem w [.ref w] st =
      if futureOk (env.clock st.reads) f mem then .ok (.atom .none, { st with reads := st.reads + 1 })
      else .error .runtime := by
  unfold interpCheckFuture
  rw [callP_bound (ρ := [("project", .atom (.ref w))]) rfl, src_Fwd_check_future_shape, futureOk_all]
  refine Sim.blockRes_if ?_
  -- now = datetime.now()
  refine Sim.step (execP_assign (v := .atom (.time (env.clock st.reads))) rfl) (Sim.one ?_)
  generalize env.clock st.reads = nw
  -- the loop keeps the state and `now`
  refine (Sim.forIn_all (g := Atom.ref)
    (I := fun ρ st' => st' = { st with reads := st.reads + 1 } ∧ Env.le [("now", .atom (.time nw))] ρ)
    (evalP_tasks env mem w _ rfl [] _ _ "project" rfl) ?_ ⟨rfl, (Env.le.nil _).set "now" _⟩).mono (fun _ _ _ h => h.1)
  · rintro t ρ _ _ ⟨rfl, hρ⟩
    refine Sim.of_if (ρ := ρ.set "t" (.atom (.ref t))) ?_ ⟨rfl, hρ.set_ne "t" _⟩
    have hnow := hρ.get "now"
    cases he : (f t).end_ with
    | none => simp [pylite_step, futBody, src_Fwd_check_future, hh, heapOf, hE.end_, optTime, he]
    | some e =>
      by_cases hlt : nw < e <;>
        simp [pylite_step, futBody, src_Fwd_check_future, hnow, hh, heapOf, hE.end_, optTime, he, hlt]
end

/-! ### stage 3: `_check_loops_from_task` / `_check_loops` -/

theorem evalP_items_var (H : PHandlers) (self ρ : PyLite.Env) (st : PState) (b : String) (i : Nat) (vs : List Atom)
    (hb : ρ.get? b = some (.atom (.box i))) (hbx : st.boxes[i]? = some vs) :
    (Expr.items (.var b)).evalP H self ρ st = .ok (.list vs, st) := by
  simp only [Expr.evalP, hb, hbx, bind, Except.bind, pure, Except.pure]

theorem execP_boxAppend_var (H : PHandlers) (self : PyLite.Env) (rec : List Atom → PState → Res (Val × PState))
    (ρ : PyLite.Env) (st : PState) (b : String) (i : Nat) (e : Expr) (a : Atom) (vs : List Atom)
    (hb : ρ.get? b = some (.atom (.box i))) (he : e.evalP H self ρ st = .ok (.atom a, st))
    (hbx : st.boxes[i]? = some vs) (ha : a.isBox = false) :
    (Stmt.boxAppend (.var b) e).execP H self rec ρ st =
      .normal ρ { st with boxes := st.boxes.set i (vs ++ [a]) } := by
  simp [Stmt.execP, Expr.evalP, hb, he, hbx, ha, bind, Except.bind, pure, Except.pure]

theorem execP_boxPop_var (H : PHandlers) (self : PyLite.Env) (rec : List Atom → PState → Res (Val × PState))
    (ρ : PyLite.Env) (st : PState) (b : String) (i : Nat) (a : Atom) (vs : List Atom)
    (hb : ρ.get? b = some (.atom (.box i))) (hbx : st.boxes[i]? = some (vs ++ [a])) :
    (Stmt.boxPop (.var b)).execP H self rec ρ st = .normal ρ { st with boxes := st.boxes.set i vs } := by
  obtain ⟨x, xs, hx⟩ : ∃ x xs, vs ++ [a] = x :: xs := by cases vs <;> simp
  have hd : (x :: xs).dropLast = vs := by rw [← hx, List.dropLast_concat]
  rw [hx] at hbx
  simp only [Stmt.execP, Expr.evalP, hb, hbx, pure, Except.pure, hd]

structure ClftParts where
  c1 : Expr
  c2 : Expr
  push : Stmt
  it : Expr
  body : List Stmt
  pop : Stmt
  add : Stmt

def clftParts : ClftParts :=
  match src_check_loops_from_task with
  | [.ifElse c1 _ _, .ifElse c2 _ _, p, .forIn _ it b, q, r] => ⟨c1, c2, p, it, b, q, r⟩
  | _ => ⟨.none, .none, .pass, .none, [], .pass, .pass⟩

theorem src_check_loops_from_task_shape : src_check_loops_from_task =
    [.ifElse clftParts.c1 [.ret .none] [], .ifElse clftParts.c2 [.raiseRuntime] [], clftParts.push,
     .forIn "s" clftParts.it clftParts.body, clftParts.pop, clftParts.add] := rfl

/-- the two containers of a run of `_check_loops_from_task`: box `a` = `visited_tasks` (the tasks in progress, the
    model's `visiting` last first), box `b` = `validated` (the identities of the finished tasks) -/
structure BoxRel (B : List (List Atom)) (a b : Nat) (vis val : List Uid) : Prop where
  vis : B[a]? = some (vis.reverse.map Atom.ref)
  val : B[b]? = some (val.map idA)

theorem BoxRel.set_vis {B : List (List Atom)} {a b : Nat} {vis val : List Uid} (h : BoxRel B a b vis val) (hab : a ≠ b)
    (vis' : List Uid) : BoxRel (B.set a (vis'.reverse.map Atom.ref)) a b vis' val :=
  ⟨List.getElem?_set_self (List.getElem?_eq_some_iff.1 h.vis).1, by rw [List.getElem?_set_ne hab]; exact h.val⟩

theorem BoxRel.set_val {B : List (List Atom)} {a b : Nat} {vis val : List Uid} (h : BoxRel B a b vis val) (hab : a ≠ b)
    (val' : List Uid) : BoxRel (B.set b (val'.map idA)) a b vis val' :=
  ⟨by rw [List.getElem?_set_ne (fun e => hab e.symm)]; exact h.vis,
   List.getElem?_set_self (List.getElem?_eq_some_iff.1 h.val).1⟩

abbrev LoopEnv (ρ : PyLite.Env) (t : Uid) (a b k : Nat) : Prop :=
  Env.le [("task", .atom (.ref t)), ("visited_tasks", .atom (.box a)), ("validated", .atom (.box b)),
    ("waits_for", .atom (.fn k))] ρ

theorem any_ref (l : List Uid) (t : Uid) :
    (l.map Atom.ref).any (fun v => match v with | .ref c => decide (c = t) | _ => false) = l.contains t :=
  any_map_contains Atom.ref _ t (fun _ => rfl) l

theorem loopsFrom_succ (next : Uid → List Uid) (fuel : Nat) (vis val : List Uid) (t : Uid) :
    loopsFrom next (fuel + 1) vis val t =
      (if val.contains t then pure val
      else if vis.contains t then throw .runtime
      else do
        let v ← (next t).foldlM (fun val s => loopsFrom next fuel (t :: vis) val s) val
        pure (v ++ [t])) := rfl

section loops
variable (H : PHandlers) (rec : List Atom → PState → Res (Val × PState)) (a b k : Nat)

theorem c1_ok (ρ : PyLite.Env) (st : PState) (t : Uid) (vis val : List Uid) (hρ : LoopEnv ρ t a b k)
    (hB : BoxRel st.boxes a b vis val) :
    (do let (v, st') ← clftParts.c1.evalP H [] ρ st; pure ((← truthP v), st')) = .ok (val.contains t, st) := by
  have hany := any_idA val t
  have hv := hB.val
  simp only [idA] at hany hv
  simp [clftParts, src_check_loops_from_task, Expr.evalP, hρ.get "task", hρ.get "validated", hv, hany, truthP, bind, Except.bind, pure,
    Except.pure]

theorem c2_ok (ρ : PyLite.Env) (st : PState) (t : Uid) (vis val : List Uid) (hρ : LoopEnv ρ t a b k)
    (hB : BoxRel st.boxes a b vis val) :
    (do let (v, st') ← clftParts.c2.evalP H [] ρ st; pure ((← truthP v), st')) = .ok (vis.contains t, st) := by
  simp only [clftParts, src_check_loops_from_task, Expr.evalP, hρ.get "visited_tasks", hB.vis, bind, Except.bind, pure, Except.pure,
    iterOf]
  rw [anyLoopP_pure (g := fun v => match v with | .ref c => decide (c = t) | _ => false)]
  · have key : (List.map Atom.ref vis.reverse).any (fun v => match v with | .ref c => decide (c = t) | _ => false) =
        vis.contains t := by
      rw [any_ref]; simp
    rw [key]
    simp [truthP, pure, Except.pure]
  · intro v hv
    obtain ⟨c, _, rfl⟩ := List.mem_map.1 hv
    have ht : (Env.set ρ "t" (.atom (.ref c))).get? "task" = some (.atom (.ref t)) := by
      rw [Env.get?_set, if_neg (by decide)]; exact hρ.get "task"
    simp [Env.get?_set, ht, truthP, pure, Except.pure]

theorem push_ok (hab : a ≠ b) (ρ : PyLite.Env) (st : PState) (t : Uid) (vis val : List Uid) (hρ : LoopEnv ρ t a b k)
    (hB : BoxRel st.boxes a b vis val) :
    ∃ B, clftParts.push.execP H [] rec ρ st = .normal ρ { st with boxes := B } ∧ BoxRel B a b (t :: vis) val := by
  refine ⟨_, ?_, hB.set_vis hab (t :: vis)⟩
  rw [List.reverse_cons, List.map_append]
  exact execP_boxAppend_var H [] rec ρ st "visited_tasks" a (.var "task") (.ref t) _ (hρ.get "visited_tasks")
    (by simp [Expr.evalP, hρ.get "task", pure, Except.pure]) hB.vis rfl

theorem pop_ok (hab : a ≠ b) (ρ : PyLite.Env) (st : PState) (t : Uid) (vis val : List Uid) (hρ : LoopEnv ρ t a b k)
    (hB : BoxRel st.boxes a b (t :: vis) val) :
    ∃ B, clftParts.pop.execP H [] rec ρ st = .normal ρ { st with boxes := B } ∧ BoxRel B a b vis val := by
  have hv : st.boxes[a]? = some (vis.reverse.map Atom.ref ++ [.ref t]) := by
    rw [hB.vis]; simp
  exact ⟨_, execP_boxPop_var H [] rec ρ st "visited_tasks" a (.ref t) _ (hρ.get "visited_tasks") hv, hB.set_vis hab vis⟩

theorem add_ok (hab : a ≠ b) (ρ : PyLite.Env) (st : PState) (t : Uid) (vis val : List Uid) (hρ : LoopEnv ρ t a b k)
    (hB : BoxRel st.boxes a b vis val) :
    ∃ B, clftParts.add.execP H [] rec ρ st = .normal ρ { st with boxes := B } ∧ BoxRel B a b vis (val ++ [t]) := by
  refine ⟨_, ?_, hB.set_val hab (val ++ [t])⟩
  rw [List.map_append]
  exact execP_boxAppend_var H [] rec ρ st "validated" b (.idOf (.var "task")) (idA t) _ (hρ.get "validated")
    (by simp [Expr.evalP, hρ.get "task", idA, bind, Except.bind, pure, Except.pure]) hB.val rfl

theorem body_ok (ρ : PyLite.Env) (st : PState) (t s : Uid) (hρ : LoopEnv ρ t a b k) :
    execBlockP H [] rec clftParts.body (ρ.set "s" (.atom (.ref s))) st =
      match rec [.ref s, .box a, .box b, .fn k] st with
      | .ok (_, st') => .normal (ρ.set "s" (.atom (.ref s))) st'
      | .error e => .raise e := by
  have h := hρ.set_ne "s" (.atom (.ref s))
  simp only [clftParts, src_check_loops_from_task, execBlockP, Stmt.execP, Expr.evalP, Env.get?_set, if_true, h.get "visited_tasks",
    h.get "validated", h.get "waits_for", bind, Except.bind, pure, Except.pure]
  cases rec [.ref s, .box a, .box b, .fn k] st with
  | error e => rfl
  | ok p => rfl


/-- what a call of `_check_loops_from_task` leaves: `None`, and only the two containers have changed -/
abbrev LoopsQ (st : PState) (vis : List Uid) : List Uid → Val → PState → Prop :=
  fun val' v st' => v = .atom .none ∧ ∃ B, st' = { st with boxes := B } ∧ BoxRel B a b vis val'

theorem callP_loopsFrom (hab : a ≠ b) (heap0 : Nat → PyLite.Env) (next : Uid → List Uid)
    (hnext : ∀ (st : PState) (u : Uid), st.heap = heap0 →
      H.fn k [.ref u] st = .ok (.list ((next u).map Atom.ref), st)) :
    ∀ (fuel fuel' : Nat), fuel ≤ fuel' → ∀ (vis val : List Uid) (t : Uid) (st : PState), st.heap = heap0 →
      BoxRel st.boxes a b vis val →
      SimR (loopsFrom next fuel vis val t)
        (callP H [] src_check_loops_from_task_params src_check_loops_from_task fuel'
          [.ref t, .box a, .box b, .fn k] st) (LoopsQ a b st vis) := by
  intro fuel
  induction fuel with
  | zero => intro _ _ _ _ _ _ _ _ hne; exact absurd rfl hne
  | succ fuel ih =>
    intro fuel' hle vis val t st hh hB
    obtain ⟨f', rfl⟩ : ∃ f', fuel' = f' + 1 := ⟨fuel' - 1, by omega⟩
    have hrec := ih f' (by omega)
    rw [callP_bound (ρ := [("task", .atom (.ref t)), ("visited_tasks", .atom (.box a)),
      ("validated", .atom (.box b)), ("waits_for", .atom (.fn k))]) rfl]
    generalize callP H [] src_check_loops_from_task_params src_check_loops_from_task f' = rec at hrec ⊢
    have hρ : LoopEnv [("task", Val.atom (.ref t)), ("visited_tasks", Val.atom (.box a)),
        ("validated", Val.atom (.box b)), ("waits_for", Val.atom (.fn k))] t a b k := Env.le.refl _
    -- the literal parameter list is forgotten; only what it binds (`LoopEnv`) is kept
    generalize [("task", Val.atom (Atom.ref t)), ("visited_tasks", Val.atom (Atom.box a)),
        ("validated", Val.atom (Atom.box b)), ("waits_for", Val.atom (Atom.fn k))] = ρ at hρ ⊢
    rw [loopsFrom_succ, src_check_loops_from_task_shape, execBlockP_cons]
    simp only [Stmt.execP, c1_ok H a b k ρ st t vis val hρ hB]
    cases hv : val.contains t with
    | true =>
      simp only [if_true, execBlockP, Stmt.execP, Expr.evalP, pure, Except.pure]
      exact ⟨_, _, rfl, rfl, st.boxes, rfl, hB⟩
    | false =>
      simp only [Bool.false_eq_true, if_false, execBlockP_nil]
      rw [execBlockP_cons]
      simp only [Stmt.execP, c2_ok H a b k ρ st t vis val hρ hB]
      cases hvis : vis.contains t with
      | true => simp only [if_true, execBlockP, Stmt.execP]; exact fun _ => rfl
      | false =>
        simp only [Bool.false_eq_true, if_false, execBlockP_nil]
        refine Sim.retNone (Q := fun val' st' => ∃ B, st' = { st with boxes := B } ∧ BoxRel B a b vis val') ?_
        -- visited_tasks.append(task)
        obtain ⟨B1, hx1, hB1⟩ := push_ok H rec a b k hab ρ st t vis val hρ hB
        refine Sim.step hx1 ?_
        -- the loop: each item is one recursive call, which the induction hypothesis describes
        have hit : clftParts.it.evalP H [] ρ { st with boxes := B1 } =
            .ok (.list ((next t).map Atom.ref), { st with boxes := B1 }) := by
          simp only [clftParts, src_check_loops_from_task, Expr.evalP, hρ.get "waits_for", hρ.get "task", bind, Except.bind, pure,
            Except.pure]
          exact hnext _ t hh
        refine Sim.cons (Q := fun val1 ρ' st' => LoopEnv ρ' t a b k ∧
            ∃ B, st' = { st with boxes := B } ∧ BoxRel B a b (t :: vis) val1)
          (Sim.forIn hit (fun val s ρ' _ _ ⟨hρ', B, hst, hB'⟩ => by
            subst hst
            rw [body_ok H rec a b k ρ' _ t s hρ']
            refine (SimR.outcome (hrec (t :: vis) val s { st with boxes := B } hh hB')).mono ?_
            rintro val' _ _ ⟨rfl, _, _, B', rfl, hB''⟩
            exact ⟨hρ'.set_ne "s" _, B', rfl, hB''⟩) ⟨hρ, B1, rfl, hB1⟩)
          fun val1 ρ2 _ ⟨hρ2, B2, hst, hB2⟩ => ?_
        subst hst
        -- visited_tasks.pop(); validated.add(id(task))
        obtain ⟨B3, hx3, hB3⟩ := pop_ok H rec a b k hab ρ2 { st with boxes := B2 } t vis val1 hρ2 hB2
        obtain ⟨B4, hx4, hB4⟩ := add_ok H rec a b k hab ρ2 { st with boxes := B3 } t vis val1 hρ2 hB3
        exact Sim.step hx3 (Sim.step hx4 (Sim.nil ⟨B4, rfl, hB4⟩))
end loops

section
variable (env : Pj.Env) (ms : Uid → Bool) (mem : List Uid) (w : Nat) {E : TaskInfo → Bool → Fields → PyLite.Env}

theorem clftH_fn_lambda (hE : CalcEnc E) (f : Uid → Fields) (st : PState) (hh : st.heap = heapOf E env ms f) (u : Uid) :
    (clftH env mem w).fn fn_lambda_0 [.ref u] st = .ok (.list ((env.info u).preds.map Atom.ref), st) := by
  simp only [clftH, if_true, interpLambda0]
  rw [callP_bound (ρ := [("x", .atom (.ref u))]) rfl]
  simp [pylite_step, src_lambda_0, Env.get?_cons, hh, heapOf, hE.preds, TaskSrc.blockRes]

theorem clftH_fn_waits (hE : CalcEnc E) (f : Uid → Fields) (st : PState) (hh : st.heap = heapOf E env ms f) (u : Uid) :
    (clftH env mem w).fn fn_waits_for [.ref u] st = .ok (.list ((waitsFor env u).map Atom.ref), st) := by
  have h1 : (fn_waits_for = fn_lambda_0) = False := by decide
  simp only [clftH, h1, if_false, if_true]
  exact interpWaitsFor_eq env ms mem w hE f st hh u

structure ClEnv (ρ : PyLite.Env) (w b : Nat) : Prop where
  project : ρ.get? "project" = some (.atom (.ref w))
  val : ρ.get? "validated" = some (.atom (.box b))

theorem ClEnv.set {ρ : PyLite.Env} {w b : Nat} (h : ClEnv ρ w b) (v : Val) : ClEnv (Env.set ρ "t" v) w b :=
  ⟨by rw [Env.get?_set, if_neg (by decide)]; exact h.project, by rw [Env.get?_set, if_neg (by decide)]; exact h.val⟩

/-- the call `_check_loops_from_task(t, [], validated, <fn k>)` made by `_check_loops` -/
def clCall (k : Nat) : Stmt :=
  .expr (.callVal (.fnRef fn_check_loops_from_task) (.listCons (.var "t") (.listCons (.newBox .listNil)
    (.listCons (.var "validated") (.listCons (.fnRef k) .listNil)))))

theorem src_check_loops_shape : src_check_loops =
    [.assign "validated" (.newBox .listNil),
     .forIn "t" (.prim "tasks" (.listCons (.var "project") .listNil)) [clCall fn_lambda_0],
     .assign "validated" (.newBox .listNil),
     .forIn "t" (.prim "tasks" (.listCons (.var "project") .listNil))
       [.ifElse (.cmp .eq (.len (.attr (.var "t") "children")) (.num 0)) [clCall fn_waits_for] []]] := rfl

theorem evalP_newBox_nil (H : PHandlers) (self ρ : PyLite.Env) (st : PState) :
    (Expr.newBox .listNil).evalP H self ρ st =
      .ok (.atom (.box st.boxes.length), { st with boxes := st.boxes ++ [[]] }) := by
  simp [Expr.evalP, iterOf, bind, Except.bind, pure, Except.pure]

/-- what one pass of `_check_loops` keeps: the locals, and `validated` (box `b`) holds the identities of `val` -/
abbrev ClQ (w b : Nat) (st : PState) : List Uid → PyLite.Env → PState → Prop :=
  fun val ρ st' => ClEnv ρ w b ∧ ∃ B, st' = { st with boxes := B } ∧ B[b]? = some (val.map idA)

theorem call_sim (fuel' : Nat) (f : Uid → Fields) (k : Nat) (next : Uid → List Uid)
    (hnext : ∀ (st : PState) (u : Uid), st.heap = heapOf E env ms f →
      (clftH env mem w).fn k [.ref u] st = .ok (.list ((next u).map Atom.ref), st))
    (rec : List Atom → PState → Res (Val × PState)) (fuel : Nat) (hf : fuel ≤ fuel')
    (ρ : PyLite.Env) (b : Nat) (val : List Uid) (st : PState) (t : Uid) (hρ : ClEnv ρ w b)
    (hh : st.heap = heapOf E env ms f) (hB : st.boxes[b]? = some (val.map idA)) :
    Sim (loopsFrom next fuel [] val t)
      (execBlockP (loopsH env mem w fuel') [] rec [clCall k] (ρ.set "t" (.atom (.ref t))) st) (ClQ w b st) := by
  have hlt : b < st.boxes.length := (List.getElem?_eq_some_iff.1 hB).1
  -- `[]` is a new box, which holds the tasks in progress
  have hB1 : BoxRel (st.boxes ++ [[]]) st.boxes.length b [] val :=
    ⟨List.getElem?_concat_length, by rw [List.getElem?_append_left hlt]; exact hB⟩
  have hspec := callP_loopsFrom (clftH env mem w) st.boxes.length b k (by omega) (heapOf E env ms f) next hnext fuel
    fuel' hf [] val t { st with boxes := st.boxes ++ [[]] } hh hB1
  refine (Sim.one (SimR.expr (Q := LoopsQ st.boxes.length b { st with boxes := st.boxes ++ [[]] } []) ?_)).mono ?_
  · simp only [Expr.evalP, Env.get?_set, if_true, (hρ.set _).val, iterOf, bind, Except.bind, pure, Except.pure,
      loopsH, interpLoopsFrom]
    exact hspec
  · rintro val' _ _ ⟨rfl, _, _, B, rfl, hB'⟩
    exact ⟨hρ.set _, B, rfl, hB'.val⟩

/-- one pass of `_check_loops`: `validated = set()`, then a loop over `project.tasks` whose body does one step `g` of
    the model's `foldlM` on the set `validated` -/
theorem clPass_sim (H : PHandlers) (hprim : H.prim = calcPrim env mem w) (rec : List Atom → PState → Res (Val × PState))
    (heap0 : Nat → PyLite.Env) (body : List Stmt) (g : List Uid → Uid → Res (List Uid))
    (hbody : ∀ (ρ : PyLite.Env) (b : Nat) (val : List Uid) (st : PState) (t : Uid), ClEnv ρ w b → st.heap = heap0 →
      st.boxes[b]? = some (val.map idA) →
      Sim (g val t) (execBlockP H [] rec body (ρ.set "t" (.atom (.ref t))) st) (ClQ w b st))
    (ρ : PyLite.Env) (st : PState) (hp : ρ.get? "project" = some (.atom (.ref w))) (hh : st.heap = heap0) :
    Sim (mem.foldlM g [])
      (execBlockP H [] rec [.assign "validated" (.newBox .listNil),
        .forIn "t" (.prim "tasks" (.listCons (.var "project") .listNil)) body] ρ st)
      (fun _ ρ' st' => ρ'.get? "project" = some (.atom (.ref w)) ∧ ∃ B, st' = { st with boxes := B }) := by
  have hρ1 : ClEnv (Env.set ρ "validated" (.atom (.box st.boxes.length))) w st.boxes.length :=
    ⟨by rw [Env.get?_set, if_neg (by decide)]; exact hp, by rw [Env.get?_set, if_pos rfl]⟩
  refine Sim.step (execP_assign (evalP_newBox_nil _ _ _ _)) (Sim.one ?_)
  refine (Sim.forIn (Inv := ClQ w st.boxes.length st) (evalP_tasks env mem w H hprim [] _ _ "project" hρ1.project)
    (fun val t ρ' _ _ ⟨hρ', B, hst, hB⟩ => ?_) ⟨hρ1, _, rfl, List.getElem?_concat_length⟩).mono
    (fun _ _ _ ⟨h1, B, h2, _⟩ => ⟨h1.project, B, h2⟩)
  subst hst
  refine (hbody ρ' _ val { st with boxes := B } t hρ' hh hB).mono ?_
  rintro val' _ _ ⟨h1, B', rfl, h2⟩
  exact ⟨h1, B', rfl, h2⟩

/-- STAGE 3.  `_check_loops(project)` refines the model's `checkLoops`; a successful run changes nothing but the
    containers -/
theorem interpCheckLoops_sim (hE : CalcEnc E) (f : Uid → Fields) (st : PState) (hh : st.heap = heapOf E env ms f)
    (fuel' : Nat) (hf : env.n + 2 ≤ fuel') :
    SimR (checkLoops env mem) (interpCheckLoops env mem w fuel' [.ref w] st)
      (fun _ v st' => v = .atom .none ∧ ∃ B, st' = { st with boxes := B }) := by
  unfold interpCheckLoops checkLoops
  rw [callP_bound (ρ := [("project", .atom (.ref w))]) rfl, List.foldlM_filter]
  generalize callP (loopsH env mem w fuel') [] src_check_loops_params src_check_loops 0 = rec
  rw [src_check_loops_shape]
  refine Sim.retNone (Q := fun _ st' => ∃ B, st' = { st with boxes := B }) ?_
  -- the first pass: every task, along `predecessors`; the second: the leaves, along `_waits_for`
  refine Sim.append (p := [_, _]) (q := [_, _])
    (clPass_sim env mem w (loopsH env mem w fuel') rfl rec (heapOf E env ms f) [clCall fn_lambda_0] _
      (fun ρ b val st t hρ hh hB => call_sim env ms mem w fuel' f fn_lambda_0 (fun u => (env.info u).preds)
        (fun st u h => clftH_fn_lambda env ms mem w hE f st h u) rec (env.n + 2) hf ρ b val st t hρ hh hB)
      _ st rfl hh)
    fun _ ρ1 _ ⟨hp1, B1, hst⟩ => ?_
  subst hst
  refine (clPass_sim env mem w (loopsH env mem w fuel') rfl rec (heapOf E env ms f) _
    (fun val t => if (env.info t).children.isEmpty then loopsFrom (waitsFor env) (env.n + 2) [] val t else pure val)
    (fun ρ b val st1 t hρ hh1 hB1 => ?_) ρ1 { st with boxes := B1 } hp1 hh).bind_pure
    (fun _ _ _ ⟨_, B, h⟩ => ⟨B, h⟩)
  refine (Sim.ifElse (evalP_noChildren env ms hE _ [] _ "t" t (by rw [Env.get?_set, if_pos rfl]) f st1 hh1) ?_).one
  cases hc : (env.info t).children.isEmpty with
  | false => exact Sim.nil ⟨hρ.set _, st1.boxes, rfl, hB1⟩
  | true =>
    exact call_sim env ms mem w fuel' f fn_waits_for (waitsFor env)
      (fun st u h => clftH_fn_waits env ms mem w hE f st h u) rec (env.n + 2) hf ρ b val st1 t hρ hh1 hB1

theorem interpCheckLoops_eq (hE : CalcEnc E) (f : Uid → Fields) (st : PState) (hh : st.heap = heapOf E env ms f) (fuel' : Nat)
    (hf : env.n + 2 ≤ fuel') (hne : checkLoops env mem ≠ .error (.crash .recursion)) :
    unit (interpCheckLoops env mem w fuel' [.ref w] st) = checkLoops env mem := by
  have h := interpCheckLoops_sim env ms mem w hE f st hh fuel' hf
  rcases hc : checkLoops env mem with e | u
  · rw [hc] at h hne; rw [h (fun x => hne (by rw [x]))]; rfl
  · rw [hc] at h; obtain ⟨_, _, hB, _⟩ := h; rw [hB]; rfl
end

/-! ### the container store is a frame for programs without calc constructs -/

def wb (st : PState) (B : List (List Atom)) : PState := { st with boxes := B }

def wbR (B : List (List Atom)) (r : Res (Val × PState)) : Res (Val × PState) :=
  match r with
  | .ok (v, st) => .ok (v, wb st B)
  | .error e => .error e

def wbO (B : List (List Atom)) : OutcomeP → OutcomeP
  | .normal ρ st => .normal ρ (wb st B)
  | .cont ρ st => .cont ρ (wb st B)
  | .ret v st => .ret v (wb st B)
  | .raise e => .raise e

/-- expressions of the pass layer proper: no calc construct -/
def noBoxE : Expr → Bool
  | .none | .num _ | .bool _ | .var _ | .field _ | .datetime _ | .now | .listNil => true
  | .isNone e | .isNotNone e | .not e | .len e | .maxList e | .minList e | .calcHas e | .resSetdefault e
  | .reversed e | .timedelta e | .attr e _ | .callSelf _ e => noBoxE e
  | .cmp _ a b | .and a b | .or a b | .bin _ a b | .isIn a b | .sum a b | .listCons a b | .max a b | .isSame a b
  | .min a b => noBoxE a && noBoxE b
  | .ite a b c | .max3 a b c => noBoxE a && noBoxE b && noBoxE c
  | .listComp a _ b c => noBoxE a && noBoxE b && noBoxE c
  | _ => false

@[simp] theorem wb_L (st : PState) (B) : (wb st B).L = st.L := rfl
@[simp] theorem wb_heap (st : PState) (B) : (wb st B).heap = st.heap := rfl
@[simp] theorem wb_done (st : PState) (B) : (wb st B).done = st.done := rfl
@[simp] theorem wb_res (st : PState) (B) : (wb st B).res = st.res := rfl
@[simp] theorem wb_reads (st : PState) (B) : (wb st B).reads = st.reads := rfl

theorem compLoopP_wb (B : List (List Atom)) (f : Atom → PState → Res (Option Atom × PState))
    (hf : ∀ v st, f v (wb st B) = match f v st with | .ok (o, s) => .ok (o, wb s B) | .error e => .error e) :
    ∀ (vs : List Atom) (st : PState), compLoopP f vs (wb st B) =
      match compLoopP f vs st with | .ok (o, s) => .ok (o, wb s B) | .error e => .error e := by
  intro vs
  induction vs with
  | nil => intro st; rfl
  | cons v vs ih =>
    intro st
    simp only [compLoopP, hf, bind, Except.bind]
    rcases f v st with e | ⟨o, s⟩
    · rfl
    · simp only [ih]
      rcases compLoopP f vs s with e | ⟨r, s2⟩ <;> rfl

theorem wbR_pure (B : List (List Atom)) (x : Res Val) (s : PState) :
    (do let r ← x; pure (r, wb s B)) = wbR B (do let r ← x; pure (r, s)) := by
  rcases x with e | r <;> rfl

/-- the rule of the frame: a step that commutes with the store, then a continuation that does -/
theorem wbR_step {B : List (List Atom)} {c c' : Res (Val × PState)} {k : Val × PState → Res (Val × PState)}
    (hc : c' = wbR B c) (hk : ∀ v s, k (v, wb s B) = wbR B (k (v, s))) : (c' >>= k) = wbR B (c >>= k) := by
  subst hc
  rcases c with e | ⟨v, s⟩
  · rfl
  · exact hk v s

theorem wbR_truth {B : List (List Atom)} {v : Val} {a a' b b' : Res (Val × PState)} (ha : a' = wbR B a) (hb : b' = wbR B b) :
    (do if (← truthP v) then a' else b') = wbR B (do if (← truthP v) then a else b) := by
  rcases truthP v with e | t
  · rfl
  · cases t
    · exact hb
    · exact ha

theorem evalP_wb (H : PHandlers) (self : PyLite.Env) (B : List (List Atom)) :
    ∀ (e : Expr), noBoxE e = true → ∀ (env : PyLite.Env) (st : PState),
      e.evalP H self env (wb st B) = wbR B (e.evalP H self env st) := by
  intro e
  induction e with
  | none | num | bool | datetime | now | listNil => exact fun _ _ _ => rfl
  | var x => exact fun _ env _ => by simp only [Expr.evalP]; cases env.get? x <;> rfl
  | field x => exact fun _ _ _ => by simp only [Expr.evalP]; cases self.get? x <;> rfl
  | isNone e ih | isNotNone e ih => exact fun h env st => wbR_step (ih h env st) fun _ _ => rfl
  | not e ih =>
    exact fun h env st => wbR_step (ih h env st) fun v _ => by dsimp only; rcases truthP v with e | b <;> rfl
  | maxList e ih | minList e ih => exact fun h env st => wbR_step (ih h env st) fun _ s => wbR_pure B _ s
  | len e ih | calcHas e ih | reversed e ih =>
    exact fun h env st => wbR_step (ih h env st) fun _ _ => by dsimp only; split <;> rfl
  | timedelta e ih =>
    refine fun h env st => wbR_step (ih h env st) fun _ _ => ?_
    dsimp only
    split <;> try rfl
    split <;> rfl
  | attr e f ih =>
    refine fun h env st => wbR_step (ih h env st) fun _ s => ?_
    dsimp only
    split
    · rw [wb_heap]; split <;> rfl
    · exact wbR_pure B _ s
    · rfl
    · rfl
  | resSetdefault e ih =>
    refine fun h env st => wbR_step (ih h env st) fun _ _ => ?_
    dsimp only
    split
    · split
      · rename_i a _
        rcases H.newResource a with e | r
        · rfl
        · simp only [wb_res]; split <;> rfl
      · rfl
    · rfl
  | callSelf m e ih =>
    refine fun h env st => wbR_step (ih h env st) fun _ s => ?_
    dsimp only
    split
    · rename_i as
      rw [wb_L]
      rcases H.call m as s.L with e | ⟨x, L'⟩ <;> rfl
    · rfl
  | cmp op a b iha ihb | bin op a b iha ihb | max a b iha ihb | min a b iha ihb =>
    exact fun h env st =>
      have ⟨ha, hb⟩ := Bool.and_eq_true_iff.1 h
      wbR_step (iha ha env st) fun _ s => wbR_step (ihb hb env s) fun _ s2 => wbR_pure B _ s2
  | isIn a b iha ihb | listCons a b iha ihb | isSame a b iha ihb =>
    exact fun h env st =>
      have ⟨ha, hb⟩ := Bool.and_eq_true_iff.1 h
      wbR_step (iha ha env st) fun _ s => wbR_step (ihb hb env s) fun _ _ => by dsimp only; split <;> rfl
  | sum a b iha ihb =>
    refine fun h env st =>
      have ⟨ha, hb⟩ := Bool.and_eq_true_iff.1 h
      wbR_step (iha ha env st) fun _ s => wbR_step (ihb hb env s) fun _ s2 => ?_
    dsimp only
    split
    · exact wbR_pure B _ s2
    · rfl
  | and a b iha ihb =>
    exact fun h env st =>
      have ⟨ha, hb⟩ := Bool.and_eq_true_iff.1 h
      wbR_step (iha ha env st) fun _ s => wbR_truth (ihb hb env s) rfl
  | or a b iha ihb =>
    exact fun h env st =>
      have ⟨ha, hb⟩ := Bool.and_eq_true_iff.1 h
      wbR_step (iha ha env st) fun _ s => wbR_truth rfl (ihb hb env s)
  | ite c a b ihc iha ihb =>
    exact fun h env st =>
      have ⟨hca, hb⟩ := Bool.and_eq_true_iff.1 h
      have ⟨hc, ha⟩ := Bool.and_eq_true_iff.1 hca
      wbR_step (ihc hc env st) fun _ s => wbR_truth (iha ha env s) (ihb hb env s)
  | max3 a b c iha ihb ihc =>
    refine fun h env st =>
      have ⟨hab, hc⟩ := Bool.and_eq_true_iff.1 h
      have ⟨ha, hb⟩ := Bool.and_eq_true_iff.1 hab
      wbR_step (iha ha env st) fun v s => wbR_step (ihb hb env s) fun v2 s2 => wbR_step (ihc hc env s2) fun _ s3 => ?_
    dsimp only
    rcases pyMax v v2 with e | r
    · rfl
    · exact wbR_pure B _ s3
  | listComp elt x it cond ihe ihi ihc =>
    refine fun h env st =>
      have ⟨hei, hc⟩ := Bool.and_eq_true_iff.1 h
      have ⟨he, hi⟩ := Bool.and_eq_true_iff.1 hei
      wbR_step (ihi hi env st) fun v s => ?_
    dsimp only
    rcases iterOf v with e | vs
    · rfl
    · simp only [bind, Except.bind]
      rw [compLoopP_wb]
      · rcases compLoopP _ vs s with e | ⟨o, s2⟩ <;> rfl
      · intro a st'
        rw [ihc hc]
        rcases cond.evalP H self (env.set x a) st' with e | ⟨cv, s3⟩
        · rfl
        · simp only [wbR]
          rcases truthP cv with e | t
          · rfl
          · cases t
            · rfl
            · simp only [if_true, ihe he]
              rcases elt.evalP H self (env.set x a) s3 with e | ⟨ev, s4⟩
              · rfl
              · simp only [wbR]; cases ev <;> rfl
  | _ => intro h; cases h

mutual
/-- statements of the pass layer proper -/
def noBoxS : Stmt → Bool
  | .assign _ e => noBoxE e
  | .aug _ _ e => noBoxE e
  | .ifElse c t e => noBoxE c && noBoxB t && noBoxB e
  | .forIn _ e b => noBoxE e && noBoxB b
  | .raiseRuntime => true
  | .continue => true
  | .pass => true
  | .ret e => noBoxE e
  | .setAttr o _ e => noBoxE o && noBoxE e
  | .calcAppend e => noBoxE e
  | .recurse a => noBoxE a
  | _ => false
def noBoxB : List Stmt → Bool
  | [] => true
  | s :: ss => noBoxS s && noBoxB ss
end

theorem forLoopP_wb (B : List (List Atom)) (x : String) (body : PyLite.Env → PState → OutcomeP)
    (hb : ∀ ρ st, body ρ (wb st B) = wbO B (body ρ st)) :
    ∀ (vs : List Atom) (ρ : PyLite.Env) (st : PState),
      forLoopP x body vs ρ (wb st B) = wbO B (forLoopP x body vs ρ st) := by
  intro vs
  induction vs with
  | nil => intro ρ st; rfl
  | cons v vs ih =>
    intro ρ st
    simp only [forLoopP, hb]
    cases body (ρ.set x v) st <;> simp only [wbO, ih]

set_option linter.unusedSectionVars false in
section
variable (H : PHandlers) (self : PyLite.Env) (B : List (List Atom)) (rec : List Atom → PState → Res (Val × PState))
  (hrec : ∀ args st, rec args (wb st B) = wbR B (rec args st))
include hrec

mutual
theorem execP_wb : ∀ (s : Stmt), noBoxS s = true → ∀ (ρ : PyLite.Env) (st : PState),
    s.execP H self rec ρ (wb st B) = wbO B (s.execP H self rec ρ st)
  | .assign x e, h, ρ, st => by
    simp only [Stmt.execP, evalP_wb H self B e h]
    rcases e.evalP H self ρ st with e | ⟨v, s⟩ <;> rfl
  | .aug x op e, h, ρ, st => by
    simp only [Stmt.execP, evalP_wb H self B e h]
    cases ρ.get? x with
    | none => rfl
    | some old =>
      simp only []
      rcases e.evalP H self ρ st with e | ⟨v, s⟩
      · rfl
      · simp only [wbR]
        rcases arithP op old v with e | r <;> rfl
  | .ifElse c t e, h, ρ, st => by
    obtain ⟨hct, he⟩ := Bool.and_eq_true_iff.1 h
    obtain ⟨hc, ht⟩ := Bool.and_eq_true_iff.1 hct
    simp only [Stmt.execP, evalP_wb H self B c hc, bind, Except.bind]
    rcases c.evalP H self ρ st with e | ⟨v, s⟩
    · rfl
    · simp only [wbR]
      rcases truthP v with e | b
      · rfl
      · cases b
        · simp only [pure, Except.pure, Bool.false_eq_true, if_false]
          exact execBlockP_wb e he ρ s
        · simp only [pure, Except.pure, if_true]
          exact execBlockP_wb t ht ρ s
  | .forIn x e b, h, ρ, st => by
    obtain ⟨he, hb⟩ := Bool.and_eq_true_iff.1 h
    simp only [Stmt.execP, evalP_wb H self B e he, bind, Except.bind]
    rcases e.evalP H self ρ st with e | ⟨v, s⟩
    · rfl
    · simp only [wbR]
      rcases iterOf v with e | vs
      · rfl
      · simp only [pure, Except.pure]
        exact forLoopP_wb B x _ (fun ρ st => execBlockP_wb b hb ρ st) vs ρ s
  | .raiseRuntime, _, _, _ => rfl
  | .continue, _, _, _ => rfl
  | .pass, _, _, _ => rfl
  | .ret e, h, ρ, st => by
    simp only [Stmt.execP, evalP_wb H self B e h]
    rcases e.evalP H self ρ st with e | ⟨v, s⟩ <;> rfl
  | .setAttr o f e, h, ρ, st => by
    obtain ⟨ho, he⟩ := Bool.and_eq_true_iff.1 h
    simp only [Stmt.execP, evalP_wb H self B e he, bind, Except.bind]
    rcases e.evalP H self ρ st with e | ⟨v, s⟩
    · rfl
    · simp only [wbR, evalP_wb H self B o ho]
      rcases o.evalP H self ρ s with e | ⟨ov, s2⟩
      · rfl
      · simp only [pure, Except.pure]
        cases ov with
        | atom a => cases a <;> rfl
        | list _ => rfl
        | dict _ => rfl
  | .calcAppend e, h, ρ, st => by
    simp only [Stmt.execP, evalP_wb H self B e h]
    rcases e.evalP H self ρ st with e | ⟨v, s⟩
    · rfl
    · simp only [wbR]
      cases v with
      | atom a => cases a <;> rfl
      | list _ => rfl
      | dict _ => rfl
  | .recurse a, h, ρ, st => by
    simp only [Stmt.execP, evalP_wb H self B a h, bind, Except.bind]
    rcases a.evalP H self ρ st with e | ⟨v, s⟩
    · rfl
    · simp only [wbR]
      cases v with
      | list as =>
        simp only [hrec]
        rcases rec as s with e | ⟨x, s2⟩ <;> rfl
      | atom _ => rfl
      | dict _ => rfl
  | .while _ _, h, _, _ => by cases h
  | .forRange _ _ _ _, h, _, _ => by cases h
  | .rowsAppend _, h, _, _ => by cases h
  | .resReserve _ _ _ _, h, _, _ => by cases h
  | .augReserve _ _ _ _ _ _, h, _, _ => by cases h
  | .expr _, h, _, _ => by cases h
  | .boxAppend _ _, h, _, _ => by cases h
  | .boxPop _, h, _, _ => by cases h
  | .ledgerNew, h, _, _ => by cases h
  | .calcNew, h, _, _ => by cases h
theorem execBlockP_wb : ∀ (ss : List Stmt), noBoxB ss = true → ∀ (ρ : PyLite.Env) (st : PState),
    execBlockP H self rec ss ρ (wb st B) = wbO B (execBlockP H self rec ss ρ st)
  | [], _, _, _ => rfl
  | s :: ss, h, ρ, st => by
    obtain ⟨hs, hss⟩ := Bool.and_eq_true_iff.1 h
    simp only [execBlockP, execP_wb s hs]
    cases s.execP H self rec ρ st with
    | normal ρ' st' => simp only [wbO]; exact execBlockP_wb ss hss ρ' st'
    | cont _ _ => rfl
    | ret _ _ => rfl
    | raise _ => rfl
end
end

/-- a method without calc constructs does not see the container store: it runs the same with any store `B` and
    leaves it as it is -/
theorem callP_wb (H : PHandlers) (self : PyLite.Env) (B : List (List Atom)) (params : List String) (body : List Stmt)
    (hb : noBoxB body = true) :
    ∀ (fuel : Nat) (args : List Atom) (st : PState),
      callP H self params body fuel args (wb st B) = wbR B (callP H self params body fuel args st) := by
  intro fuel
  induction fuel with
  | zero => intro args st; rfl
  | succ fuel ih =>
    intro args st
    simp only [callP]
    rcases bindParams params args with e | ρ
    · rfl
    · simp only [execBlockP_wb H self B _ ih body hb]
      cases execBlockP H self (callP H self params body fuel) body ρ st <;> rfl

theorem src_Fwd_pass_noBox : noBoxB src_Fwd_pass = true := by decide
theorem src_Bwd_pass_noBox : noBoxB src_Bwd_pass = true := by decide

/-! ### stage 4: `__prepare_tasks` (with `project.tasks` as a primitive) and the two `calc` methods -/

theorem src_calc_prepare_shape : src_Fwd_calc_prepare =
    [.forIn "t" (.prim "tasks" (.listCons (.var "project") .listNil)) prepBody] ∧
    src_Bwd_calc_prepare = src_Fwd_calc_prepare ∧ src_Bwd_calc_prepare_params = src_Fwd_calc_prepare_params :=
  ⟨rfl, rfl, rfl⟩

/-- STAGE 4.  `__prepare_tasks(project)` (either scheduler; `project.tasks` = the primitive "tasks" = `mem`) on a heap
    that encodes the fields `f` ends on the heap that encodes the model's `prepare env f mem`; nothing else changes -/
theorem callP_calc_prepare {E : TaskInfo → Bool → Fields → PyLite.Env} (hE : TaskEnc E) (env : Pj.Env) (ms : Uid → Bool)
    (mem : List Uid) (w : Nat) (f : Uid → Fields) (st : PState) (hh : st.heap = heapOf E env ms f) :
    callP (baseH env mem w) [] src_Fwd_calc_prepare_params src_Fwd_calc_prepare 1 [.ref w] st =
      .ok (.atom .none, { st with heap := heapOf E env ms (prepare env f mem) }) := by
  rw [callP_bound (ρ := [("project", .atom (.ref w))]) rfl]
  generalize callP (baseH env mem w) [] src_Fwd_calc_prepare_params src_Fwd_calc_prepare 0 = rec
  have hp : Env.get? [("project", Val.atom (Atom.ref w))] "project" = some (.atom (.ref w)) := rfl
  generalize [("project", Val.atom (Atom.ref w))] = ρ0 at hp
  obtain ⟨ρ', hl⟩ := prepLoop_ok hE (baseH env mem w) [] rec env ms id mem (fun u _ => keepsObj_id u) f ρ0 st hh
  rw [src_calc_prepare_shape.1, execBlockP_cons, execP_forIn (vs := mem.map Atom.ref) (st' := st), hl]
  · simp [execBlockP_nil, TaskSrc.blockRes]
  · exact evalP_tasks env mem w _ rfl [] _ _ "project" hp


/-- the functions `ForwardScheduler.calc` calls: the three checks and `__prepare_tasks` (translated here), and
    `__forward_pass` - THE TRANSLATED SOURCE of Extracted/PassSrc.lean, run with the handlers / `self` of
    Lemmas/PassSrc.lean (`passH`, `passSelf`), at most `pfuel` nested activations.  `fuel` = the recursion limit of
    `_check_loops_from_task`, `wfuel` bounds the `while` loop of the shift method. -/
def calcHF (env : Pj.Env) (mem : List Uid) (w : Nat) (fuel wfuel : Nat) (calR : Nat → Cal) (pfuel : Nat) : PHandlers :=
  { baseH env mem w with
    fn := fun k args st =>
      if k = fn_validate_isolation then interpIsolation env mem w args st
      else if k = fn_check_loops then interpCheckLoops env mem w fuel args st
      else if k = fn_Fwd_check_future then interpCheckFuture env mem w args st
      else if k = fn_Fwd_calc_prepare then
        callP (baseH env mem w) [] src_Fwd_calc_prepare_params src_Fwd_calc_prepare 1 args st
      else if k = fn_Fwd_pass then
        callP (passH env wfuel calR) (passSelf env) src_Fwd_pass_params src_Fwd_pass pfuel args st
      else throw stuck }

/-- `ForwardScheduler.calc(wbs)` on the WBS object `ref w`; `self` = `passSelf env` (`__start` = `env.bound`) -/
def interpFwdCalc (env : Pj.Env) (mem : List Uid) (w : Nat) (fuel wfuel : Nat) (calR : Nat → Cal) (pfuel : Nat)
    (st : PState) : Res (Val × PState) :=
  callP (calcHF env mem w fuel wfuel calR pfuel) (passSelf env) src_Fwd_calc_params src_Fwd_calc 1 [.ref w] st

/-- the scheduler object of `BackwardScheduler.calc`: `passSelf env` and the attribute `__end` = `env.bound` -/
def calcSelfB (env : Pj.Env) : PyLite.Env := ("end", .atom (.time env.bound)) :: passSelf env

def calcHB (env : Pj.Env) (mem : List Uid) (w : Nat) (fuel wfuel : Nat) (calR : Nat → Cal) (pfuel : Nat) : PHandlers :=
  { baseH env mem w with
    fn := fun k args st =>
      if k = fn_validate_isolation then interpIsolation env mem w args st
      else if k = fn_check_loops then interpCheckLoops env mem w fuel args st
      else if k = fn_Bwd_calc_prepare then
        callP (baseH env mem w) [] src_Bwd_calc_prepare_params src_Bwd_calc_prepare 1 args st
      else if k = fn_Bwd_pass then
        callP (passHB env wfuel calR) (passSelf env) src_Bwd_pass_params src_Bwd_pass pfuel args st
      else throw stuck }

/-- `BackwardScheduler.calc(project)`; the pass itself runs on `passSelf env` as in Lemmas/PassSrcBwd.lean (the two
    differ in the attribute `__end`, which `__backward_pass` cannot read: tools/extract_pass.py) -/
def interpBwdCalc (env : Pj.Env) (mem : List Uid) (w : Nat) (fuel wfuel : Nat) (calR : Nat → Cal) (pfuel : Nat)
    (st : PState) : Res (Val × PState) :=
  callP (calcHB env mem w fuel wfuel calR pfuel) (calcSelfB env) src_Bwd_calc_params src_Bwd_calc 1 [.ref w] st

theorem _root_.Pj.PyLite.SimR.wb {α : Type} {r : Res α} {c c' : Res (Val × PState)} {B : List (List Atom)} {Q : α → Val → PState → Prop}
    (h : SimR r c Q) (hc : c' = wbR B c) : SimR r c' (fun a v st => ∃ st0, st = wb st0 B ∧ Q a v st0) := by
  subst hc
  cases r with
  | error e => intro hne; rw [h hne]; rfl
  | ok a => obtain ⟨v, st, hc, hq⟩ := h; rw [hc]; exact ⟨v, _, rfl, st, rfl, hq⟩


theorem calcPrim_roots (env : Pj.Env) (mem : List Uid) (w : Nat) (st : PState) :
    calcPrim env mem w "roots" [.ref w] st = .ok (.list (env.roots.map Atom.ref)) := by
  simp [calcPrim, pure, Except.pure]

theorem calcPrim_clone (env : Pj.Env) (mem : List Uid) (w : Nat) (st : PState) :
    calcPrim env mem w "clone" [.ref w] st = .ok (.atom (.ref w)) := by
  simp [calcPrim, pure, Except.pure]

/-! #### the statements of `calc`, for any handlers that resolve the callee as `calcHF` / `calcHB` do -/
section steps
variable (env : Pj.Env) (ms : Uid → Bool) (mem : List Uid) (w : Nat) {E : TaskInfo → Bool → Fields → PyLite.Env}
  (H : PHandlers) (self : PyLite.Env) (rec : List Atom → PState → Res (Val × PState))
  (x : String) (ρ : PyLite.Env) (hρ : ρ.get? x = some (.atom (.ref w)))
include hρ

/-- `f(x)` as the first statement of a block, `f` a named function and `x` a variable holding the WBS object -/
theorem execBlockP_call1 (k : Nat) (rest : List Stmt) (st : PState) :
    execBlockP H self rec (.expr (.callVal (.fnRef k) (.listCons (.var x) .listNil)) :: rest) ρ st =
      match H.fn k [.ref w] st with
      | .ok (_, st') => execBlockP H self rec rest ρ st'
      | .error e => .raise e := by
  simp only [execBlockP_cons, Stmt.execP, Expr.evalP, hρ, bind, Except.bind, pure, Except.pure]
  rcases H.fn k [.ref w] st with e | ⟨v, s⟩ <;> rfl

theorem calc_future (hE : CalcEnc E) (k : Nat) (hk : H.fn k = interpCheckFuture env mem w) (rest : List Stmt)
    (f : Uid → Fields) (st : PState) (hh : st.heap = heapOf E env ms f) :
    execBlockP H self rec (.expr (.callVal (.fnRef k) (.listCons (.var x) .listNil)) :: rest) ρ st =
      if futureOk (env.clock st.reads) f mem then execBlockP H self rec rest ρ { st with reads := st.reads + 1 }
      else .raise .runtime := by
  rw [execBlockP_call1 w H self rec x ρ hρ, hk, interpCheckFuture_eq env ms mem w hE f st hh]
  cases futureOk (env.clock st.reads) f mem <;> rfl


/-- `y = x.clone(); self.__prepare_tasks(y)` -/
theorem calc_clone_prepare (hE : TaskEnc E) (k : Nat) (hprim : H.prim = calcPrim env mem w)
    (hk : H.fn k = callP (baseH env mem w) [] src_Fwd_calc_prepare_params src_Fwd_calc_prepare 1) (y : String)
    (rest : List Stmt) (f : Uid → Fields) (st : PState) (hh : st.heap = heapOf E env ms f) :
    execBlockP H self rec (.assign y (.prim "clone" (.listCons (.var x) .listNil)) ::
        .expr (.callVal (.fnRef k) (.listCons (.var y) .listNil)) :: rest) ρ st =
      execBlockP H self rec rest (ρ.set y (.atom (.ref w)))
        { st with heap := heapOf E env ms (prepare env f mem) } := by
  have hclone : (Expr.prim "clone" (.listCons (.var x) .listNil)).evalP H self ρ st = .ok (.atom (.ref w), st) := by
    simp only [Expr.evalP, hρ, bind, Except.bind, pure, Except.pure, hprim, calcPrim_clone]
  rw [execBlockP_cons, execP_assign (he := hclone)]
  simp only []
  rw [execBlockP_call1 w H self rec y _ (by rw [Env.get?_set, if_pos rfl]), hk, callP_calc_prepare hE env ms mem w f st hh]
end steps

section
variable (env : Pj.Env) (ms : Uid → Bool) (mem : List Uid) (w : Nat) {E : TaskInfo → Bool → Fields → PyLite.Env}
  (H : PHandlers) (self : PyLite.Env) (rec : List Atom → PState → Res (Val × PState))

theorem evalP_call1 (x : String) (ρ : PyLite.Env) (a : Atom) (hρ : ρ.get? x = some (.atom a)) (k : Nat) (st : PState) :
    (Expr.callVal (.fnRef k) (.listCons (.var x) .listNil)).evalP H self ρ st = H.fn k [a] st := by
  simp only [Expr.evalP, hρ, bind, Except.bind, pure, Except.pure]

theorem graphChecks_eq (f : Uid → Fields) :
    graphChecks env f mem =
      (if isolationOk env f mem then Except.ok () else .error .runtime) >>= fun _ => checkLoops env mem := by
  unfold graphChecks
  cases isolationOk env f mem <;> rfl

/-- `_validate_graph_isolation(x); _check_loops(x)`: the model's `graphChecks`; they change the container store only -/
theorem calc_checks_sim (x : String) (ρ : PyLite.Env) (hρ : ρ.get? x = some (.atom (.ref w))) (hE : CalcEnc E)
    (k1 k2 fuel : Nat) (hk1 : H.fn k1 = interpIsolation env mem w)
    (hk2 : H.fn k2 = interpCheckLoops env mem w fuel) (hf : env.n + 2 ≤ fuel) (f : Uid → Fields) (st : PState)
    (hh : st.heap = heapOf E env ms f) :
    Sim (graphChecks env f mem)
      (execBlockP H self rec [.expr (.callVal (.fnRef k1) (.listCons (.var x) .listNil)),
        .expr (.callVal (.fnRef k2) (.listCons (.var x) .listNil))] ρ st)
      (fun _ ρ' st' => ρ' = ρ ∧ ∃ B, st' = { st with boxes := B }) := by
  rw [graphChecks_eq]
  have h1 := SimR.of_if (interpIsolation_eq env ms mem w hE f st hh)
  rw [← hk1, ← evalP_call1 H self x ρ _ hρ] at h1
  refine Sim.cons (SimR.expr h1) fun _ ρ1 st1 ⟨hρ1, _, _, hst⟩ => ?_
  subst hρ1 hst
  have h2 := interpCheckLoops_sim env ms mem w hE f { st with boxes := st.boxes ++ [mem.map idA] } hh fuel hf
  rw [← hk2, ← evalP_call1 H self x ρ1 _ hρ] at h2
  refine (Sim.one (SimR.expr h2)).mono ?_
  rintro _ _ _ ⟨rfl, _, _, B, rfl⟩
  exact ⟨rfl, B, rfl⟩
end



/-! #### `ForwardScheduler.calc` -/

structure FCParts where
  it : Expr
  body : List Stmt

def fcParts : FCParts :=
  match src_Fwd_calc with
  | [_, _, _, _, _, _, _, .forIn _ it b, _] => ⟨it, b⟩
  | _ => ⟨.none, []⟩

theorem src_Fwd_calc_shape : src_Fwd_calc =
    [.expr (.callVal (.fnRef fn_validate_isolation) (.listCons (.var "wbs") .listNil)),
     .expr (.callVal (.fnRef fn_check_loops) (.listCons (.var "wbs") .listNil)),
     .expr (.callVal (.fnRef fn_Fwd_check_future) (.listCons (.var "wbs") .listNil)),
     .assign "forward" (.prim "clone" (.listCons (.var "wbs") .listNil)),
     .expr (.callVal (.fnRef fn_Fwd_calc_prepare) (.listCons (.var "forward") .listNil)),
     .ledgerNew, .calcNew,
     .forIn "t" fcParts.it fcParts.body,
     .ret (.var "forward")] := rfl

theorem futureOk_eq (nw : Time) (f : Uid → Fields) (mem : List Uid) :
    (mem.any (fun t => match (f t).end_ with | some e => decide (nw < e) | none => false)) = !futureOk nw f mem := by
  unfold futureOk
  cases mem.any (fun t => match (f t).end_ with | some e => decide (nw < e) | none => false) <;> rfl

theorem fwdPrecheck_eq {env : Pj.Env} {mem : List Uid} (hmem : members env = some mem) (f0 : Uid → Fields) :
    fwdPrecheck env f0 = (do
      graphChecks env f0 mem
      if !futureOk (env.clock 0) f0 mem then throw Err.runtime) := by
  have h : ∀ b, b = !futureOk (env.clock 0) f0 mem →
      (do if !isolationOk env f0 mem then throw Err.runtime
          checkLoops env mem
          if b then throw Err.runtime : Res Unit) = (do
        graphChecks env f0 mem
        if !futureOk (env.clock 0) f0 mem then throw Err.runtime) := by
    intro b hb
    rw [hb]
    unfold graphChecks
    cases isolationOk env f0 mem <;> cases checkLoops env mem <;> rfl
  unfold fwdPrecheck
  rw [hmem]
  exact h _ (futureOk_eq _ _ _)

theorem bwdPrecheck_eq {env : Pj.Env} {mem : List Uid} (hmem : members env = some mem) (f0 : Uid → Fields) :
    bwdPrecheck env f0 = graphChecks env f0 mem := by
  simp only [bwdPrecheck, hmem]
  rfl

def fcPre : List Stmt := src_Fwd_calc.take 7
theorem fcPre_shape : fcPre =
    [.expr (.callVal (.fnRef fn_validate_isolation) (.listCons (.var "wbs") .listNil)),
     .expr (.callVal (.fnRef fn_check_loops) (.listCons (.var "wbs") .listNil)),
     .expr (.callVal (.fnRef fn_Fwd_check_future) (.listCons (.var "wbs") .listNil)),
     .assign "forward" (.prim "clone" (.listCons (.var "wbs") .listNil)),
     .expr (.callVal (.fnRef fn_Fwd_calc_prepare) (.listCons (.var "forward") .listNil)),
     .ledgerNew, .calcNew] := rfl

section
variable (env : Pj.Env) (ms : Uid → Bool) (mem : List Uid) (w : Nat)

theorem src_Fwd_calc_parts :
    src_Fwd_calc = (fcPre ++ [.forIn "t" fcParts.it fcParts.body]) ++ [.ret (.var "forward")] := rfl

theorem interpFwdCalc_sim (hmem : members env = some mem) {V : Uid → Prop}
    (hV : Reach env ms (fun u => (env.info u).preds) V) (hrt : ∀ r ∈ env.roots, V r)
    (fuel wfuel pfuel : Nat) (hf : env.n + 2 ≤ fuel) (hw : Extracted.fwdShiftMaxSteps < wfuel) (hp : env.n + 1 ≤ pfuel)
    (f0 : Uid → Fields) (res0 : List (Option Nat × Cal)) (rows0 : List Row) (done0 : List Uid) (B0 : List (List Atom)) :
    SimR (forwardCalc env f0 res0)
      (interpFwdCalc env mem w fuel wfuel (calRef res0) pfuel
        (wb (encS env ms { f := f0, rows := rows0, done := done0, res := res0, reads := 0 }) B0))
      (fun out v st => v = .atom (.ref w) ∧
        ∃ σ B, st = wb (encS env ms σ) B ∧ out = { f := σ.f, rows := σ.rows, res := σ.res }) := by
  have hrun : fwdRun env f0 res0 = (do
      let σ ← passList (fun σ r => fwdPass env (env.n + 1) [] σ r env.bound)
        { f := prepare env f0 mem, rows := [], done := [], res := res0, reads := 1 } env.roots
      pure { f := σ.f, rows := σ.rows, res := σ.res }) := by
    unfold fwdRun; rw [hmem]; rfl
  unfold forwardCalc interpFwdCalc
  rw [fwdPrecheck_eq hmem, hrun, callP_bound (ρ := [("wbs", .atom (.ref w))]) rfl]
  generalize callP (calcHF env mem w fuel wfuel (calRef res0) pfuel) (passSelf env) src_Fwd_calc_params src_Fwd_calc 0 = rec
  rw [src_Fwd_calc_parts]
  generalize hst0 : wb (encS env ms { f := f0, rows := rows0, done := done0, res := res0, reads := 0 }) B0 = st0
  have hh0 : st0.heap = heapOf encTask env ms f0 := by rw [← hst0]; rfl
  have hr0 : st0.reads = 0 := by rw [← hst0]; rfl
  have hres0 : st0.res = res0.map (fun p => (encKey p.1, resRef p.1)) := by rw [← hst0]; rfl
  refine Sim.ret (Q := fun out ρ st => ρ.get? "forward" = some (.atom (.ref w)) ∧
    ∃ σ B, st = wb (encS env ms σ) B ∧ out = { f := σ.f, rows := σ.rows, res := σ.res }) ?_
    (fun out ρ1 st1 ⟨hρ1, h⟩ => ⟨_, by simp only [Expr.evalP, hρ1]; rfl, rfl, h⟩)
  refine Sim.append (Q := fun _ ρ st => ρ.get? "forward" = some (.atom (.ref w)) ∧ ∃ B, st = wb (encS env ms
    { f := prepare env f0 mem, rows := [], done := [], res := res0, reads := 1 }) B) ?_ fun _ ρ1 _ ⟨hρ1, B, hst⟩ => ?_
  · -- _validate_graph_isolation(wbs); _check_loops(wbs)
    rw [fcPre_shape]
    refine Sim.append (p := [_, _]) (q := [_, _, _, _, _])
      (calc_checks_sim env ms mem w _ _ rec "wbs" _ rfl passEnc_fwd.calc fn_validate_isolation fn_check_loops fuel rfl rfl hf
        f0 _ hh0) fun _ ρ' _ ⟨hρ', B2, hst⟩ => ?_
    subst hρ' hst
    -- self.__check_no_end_dates_in_future(wbs)
    rw [calc_future env ms mem w _ _ rec "wbs" _ rfl passEnc_fwd.calc _ rfl _ f0 { st0 with boxes := B2 } hh0]
    simp only [hr0]
    cases hfut : futureOk (env.clock 0) f0 mem with
    | false => exact Sim.error rfl
    | true =>
      -- forward = wbs.clone(); self.__prepare_tasks(forward); the new ledger and `calculated`
      simp only [if_true]
      rw [calc_clone_prepare env ms mem w _ _ rec "wbs" _ rfl passEnc_fwd.task _ rfl rfl "forward" _ f0
        { st0 with boxes := B2, reads := 0 + 1 } hh0]
      refine ⟨Env.set [("wbs", .atom (.ref w))] "forward" (.atom (.ref w)), _, ?_, rfl, B2, rfl⟩
      simp only [execBlockP_cons, Stmt.execP, execBlockP_nil, wb, encS, hres0, List.map_nil]
      rfl
  · -- the loop over the roots
    subst hst
    rw [passList_eq_foldlM]
    refine (Sim.one (Sim.forIn (g := Atom.ref)
      (Inv := fun σ ρ st => ρ.get? "forward" = some (.atom (.ref w)) ∧ st = wb (encS env ms σ) B ∧
        Tbl res0 σ)
      (by simp only [fcParts, src_Fwd_calc, Expr.evalP, hρ1, bind, Except.bind, pure, Except.pure, calcHF, baseH,
        calcPrim_roots])
      (fun σ u ρ _ hu ⟨hρ, hst, hi⟩ => ?_) ⟨hρ1, rfl, fun _ => rfl⟩)).bind_pure
      (fun σ _ _ ⟨h1, h2, _⟩ => ⟨h1, σ, B, h2, rfl⟩)
    subst hst
    refine (Sim.one (SimR.expr (Q := fun σ' _ st => st = wb (encS env ms σ') B ∧ Tbl res0 σ') ?_)).mono
      (fun σ' _ _ ⟨h1, _, h2, h3⟩ => ⟨by rw [h1, Env.get?_set, if_neg (by decide)]; exact hρ, h2, h3⟩)
    simp only [Expr.evalP, Env.get?_set, if_true, passSelf_start, bind, Except.bind, pure, Except.pure]
    exact ((callP_fwdPass passEnc_fwd env ms wfuel hV hw res0 (env.n + 1) pfuel hp [] σ u env.bound (hrt u hu) hi).wb
      (callP_wb _ _ _ _ _ src_Fwd_pass_noBox _ _ _)).mono fun _ _ _ ⟨_, h, _, hst, hi'⟩ => ⟨by rw [h, hst]; rfl, hi'⟩
end

/-- STAGE 4 (forward).  `ForwardScheduler.calc(wbs)`, interpreted from its translated source - the calls it makes
    running the translated sources of the three checks, of `__prepare_tasks` and of `__forward_pass` on ONE store -
    computes the model's `forwardCalc`, PROVIDED that the model's run does not end in RecursionError.
    The store: the encoding `encS` of the input fields `f0` and resource table `res0`, any ledger / `calculated` /
    container store (`calc` makes new ones); the clock has not been read (`reads = 0`).
    The result is the WBS object, and the store then encodes the model's output. -/
theorem interpFwdCalc_eq (env : Pj.Env) (ms : Uid → Bool) (mem : List Uid) (w : Nat) (hmem : members env = some mem)
    {V : Uid → Prop} (hV : Reach env ms (fun u => (env.info u).preds) V) (hrt : ∀ r ∈ env.roots, V r)
    (fuel wfuel pfuel : Nat) (hf : env.n + 2 ≤ fuel) (hw : Extracted.fwdShiftMaxSteps < wfuel) (hp : env.n + 1 ≤ pfuel)
    (f0 : Uid → Fields) (res0 : List (Option Nat × Cal)) (rows0 : List Row) (done0 : List Uid) (B0 : List (List Atom))
    (hne : forwardCalc env f0 res0 ≠ .error (.crash .recursion)) :
    match forwardCalc env f0 res0 with
    | .ok out => ∃ σ B, interpFwdCalc env mem w fuel wfuel (calRef res0) pfuel
          (wb (encS env ms { f := f0, rows := rows0, done := done0, res := res0, reads := 0 }) B0) =
          .ok (.atom (.ref w), wb (encS env ms σ) B) ∧ out = { f := σ.f, rows := σ.rows, res := σ.res }
    | .error e => interpFwdCalc env mem w fuel wfuel (calRef res0) pfuel
          (wb (encS env ms { f := f0, rows := rows0, done := done0, res := res0, reads := 0 }) B0) = .error e := by
  have h := interpFwdCalc_sim env ms mem w hmem hV hrt fuel wfuel pfuel hf hw hp f0 res0 rows0 done0 B0
  cases hc : forwardCalc env f0 res0 with
  | error e => rw [hc] at h hne; exact h (fun x => hne (by rw [x]))
  | ok out => rw [hc] at h; obtain ⟨v, st, h1, rfl, σ, B, rfl, h2⟩ := h; exact ⟨σ, B, h1, h2⟩


/-! #### `BackwardScheduler.calc` -/

structure BCParts where
  it : Expr
  body : List Stmt

def bcParts : BCParts :=
  match src_Bwd_calc with
  | [_, _, _, _, _, _, _, .forIn _ it b, _] => ⟨it, b⟩
  | _ => ⟨.none, []⟩

def bcPre : List Stmt := src_Bwd_calc.take 7
theorem bcPre_shape : bcPre =
    [.expr (.callVal (.fnRef fn_validate_isolation) (.listCons (.var "project") .listNil)),
     .expr (.callVal (.fnRef fn_check_loops) (.listCons (.var "project") .listNil)),
     .assign "backward" (.prim "clone" (.listCons (.var "project") .listNil)),
     .expr (.callVal (.fnRef fn_Bwd_calc_prepare) (.listCons (.var "backward") .listNil)),
     .ledgerNew,
     .assign "backward_roots" (.prim "roots" (.listCons (.var "backward") .listNil)),
     .calcNew] := rfl

/-- the items of `range(n - 1, -1, -1)`: `n - 1, …, 0` -/
def downIdx (n i : Nat) : Atom := .num ((((n - 1 - i : Nat) : Int)) : Rat)

theorem natCast_sub_one (n : Nat) : ((n : Rat) - 1) = (((n : Int) - 1 : Int) : Rat) := by
  rw [Rat.intCast_sub, Rat.intCast_natCast]; rfl

theorem rangeList_down (n : Nat) :
    (rangeList ((n : Int) - 1) (-1) (-1)).map (fun (k : Int) => Atom.num (k : Rat)) = (List.range n).map (downIdx n) := by
  have hc : (((n : Int) - 1 - (-1) - (-1) - 1) / (-(-1))).toNat = n := by
    have : ((n : Int) - 1 - (-1) - (-1) - 1) / (-(-1)) = (n : Int) := by
      rw [show (-(-1) : Int) = 1 from rfl, Int.ediv_one]; omega
    rw [this]; exact Int.toNat_natCast n
  have h0 : ¬ ((0 : Int) < -1) := by decide
  unfold rangeList
  rw [if_neg h0, hc, List.map_map]
  apply List.map_congr_left
  intro i hi
  have hi' : i < n := List.mem_range.1 hi
  simp only [Function.comp, downIdx]
  congr 2
  omega

theorem evalP_range3 (H : PHandlers) (self ρ : PyLite.Env) (st : PState) (lo hi step : Expr) (i j k : Int)
    (hlo : lo.evalP H self ρ st = .ok (.atom (.num (i : Rat)), st))
    (hhi : hi.evalP H self ρ st = .ok (.atom (.num (j : Rat)), st))
    (hstep : step.evalP H self ρ st = .ok (.atom (.num (k : Rat)), st)) (hk : ¬ k = 0) :
    (Expr.range3 lo hi step).evalP H self ρ st =
      .ok (.list ((rangeList i j k).map (fun (n : Int) => Atom.num (n : Rat))), st) := by
  simp only [Expr.evalP, hlo, hhi, hstep, Atom.asInt?_int, hk, if_false, bind, Except.bind, pure, Except.pure]

theorem reverse_eq_map_range (l : List Uid) :
    (List.range l.length).map (fun i => l.getD (l.length - 1 - i) 0) = l.reverse := by
  apply List.ext_getElem?
  intro i
  by_cases hi : i < l.length
  · rw [List.getElem?_map, List.getElem?_range hi, List.getElem?_reverse hi]
    simp only [Option.map_some, List.getD_eq_getElem?_getD]
    have : l.length - 1 - i < l.length := by omega
    rw [List.getElem?_eq_getElem this]; rfl
  · have h1 : ((List.range l.length).map (fun i => l.getD (l.length - 1 - i) 0)).length ≤ i := by simp; omega
    have h2 : l.reverse.length ≤ i := by simp; omega
    rw [List.getElem?_eq_none h1, List.getElem?_eq_none h2]

section
variable (env : Pj.Env) (ms : Uid → Bool) (mem : List Uid) (w : Nat)

theorem calcSelfB_end : (calcSelfB env).get? "end" = some (.atom (.time env.bound)) := rfl

theorem src_Bwd_calc_parts :
    src_Bwd_calc = (bcPre ++ [.forIn "i" bcParts.it bcParts.body]) ++ [.ret (.var "backward")] := rfl

theorem interpBwdCalc_sim (hmem : members env = some mem) {V : Uid → Prop}
    (hV : Reach env ms (fun u => (env.info u).succs) V) (hrt : ∀ r ∈ env.roots, V r)
    (fuel wfuel pfuel : Nat) (hf : env.n + 2 ≤ fuel) (hw : Extracted.bwdShiftMaxSteps < wfuel) (hp : env.n + 1 ≤ pfuel)
    (f0 : Uid → Fields) (res0 : List (Option Nat × Cal)) (rows0 : List Row) (done0 : List Uid) (B0 : List (List Atom)) :
    SimR (backwardCalc env f0 res0)
      (interpBwdCalc env mem w fuel wfuel (calRef res0) pfuel
        (wb (encSB env ms { f := f0, rows := rows0, done := done0, res := res0, reads := 0 }) B0))
      (fun out v st => v = .atom (.ref w) ∧
        ∃ σ B, st = wb (encSB env ms σ) B ∧ out = { f := σ.f, rows := σ.rows, res := σ.res }) := by
  have hrun : bwdRun env f0 res0 = (do
      let σ ← passList (fun σ r => bwdPass env (env.n + 1) [] σ r env.bound)
        { f := prepare env f0 mem, rows := [], done := [], res := res0, reads := 0 } env.roots.reverse
      pure { f := σ.f, rows := σ.rows, res := σ.res }) := by
    unfold bwdRun; rw [hmem]; rfl
  unfold backwardCalc interpBwdCalc
  rw [bwdPrecheck_eq hmem, hrun, callP_bound (ρ := [("project", .atom (.ref w))]) rfl]
  generalize callP (calcHB env mem w fuel wfuel (calRef res0) pfuel) (calcSelfB env) src_Bwd_calc_params src_Bwd_calc 0 = rec
  rw [src_Bwd_calc_parts]
  generalize hst0 : wb (encSB env ms { f := f0, rows := rows0, done := done0, res := res0, reads := 0 }) B0 = st0
  have hh0 : st0.heap = heapOf encTaskB env ms f0 := by rw [← hst0]; rfl
  have hr0 : st0.reads = 0 := by rw [← hst0]; rfl
  have hres0 : st0.res = res0.map (fun p => (encKey p.1, resRef p.1)) := by rw [← hst0]; rfl
  let bs : PyLite.Env := [("backward", .atom (.ref w)), ("backward_roots", .list (env.roots.map Atom.ref))]
  refine Sim.ret (Q := fun out ρ st => Env.le bs ρ ∧
    ∃ σ B, st = wb (encSB env ms σ) B ∧ out = { f := σ.f, rows := σ.rows, res := σ.res }) ?_
    (fun out ρ1 st1 ⟨hρ1, h⟩ => ⟨_, by simp only [Expr.evalP, hρ1.get "backward"]; rfl, rfl, h⟩)
  refine Sim.append (Q := fun _ ρ st => Env.le bs ρ ∧ ∃ B, st = wb (encSB env ms
    { f := prepare env f0 mem, rows := [], done := [], res := res0, reads := 0 }) B) ?_ fun _ ρ1 _ ⟨hρ1, B, hst⟩ => ?_
  · -- _validate_graph_isolation(project); _check_loops(project)
    rw [bcPre_shape, ← bind_pure (graphChecks env f0 mem)]
    refine Sim.append (p := [_, _]) (q := [_, _, _, _, _])
      (calc_checks_sim env ms mem w (calcHB env mem w fuel wfuel (calRef res0) pfuel) (calcSelfB env) rec "project"
        [("project", .atom (.ref w))] rfl passEnc_bwd.calc fn_validate_isolation fn_check_loops fuel rfl rfl hf f0 st0 hh0) fun _ ρ' _ ⟨hρ', B2, hst⟩ => ?_
    subst hρ' hst
    -- backward = project.clone(); self.__prepare_tasks(backward); the new ledger; backward_roots; calculated = []
    rw [calc_clone_prepare env ms mem w _ _ rec "project" _ rfl passEnc_bwd.task _ rfl rfl "backward" _ f0
      { st0 with boxes := B2 } hh0]
    refine ⟨_, _, ?_, ((Env.le.nil [("project", .atom (.ref w))]).set "backward" _).set "backward_roots" _, B2, rfl⟩
    have hρ1 : (Env.set [("project", Val.atom (.ref w))] "backward" (.atom (.ref w))).get? "backward" =
        some (.atom (.ref w)) := rfl
    simp only [execBlockP_cons, Stmt.execP, Expr.evalP, hρ1, bind, Except.bind, pure, Except.pure, calcHB, baseH,
      calcPrim_roots, execBlockP_nil, wb, encSB, hres0, hr0, List.map_nil]
    rfl
  · -- the loop `for i in range(len(backward_roots) - 1, -1, -1)`
    subst hst
    have hfn : (calcHB env mem w fuel wfuel (calRef res0) pfuel).fn fn_Bwd_pass =
        callP (passHB env wfuel (calRef res0)) (passSelf env) src_Bwd_pass_params src_Bwd_pass pfuel := rfl
    generalize calcHB env mem w fuel wfuel (calRef res0) pfuel = H at hfn ⊢
    have hroots : ρ1.get? "backward_roots" = some (.list (env.roots.map Atom.ref)) := hρ1.get "backward_roots"
    have hit : ∀ st : PState, bcParts.it.evalP H (calcSelfB env) ρ1 st =
        .ok (.list ((List.range env.roots.length).map (downIdx env.roots.length)), st) := by
      intro st
      have hlo : (Expr.bin .sub (.len (.var "backward_roots")) (.num 1)).evalP H (calcSelfB env) ρ1 st =
          .ok (.atom (.num ((((env.roots.length : Int) - 1 : Int)) : Rat)), st) := by
        rw [← natCast_sub_one]
        simp [Expr.evalP, hroots, arithP, arith, arithTime, Atom.asNum?, bind, Except.bind, pure, Except.pure]
      have hm1 : (Expr.num (-1)).evalP H (calcSelfB env) ρ1 st = .ok (.atom (.num (((-1 : Int)) : Rat)), st) := by
        have : (((-1 : Int)) : Rat) = -1 := by decide
        rw [this]; rfl
      have := evalP_range3 H (calcSelfB env) ρ1 st _ _ _ _ _ _ hlo hm1 hm1 (by decide)
      rw [rangeList_down] at this
      exact this
    rw [passList_eq_foldlM, ← reverse_eq_map_range, List.foldlM_map]
    refine (Sim.one (Sim.forIn (g := downIdx env.roots.length)
      (Inv := fun σ ρ st => Env.le bs ρ ∧ st = wb (encSB env ms σ) B ∧ Tbl res0 σ)
      (hit _) (fun σ i ρ _ hi ⟨hρ, hst, hinv⟩ => ?_) ⟨hρ1, rfl, fun _ => rfl⟩)).bind_pure
      (fun σ _ _ ⟨h1, h2, _⟩ => ⟨h1, σ, B, h2, rfl⟩)
    subst hst
    have hi' : i < env.roots.length := List.mem_range.1 hi
    have hlt : env.roots.length - 1 - i < env.roots.length := by omega
    have hnn : ¬ (((env.roots.length - 1 - i : Nat) : Int) < 0) := by omega
    have hget : (env.roots.map Atom.ref)[env.roots.length - 1 - i]? =
        some (Atom.ref (env.roots.getD (env.roots.length - 1 - i) 0)) := by
      rw [List.getElem?_map, List.getD_eq_getElem?_getD, List.getElem?_eq_getElem hlt]; rfl
    have hρ' := hρ.set_ne "i" (.atom (downIdx env.roots.length i))
    refine (Sim.one (SimR.expr (Q := fun σ' _ st => st = wb (encSB env ms σ') B ∧ Tbl res0 σ') ?_)).mono
      (fun σ' _ _ ⟨h1, _, h2, h3⟩ => ⟨h1 ▸ hρ', h2, h3⟩)
    have hroots' : (Env.set ρ "i" (.atom (downIdx env.roots.length i))).get? "backward_roots" =
        some (.list (env.roots.map Atom.ref)) := hρ'.get "backward_roots"
    simp only [Expr.evalP, Env.get?_set, if_true, hroots']
    simp only [downIdx, Atom.asInt?_int, hnn, if_false, Int.toNat_natCast, hget, calcSelfB_end, bind, Except.bind, pure,
      Except.pure]
    rw [hfn]
    exact ((callP_bwdPass passEnc_bwd encTaskB_succs env ms wfuel hV hw res0 (env.n + 1) pfuel hp [] σ _ env.bound
      (hrt (env.roots.getD (env.roots.length - 1 - i) 0)
        (by rw [List.getD_eq_getElem?_getD, List.getElem?_eq_getElem hlt]; exact List.getElem_mem hlt)) hinv).wb
      (callP_wb _ _ _ _ _ src_Bwd_pass_noBox _ _ _)).mono fun _ _ _ ⟨_, h, _, hst, hi'⟩ => ⟨by rw [h, hst]; rfl, hi'⟩
end

/-- STAGE 4 (backward).  `BackwardScheduler.calc(project)` = the model's `backwardCalc`, PROVIDED that the model's run
    does not end in RecursionError; the store is the encoding `encSB` (task objects with `successors`). -/
theorem interpBwdCalc_eq (env : Pj.Env) (ms : Uid → Bool) (mem : List Uid) (w : Nat) (hmem : members env = some mem)
    {V : Uid → Prop} (hV : Reach env ms (fun u => (env.info u).succs) V) (hrt : ∀ r ∈ env.roots, V r)
    (fuel wfuel pfuel : Nat) (hf : env.n + 2 ≤ fuel) (hw : Extracted.bwdShiftMaxSteps < wfuel) (hp : env.n + 1 ≤ pfuel)
    (f0 : Uid → Fields) (res0 : List (Option Nat × Cal)) (rows0 : List Row) (done0 : List Uid) (B0 : List (List Atom))
    (hne : backwardCalc env f0 res0 ≠ .error (.crash .recursion)) :
    match backwardCalc env f0 res0 with
    | .ok out => ∃ σ B, interpBwdCalc env mem w fuel wfuel (calRef res0) pfuel
          (wb (encSB env ms { f := f0, rows := rows0, done := done0, res := res0, reads := 0 }) B0) =
          .ok (.atom (.ref w), wb (encSB env ms σ) B) ∧ out = { f := σ.f, rows := σ.rows, res := σ.res }
    | .error e => interpBwdCalc env mem w fuel wfuel (calRef res0) pfuel
          (wb (encSB env ms { f := f0, rows := rows0, done := done0, res := res0, reads := 0 }) B0) = .error e := by
  have h := interpBwdCalc_sim env ms mem w hmem hV hrt fuel wfuel pfuel hf hw hp f0 res0 rows0 done0 B0
  cases hc : backwardCalc env f0 res0 with
  | error e => rw [hc] at h hne; exact h (fun x => hne (by rw [x]))
  | ok out => rw [hc] at h; obtain ⟨v, st, h1, rfl, σ, B, rfl, h2⟩ := h; exact ⟨σ, B, h1, h2⟩


/-! ### stage 1: concrete runs - instances of the theorems above where their proviso holds, evaluated otherwise -/
namespace Check

def ti (parent : Option Uid) (children preds : List Uid) (member : Bool := true) : TaskInfo :=
  { tid := 0, parent := parent, children := children, preds := preds, succs := [], member := member,
    resource := none, milestone := false, minStart := none }
def nof : Fields := { start := none, end_ := none, est := none, spent := none }
def clk : Nat → Time := fun k => 19000 + (k : Rat) / 24
def mk (n : Nat) (info : Uid → TaskInfo) (roots : List Uid) : Pj.Env :=
  { n := n, info := info, roots := roots, balance := true, defaultEst := 0, clock := clk, bound := 19000 }
def st0 (env : Pj.Env) (f : Uid → Fields) : PState :=
  encS env (fun _ => false) { f := f, rows := [], done := [], res := [], reads := 0 }
def memOf (env : Pj.Env) : List Uid := (members env).getD []

def W : Nat := 1000

def listOf : Res (Val × PState) → Res (List Atom)
  | .ok (.list l, _) => .ok l
  | .ok _ => .error stuck
  | .error e => .error e

/-- all five translated functions agree with the model on `env`, `f` (fuel of the interpreter = that of the model) -/
def agree (env : Pj.Env) (f : Uid → Fields) : Prop :=
  let mem := memOf env
  let st := st0 env f
  unit (interpIsolation env mem W [.ref W] st) = okIf (isolationOk env f mem)
  ∧ (List.range env.n).all (fun t =>
      listOf (interpLeaves env mem W [.ref t] st) = .ok (((leavesOf env t).getD []).map Atom.ref)
      && listOf (interpWaitsFor env mem W [.ref t] st) = .ok ((waitsFor env t).map Atom.ref))
  ∧ unit (interpCheckLoops env mem W (env.n + 2) [.ref W] st) = checkLoops env mem
  ∧ (interpCheckFuture env mem W [.ref W] st).map (fun p => p.2.reads) = (okIf (futureOk (env.clock 0) f mem)).map (fun _ => 1)

instance (env f) : Decidable (agree env f) := by unfold agree; infer_instance

/-- `agree` is the stage-2 and stage-3 theorems on the store `st0 env f`; what is left to evaluate is their one
    proviso, on the model: `checkLoops` does not run out of fuel -/
theorem agree_of_model (env : Pj.Env) (f : Uid → Fields)
    (hne : checkLoops env (memOf env) ≠ .error (.crash .recursion)) : agree env f := by
  have hh : (st0 env f).heap = heapOf encTask env (fun _ => false) f := rfl
  refine ⟨?_, ?_, ?_, ?_⟩
  · rw [interpIsolation_eq env _ _ W passEnc_fwd.calc f _ hh]
    cases isolationOk env f (memOf env) <;> rfl
  · simp [interpLeaves_eq env _ _ W passEnc_fwd.calc f _ hh, interpWaitsFor_eq env _ _ W passEnc_fwd.calc f _ hh, listOf]
  · exact interpCheckLoops_eq env _ _ W passEnc_fwd.calc f _ hh _ (Nat.le_refl _) hne
  · rw [interpCheckFuture_eq env _ _ W passEnc_fwd.calc f _ hh]
    show (if futureOk (env.clock 0) f (memOf env) = true then _ else _ : Res (Val × PState)).map _ = _
    cases futureOk (env.clock 0) f (memOf env) <;> rfl

/-- an isolated WBS: summary 0 with leaves 1, 2 (2 after 1), root leaf 3 after the summary 0 -/
def e1 : Pj.Env := mk 4 (fun u => match u with
  | 0 => ti none [1, 2] []
  | 1 => ti (some 0) [] []
  | 2 => ti (some 0) [] [1]
  | _ => ti none [] [0]) [0, 3]
example : memOf e1 = [0, 1, 2, 3] := by decide +kernel
example : agree e1 (fun _ => nof) := agree_of_model _ _ (by decide +kernel)
example : checkLoops e1 (memOf e1) = .ok () := by decide +kernel

/-- an outside predecessor (4) of the leaf 1: without dates, with a start only, with both dates -/
def e2 : Pj.Env := mk 5 (fun u => match u with
  | 0 => ti none [1, 2] []
  | 1 => ti (some 0) [] [4]
  | 2 => ti (some 0) [] [1]
  | 3 => ti none [] [0]
  | _ => ti none [] [] (member := false)) [0, 3]
example : isolationOk e2 (fun _ => nof) (memOf e2) = false := by decide +kernel
example : agree e2 (fun _ => nof) := agree_of_model _ _ (by decide +kernel)
example : agree e2 (fun u => if u = 4 then { nof with start := some 18000 } else nof) :=
  agree_of_model _ _ (by decide +kernel)
example : agree e2 (fun u => if u = 4 then { nof with start := some 18000, end_ := some 18001 } else nof) :=
  agree_of_model _ _ (by decide +kernel)
example : isolationOk e2 (fun u => if u = 4 then { nof with start := some 18000, end_ := some 18001 } else nof)
    (memOf e2) = true := by decide +kernel

/-- a plain dependency cycle 0 -> 1 -> 2 -> 0 (it cannot be built through the API; the model check has to agree) -/
def e3 : Pj.Env := mk 3 (fun u => match u with
  | 0 => ti none [] [2]
  | 1 => ti none [] [0]
  | _ => ti none [] [1]) [0, 1, 2]
example : checkLoops e3 (memOf e3) = .error .runtime := by decide +kernel
example : agree e3 (fun _ => nof) := agree_of_model _ _ (by decide +kernel)

/-- a cycle that closes through the hierarchy: the leaf 1 of the summary 0 waits for the leaf 2, and 2 waits for
    the summary 0 (no cycle among the predecessor links themselves) -/
def e4 : Pj.Env := mk 3 (fun u => match u with
  | 0 => ti none [1] []
  | 1 => ti (some 0) [] [2]
  | _ => ti none [] [0]) [0, 2]
example : (memOf e4).foldlM (fun val t => loopsFrom (fun u => (e4.info u).preds) (e4.n + 2) [] val t) [] =
    .ok [0, 2, 1] := by decide +kernel
example : checkLoops e4 (memOf e4) = .error .runtime := by decide +kernel
example : agree e4 (fun _ => nof) := agree_of_model _ _ (by decide +kernel)

/-- a deeper hierarchy, a diamond of dependencies, a predecessor on a summary: no cycle -/
def e5 : Pj.Env := mk 7 (fun u => match u with
  | 0 => ti none [1, 4] []
  | 1 => ti (some 0) [2, 3] []
  | 2 => ti (some 1) [] []
  | 3 => ti (some 1) [] [2]
  | 4 => ti (some 0) [] [1]
  | 5 => ti none [] [3, 4]
  | _ => ti none [] [0, 5]) [0, 5, 6]
example : agree e5 (fun _ => nof) := agree_of_model _ _ (by decide +kernel)
example : checkLoops e5 (memOf e5) = .ok () := by decide +kernel
example : waitsFor e5 6 = [2, 3, 4, 5] := by decide +kernel

/-- a fixed end in the future (task 2) / exactly now / in the past -/
example : agree e1 (fun u => if u = 2 then { nof with end_ := some 19001 } else nof) :=
  agree_of_model _ _ (by decide +kernel)
example : futureOk (e1.clock 0) (fun u => if u = 2 then { nof with end_ := some 19001 } else nof) (memOf e1) = false := by
  decide +kernel
example : agree e1 (fun u => if u = 2 then { nof with end_ := some 19000 } else nof) :=
  agree_of_model _ _ (by decide +kernel)
example : agree e1 (fun u => if u = 2 then { nof with start := some 18000, end_ := some 18999 } else nof) :=
  agree_of_model _ _ (by decide +kernel)

/-- a chain 0 <- 1 <- 2 <- 3: `agree` with the fuel `env.n + 2`; with fuel 3 the recursion runs out, RecursionError on
    both sides -/
def e6 : Pj.Env := mk 4 (fun u => match u with
  | 0 => ti none [] []
  | 1 => ti none [] [0]
  | 2 => ti none [] [1]
  | _ => ti none [] [2]) [3, 2, 1, 0]
example : agree e6 (fun _ => nof) := agree_of_model _ _ (by decide +kernel)
example : unit (interpLoopsFrom e6 (memOf e6) W 3 [.ref 3, .box 0, .box 1, .fn fn_lambda_0]
    { st0 e6 (fun _ => nof) with boxes := [[], []] }) = .error (.crash .recursion) := by decide +kernel
example : loopsFrom (fun u => (e6.info u).preds) 3 [] [] 3 = .error (.crash .recursion) := by decide +kernel


/-- the hierarchy matters for `_waits_for`: the leaf 1 has its own predecessor 3 and inherits the predecessor 2 of
    its summary 0 (own ones first) -/
def e7 : Pj.Env := mk 4 (fun u => match u with
  | 0 => ti none [1] [2]
  | 1 => ti (some 0) [] [3]
  | _ => ti none [] []) [0, 2, 3]
example : waitsFor e7 1 = [3, 2] := by decide +kernel
example : agree e7 (fun _ => nof) := agree_of_model _ _ (by decide +kernel)

/-- a cycle that is only seen through `all_parents`: the leaf 1 inherits the predecessor 2 of its summary 0, and 2
    waits for 1 -/
def e8 : Pj.Env := mk 3 (fun u => match u with
  | 0 => ti none [1] [2]
  | 1 => ti (some 0) [] []
  | _ => ti none [] [1]) [0, 2]
example : checkLoops e8 (memOf e8) = .error .runtime := by decide +kernel
example : agree e8 (fun _ => nof) := agree_of_model _ _ (by decide +kernel)

/-! `calc` (stage 4): the interpreted method against `forwardCalc` / `backwardCalc`, observed on the fields of the
    tasks `0 … n-1`, the ledger and the resource table -/

def outView (n : Nat) (o : Output) : List Fields × List Row × List (Option Nat × Cal) :=
  ((List.range n).map o.f, o.rows, o.res)
def stView (n : Nat) (calR : Nat → Cal) (st : PState) : List Fields × List Row × List (Option Nat × Cal) :=
  let σ := decS calR st
  ((List.range n).map σ.f, σ.rows, σ.res)
def wfF : Nat := Extracted.fwdShiftMaxSteps + 1
def wfB : Nat := Extracted.bwdShiftMaxSteps + 1

def agreeF (env : Pj.Env) (ms : Uid → Bool) (f : Uid → Fields) (res0 : List (Option Nat × Cal)) : Prop :=
  (interpFwdCalc env (memOf env) W (env.n + 2) wfF (calRef res0) (env.n + 1)
      (encS env ms { f := f, rows := [], done := [], res := res0, reads := 0 })).map
    (fun p => stView env.n (calRef res0) p.2) = (forwardCalc env f res0).map (outView env.n)
def agreeB (env : Pj.Env) (ms : Uid → Bool) (f : Uid → Fields) (res0 : List (Option Nat × Cal)) : Prop :=
  (interpBwdCalc env (memOf env) W (env.n + 2) wfB (calRef res0) (env.n + 1)
      (encSB env ms { f := f, rows := [], done := [], res := res0, reads := 0 })).map
    (fun p => stView env.n (calRef res0) p.2) = (backwardCalc env f res0).map (outView env.n)
instance (env ms f res0) : Decidable (agreeF env ms f res0) := by unfold agreeF; infer_instance
instance (env ms f res0) : Decidable (agreeB env ms f res0) := by unfold agreeB; infer_instance

theorem members_eq_memOf {env : Pj.Env} (h : (members env).isSome = true) : members env = some (memOf env) := by
  unfold memOf; cases hm : members env <;> simp_all

/-- a run of `calc` that is the encoded run `r` of the model (the stage-4 theorems, encoding `E`), read back by
    `decS`, shows what `r` shows -/
theorem view_of_calc {res0 : List (Option Nat × Cal)} {E : SS → PState}
    (hdec : ∀ σ, (∀ p ∈ σ.res, calRef res0 (resRef p.1) = p.2) → decS (calRef res0) (E σ) = σ)
    {r : Res Output} {run : Res (Val × PState)} {w : Nat} (n : Nat)
    (h : r ≠ .error (.crash .recursion) →
      match r with
      | .ok out => ∃ σ B, run = .ok (.atom (.ref w), wb (E σ) B) ∧ out = { f := σ.f, rows := σ.rows, res := σ.res }
      | .error e => run = .error e)
    (hrun : RunOK res0 (r.map (·.res))) :
    run.map (fun p => stView n (calRef res0) p.2) = r.map (outView n) := by
  have h := h hrun.ne
  cases r with
  | error e => exact congrArg (Except.map _) h
  | ok out =>
    obtain ⟨σ, B, hr, hout⟩ := h
    refine (congrArg (Except.map _) hr).trans ?_
    have hd : decS (calRef res0) (wb (E σ) B) = σ :=
      hdec σ (fun p hp => by rw [calRef_resRef]; exact hrun p (by rw [hout]; exact hp))
    show Except.ok (stView n (calRef res0) (wb (E σ) B)) = _
    simp only [stView, hd, hout]
    rfl

/-- the tasks `< env.n` are a set that a run of `calc` along `links` does not leave, with the roots in it and the milestone
    flags `ms` the model's: what is evaluated of an environment before the `calc` theorems are applied to it -/
def ReachLt (env : Pj.Env) (ms : Uid → Bool) (links : Uid → List Uid) : Prop :=
  (∀ t, t < env.n → ∀ p ∈ links t, p < env.n) ∧ (∀ t, t < env.n → ∀ c ∈ (env.info t).children, c < env.n) ∧
  (∀ u, u < env.n → (env.info u).milestone = (ms u && (env.info u).children.isEmpty)) ∧ ∀ r ∈ env.roots, r < env.n

instance (env ms links) : Decidable (ReachLt env ms links) := by unfold ReachLt; infer_instance

/-- `agreeF` is `interpFwdCalc_eq` read back by `decS`, when `wbs.tasks` is defined -/
theorem agreeF_of_model {env : Pj.Env} {ms : Uid → Bool} {f : Uid → Fields} {res0 : List (Option Nat × Cal)}
    (hmem : (members env).isSome = true) (hV : ReachLt env ms (fun u => (env.info u).preds))
    (hrun : RunOK res0 ((forwardCalc env f res0).map (·.res))) : agreeF env ms f res0 :=
  view_of_calc (decS_encOf passEnc_fwd env ms _) env.n
    (interpFwdCalc_eq env ms _ W (members_eq_memOf hmem) ⟨hV.1, hV.2.1, hV.2.2.1⟩ hV.2.2.2 (env.n + 2) wfF (env.n + 1)
      (Nat.le_refl _) (Nat.lt_succ_self _) (Nat.le_refl _) f res0 [] [] []) hrun

/-- `agreeB` is `interpBwdCalc_eq` read back by `decS`, when `wbs.tasks` is defined -/
theorem agreeB_of_model {env : Pj.Env} {ms : Uid → Bool} {f : Uid → Fields} {res0 : List (Option Nat × Cal)}
    (hmem : (members env).isSome = true) (hV : ReachLt env ms (fun u => (env.info u).succs))
    (hrun : RunOK res0 ((backwardCalc env f res0).map (·.res))) : agreeB env ms f res0 :=
  view_of_calc (decS_encSB env ms _) env.n
    (interpBwdCalc_eq env ms _ W (members_eq_memOf hmem) ⟨hV.1, hV.2.1, hV.2.2.1⟩ hV.2.2.2 (env.n + 2) wfB (env.n + 1)
      (Nat.le_refl _) (Nat.lt_succ_self _) (Nat.le_refl _) f res0 [] [] []) hrun

def tj (parent : Option Uid) (children preds succs : List Uid) (member : Bool := true) (resource : Option Nat := some 0)
    (milestone : Bool := false) : TaskInfo :=
  { tid := 0, parent := parent, children := children, preds := preds, succs := succs, member := member,
    resource := resource, milestone := milestone, minStart := none }

/-- summary 0 with leaves 1, 2 (2 after 1), root leaf 3 after the summary, a milestone 4 after 3 -/
def c1 : Pj.Env := mk 5 (fun u => match u with
  | 0 => tj none [1, 2] [] [3] (resource := none)
  | 1 => tj (some 0) [] [] [2]
  | 2 => tj (some 0) [] [1] []
  | 3 => tj none [] [0] [4] (resource := some 1)
  | _ => tj none [] [3] [] (milestone := true)) [0, 3, 4]
def fc1 : Uid → Fields := fun u =>
  if u = 1 then { nof with est := some 12 } else if u = 2 then { nof with est := some 20, spent := some 4 }
  else if u = 3 then { nof with est := some 8 } else nof
def ms1 : Uid → Bool := fun u => u = 4
example : agreeF c1 ms1 fc1 [] := agreeF_of_model (by decide) (by decide) (by decide +kernel)
example : agreeB c1 ms1 fc1 [] := agreeB_of_model (by decide) (by decide) (by decide +kernel)
example : agreeF c1 ms1 fc1 [(some 0, .weekly none none [6, 6, 6, 6, 6, 0, 0])] :=
  agreeF_of_model (by decide) (by decide) (by decide +kernel)
example : (forwardCalc c1 fc1 []).map (fun o => (o.rows.length, o.res.length)) = .ok (6, 3) := by decide +kernel
/-- a fixed end in the future: RuntimeError from `calc` (forward only) -/
example : agreeF c1 ms1 (fun u => if u = 1 then { nof with end_ := some 19001 } else fc1 u) [] :=
  agreeF_of_model (by decide) (by decide) (by decide +kernel)
example : (forwardCalc c1 (fun u => if u = 1 then { nof with end_ := some 19001 } else fc1 u) []).map (outView 5) =
    .error .runtime := by decide +kernel
example : agreeB c1 ms1 (fun u => if u = 1 then { nof with end_ := some 19001 } else fc1 u) [] :=
  agreeB_of_model (by decide) (by decide) (by decide +kernel)
/-- the cycle through the hierarchy (e4), an outside predecessor without dates (e2): RuntimeError -/
example : agreeF e4 (fun _ => false) (fun _ => nof) [] :=
  agreeF_of_model (by decide +kernel) (by decide) (by decide +kernel)
example : agreeB e4 (fun _ => false) (fun _ => nof) [] :=
  agreeB_of_model (by decide +kernel) (by decide) (by decide +kernel)
example : agreeF e2 (fun _ => false) (fun _ => nof) [] :=
  agreeF_of_model (by decide +kernel) (by decide) (by decide +kernel)
example : agreeB e2 (fun _ => false) (fun _ => nof) [] :=
  agreeB_of_model (by decide +kernel) (by decide) (by decide +kernel)
/-- an outside predecessor WITH dates: it keeps them and delays its successor -/
example : agreeF e2 (fun _ => false)
    (fun u => if u = 4 then { nof with start := some 19003, end_ := some 19004 } else { nof with est := some 8 }) [] :=
  agreeF_of_model (by decide +kernel) (by decide) (by decide +kernel)

end Check


/-
  LIMITATIONS.
  * Library objects are abstracted: `task.children`, `task.predecessors`, `task.all_children`, `task.all_parents`,
    `wbs.tasks`, `wbs.roots` are PyLite list values (in Python: `_ChildrenList`, `_PredecessorsList`,
    `_ImmutableTaskList` - list-like views).  E.g. `[leaf] + leaf.all_parents` (without `list(...)`) is accepted and
    proved, although Python's `list + _ImmutableTaskList` depends on task.py.  The meaning of the primitives is the
    model's, by definition of `calcPrim` (`all_children` = `descF … (env.n + 1)` with the empty list on exhaustion,
    `clone()` = the same store): what task.py / wbs.py do is tied elsewhere.
  * A set is the list of the items added (with repetitions); only `in` / `not in` / `add` are accepted on it.  Boxes
    are never freed (the store only grows); `callP_wb` shows that this cannot be observed by the passes.
  * `raise RuntimeError(...)`: the arguments are not evaluated (the translator only accepts arguments whose evaluation
    cannot raise for task objects: constants, `str(...)`, `+`, f-strings, lists / comprehensions of `.id` / `.name`).
  * `ledgerNew` / `calcNew`: the ledger and `calculated` are interpreter state, as in Lemmas/PassSrc.lean; the
    translator checks that the objects `calc` creates are the ones passed to the pass, and that the result is exactly
    `Schedule(<the clone>, list(self.__resources.values()), ResourceUsageReport(<ledger>.rows))` - the theorems
    then describe the returned `Schedule` by the final store (`σ.f`, `σ.rows`, `σ.res`).
  * `BackwardScheduler.calc` runs with `self` = `calcSelfB env` (`__end`), the backward pass with `passSelf env` as
    in Lemmas/PassSrcBwd.lean; `__backward_pass` cannot read `__end` / `__start` (tools/extract_pass.py).
  * The proviso of stages 3 / 4 (`≠ .error (.crash .recursion)`) covers: `members env = none` is excluded by
    `hmem`; a `loopsFrom` that runs out of its fuel `env.n + 2`; a pass that runs out of fuel or meets a task in
    progress (Lemmas/PassSrc.lean).  Slot semantics of `estimate` / `spent` as in Lemmas/PassSrc.lean.

  NEGATIVE SANITY CHECK (not compiled: the text of a scratch
  copy of the snapshot schedule.py is edited, tools/extract_calc.py is run on the mutated text, its output written to
  Extracted/CalcSrc.lean, then `lake build PjVerif.Lemmas.CalcSrc`; afterwards the file was regenerated from the real
  source and the build succeeded again).  `Check …` = the runs of `Check` on which the mutated function and the model
  differ (found by evaluating both sides with `decide +kernel`).  Every semantic mutation is a Miss of the translator
  or breaks a lemma:

  A `_validate_graph_isolation`
    `id(pr) not in members` -> `pr.id not in members`                   MISS (attribute `id`)
    `not pr.start or not pr.end` -> `… and …`                           interpIsolation_eq FAILS; Check agree e2
    `not pr.end` dropped                                                interpIsolation_eq FAILS; Check agree e2
    `id(pr) not in members` -> `id(pr) in members`                      interpIsolation_eq FAILS; Check agree e1 … e6, agreeF/B
    `members` built from `project.roots`                                interpIsolation_eq FAILS; Check agree e1 e2 e5, agreeF/B c1
    `for pr in t.predecessors` -> `t.successors`                        interpIsolation_eq FAILS; Check agree e1 … e6, agreeF e2
  B `_leaves`, `_waits_for`
    `_leaves` over `task.children` instead of `task.all_children`       interpLeaves_eq FAILS; Check agree e5
    `_leaves` of a leaf returns `[]`                                    interpLeaves_eq FAILS; Check agree e1 … e6, agreeF/B e4
    `if len(t.children) == 0` filter dropped                            interpLeaves_eq FAILS; Check agree e5
    `all_parents` dropped from `_waits_for`                             interpWaitsFor_eq FAILS; Check agree e7 e8
    `list(leaf.all_parents) + [leaf]` (parents first)                   interpWaitsFor_eq FAILS; Check agree e7
    `for p in x.successors`                                             interpWaitsFor_eq FAILS; Check agree e1 … e6, agreeF/B
    `for w in [p]` (no `_leaves`)                                       interpWaitsFor_eq FAILS; Check agree e1 e2 e4 e5, agreeF/B e4
  C `_check_loops_from_task`, `_check_loops`
    `any(t is task …)` -> `task.id in [t.id for t in visited_tasks]`    MISS (`in` on a value list of `.id`)
    `any(t is task …)` -> `any(t is not task …)`                        c2_ok FAILS; Check agree e2 e6 e7, agreeF e2
    `visited_tasks.pop()` dropped                                       src_check_loops_from_task_shape, …, callP_loopsFrom FAIL
                                                                          (no example fails: the tasks left on the list are
                                                                           validated, so the result is the same - the proof is
                                                                           about the text)
    `validated.add(id(task))` dropped                                   add_ok FAILS (the result is the same, the search exponential)
    `if id(task) in validated: return` dropped                          src_check_loops_from_task_shape, … FAIL
    `if id(task) not in validated: return`                              c1_ok FAILS; Check agree e3 e4 e8, agreeF/B e4
    `visited_tasks.append(task)` dropped / moved after the loop         …_shape, …, callP_loopsFrom FAIL; Check agree e3 e4 e8 (all)
    `validated.add(id(task))` also before the loop                      …_shape, … FAIL; Check agree e3 e4 e8, agreeF/B e4
    the recursion passes `[]` instead of `visited_tasks`                body_ok FAILS; Check agree e3 e4 e8, agreeF/B e4
    the recursion passes `task` instead of `s`                          body_ok FAILS; Check agree e1 e2 e5 e6 e7, agreeF/B c1
    `for s in task.predecessors` instead of `waits_for(task)`           callP_loopsFrom FAILS; Check agree e4 e8, agreeF/B e4
    second `validated = set()` of `_check_loops` dropped                src_check_loops_shape, interpCheckLoops_sim FAIL; Check agree e4 e8
    `if len(t.children) == 0` of the second pass dropped                src_check_loops_shape, interpCheckLoops_sim FAIL (same result: a
                                                                          summary is never waited for)
    `lambda x: x.predecessors` -> `lambda x: x.successors`              clftH_fn_lambda FAILS; Check agree e1 … e8, agreeF
    second pass with `_leaves` instead of `_waits_for`                  src_check_loops_shape, interpCheckLoops_sim FAIL; Check agree e1 e2 e4 … e8, agreeF/B
    first pass dropped                                                  interpLambda0, clftH…, src_check_loops_shape, … FAIL; Check (all)
    one shared `visited = []` for all calls                             MISS (argument for the list parameter)
    `validated = []` (a list) in `_check_loops`                         MISS (argument for the set parameter)
    `len(validated)` used                                               MISS (only `in` / `add` on a set)
  D `__check_no_end_dates_in_future`
    `t.end > now` -> `t.end >= now`                                     interpCheckFuture_eq FAILS; Check agree e1
    `t.end is not None and` dropped                                     interpCheckFuture_eq FAILS; Check agree e1 … e8, agreeF
    `t.end` -> `t.start`                                                interpCheckFuture_eq FAILS; Check agree e1, agreeF c1
    `datetime.now()` read for every task                                interpCheckFuture_eq FAILS; Check agree e1
  E `calc`, `__prepare_tasks`
    fwd: `_check_loops(wbs)` dropped                                    src_Fwd_calc_shape, fcPre_shape, … FAIL; Check agreeF e4
    fwd: `_check_loops` before `_validate_graph_isolation`              src_Fwd_calc_shape, fcPre_shape FAIL
    fwd: `__check_no_end_dates_in_future` dropped                       src_Fwd_calc_shape, fcPre_shape, … FAIL; Check agreeF c1
    fwd: the future check after `__prepare_tasks`                       src_Fwd_calc_shape, fcPre_shape FAIL
    fwd: `__prepare_tasks` dropped                                      src_Fwd_calc_shape, fcPre_shape, … FAIL; Check agreeF e2
    fwd: `__prepare_tasks(wbs)` (the original, not the clone)           src_Fwd_calc_shape, fcPre_shape FAIL
    fwd: the pass gets `datetime.now()` instead of `self.__start`       interpFwdCalc_sim FAILS
    fwd: `calculated = []` inside the loop / missing                    MISS
    fwd: `for t in reversed(forward.roots)`                             MISS
    fwd: `for t in forward.tasks`                                       interpFwdCalc_sim FAILS
    fwd: `ResourceUsageReport([])` in the result                        MISS (return of calc)
    bwd: `_validate_graph_isolation` dropped                            bcPre_shape, interpBwdCalc_sim FAIL; Check agreeB e2
    bwd: `range(len(backward_roots))`                                   MISS (range with one argument)
    bwd: `range(len(backward_roots) - 1, 0, -1)` (root 0 skipped)       interpBwdCalc_sim FAILS; Check agreeB c1
    bwd: `range(len(backward_roots), -1, -1)` (IndexError)              interpBwdCalc_sim FAILS; Check agreeB c1
    bwd: `backward_roots[0]` in the loop                                interpBwdCalc_sim FAILS
    bwd: `self.__check_no_end_dates_in_future(project)` added           MISS (no such method in BackwardScheduler)
    bwd: a new `_ResourceUsage()` for every root                        MISS
    `__prepare_tasks`: `t.spent` not reset / leaves instead of summaries   src_calc_prepare_shape FAILS; Check agreeB c1

  Harmless rewrites that still build: comments, a docstring, blank lines; `0 == len(task.children)`; another message in
  `raise RuntimeError(...)`; `return None`; the ledger variable of `calc` renamed (all the same term);
  `not (pr.start and pr.end)`; `[leaf] + leaf.all_parents` without `list(...)`; the comprehension variable `w` of
  `_waits_for` renamed.  Harmless rewrites that break a proof or are a Miss (the proofs fix the names of the locals
  and the order of the statements): the loop variable `pr` renamed (interpIsolation_eq), the local `forward` / `validated`
  renamed (…_shape), `calculated = []` before the ledger (fcPre_shape), `len(task.children) < 1` (interpLeaves_eq),
  `set(id(task) for task in …)` with a generator instead of a list (Miss).
-/

end Pj.CalcSrc

/-
  Lemmas/DhtmlxSrc.lean — THE DHTMLX RENDERER'S DATA (viz/dhtmlx/gantt.py, `DhtmlxGantt.__data`): the hand-written model
  (Model/Render.lean: `progressOf`, `postList`, `dhtmlxOrder`, `dhtmlxData`, `dhtmlxLinks`) against the interpretation of
  the CURRENT SOURCE of `__data` (Extracted/DhtmlxSrc.lean, regenerated from src/pjplan/viz/dhtmlx/gantt.py by
  tools/extract_dhtmlx.py on every check), up to but excluding `json.dumps`.  `__columns`, `__task_classes`, `to_html`, the
  templates and the scales are out of scope.

  Files.  This file: the encoding, the primitives, the entry point, the reading of the result, the expected dicts.
  DhtmlxSrcA.lean: the general theorem `interpOut_eq` (every string library that is OK, every view, every task table whose
  `__dict__`s have distinct names, fuel ≥ 2).  DhtmlxSrcCheck.lean, DhtmlxSrcCheckB.lean: concrete runs and families of runs, instances of the
  theorem (DhtmlxSrcRuns.lean: the theorem in the form they apply, no run); the summary and the NEGATIVE CHECK are the comment block at the end of
  DhtmlxSrcCheckB.lean.

  Setting (as Lemmas/RenderSrc.lean).
  * STRINGS are atoms `.str k`, `S : Lib` (Lemmas/StrLib.lean) relates keys and texts; `S.text a` is Python's `str(a)`;
    `V.fmt t` is `t.strftime('%d-%m-%Y %H:%M')`; `s.startswith('_Task')` is `isPrefixOf` on the text.
  * A TASK object is `ref t`, described by `pts : Nat → RTask`: `id` an int, `estimate` a number (not None), `spent` a number
    or None, `start` / `end_` datetimes (the task is scheduled), `resource` None or a str, `parent` = `t.parent` (None for a
    child of the hidden root), `children` (the raw list), `preds`, `dict` = the entries of `__dict__` (name ↦ value; it
    may contain the private `_Task__…` entries).  `t.all_children` is the primitive `postList` over `children` (task.py:
    every child followed by its descendants), with the fuel `V.n + 1`.
  * The RENDERER (`self`) is `ref 0`; `V : View`: `self.wbs.roots`, `self.wbs.tasks`, the clock `V.now` (`datetime.now()`; the
    clock is a parameter and reads the same on every call), `V.alloc` the number of the first new object.
  * Lists hold atoms only: a dict that becomes an item of a list (and a list that becomes a value of the final dict) is held
    by a new OBJECT (`construct fn_cell_init`, attribute `v`).  `readOut` reads the two lists of dicts back from the
    result (the argument of `json.dumps`) and the final store.
-/
import PjVerif.Extracted.DhtmlxSrc
import PjVerif.Model.Render
import PjVerif.Lemmas.StrLib
namespace Pj.DhtmlxSrc
open Pj.PyLite Pj.Render Pj.Extracted.Dhtmlx
open Pj.PrintSrc (Lib lookupA refsA optRefA one oneTask)

structure RTask where
  id : Int
  name : Str
  milestone : Bool
  start : Time
  end_ : Time
  resource : Option Str
  estimate : Rat
  spent : Option Rat
  parent : Option Nat
  children : List Nat
  preds : List Nat
  dict : List (Str × Atom)
  deriving Inhabited

structure View where
  roots : List Nat
  tasks : List Nat
  n : Nat
  now : Time
  fmt : Time → Str
  alloc : Nat

def toDTask (V : View) (p : RTask) : DTask :=
  { id := p.id, name := p.name, milestone := p.milestone, start := V.fmt p.start, end_ := V.fmt p.end_,
    endPast := decide (p.end_ < V.now), estimate := p.estimate, spent := p.spent,
    parent := (match p.parent with | some q => if V.tasks.contains q then some q else none | none => none),
    children := p.children, preds := p.preds }

/-- the model's input -/
def dAll (V : View) (pts : Nat → RTask) : Nat → DTask := fun i => toDTask V (pts i)

def numA (q : Rat) : Atom := .num q
def optNumA : Option Rat → Atom
  | none => .none
  | some q => .num q

def kTask : Str := "_Task".toList
def kOpen : Str := "gantt_open".toList

/-! ### the primitives -/

def dhtmlxPrim (S : Lib) (V : View) (pts : Nat → RTask) : String → List Atom → PState → Res Val := fun name args _ =>
  if name.startsWith "lit:" then
    (match args with
     | [] => pure (S.s (name.drop 4).toString.toList)
     | _ => throw stuck)
  else if name = "self.wbs" then one args (fun _ => pure (Atom.ref 0))
  else if name = "roots" then one args (fun _ => pure (refsA V.roots))
  else if name = "tasks" then one args (fun _ => pure (refsA V.tasks))
  else if name = "datetime.now" then (match args with | [] => pure (Atom.time V.now) | _ => throw stuck)
  else if name = "name" then oneTask args (fun t => S.s (pts t).name)
  else if name = "id" then oneTask args (fun t => Atom.num ((pts t).id : Rat))
  else if name = "milestone" then oneTask args (fun t => Atom.bool (pts t).milestone)
  else if name = "start" then oneTask args (fun t => Atom.time (pts t).start)
  else if name = "end" then oneTask args (fun t => Atom.time (pts t).end_)
  else if name = "resource" then oneTask args (fun t => S.os (pts t).resource)
  else if name = "estimate" then oneTask args (fun t => Atom.num (pts t).estimate)
  else if name = "spent" then oneTask args (fun t => optNumA (pts t).spent)
  else if name = "parent" then oneTask args (fun t => optRefA (pts t).parent)
  else if name = "predecessors" then oneTask args (fun t => refsA (pts t).preds)
  else if name = "all_children" then oneTask args (fun t => refsA (postList (dAll V pts) (V.n + 1) t))
  else if name = "__dict__" then oneTask args (fun t => .list ((pts t).dict.map (fun p => S.s p.1)))
  else if name = "__getattribute__" then
    (match args with
     | [.ref t, .str k] =>
       match lookupA (pts t).dict (S.D k) with
       | some v => pure v
       | none => throw (.crash .attribute)
     | _ => throw stuck)
  else if name = "str" then one args (fun a => pure (S.s (S.text a)))
  else if name = "startswith:_Task" then
    (match args with
     | [.str k] => pure (Atom.bool (kTask.isPrefixOf (S.D k)))
     | _ => throw stuck)
  else if name = "strftime:%d-%m-%Y %H:%M" then
    (match args with
     | [.time t] => pure (S.s (V.fmt t))
     | _ => throw stuck)
  else throw stuck

/-! ### the entry point and the reading of the result -/

def st0 (V : View) : PState := { Pj.PrintSrc.st0 with reads := V.alloc }

abbrev Hd (S : Lib) (V : View) (pts : Nat → RTask) (F : Nat) : PHandlers := progH (dhtmlxPrim S V pts) dhtmlxFuns F

abbrev PDict := List (Atom × Atom)

/-- `DhtmlxGantt(wbs, …).__data(task_classes)` up to `json.dumps`: the argument of `json.dumps` and the final state -/
def interpData (S : Lib) (V : View) (pts : Nat → RTask) (F : Nat) (tc : PDict) : Res (Val × PState) :=
  runProg (dhtmlxPrim S V pts) dhtmlxFuns F fn_data [.atom (.ref 0), .dict tc] (st0 V)

def cellOf (st : PState) : Atom → Option Val
  | .ref i => (st.heap i).get? "v"
  | _ => none

def dictsOf (st : PState) (a : Atom) : Option (List PDict) :=
  match cellOf st a with
  | some (.list cs) => cs.mapM (fun c => match cellOf st c with | some (.dict d) => some d | _ => none)
  | _ => none

/-- the lists `data` and `links` (each a list of dicts) of the result `{"data": data, "links": links}` -/
def readOut (S : Lib) (r : Val × PState) : Option (List PDict × List PDict) :=
  match r.1 with
  | .dict [(k1, a), (k2, b)] =>
    if k1 = S.s "data".toList ∧ k2 = S.s "links".toList then
      match dictsOf r.2 a, dictsOf r.2 b with
      | some x, some y => some (x, y)
      | _, _ => none
    else none
  | _ => none

def interpOut (S : Lib) (V : View) (pts : Nat → RTask) (F : Nat) (tc : PDict) : Res (Option (List PDict × List PDict)) :=
  (interpData S V pts F tc).map (readOut S)

/-! ### the expected dicts: the model's entry / link with the fields the model does not speak about -/

def k (S : Lib) (x : String) : Atom := S.s x.toList

def computedKeys : List Str :=
  ["id", "text", "type", "start_date", "end_date", "resource", "estimate", "spent", "open", "parent", "progress",
   "css_class"].map String.toList

/-- the user attributes carried as text: the entries of `__dict__` whose name is not a computed key and does not start
    with `_Task` (the names of `__dict__` are distinct) -/
def userAttrs (S : Lib) (p : RTask) : PDict :=
  (p.dict.filter (fun kv => !computedKeys.contains kv.1 && !kTask.isPrefixOf kv.1)).map
    (fun kv => (S.s kv.1, S.s (S.text kv.2)))

/-- the dict of one entry: `id, text, type, start_date, end_date, parent, progress` from the MODEL's entry `e`;
    `resource, estimate, spent, open, css_class` and the user attributes from the task -/
def entryDict (S : Lib) (tc : PDict) (p : RTask) (e : DEntry) : PDict :=
  [(k S "id", .num (e.id : Rat)), (k S "text", S.s e.text),
   (k S "type", if e.milestone then k S "milestone" else k S "task"),
   (k S "start_date", S.s e.start), (k S "end_date", S.s e.end_),
   (k S "resource", S.os p.resource), (k S "estimate", .num p.estimate), (k S "spent", optNumA p.spent),
   (k S "open", (lookupA p.dict kOpen).getD (k S "true")),
   (k S "parent", .num (e.parent : Rat)), (k S "progress", .num e.progress),
   (k S "css_class", (Dict.get? tc (.num (p.id : Rat))).getD .none)] ++ userAttrs S p

def linkDict (S : Lib) (l : DLink) : PDict :=
  [(k S "id", .num ((l.id : Nat) : Rat)), (k S "source", .num (l.source : Rat)), (k S "target", .num (l.target : Rat)),
   (k S "type", k S "0")]

/-- the expected `data`: the model's entries, in the model's order -/
def expData (S : Lib) (V : View) (pts : Nat → RTask) (tc : PDict) : List PDict :=
  ((dhtmlxOrder (dAll V pts) V.n V.roots).zip (dhtmlxData (dAll V pts) V.n V.roots)).map
    (fun te => entryDict S tc (pts te.1) te.2)

def expLinks (S : Lib) (V : View) (pts : Nat → RTask) : List PDict :=
  (dhtmlxLinks (dAll V pts) V.n V.roots).map (linkDict S)

end Pj.DhtmlxSrc

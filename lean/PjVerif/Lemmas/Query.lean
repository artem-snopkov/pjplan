/-
  Lemmas/Query.lean — for Props/C18.lean.  The documentation reads a keyword by its LONGEST documented suffix, the code by
  the FIRST branch of its chain that matches: on `allKinds` the two agree (`allKinds_order`, `specParse_eq_find`).
-/
import PjVerif.Spec.Query
namespace Pj

theorem find?_zip_agree {α β : Type} (p : α → Bool) (q : β → Bool) :
    ∀ (l1 : List α) (l2 : List β), l1.length = l2.length → (∀ x ∈ l1.zip l2, p x.1 = q x.2) →
      (l1.find? p = none ∧ l2.find? q = none) ∨
      ∃ a b, (a, b) ∈ l1.zip l2 ∧ l1.find? p = some a ∧ l2.find? q = some b
  | [], [], _, _ => Or.inl ⟨rfl, rfl⟩
  | [], _ :: _, h, _ => by simp at h
  | _ :: _, [], h, _ => by simp at h
  | a :: l1, b :: l2, hlen, h => by
    have hab : p a = q b := h (a, b) (by simp)
    cases hq : q b with
    | true =>
      refine Or.inr ⟨a, b, by simp, ?_, ?_⟩
      · simp [hab, hq]
      · simp [hq]
    | false =>
      have hp : p a = false := by rw [hab, hq]
      have ih := find?_zip_agree p q l1 l2 (by simpa using hlen)
        (fun x hx => h x (by simp only [List.zip_cons_cons]; exact List.mem_cons_of_mem _ hx))
      rcases ih with ⟨h1, h2⟩ | ⟨a', b', hm, h1, h2⟩
      · exact Or.inl ⟨by simp [hp, h1], by simp [hq, h2]⟩
      · refine Or.inr ⟨a', b', ?_, ?_, ?_⟩
        · simp only [List.zip_cons_cons]; exact List.mem_cons_of_mem _ hm
        · simp [hp, h1]
        · simp [hq, h2]

theorem find?_of_filter_eq_cons {α : Type} (p : α → Bool) :
    ∀ (l : List α) (m : α) (rest : List α), l.filter p = m :: rest → l.find? p = some m
  | [], _, _, h => by simp at h
  | a :: l, m, rest, h => by
    cases hp : p a with
    | true =>
      rw [List.filter_cons_of_pos hp] at h
      obtain ⟨rfl, -⟩ := List.cons.inj h
      simp [hp]
    | false =>
      rw [List.filter_cons_of_neg (by simp [hp])] at h
      simp [hp, find?_of_filter_eq_cons p l m rest h]

theorem foldl_best_eq (len : Kind → Nat) (m : Kind) :
    ∀ rest : List Kind, (∀ kd ∈ rest, len kd ≤ len m) →
      rest.foldl (fun b kd => if len b < len kd then kd else b) m = m
  | [], _ => rfl
  | kd :: rest, h => by
    have h1 : ¬ len m < len kd := Nat.not_lt.mpr (h kd (by simp))
    simp only [List.foldl_cons, h1, if_false]
    exact foldl_best_eq len m rest (fun x hx => h x (List.mem_cons_of_mem _ hx))

/-- of two suffixes of one keyword the shorter is a suffix of the longer; so an earlier kind and a later, longer one never
    end the same keyword, and the first kind a keyword ends with is the longest -/
theorem allKinds_order :
    allKinds.Pairwise (fun a b => (kindSuffix a).length < (kindSuffix b).length →
      ¬ ((kindSuffix a).toList.isSuffixOf (kindSuffix b).toList = true)) := by
  decide

/-- the longest documented suffix a keyword ends with is the first one in `allKinds` it ends with -/
theorem specParse_eq_find (k : List Char) :
    specParse k =
      match allKinds.find? (fun kd => endsWith k (kindSuffix kd).toList) with
      | some kd => (cutLast k (kindSuffix kd).length, kd)
      | none => (k, .eq) := by
  unfold specParse
  cases hms : allKinds.filter (fun kd => endsWith k (kindSuffix kd).toList) with
  | nil =>
    have : allKinds.find? (fun kd => endsWith k (kindSuffix kd).toList) = none := by
      rw [List.find?_eq_none]; exact List.filter_eq_nil_iff.mp hms
    simp only [this]
  | cons m rest =>
    have hfind := find?_of_filter_eq_cons _ _ _ _ hms
    have hpw := List.Pairwise.filter (fun kd => endsWith k (kindSuffix kd).toList) allKinds_order
    rw [hms, List.pairwise_cons] at hpw
    have hmem : ∀ kd ∈ m :: rest, (kindSuffix kd).toList <:+ k := by
      intro kd hkd
      rw [← hms, List.mem_filter] at hkd
      exact List.isSuffixOf_iff_suffix.mp hkd.2
    have hle : ∀ kd ∈ rest, (kindSuffix kd).length ≤ (kindSuffix m).length := by
      intro kd hkd
      apply Nat.le_of_not_lt
      intro hlt
      apply hpw.1 kd hkd hlt
      apply List.isSuffixOf_iff_suffix.mpr
      apply List.suffix_of_suffix_length_le (hmem m (by simp)) (hmem kd (List.mem_cons_of_mem _ hkd))
      rw [String.length_toList, String.length_toList]
      exact Nat.le_of_lt hlt
    simp only [hfind, foldl_best_eq (fun kd => (kindSuffix kd).length) m rest hle]

/-- `val is None or not e`, the guard of the pattern and comparison branches of `search` (task.py): a missing attribute
    never matches -/
theorem eval_guard_not (re : String → String → Bool) (val : Val) (v : FVal) (e : RExpr) :
    (RExpr.or .valNone (.not e)).eval re val v =
      (if val = .none then pure false else e.eval re val v : Res Bool).map (fun b => !b) := by
  by_cases h : val = .none
  · simp [RExpr.eval, h, Except.map, bind, Except.bind, pure, Except.pure]
  · cases he : e.eval re val v <;> simp [RExpr.eval, h, he, Except.map, bind, Except.bind, pure, Except.pure]

theorem eval_guard (re : String → String → Bool) (val : Val) (v : FVal) (e : RExpr) :
    (RExpr.or .valNone e).eval re val v =
      (if val = .none then pure false else do let b ← e.eval re val v; pure (!b) : Res Bool).map (fun b => !b) := by
  by_cases h : val = .none
  · simp [RExpr.eval, h, Except.map, bind, Except.bind, pure, Except.pure]
  · cases he : e.eval re val v <;> simp [RExpr.eval, h, he, Except.map, bind, Except.bind, pure, Except.pure]

theorem bind_not_map_not (x : Res Bool) : (do let b ← x; pure (!b) : Res Bool).map (fun b => !b) = x := by
  cases x with
  | error e => rfl
  | ok b => cases b <;> rfl

theorem map_not_bind_not (x : Res Bool) :
    (do let r ← x.map (fun b => !b); pure (!r) : Res Bool) = x := by
  cases x with
  | error e => rfl
  | ok b => cases b <;> rfl

/-- `holds`, with the pair pattern replaced by projections -/
theorem holds_eq (re : String → String → Bool) (attr : List Char → Val) (k : List Char) (v : FVal) :
    holds re attr k v =
      (do let r ← (parseKey Extracted.queryChain Extracted.queryDefault k).2.eval re
                    (attr (parseKey Extracted.queryChain Extracted.queryDefault k).1) v
          pure (!r)) := rfl

theorem specHolds_eq (re : String → String → Bool) (attr : List Char → Val) (k : List Char) (v : FVal) :
    specHolds re attr k v = meaning re (specParse k).2 (attr (specParse k).1) v := rfl

theorem foldlM_select (h : Nat → Res Bool) :
    ∀ (l : List Nat) (acc idx : List Nat),
      l.foldlM (fun acc i => do
        let b ← h i
        pure (if b then acc ++ [i] else acc)) acc = (.ok idx : Res (List Nat)) →
      idx = acc ++ l.filter (fun i => isOkTrue (h i))
  | [], acc, idx, hf => by
    simp only [List.foldlM_nil] at hf
    cases hf; simp
  | i :: l, acc, idx, hf => by
    rw [List.foldlM_cons] at hf
    cases hi : h i with
    | error e => rw [hi] at hf; cases hf
    | ok b =>
      rw [hi] at hf
      cases b with
      | true =>
        have := foldlM_select h l (acc ++ [i]) idx hf
        simp [this, hi, isOkTrue]
      | false =>
        have := foldlM_select h l acc idx hf
        simp [this, hi, isOkTrue]

end Pj

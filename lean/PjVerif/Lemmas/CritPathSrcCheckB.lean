/-
  Lemmas/CritPathSrcCheckB.lean — stage 1 of the translated tie for alg/critical_path.py: concrete runs of
  `wbs.critical_path()` (Extracted/CritPathSrc.lean) against Model/CritPath.lean.  See Lemmas/CritPathSrc.lean.
  Every example states (a) the exact list the translated program returns - it is the list the real Python returns on
  the same WBS (scratch run of src/pjplan, insertion order of `__links`) - and (b) `agree`: that list and the model's
  `criticalPath` are the same SET of tasks, each once.  (a) is `cp_sim` applied to the program over the typed store,
  which is evaluated (`interpCriticalPath_of_cpA`) - also for `offgrid` and `sharedmembers`, which lie outside the
  hypotheses of the general theorems; (b) is `interpCriticalPath_grid`, its hypotheses evaluated on the model
  (`agree_of_grid`).  Only the runs that raise (`cycle`, `hcycle`, `hcycle2`) are evaluated on the interpreter itself
  (`hcycle` here; `cycle`, `hcycle2`: Lemmas/CritPathSrcCheckC.lean).
-/
import PjVerif.Lemmas.CritPathSrcRuns
namespace Pj.CritPathSrc
open Pj.PyLite Pj.Extracted.CritPath

namespace Check

/-! #### the WBSs of Lemmas/CritPathSrcCheck.lean -/

example : interpCriticalPath FC chain tidOf = .ok (refs [0, 1, 2]) := interpCriticalPath_of_cpA (by decide +kernel) (by decide)
example : agree chain tidOf = true := agree_of_grid (by decide +kernel) (by decide)
example : interpCriticalPath FC diamond tidOf = .ok (refs [0, 2, 3]) := interpCriticalPath_of_cpA (by decide +kernel) (by decide)
example : agree diamond tidOf = true := agree_of_grid (by decide +kernel) (by decide)
example : interpCriticalPath FC ties tidOf = .ok (refs [0, 1, 2, 3, 5]) := interpCriticalPath_of_cpA (by decide +kernel) (by decide)
example : agree ties tidOf = true := agree_of_grid (by decide +kernel) (by decide)
example : interpCriticalPath FC zeros tidOf = .ok (refs [0, 1, 2, 6]) := interpCriticalPath_of_cpA (by decide +kernel) (by decide)
example : agree zeros tidOf = true := agree_of_grid (by decide +kernel) (by decide)
example : interpCriticalPath FC single tidOf = .ok (refs [0]) := interpCriticalPath_of_cpA (by decide +kernel) (by decide)
example : agree single tidOf = true := agree_of_grid (by decide +kernel) (by decide)
example : interpCriticalPath FC nolinks tidOf = .ok (refs [1, 3]) := interpCriticalPath_of_cpA (by decide +kernel) (by decide)
example : agree nolinks tidOf = true := agree_of_grid (by decide +kernel) (by decide)
example : interpCriticalPath FC empty tidOf = .ok (refs []) := interpCriticalPath_of_cpA (by decide +kernel) (by decide)
example : agree empty tidOf = true := agree_of_grid (by decide +kernel) (by decide)
example : interpCriticalPath FC onlysummary tidOf = .ok (refs [2]) := interpCriticalPath_of_cpA (by decide +kernel) (by decide)
example : agree onlysummary tidOf = true := agree_of_grid (by decide +kernel) (by decide)

/-! #### further WBSs -/

/-- links on summaries: 3 (leaves 4, 6, 7) waits for 0 (leaves 1, 2); 8 waits for the summary 3; 7 waits for 4; the estimate of a summary is ignored -/
def summaries : CPEnv := mkEnv
  [(none, [1, 2], [], some 50, none),
   (some 0, [], [], some 2, none),
   (some 0, [], [], some 4, none),
   (none, [4, 5], [0], none, none),
   (some 3, [], [], some 1, none),
   (some 3, [6, 7], [], none, none),
   (some 5, [], [], some 3, none),
   (some 5, [], [4], some 1, none),
   (none, [], [3], some 2, none)]
  [0, 1, 2, 3, 4, 5, 6, 7, 8]
example : interpCriticalPath FC summaries tidOf = .ok (refs [2, 6, 8]) := interpCriticalPath_of_cpA (by decide +kernel) (by decide)
example : agree summaries tidOf = true := agree_of_grid (by decide +kernel) (by decide)

/-- predecessors outside the calculated set (0, and the summary 4 with its leaf 5) are ignored -/
def outside : CPEnv := mkEnv
  [(none, [], [], some 9, none),
   (none, [], [0], some 1, none),
   (none, [], [1], some 2, none),
   (none, [], [], some 1, none),
   (none, [5], [], none, none),
   (some 4, [], [], some 8, none),
   (none, [], [4, 3], some 1, none)]
  [1, 2, 3, 6]
example : interpCriticalPath FC outside tidOf = .ok (refs [1, 2]) := interpCriticalPath_of_cpA (by decide +kernel) (by decide)
example : agree outside tidOf = true := agree_of_grid (by decide +kernel) (by decide)

/-- tasks 0 and 1 share the id 7, only 0 is a member; 2 waits for the non-member 1, 3 for the member 0 -/
def sharedid : CPEnv := mkEnv
  [(none, [], [], some 5, none),
   (none, [], [], some 1, none),
   (none, [], [1], some 2, none),
   (none, [], [0], some 1, none)]
  [0, 2, 3]
def sharedidTid (u : Uid) : Int := if u = 0 then 7 else if u = 1 then 7 else if u = 2 then 8 else if u = 3 then 9 else 0
example : interpCriticalPath FC sharedid sharedidTid = .ok (refs [0, 3]) := interpCriticalPath_of_cpA (by decide +kernel) (by decide)
example : agree sharedid sharedidTid = true := agree_of_grid (by decide +kernel) (by decide)

/-- spent above the estimate (0, 3): length 0 -/
def overspent : CPEnv := mkEnv
  [(none, [], [], some 2, some 5),
   (none, [], [0], some 3, none),
   (none, [], [], some 2, none),
   (none, [], [2], none, some 4),
   (none, [], [3], some 1, none)]
  [0, 1, 2, 3, 4]
example : interpCriticalPath FC overspent tidOf = .ok (refs [0, 1, 2, 3, 4]) := interpCriticalPath_of_cpA (by decide +kernel) (by decide)
example : agree overspent tidOf = true := agree_of_grid (by decide +kernel) (by decide)

/-- durations on the grid of eighths, a tie -/
def eighths : CPEnv := mkEnv
  [(none, [], [], some (3/8), none),
   (none, [], [0], some (5/8), some (1/8)),
   (none, [], [0], some (1/2), none),
   (none, [], [1, 2], some (1/4), none),
   (none, [], [2], some (1/8), none)]
  [0, 1, 2, 3, 4]
example : interpCriticalPath FC eighths tidOf = .ok (refs [0, 1, 2, 3]) := interpCriticalPath_of_cpA (by decide +kernel) (by decide)
example : agree eighths tidOf = true := agree_of_grid (by decide +kernel) (by decide)

/-- nested summaries: 4 waits for the summary 1; the summary 5 waits for the summary 0; 9 waits for 4 -/
def deep : CPEnv := mkEnv
  [(none, [1, 4], [], none, none),
   (some 0, [2, 3], [], none, none),
   (some 1, [], [], some 1, none),
   (some 1, [], [2], some 2, none),
   (some 0, [], [1], some 1, none),
   (none, [6], [0], none, none),
   (some 5, [7, 8], [], none, none),
   (some 6, [], [], some 2, none),
   (some 6, [], [7], some 2, none),
   (none, [], [4], some 5, none)]
  [0, 1, 2, 3, 4, 5, 6, 7, 8, 9]
example : interpCriticalPath FC deep tidOf = .ok (refs [2, 3, 4, 9]) := interpCriticalPath_of_cpA (by decide +kernel) (by decide)
example : agree deep tidOf = true := agree_of_grid (by decide +kernel) (by decide)

/-- a predecessor named twice and both as a leaf and through its summary: de-duplicated -/
def dupes : CPEnv := mkEnv
  [(none, [1, 2], [], none, none),
   (some 0, [], [], some 2, none),
   (some 0, [], [], some 3, none),
   (none, [], [0, 1, 0, 2], some 1, none),
   (none, [], [3, 3], some 1, none)]
  [0, 1, 2, 3, 4]
example : interpCriticalPath FC dupes tidOf = .ok (refs [2, 3, 4]) := interpCriticalPath_of_cpA (by decide +kernel) (by decide)
example : agree dupes tidOf = true := agree_of_grid (by decide +kernel) (by decide)

/-- members listed in an order that is not topological -/
def order : CPEnv := mkEnv
  [(none, [], [2], some 1, none),
   (none, [], [], some 4, none),
   (none, [], [1], some 1, none),
   (none, [], [0], some 1, none)]
  [3, 0, 1, 2]
example : interpCriticalPath FC order tidOf = .ok (refs [1, 2, 0, 3]) := interpCriticalPath_of_cpA (by decide +kernel) (by decide)
example : agree order tidOf = true := agree_of_grid (by decide +kernel) (by decide)

/-! #### outside the hypotheses of the general theorem -/

-- Python: ['rejected by the library', '101 exists in 100 predecessors. Cyclic dependency']
/-- a dependency cycle: KeyError -/
def cycle : CPEnv := mkEnv
  [(none, [], [1], some 1, none),
   (none, [], [0], some 1, none)]
  [0, 1]
-- (the run: Lemmas/CritPathSrcCheckC.lean)

-- Python: ['rejected by the library', "Can't set parent as predecessor"]
/-- a cycle through the hierarchy: the leaf 2 waits for its own summary, i.e. for 1 and for itself -/
def hcycle : CPEnv := mkEnv
  [(none, [1, 2], [], none, none),
   (some 0, [], [], some 1, none),
   (some 0, [], [0], some 1, none)]
  [0, 1, 2]
-- DISAGREEMENT (not reachable: the library rejects the link): the leaf is its own prerequisite; the source connects the
-- end of its arc to its start (`__links[id]` is set before the loop of `__add_work`) and `__forward` never ends;
-- the model reports KeyError
example : interpCriticalPath FC hcycle tidOf = .error (.crash .recursion) := by decide +kernel
example : interpCriticalPath 200 hcycle tidOf = .error (.crash .recursion) := by decide +kernel
example : hcycle.criticalPath = .error (.crash .key) := by decide +kernel

-- Python: ['err', 'KeyError']
/-- a cycle that closes through the hierarchy (the library accepts it): 1 waits for 3, 3 for the summary 0 of 1: KeyError -/
def hcycle2 : CPEnv := mkEnv
  [(none, [1, 2], [], none, none),
   (some 0, [], [3], some 1, none),
   (some 0, [], [], some 1, none),
   (none, [], [0], some 2, none)]
  [0, 1, 2, 3]
-- (the run: Lemmas/CritPathSrcCheckC.lean)

-- Python: ['ok', [0, 1]]
/-- a float of 1e-10: within the tolerance of the source, not zero for the model -/
def offgrid : CPEnv := mkEnv
  [(none, [], [], some 1, none),
   (none, [], [], some (9999999999/10000000000), none)]
  [0, 1]
example : interpCriticalPath FC offgrid tidOf = .ok (refs [0, 1]) := interpCriticalPath_of_cpA (by decide +kernel) (by decide)
-- DISAGREEMENT off the grid: the tolerance of the source accepts the float 1e-10
example : offgrid.criticalPath = .ok [0] := by decide +kernel

-- Python: ['ok', [0, 2]]
/-- two MEMBERS share an id (impossible inside one WBS): the source keeps only the first -/
def sharedmembers : CPEnv := mkEnv
  [(none, [], [], some 1, none),
   (none, [], [], some 5, none),
   (none, [], [0], some 1, none)]
  [0, 1, 2]
def sharedmembersTid (u : Uid) : Int := if u = 0 then 7 else if u = 1 then 7 else if u = 2 then 8 else 0
example : interpCriticalPath FC sharedmembers sharedmembersTid = .ok (refs [0, 2]) := interpCriticalPath_of_cpA (by decide +kernel) (by decide)
-- DISAGREEMENT when two members share an id (not reachable inside one WBS: C05)
example : sharedmembers.criticalPath = .ok [1] := by decide +kernel

end Check
end Pj.CritPathSrc

/-
  Lemmas/TaskSrcCheckA.lean — the translated tie for task.py on concrete graphs: the sweeps of Lemmas/TaskSrcCheck.lean,
  TaskSrcCheckB / C / D.lean over the well-formed graphs `g1`, `g2`.  On any graph a sweep of runs follows from the
  general theorems once no call of it ends in RecursionError in the MODEL (`parentAgree_of`, `linksAgree_of`,
  `childrenAgree_of`; `helpersAgree_of`, `idsAgree_of` in Lemmas/TaskSrcRuns.lean); on `g1`, `g2` that is evaluated.
-/
import PjVerif.Lemmas.TaskSrcCheckB
import PjVerif.Lemmas.TaskSrcCheckC
import PjVerif.Lemmas.TaskSrcCheckD
namespace Pj.TaskSrc
open Pj.PyLite Pj.Extracted
namespace Check

/-! #### stage A: the helpers -/

-- the model's recursions end within its fuel
example : helpersAgree g1 = true := helpersAgree_of g1 (by decide) (by decide +kernel)
example : helpersAgree g2 = true := helpersAgree_of g2 (by decide) (by decide +kernel)

-- the model finds every root and subtree within its fuel
example : idsAgree g1 = true := idsAgree_of g1 (by decide) (by decide +kernel)

example : linkedAgree g1 = true := linkedAgree_all g1
example : linkedAgree g2 = true := linkedAgree_all g2

/-! #### stage B: the `parent` setter -/

/-- every run is `interpSetParent_eq`, when no call ends in RecursionError and no children list names a member of a WBS
    twice (`honce`) -/
theorem parentAgree_of (s : G) (hF : s.n + 6 ≤ F)
    (hrec : allU s (fun t => (onceAt s t && noRec (setParent s t none)) &&
      allU s (fun p => noRec (setParent s t (some p)))) = true) : parentAgree s = true :=
  allU_imp (fun t => and_imp (dec_imp (parent_none_run s hF t)) (allU_imp fun p => dec_imp (parent_run s hF t p))) hrec

example : parentAgree g1 = true := parentAgree_of g1 (by decide) (by decide +kernel)
example : parentAgree g2 = true := parentAgree_of g2 (by decide) (by decide +kernel)

/-! #### stage C: the `predecessors` / `successors` setters -/

/-- every run is `interpSetPreds_eq` / `interpSetSuccs_eq`, when no call ends in RecursionError -/
theorem linksAgree_of (s : G) (hF : s.n + 4 ≤ F)
    (hrec : allU s (fun t => noRec (setPreds s t []) && noRec (setSuccs s t []) &&
      allU s (fun a => noRec (setPreds s t [a]) && noRec (setSuccs s t [a]) &&
        noRec (setPreds s t [a, 3, a]) && noRec (setSuccs s t [a, 3, a]))) = true) : linksAgree s = true :=
  -- `dec_imp` is applied in place: its `Decidable` instance then comes from the goal; stated beforehand it is
  -- synthesized on its own and unified with the goal's by unfolding the interpreter
  allU_imp (fun t => and_imp
    (and_imp (dec_imp (preds_run s hF t (valueOf_refs _))) (dec_imp (succs_run s hF t (valueOf_refs _))))
    (allU_imp fun _ => and_imp (and_imp (and_imp
      (dec_imp (preds_run s hF t (valueOf_refs _))) (dec_imp (succs_run s hF t (valueOf_refs _))))
      (dec_imp (preds_run s hF t (valueOf_refs _)))) (dec_imp (succs_run s hF t (valueOf_refs _))))) hrec

example : linksAgree g1 = true := linksAgree_of g1 (by decide) (by decide +kernel)
example : linksAgree g2 = true := linksAgree_of g2 (by decide) (by decide +kernel)

/-! #### stage D: the `children` setter (`g1`: Lemmas/TaskSrcCheckD1.lean) -/

/-- every run is `interpSetChildren_eq`, when no call ends in RecursionError -/
theorem childrenAgree_of (s : G) (hF : s.n + 6 ≤ F)
    (hrec : allU s (fun t => noRec (setChildren s t []) &&
      allU s (fun a => noRec (setChildren s t [a]) && noRec (setChildren s t [a, 10]) &&
        noRec (setChildren s t [11, a, 11]))) = true) : childrenAgree s = true :=
  allU_imp (fun t => and_imp (dec_imp (children_run s hF t (valueOf_refs _)))
    (allU_imp fun _ => and_imp (and_imp (dec_imp (children_run s hF t (valueOf_refs _)))
      (dec_imp (children_run s hF t (valueOf_refs _)))) (dec_imp (children_run s hF t (valueOf_refs _))))) hrec

example : childrenAgree g2 = true := childrenAgree_of g2 (by decide) (by decide +kernel)

end Check
end Pj.TaskSrc

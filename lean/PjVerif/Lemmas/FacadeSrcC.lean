/-
  Lemmas/FacadeSrcC.lean — stage 3 of the translated tie for the list facades of task.py (general theorems):
  `_ChildrenList.sort` = `chSort` / `sortBy`.  Python's `sorted` is a primitive of PyLite (`sortedBy` / `pySorted`: a
  stable insertion sort by `keyLe`); this file shows that its meaning is the model's `sortBy` (`List.mergeSort`) whenever
  the model's integer keys order the tasks as the Python keys do, and ties what is around it: the test of the type of
  `key`, the attribute access, the multi-key string, the write-back.
  See Lemmas/FacadeSrc.lean for the setting and Lemmas/FacadeSrcD.lean for the list of results.
-/
import PjVerif.Lemmas.FacadeSrcB
import PjVerif.Lemmas.FacadeSrcSort
namespace Pj.FacadeSrc
open Pj.PyLite Pj.Extracted Pj.Extracted.Facade Pj.TaskSrc
set_option linter.unusedSimpArgs false
set_option linter.unusedVariables false

/-! ### `sorted(…)` on a list of tasks = `sortBy` -/

theorem some_beq_true (b : Bool) : (some b == some true) = b := by cases b <;> rfl

/-- the sort key of an item of a list of tasks -/
def keyOfA (val : Uid → Atom) : Atom → Atom
  | .ref u => val u
  | _ => .none

theorem zip_keys (l : List Uid) (val : Uid → Atom) :
    (l.map Atom.ref).zip ((l.map Atom.ref).map (keyOfA val)) = l.map (fun u => (Atom.ref u, val u)) := by
  induction l with
  | nil => rfl
  | cons a l ih => simp only [List.map_cons, List.zip_cons_cons, keyOfA, ih]

/-- PYTHON'S `sorted` IS THE MODEL'S `sortBy`: on a list of tasks whose Python keys `val u` are ordered (`keyLe`) as
    the model's integer keys `key u` -/
theorem pySorted_refs (l : List Uid) (val : Uid → Atom) (key : Uid → Int) (r : Bool)
    (hord : ∀ u ∈ l, ∀ v ∈ l, keyLe (val u) (val v) = some (decide (key u ≤ key v))) :
    pySorted r ((l.map Atom.ref).zip ((l.map Atom.ref).map (keyOfA val))) = .ok ((sortBy key r l).map Atom.ref) := by
  rw [zip_keys]
  unfold pySorted
  have hall : (l.map (fun u => (Atom.ref u, val u))).all (fun p =>
      (l.map (fun u => (Atom.ref u, val u))).all (fun q => (keyLe p.2 q.2).isSome)) = true := by
    simp only [List.all_eq_true, List.mem_map]
    rintro p ⟨u, hu, rfl⟩ q ⟨v, hv, rfl⟩
    simp [hord u hu v hv]
  rw [if_pos hall]
  have hins := insSort_map (fun u => (Atom.ref u, val u))
    (fun p q => if r then keyLe q.2 p.2 == some true else keyLe p.2 q.2 == some true)
    (fun a b => if r then decide (key b ≤ key a) else decide (key a ≤ key b)) l
    (by
      intro a ha b hb
      cases r
      · simp only [Bool.false_eq_true, if_false, hord a ha b hb, some_beq_true]
      · simp only [if_true, hord b hb a ha, some_beq_true])
  rw [hins]
  rw [← sortBy_eq_insSort]
  simp [pure, Except.pure, List.map_map]

/-- `sorted(l, key=lambda x: key, reverse=rev)` whose key function only reads -/
theorem evalP_sortedBy_pure (H : PHandlers) (self ρ : PyLite.Env) (st0 st1 st : PState) (key l rev : Expr) (x : String)
    (vs : List Atom) (r : Bool) (kf : Atom → Atom)
    (hl : l.evalP H self ρ st0 = .ok (.list vs, st1)) (hr : rev.evalP H self ρ st1 = .ok (.atom (.bool r), st))
    (hk : ∀ v ∈ vs, key.evalP H self (ρ.set x v) st = .ok (.atom (kf v), st)) :
    (Expr.sortedBy key x l rev).evalP H self ρ st0 =
      (pySorted r (vs.zip (vs.map kf))).map (fun out => (Val.list out, st)) := by
  simp only [Expr.evalP, hl, hr, bind, Except.bind, pure, Except.pure, iterOf, truthP]
  rw [compLoopP_pure (g := fun v => some (kf v))]
  · have : vs.filterMap (fun v => some (kf v)) = vs.map kf := by
      induction vs with
      | nil => rfl
      | cons v vs ih => simp
    simp only [this]
    cases pySorted r (vs.zip (vs.map kf)) <;> rfl
  · intro v hv
    simp only [hk v hv]

theorem Hf_prim (L : Lib) (F : Nat) : (Hf L F).prim = facPrim L := progH_prim (facPrim L) facadeFuns F

/-! ### `_ChildrenList.sort` -/

theorem tf_ch_sort : facadeFuns fn_ChildrenList_sort = some (src_ChildrenList_sort_params, src_ChildrenList_sort) := rfl

/-- `self._list[:] = sorted(self._list, key=lambda x: keyE, reverse=reverse)` for a key `keyE` that only reads and gives
    the child `u` the Python key `val u`, ordered as the model's integer keys -/
theorem execP_sorted (L : Lib) (s : G) (st : PState) (hh : st.heap = encHeap s) (h : Uid) (rev : Bool) (key : Uid → Int)
    (val : Uid → Atom) (F : Nat) (ρ : PyLite.Env) (ho : ρ.get? "_facade_parent" = some (.atom (.ref h)))
    (hrev : ρ.get? "reverse" = some (.atom (.bool rev))) (keyE : Expr)
    (hk : ∀ u ∈ s.children h, keyE.evalP (Hf L F) [] (ρ.set "x" (.atom (.ref u))) st = .ok (.atom (val u), st))
    (hord : ∀ u ∈ s.children h, ∀ v ∈ s.children h, keyLe (val u) (val v) = some (decide (key u ≤ key v))) :
    (Stmt.setAttr (.var "_facade_parent") "children"
      (.sortedBy keyE "x" (.attr (.var "_facade_parent") "children") (.var "reverse"))).execP (Hf L F) [] noRec ρ st =
      .normal ρ (withG st (sw s h (sortBy key rev (s.children h)))) := by
  have hsorted := evalP_sortedBy_pure (Hf L F) [] ρ st st st keyE (.attr (.var "_facade_parent") "children")
    (.var "reverse") "x" ((s.children h).map Atom.ref) rev (keyOfA val)
    (evalP_attr_children _ _ _ s st hh _ h ho) (evalP_var _ _ _ _ _ _ hrev)
    (by
      intro v hv
      obtain ⟨u, hu, rfl⟩ := List.mem_map.1 hv
      exact hk u hu)
  rw [pySorted_refs _ val key rev hord] at hsorted
  exact execP_list_set _ _ _ s hh h ho hsorted

/-- STAGE 3, one attribute.  `h.children.sort(key, reverse)` for a `str` key `.str k` = `chSort` with the integer keys
    `key`, for EVERY state `s` and EVERY meaning `L` of `__getattribute__` such that the attribute values `val u` of the
    children are ordered as the model's keys -/
theorem ch_sort_str_spec (L : Lib) (s : G) (st : PState) (hh : st.heap = encHeap s) (h : Uid) (k : Nat) (rev : Bool)
    (key : Uid → Int) (val : Uid → Atom) (F : Nat) (hF : 2 ≤ F)
    (hval : ∀ u ∈ s.children h, L "__getattribute__" [.ref u, .str k] = .ok (val u))
    (hord : ∀ u ∈ s.children h, ∀ v ∈ s.children h, keyLe (val u) (val v) = some (decide (key u ≤ key v))) :
    (Hf L F).fnV fn_ChildrenList_sort [.atom (.ref h), .atom (.str k), .atom (.bool rev)] st =
      opResult st (.atom .none) (chSort s h key rev) := by
  obtain ⟨F, rfl, hF⟩ := fuel_split 2 hF
  have hset := fun ρ ho hrev (hkey : ρ.get? "key" = some (.atom (.str k))) =>
    execP_sorted L s st hh h rev key val (F + 1) ρ ho hrev
      (.prim "__getattribute__" (.listCons (.var "x") (.listCons (.var "key") .listNil)))
      (fun u hu => by
        simp [Expr.evalP, Env.get?_set, hkey, Hf_prim, facPrim, hval u hu, bind, Except.bind, pure, Except.pure, Except.map])
      hord
  have hlast := fun ρ ho => so_last L s st h F ρ ho (sortBy key rev (s.children h))
  rw [fnVf_succ _ _ _ _ _ tf_ch_sort]
  simp [pylite_step, src_ChildrenList_sort_params, src_ChildrenList_sort, pyTypeIsS, ↓hset, ↓hlast, opResult, chSort]
  rfl

theorem evalP_prim (H : PHandlers) (self ρ : PyLite.Env) (st st' : PState) (name : String) (args : Expr) (as : List Atom)
    (v : Val) (hargs : args.evalP H self ρ st = .ok (.list as, st')) (hp : H.prim name as st' = .ok v) :
    (Expr.prim name args).evalP H self ρ st = .ok (v, st') := by
  simp only [Expr.evalP, hargs, hp, bind, Except.bind, pure, Except.pure]

/-- the string of an item of the list `key` -/
def strOfA (strv : Nat → Atom) : Atom → Atom
  | .str k => strv k
  | _ => .none

/-- STAGE 3, several attributes.  `h.children.sort(key, reverse)` for a list `key` of `str`s = `chSort`: the sort key
    of the child `u` is `'-'.join([str(u.__getattribute__(k)) for k in key])`, whatever `__getattribute__`, `str` and
    `join` mean (`attr`, `strv`, `val`), provided these strings are ordered as the model's keys -/
theorem ch_sort_list_spec (L : Lib) (s : G) (st : PState) (hh : st.heap = encHeap s) (h : Uid) (ks : List Nat) (rev : Bool)
    (key : Uid → Int) (attr strv : Uid → Nat → Atom) (val : Uid → Atom) (F : Nat) (hF : 2 ≤ F)
    (hattr : ∀ u ∈ s.children h, ∀ k ∈ ks, L "__getattribute__" [.ref u, .str k] = .ok (attr u k))
    (hstr : ∀ u ∈ s.children h, ∀ k ∈ ks, L "str" [attr u k] = .ok (strv u k))
    (hjoin : ∀ u ∈ s.children h, L "join:-" (ks.map (strv u)) = .ok (val u))
    (hord : ∀ u ∈ s.children h, ∀ v ∈ s.children h, keyLe (val u) (val v) = some (decide (key u ≤ key v))) :
    (Hf L F).fnV fn_ChildrenList_sort [.atom (.ref h), .list (ks.map Atom.str), .atom (.bool rev)] st =
      opResult st (.atom .none) (chSort s h key rev) := by
  obtain ⟨F, rfl, hF⟩ := fuel_split 2 hF
  have hp := Hf_prim L (F + 1)
  have hset := fun ρ ho hrev (hkey : ρ.get? "key" = some (.list (ks.map Atom.str))) =>
    execP_sorted L s st hh h rev key val (F + 1) ρ ho hrev
      (.prim "join:-" (.listComp (.prim "str" (.listCons (.prim "__getattribute__" (.listCons (.var "x")
        (.listCons (.var "k") .listNil))) .listNil)) "k" (.var "key") (.bool true)))
      (fun u hu => by
        have hcomp := evalP_listComp_pure (Hf L (F + 1)) [] (Env.set ρ "x" (.atom (.ref u))) st st
          (.prim "str" (.listCons (.prim "__getattribute__" (.listCons (.var "x") (.listCons (.var "k") .listNil))) .listNil))
          (.bool true) (.var "key") "k" (ks.map Atom.str) (fun _ => true) (strOfA (strv u))
          (evalP_var _ _ _ _ _ _ (by rw [Env.get?_set, if_neg (by decide)]; exact hkey))
          (by intro v _; simp [Expr.evalP, pure, Except.pure])
          (by
            intro v hv _
            obtain ⟨k, hk, rfl⟩ := List.mem_map.1 hv
            simp [Expr.evalP, Env.get?_set, hp, facPrim, hattr u hu k hk, hstr u hu k hk, strOfA, bind, Except.bind, pure,
              Except.pure, Except.map])
        have hfl : ∀ ks : List Nat, ((ks.map Atom.str).filter (fun _ => true)).map (strOfA (strv u)) = ks.map (strv u) := by
          intro ks
          induction ks with
          | nil => rfl
          | cons k ks ih => simp only [List.map_cons, List.filter_cons, if_true, strOfA, ih]
        rw [hfl] at hcomp
        rw [evalP_prim (hargs := hcomp) (hp := by
          rw [hp]; simp only [facPrim, hjoin u hu, Except.map]; rfl)])
      hord
  have hlast := fun ρ ho => so_last L s st h F ρ ho (sortBy key rev (s.children h))
  rw [fnVf_succ _ _ _ _ _ tf_ch_sort]
  simp [pylite_step, src_ChildrenList_sort_params, src_ChildrenList_sort, pyTypeIsS, pyTypeIs, ↓hset, ↓hlast, opResult,
    chSort]
  rfl

end Pj.FacadeSrc

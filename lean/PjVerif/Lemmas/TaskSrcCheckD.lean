/-
  Lemmas/TaskSrcCheckD.lean — the translated tie for task.py on concrete graphs, stage D: runs of the `children` setter
  (Extracted/TaskSrc.lean) against the graph model.  The graphs and the comparison are defined in
  Lemmas/TaskSrcCheck.lean; see Lemmas/TaskSrc.lean for the setting.  A run on a well-formed graph is an instance of the
  general theorem (Lemmas/TaskSrcRuns.lean; the sweeps over `g1`, `g2`: Lemmas/TaskSrcCheckA.lean); on the cyclic `g3`
  both sides end in RecursionError, which is evaluated.
-/
import PjVerif.Lemmas.TaskSrcCheck
import PjVerif.Lemmas.TaskSrcRuns
namespace Pj.TaskSrc
open Pj.PyLite Pj.Extracted
namespace Check

/-! #### stage D: the `children` setter -/

def agreeChildren (s : G) (t : Uid) (l : List Uid) : Prop :=
  observe s.n (interpSetChildren F t (refs l) (encSt s)) = expect s.n (setChildren s t l)
instance (s t l) : Decidable (agreeChildren s t l) := by unfold agreeChildren; infer_instance

/-- every call with the empty list, every one-element list, every list `[a, 10]` and `[11, a, 11]` -/
def childrenAgree (s : G) : Bool :=
  allU s (fun t => decide (agreeChildren s t []) &&
    allU s (fun a => decide (agreeChildren s t [a]) && decide (agreeChildren s t [a, 10]) &&
      decide (agreeChildren s t [11, a, 11])))

-- (`g2`: Lemmas/TaskSrcCheckA.lean, `g1`: Lemmas/TaskSrcCheckD1.lean)
example : childrenAgree g3 = true := by decide +kernel

-- 2 leaves the WBS, 3 moves under 1
example : (setChildren g1 1 [3]).2 = none ∧ (setChildren g1 1 [3]).1.owner 2 = none ∧ agreeChildren g1 1 [3] :=
  ⟨by decide +kernel, by decide +kernel, children_run g1 (by decide) 1 (valueOf_refs _) (by decide +kernel)⟩
example : (setChildren g1 0 [3, 1]).2 = none ∧ agreeChildren g1 0 [3, 1] :=  -- the roots reordered
  ⟨by decide +kernel, children_run g1 (by decide) 0 (valueOf_refs _) (by decide +kernel)⟩
example : (setChildren g1 1 [2, 10, 11]).2 = none ∧ agreeChildren g1 1 [2, 10, 11] :=  -- detached tasks enter
  ⟨by decide +kernel, children_run g1 (by decide) 1 (valueOf_refs _) (by decide +kernel)⟩
example : (setChildren g1 10 [5, 11]).2 = none ∧ agreeChildren g1 10 [5, 11] :=  -- 5 leaves the tree of 4
  ⟨by decide +kernel, children_run g1 (by decide) 10 (valueOf_refs _) (by decide +kernel)⟩
example : (setChildren g1 1 [9]).2 = some .runtime ∧ agreeChildren g1 1 [9] :=  -- another WBS
  ⟨by decide +kernel, children_run g1 (by decide) 1 (valueOf_refs _) (by decide +kernel)⟩
example : (setChildren g1 4 [1]).2 = some .runtime ∧ agreeChildren g1 4 [1] :=  -- a member under a detached task
  ⟨by decide +kernel, children_run g1 (by decide) 4 (valueOf_refs _) (by decide +kernel)⟩
example : (setChildren g1 2 [1]).2 = some .runtime ∧ agreeChildren g1 2 [1] :=  -- an ancestor
  ⟨by decide +kernel, children_run g1 (by decide) 2 (valueOf_refs _) (by decide +kernel)⟩
example : (setChildren g1 3 [2]).2 = some .runtime ∧ agreeChildren g1 3 [2] :=  -- linked
  ⟨by decide +kernel, children_run g1 (by decide) 3 (valueOf_refs _) (by decide +kernel)⟩
example : (setChildren g1 3 [5]).2 = some .runtime ∧ agreeChildren g1 3 [5] :=  -- shared id
  ⟨by decide +kernel, children_run g1 (by decide) 3 (valueOf_refs _) (by decide +kernel)⟩
example : (setChildren g1 10 [7, 12]).2 = some .runtime ∧ agreeChildren g1 10 [7, 12] :=  -- shared id among the new
  ⟨by decide +kernel, children_run g1 (by decide) 10 (valueOf_refs _) (by decide +kernel)⟩
example : (setChildren g2 1 [3, 2]).2 = none ∧ agreeChildren g2 1 [3, 2] :=
  ⟨by decide +kernel, children_run g2 (by decide) 1 (valueOf_refs _) (by decide +kernel)⟩
example : (setChildren g2 6 [2]).2 = none ∧ agreeChildren g2 6 [2] :=
  ⟨by decide +kernel, children_run g2 (by decide) 6 (valueOf_refs _) (by decide +kernel)⟩
example : observe g1.n (interpSetChildren F 1 (.atom .none) (encSt g1)) = expect g1.n (setChildren g1 1 []) :=
  children_run g1 (by decide) 1 valueOf_none (by decide +kernel)
example : observe g1.n (interpSetChildren F 10 (refV 11) (encSt g1)) = expect g1.n (setChildren g1 10 [11]) :=
  children_run g1 (by decide) 10 (valueOf_task 11) (by decide +kernel)

end Check
end Pj.TaskSrc

/-
  Lemmas/PassSrcBwd.lean — the model of the recursive backward pass (Model/Sched.lean: `bwdPass`, `bwdPlace`) and of
  `__prepare_tasks` (`prepare`) equals the interpretation of the CURRENT SOURCE of

    BackwardScheduler.__backward_pass(self, _task, min_date, resource_usage, calculated)
    ForwardScheduler.__prepare_tasks(project) / BackwardScheduler.__prepare_tasks(project)

  (Extracted/PassSrc.lean, regenerated from src/pjplan/schedule.py by tools/extract_pass.py on every check), run by
  the pass layer of PyLite.  Companion of Lemmas/PassSrc.lean (the forward pass): the ties of the statements the two
  methods share, of the statements after the loops as a whole (`tail_ok`) and of the recursion (`callP_pass`) are
  stated there; the shape lemmas `src_Bwd_pass_shape` / `bwdTail_shape` say which statements those are.  As there, the
  ties hold for every encoding `E` of task objects with `PassSrc.PassEnc E`; the ones that follow the links also need
  `hS`: the attribute `successors` of `E info flag fields` is `info.succs`.  The parts and statement lemmas of this file
  carry the names of their forward twins (`tailParts`, `headParts`, `iStart_ok`, `iEnd_ok`, `msElse_ok`, `it1_ok` …); the
  forward ones are written `PassSrc.…` here.

  Setting (differences to Lemmas/PassSrc.lean).
  * `encSB env ms σ` is `PassSrc.encS env ms σ` whose task objects (`encTaskB`) ALSO have the attribute `successors`
    (`info.succs` as a list of references).  `PassSrc.encTask` has no such attribute, so on `encS` the backward
    method would end in AttributeError at `_task.successors`; everything else is encoded exactly as in `encS`
    (`encSB` is `PassSrc.encOf encTaskB`, `passEnc_bwd`), and `decS` reads both encodings back (`decS_encSB`).
  * handlers `passHB env wfuel calR`: as `PassSrc.passH`, but the two calls
    `self.__get_resource_nearest_available_date(…)` / `self.__shift_by_resource_usage_and_calendar(…)` run the
    translated source of the BACKWARD scheduler's methods (`interpNearestBwd` / `interpShiftBwd` of
    Lemmas/ScheduleSrc.lean).
  * constructs of the source that the forward pass does not use: `reversed(_task.children)` (PyLite `reversed`),
    `min(a, b)` on datetimes (PyLite `min`, through `pyMin`), `timedelta(days=1)`, and `_task.end += timedelta(days=1)`,
    which the translator emits as `_task.end = _task.end + timedelta(days=1)` (see tools/extract_pass.py).

  Results.
    Stage 1  `Check.*` (end of the file): runs on 7 concrete environments, instances of Stage 3 read back by `decS`
             (`agree_of_model`; `decide +kernel` evaluates the model's run only, `PassSrc.RunOK`).  The run with too
             little fuel, to which Stage 3 does not apply, is evaluated on both sides.
    Stage 2  `bwdTail_eq`: the statements after the two recursion loops do what `bwdPlace` does, in ANY local
             environment that binds `_task`, `min_date` and `min_successor_starts` (as `PassSrc.fwdTail_eq`).
    Stage 3  `interpBwdPass_eq`: for every env, fuel ≤ fuel', stk, σ, t, minDate with
                 bwdPass env fuel stk σ t minDate ≠ error (crash recursion)
             interpBwdPass env wfuel (calRef σ.res) fuel' (encSB env ms σ) t minDate
                 = (bwdPass env fuel stk σ t minDate).map (encSB env ms)
             The proviso is exactly the case the model adds to the source (fuel 0 / the in-progress check
             `stk.contains t`).  `children.reverse` of the model is `reversed(_task.children)` (`it3_ok`); the `member`
             filter is `pred.wbs is _task.wbs` on `encWbs`.
    Stage 4  `callP_prepare` (any encoding with `TaskEnc`), `interpFwdPrepare_eq`, `interpBwdPrepare_eq`: the translated
             static method `__prepare_tasks(project)`, run on a state whose heap encodes the fields `σ.f` and holds the
             WBS object `ref w` (`wbsState`: its attribute `tasks` is the list `mem` of member tasks, `w ∉ mem`), ends
             in the state that encodes `prepare env σ.f mem` - the `σ0.f` of `fwdRun` / `bwdRun` - with nothing else
             changed.  The two methods have the same text (`src_Bwd_prepare_eq`).  Not modelled: `WBS.tasks` is a
             property (it builds the list `__root.all_children`); here it is an attribute read once when the loop
             starts, and `mem` is a parameter of the theorem.
  No disagreement between the model and the translated methods was found.  As for the forward pass, one disagreement
  between the model and the PROGRAM lies outside the translated method and outside PyLite (attributes are plain
  slots): the property setter `Task.estimate` raises RuntimeError on a negative value, so with `default_estimate < 0` a
  leaf without estimate makes Python raise RuntimeError("Estimate < 0") where `fillEst` stores the negative estimate
  (checked on the snapshot: `BackwardScheduler(end=…, default_estimate=-1).calc(wbs)` with one task).
-/
import PjVerif.Extracted.PassSrc
import PjVerif.Lemmas.PassSrc
namespace Pj.PassSrcBwd
open Pj.PyLite Pj.Extracted Pj.SchedSrc Pj.PassSrc
open Pj.TaskSrc (Env.get?_nil Env.get?_cons Env.get?_set natCast_succ_rat pyEq_num execBlockP_append execBlockP_cons execBlockP_nil)
set_option linter.unusedSimpArgs false

/-! ### the model's state as a Python state (with `successors`) -/

/-- the attributes of a task object: those of `PassSrc.encTask` and `successors` -/
def encTaskB (info : TaskInfo) (flag : Bool) (fl : Fields) : PyLite.Env :=
  [("predecessors", .list (info.preds.map Atom.ref)), ("successors", .list (info.succs.map Atom.ref)),
   ("children", .list (info.children.map Atom.ref)),
   ("wbs", encWbs info.member), ("milestone", .atom (.bool flag)), ("resource", .atom (encKey info.resource)),
   ("min_start", optTime info.minStart), ("start", optTime fl.start), ("end", optTime fl.end_),
   ("estimate", optNum fl.est), ("spent", optNum fl.spent)]

def encHeapB (env : Pj.Env) (ms : Uid → Bool) (f : Uid → Fields) : Nat → PyLite.Env :=
  fun u => encTaskB (env.info u) (ms u) (f u)

/-- `PassSrc.encS` with the task objects of `encTaskB` -/
def encSB (env : Pj.Env) (ms : Uid → Bool) (σ : SS) : PState :=
  { L := σ.rows.map encRow
    heap := encHeapB env ms σ.f
    done := σ.done
    res := σ.res.map (fun p => (encKey p.1, resRef p.1))
    reads := σ.reads }

/-- the handlers of the backward scheduler: as `PassSrc.passH`, the two inner loops being the BACKWARD ones
    (`interpNearestBwd`, `interpShiftBwd` of Lemmas/ScheduleSrc.lean: the translated source of
    `BackwardScheduler.__get_resource_nearest_available_date` / `__shift_by_resource_usage_and_calendar`) -/
def passHB (env : Pj.Env) (wfuel : Nat) (calR : Nat → Cal) : PHandlers :=
  { clock := env.clock
    call := fun m args L =>
      if m = "get_resource_nearest_available_date" then
        match args with
        | [.ref r, .time s, .ref t] =>
          (interpNearestBwd (calR r) env.balance r t L s).map (fun p => (Val.atom (.time p.1), p.2))
        | _ => throw stuck
      else if m = "shift_by_resource_usage_and_calendar" then
        match args with
        | [.ref r, .time s, .ref t, .num left] =>
          (interpShiftBwd wfuel (calR r) env.balance r t L s left).map (fun p => (Val.atom (.time p.1), p.2))
        | _ => throw stuck
      else throw stuck
    newResource := fun a =>
      match a with
      | .none => pure 0
      | .str n => pure (n + 1)
      | _ => throw stuck }

/-- run the translated `__backward_pass(ref t, minDate, <ledger>, <calculated>)` with at most `fuel` nested
    activations; `wfuel` bounds the `while` loop of `__shift_by_resource_usage_and_calendar` -/
def interpBwdPass (env : Pj.Env) (wfuel : Nat) (calR : Nat → Cal) (fuel : Nat) (st : PState) (t : Uid)
    (minDate : Time) : Res PState :=
  (callP (passHB env wfuel calR) (passSelf env) src_Bwd_pass_params src_Bwd_pass fuel
    [.ref t, .time minDate] st).map (·.2)

theorem encHeapB_apply (env : Pj.Env) (ms : Uid → Bool) (f : Uid → Fields) (u : Uid) :
    encHeapB env ms f u = encTaskB (env.info u) (ms u) (f u) := rfl

theorem passEnc_bwd : PassEnc encTaskB := by
  constructor <;> intros <;> simp [encTaskB, Env.get?, Env.set]

theorem encTaskB_succs (info : TaskInfo) (flag : Bool) (fl : Fields) :
    (encTaskB info flag fl).get? "successors" = some (.list (info.succs.map Atom.ref)) := by
  simp [encTaskB, Env.get?]

/-- the statements up to and including the loop over the children / after it -/
def bwdHead : List Stmt := src_Bwd_pass.take 4
def bwdTail : List Stmt := src_Bwd_pass.drop 4

/-- the statements that differ from those of `__forward_pass` (`PassSrc.tailParts`) -/
structure TailParts where
  msThen : List Stmt
  iEnd : Stmt
  iStart : Stmt

def tailParts : TailParts :=
  match bwdTail with
  | [_, _, .ifElse _ th [s1, _, _, s4], _] => ⟨th, s1, s4⟩
  | _ => ⟨[], .pass, .pass⟩

theorem bwdTail_shape : bwdTail = PassSrc.tailParts.g0 ++ [.ifElse PassSrc.tailParts.msCond tailParts.msThen
    [tailParts.iEnd, PassSrc.tailParts.iEst, PassSrc.tailParts.iSpent, tailParts.iStart], PassSrc.tailParts.fin] := rfl

theorem passHB_call_nearest (env : Pj.Env) (wfuel : Nat) (calR : Nat → Cal) (rows : List Row) (k : Option Nat) (t : Uid)
    (s : Time) :
    (passHB env wfuel calR).call "get_resource_nearest_available_date" [.ref (resRef k), .time s, .ref t] (rows.map encRow) =
      (nearestBwd (calR (resRef k)) (usedBy env rows k t) s).map (fun e => (Val.atom (.time e), rows.map encRow)) := by
  simp only [passHB, if_true, interpNearestBwd_eq, usedOf_usedBy]
  cases nearestBwd (calR (resRef k)) (usedBy env rows k t) s <;> rfl

theorem passHB_call_shift (env : Pj.Env) (wfuel : Nat) (hw : Extracted.bwdShiftMaxSteps < wfuel) (calR : Nat → Cal)
    (rows : List Row) (k : Option Nat) (t : Uid) (s : Time) (left : Rat) :
    (passHB env wfuel calR).call "shift_by_resource_usage_and_calendar" [.ref (resRef k), .time s, .ref t, .num left]
        (rows.map encRow) =
      (shiftBwd (calR (resRef k)) (usedBy env rows k t) s left).map
        (fun p => (Val.atom (.time p.1), (rows ++ p.2.map (SchedSrc.mkRow k t)).map encRow)) := by
  have : ("shift_by_resource_usage_and_calendar" = "get_resource_nearest_available_date") = False := by decide
  simp only [passHB, this, if_false, if_true, interpShiftBwd_eq _ _ _ _ _ _ _ _ hw, usedOf_usedBy]
  cases shiftBwd (calR (resRef k)) (usedBy env rows k t) s left <;> rfl


/-! ### stage 2: the statements after the two loops -/

section
variable {E : TaskInfo → Bool → Fields → PyLite.Env} (hE : PassEnc E) (env : Pj.Env) (ms : Uid → Bool) (wfuel : Nat)
  (calR : Nat → Cal) (rec : List Atom → PState → Res (Val × PState)) (σ : SS) (t : Uid) (md mp : Time) (ρ : PyLite.Env)
include hE

theorem iEnd_ok (hρ : TailEnv "min_successor_starts" ρ t md mp (resRef (env.info t).resource) (env.info t).children.isEmpty) :
    StmtOK (passHB env wfuel calR) (passSelf env) rec tailParts.iEnd ρ (encOf E env ms) σ
      (bwdEnd env (calR (resRef (env.info t).resource)) (usedBy env σ.rows (env.info t).resource t) t md mp σ)
      (TailEnv "min_successor_starts" · t md mp (resRef (env.info t).resource) (env.info t).children.isEmpty) := by
  unfold StmtOK Sim bwdEnd
  cases hs : (σ.f t).end_ with
  | some s0 =>
    refine ⟨ρ, _, ?_, rfl, hρ⟩
    simp [pylite_step, tailParts, bwdTail, src_Bwd_pass, encOf, hE.end_, hρ.task, hs, optTime]
  | none =>
    cases hleaf : (env.info t).children.isEmpty with
    | true =>
      rw [hleaf] at hρ
      simp only [hleaf, if_true]
      -- the call's result is named first, so that the statement after it runs on a value
      rcases hn : nearestBwd (calR (resRef (env.info t).resource)) (usedBy env σ.rows (env.info t).resource t) mp
        with e | s <;>
      simp [pylite_step, and_assoc, tailParts, bwdTail, src_Bwd_pass, encOf, hE.end_, hE.heapSet_end, hρ.task, hρ.mp, hρ.md,
        hρ.res, hρ.leaf, hs, optTime, passHB_call_nearest, Except.map, upd_upd, hn, setF]
      exact hρ
    | false =>
      rw [hleaf] at hρ
      have hc := evalP_comp_time (passHB env wfuel calR) (passSelf env) ρ (heapOf E env ms σ.f) σ.f (encOf E env ms σ) rfl "t" "end"
        (·.end_) (fun _ => hE.end_ _ _ _) (.attr (.var "_task") "children") (env.info t).children
        (evalP_task_attr _ _ _ _ _ _ t _ hρ.task (hE.children _ _ _))
      simp only [hleaf, Bool.false_eq_true, if_false]
      simp only [encOf] at hc
      rcases hcs : (env.info t).children.filterMap (fun c => (σ.f c).end_) with _ | ⟨c, rest⟩ <;>
      rw [hcs] at hc <;>
      simp [pylite_step, and_assoc, ↓hc, tailParts, bwdTail, src_Bwd_pass, encOf, hE.end_, hE.heapSet_end, hρ.task, hρ.mp, hρ.md,
        hρ.res, hρ.leaf, hs, optTime, pyEq_num, natCast_succ_ne_zero, foldList, foldLoop, foldLoop_times pyMax_time, setF, epoch] <;>
      tail_env hρ

theorem iStart_ok (hw : Extracted.bwdShiftMaxSteps < wfuel)
    (hρ : TailEnv "min_successor_starts" ρ t md mp (resRef (env.info t).resource) (env.info t).children.isEmpty)
    (h1 : (σ.f t).end_.isSome) (h2 : (σ.f t).est.isSome) (h3 : (σ.f t).spent.isSome) :
    StmtOK (passHB env wfuel calR) (passSelf env) rec tailParts.iStart ρ (encOf E env ms) σ
      (bwdStart env (calR (resRef (env.info t).resource)) (usedBy env σ.rows (env.info t).resource t) t md σ)
      (TailEnv "min_successor_starts" · t md mp (resRef (env.info t).resource) (env.info t).children.isEmpty) := by
  unfold StmtOK Sim bwdStart
  obtain ⟨en, hen⟩ := Option.isSome_iff_exists.1 h1
  obtain ⟨es, hes⟩ := Option.isSome_iff_exists.1 h2
  obtain ⟨sp, hsp⟩ := Option.isSome_iff_exists.1 h3
  cases hleaf : (env.info t).children.isEmpty with
  | true =>
    rw [hleaf] at hρ
    simp only [hleaf, if_true]
    -- the call's result is named first, so that the statements after it run on a value
    rcases hsh : shiftBwd (calR (resRef (env.info t).resource)) (usedBy env σ.rows (env.info t).resource t) (minT en md)
      (if es - sp < 0 then 0 else es - sp) with e | ⟨e, new⟩
    · simp [pylite_step, tailParts, bwdTail, src_Bwd_pass, encOf, hE.start, hE.end_, hE.estimate, hE.spent, hρ.task, hρ.mp, hρ.md,
        hρ.res, hρ.leaf, hen, hes, hsp, optTime, optNum, passHB_call_shift _ _ hw, Except.map, leftOf, addRows, epoch, hsh]
    · cases hst : (σ.f t).start <;>
      simp [pylite_step, and_assoc, tailParts, bwdTail, src_Bwd_pass, encOf, hE.start, hE.end_, hE.estimate, hE.spent,
        hE.heapSet_start, hρ.task, hρ.mp, hρ.md, hρ.res, hρ.leaf, hen, hes, hsp, optTime, optNum, passHB_call_shift _ _ hw,
        Except.map, leftOf, addRows, epoch, hsh, hst, setF, SchedSrc.mkRow] <;>
      tail_env hρ
  | false =>
    rw [hleaf] at hρ
    have hc := evalP_comp_time (passHB env wfuel calR) (passSelf env) ρ (heapOf E env ms σ.f) σ.f (encOf E env ms σ) rfl "t" "start"
      (·.start) (fun _ => hE.start _ _ _) (.attr (.var "_task") "children") (env.info t).children
      (evalP_task_attr _ _ _ _ _ _ t _ hρ.task (hE.children _ _ _))
    simp only [hleaf, Bool.false_eq_true, if_false]
    simp only [encOf] at hc
    rcases hcs : (env.info t).children.filterMap (fun c => (σ.f c).start) with _ | ⟨c, rest⟩ <;>
    rw [hcs] at hc <;>
    simp [pylite_step, and_assoc, ↓hc, tailParts, bwdTail, src_Bwd_pass, encOf, hE.start, hE.heapSet_start, hρ.task, hρ.mp,
      hρ.res, hρ.leaf, optTime, foldList, foldLoop, foldLoop_times pyMin_time, setF, epoch] <;>
    tail_env hρ

end

section
variable {E : TaskInfo → Bool → Fields → PyLite.Env} (hE : PassEnc E) (env : Pj.Env) (ms : Uid → Bool) (wfuel : Nat)
  (calR : Nat → Cal) (rec : List Atom → PState → Res (Val × PState)) (σ : SS) (t : Uid) (md mp : Time) (ρ : PyLite.Env)
include hE

theorem msElse_ok (hw : Extracted.bwdShiftMaxSteps < wfuel)
    (hρ : TailEnv "min_successor_starts" ρ t md mp (resRef (env.info t).resource) (env.info t).children.isEmpty) :
    BlockOK (passHB env wfuel calR) (passSelf env) rec
      (tailParts.iEnd :: ([PassSrc.tailParts.iEst, PassSrc.tailParts.iSpent] ++ [tailParts.iStart])) ρ (encOf E env ms) σ
      (do
        let σ1 ← bwdEnd env (calR (resRef (env.info t).resource)) (usedBy env σ.rows (env.info t).resource t) t md mp σ
        let σ2 ← fillEst env t σ1
        bwdStart env (calR (resRef (env.info t).resource)) (usedBy env σ.rows (env.info t).resource t) t md σ2)
      (TailEnv "min_successor_starts" · t md mp (resRef (env.info t).resource) (env.info t).children.isEmpty) := by
  refine Sim.cons (iEnd_ok hE env ms wfuel calR rec σ t md mp ρ hρ).and_ok fun σ1 ρ1 _ ⟨hs1, hst, hρ1⟩ => ?_
  subst hst
  refine Sim.append (fill_ok (P := (TailEnv _ · t md mp _ _)) hE _ _ rec σ1 t ρ1 (passSelf_default env)
    (fun _ h => ⟨h.task, h.leaf⟩) hρ1).and_ok fun σ3 ρ3 _ ⟨hs3, hst, hρ3⟩ => ?_
  subst hst
  obtain ⟨E, e1⟩ := bwdEnd_ok hs1
  obtain ⟨e, sp, e3, _⟩ := fillEst_ok hs3
  have h4 := iStart_ok hE env ms wfuel calR rec σ3 t md mp ρ3 hw hρ3 (by simp [e3, e1]) (by simp [e3]) (by simp [e3])
  rw [show σ3.rows = σ.rows by simp [e3, e1, SS.stage]] at h4
  exact Sim.one h4

/-- STAGE 2.  The statements of `__backward_pass` after the two recursion loops (from `resource = …setdefault…` to
    `calculated.append(id(_task))`), run on the encoding of a model state, do exactly what `bwdPlace` does. -/
theorem bwdTail_eq (hms : (env.info t).milestone = (ms t && (env.info t).children.isEmpty))
    (hw : Extracted.bwdShiftMaxSteps < wfuel)
    (hcal : calR (resRef (env.info t).resource) = (resLookup σ.res (env.info t).resource).2)
    (h1 : ρ.get? "_task" = some (.atom (.ref t))) (h0 : ρ.get? "min_date" = some (.atom (.time md)))
    (h2 : ρ.get? "min_successor_starts" = some (.atom (.time mp))) :
    BlockOK (passHB env wfuel calR) (passSelf env) rec bwdTail ρ (encOf E env ms) σ (bwdPlace env σ t md mp)
      (fun _ => True) := by
  have h := tail_ok (ms := ms) hE (passHB env wfuel calR) (passSelf env) rec σ t ρ (fun k => by cases k <;> rfl)
    "min_successor_starts" _ _ md mp (by decide) h1 h0 h2
    (fun σ0 ρ0 hρ0 => msElse_ok hE env ms wfuel calR rec σ0 t md mp ρ0 hw hρ0)
  rw [bwdTail_shape]
  unfold bwdPlace
  simp only [hms, ← hcal, bind_assoc] at h ⊢
  exact h
end

/-! ### stage 3: the recursion -/

/-- the statements that differ from those of `__forward_pass` (`PassSrc.headParts`) -/
structure HeadParts where
  it1 : Expr
  s2 : Stmt
  it3 : Expr

def headParts : HeadParts :=
  match bwdHead with
  | [_, .forIn _ it1 _, c, .forIn _ it3 _] => ⟨it1, c, it3⟩
  | _ => ⟨.none, .pass, .none⟩

theorem src_Bwd_pass_shape : src_Bwd_pass =
    [PassSrc.headParts.s0, .forIn PassSrc.headParts.x1 headParts.it1 PassSrc.headParts.body1, headParts.s2,
     .forIn PassSrc.headParts.x3 headParts.it3
       [.recurse (.listCons (.var PassSrc.headParts.x3) (.listCons (.var "min_successor_starts") .listNil))]] ++
      bwdTail := rfl

section
variable {E : TaskInfo → Bool → Fields → PyLite.Env} (hE : PassEnc E)
  (hS : ∀ info flag fl, (E info flag fl).get? "successors" = some (.list (info.succs.map Atom.ref)))
  (env : Pj.Env) (ms : Uid → Bool) (wfuel : Nat) (calR : Nat → Cal)
  (rec : List Atom → PState → Res (Val × PState)) (σ : SS) (t : Uid) (m : Time) (ρ : PyLite.Env)

include hS in
theorem it1_ok (h : ρ.get? "_task" = some (.atom (.ref t))) :
    (do let (v, st') ← headParts.it1.evalP (passHB env wfuel calR) (passSelf env) ρ (encOf E env ms σ)
        pure ((← iterOf v), st')) = .ok ((env.info t).succs.map Atom.ref, encOf E env ms σ) := by
  simp [pylite_step, headParts, bwdHead, src_Bwd_pass, encOf, hS, h]

include hE in
/-- `reversed(_task.children)` -/
theorem it3_ok (h : ρ.get? "_task" = some (.atom (.ref t))) :
    (do let (v, st') ← headParts.it3.evalP (passHB env wfuel calR) (passSelf env) ρ (encOf E env ms σ)
        pure ((← iterOf v), st')) = .ok ((env.info t).children.reverse.map Atom.ref, encOf E env ms σ) := by
  simp [pylite_step, headParts, bwdHead, src_Bwd_pass, encOf, hE.children, h, List.map_reverse]

include hE hS in
theorem s2_ok (h1 : ρ.get? "_task" = some (.atom (.ref t))) (h2 : ρ.get? "min_date" = some (.atom (.time m))) :
    headParts.s2.execP (passHB env wfuel calR) (passSelf env) rec ρ (encOf E env ms σ) =
      .normal (ρ.set "min_successor_starts" (.atom (.time (minStarts σ (env.info t).succs m)))) (encOf E env ms σ) := by
  have hc := evalP_comp_time (passHB env wfuel calR) (passSelf env) ρ (heapOf E env ms σ.f) σ.f (encOf E env ms σ) rfl "t" "start"
    (·.start) (fun _ => hE.start _ _ _) (.attr (.var "_task") "successors") (env.info t).succs
    (evalP_task_attr _ _ _ _ _ _ t _ h1 (hS _ _ _))
  simp only [encOf] at hc
  have hmx := foldList_append_single pyMin_time minT_selects ((env.info t).succs.filterMap (fun c => (σ.f c).start)) m
  simp only [List.map_append, List.map_cons, List.map_nil] at hmx
  simp [pylite_step, ↓hc, headParts, bwdHead, src_Bwd_pass, encOf, h1, h2, hmx, minStarts]

end

section
variable {E : TaskInfo → Bool → Fields → PyLite.Env} (hE : PassEnc E)
  (hS : ∀ info flag fl, (E info flag fl).get? "successors" = some (.list (info.succs.map Atom.ref)))
  (env : Pj.Env) (ms : Uid → Bool) (wfuel : Nat)

include hE hS in
theorem callP_bwdPass {V : Uid → Prop} (hV : Reach env ms (fun u => (env.info u).succs) V)
    (hw : Extracted.bwdShiftMaxSteps < wfuel) (res0 : List (Option Nat × Cal)) (fuel fuel' : Nat) (hle : fuel ≤ fuel')
    (stk : List Uid) (σ : SS) (t : Uid) (m : Time) (ht : V t) (hi : Tbl res0 σ) :
    SimR (bwdPass env fuel stk σ t m)
      (callP (passHB env wfuel (calRef res0)) (passSelf env) src_Bwd_pass_params src_Bwd_pass fuel'
        [.ref t, .time m] (encOf E env ms σ))
      (fun σ' v st => v = .atom .none ∧ st = encOf E env ms σ' ∧ Tbl res0 σ') := by
  rw [bwdPass_eq_gPass]
  exact callP_pass (ms := ms) hE _ _ (Sched.bwd env) (Sched.bwd_ok env) res0 src_Bwd_pass_shape (by decide)
    (it1_ok hS env ms wfuel _) (it3_ok hE env ms wfuel _) (fun rec σ t m ρ => s2_ok hE hS env ms wfuel _ rec σ t m ρ) hV
    (fun rec σ t m v ρ hv hi h1 h0 h2 =>
      bwdTail_eq hE env ms wfuel (calRef res0) rec σ t m v ρ hv hw (by rw [calRef_resRef, resLookup_snd, hi]) h1 h0 h2)
    fuel fuel' hle stk σ t m ht hi

/-- STAGE 3.  Interpreting the translated `__backward_pass` on the encoding of a model state computes the encoding of
    the model's `bwdPass`, PROVIDED the model's run does not end in RecursionError (`.crash .recursion`: the fuel
    of the model runs out, or the model meets a task that is in progress - `stk.contains t`, a check Python does
    not have: there the recursion goes on until the recursion limit, which the fuel of the interpreter plays).
    The interpreter may have more fuel than the model.  `stk` is arbitrary.  The run may have started from another
    resource table `res0` with `calOf σ.res = calOf res0`: the table only grows by default resources. -/
theorem interpBwdPass_eq' (hms : ∀ u, (env.info u).milestone = (ms u && (env.info u).children.isEmpty))
    (hw : Extracted.bwdShiftMaxSteps < wfuel) (res0 : List (Option Nat × Cal)) (fuel fuel' : Nat) (hle : fuel ≤ fuel')
    (stk : List Uid) (σ : SS) (t : Uid) (minDate : Time) (hres : ∀ k, calOf σ.res k = calOf res0 k)
    (hne : bwdPass env fuel stk σ t minDate ≠ .error (.crash .recursion)) :
    interpBwdPass env wfuel (calRef res0) fuel' (encSB env ms σ) t minDate =
      (bwdPass env fuel stk σ t minDate).map (encSB env ms) := by
  unfold interpBwdPass
  rw [show encSB env ms = encOf encTaskB env ms from rfl, SimR.eq_none_map
    ((callP_bwdPass passEnc_bwd encTaskB_succs env ms wfuel (Reach.all hms) hw res0 fuel fuel' hle stk σ t minDate trivial
      hres).mono fun _ _ _ h => ⟨h.1, h.2.1⟩) hne]
  cases bwdPass env fuel stk σ t minDate <;> rfl

/-- at the start of a run: `res0 = σ.res` -/
theorem interpBwdPass_eq (hms : ∀ u, (env.info u).milestone = (ms u && (env.info u).children.isEmpty))
    (hw : Extracted.bwdShiftMaxSteps < wfuel) (fuel fuel' : Nat) (hle : fuel ≤ fuel') (stk : List Uid) (σ : SS)
    (t : Uid) (minDate : Time) (hne : bwdPass env fuel stk σ t minDate ≠ .error (.crash .recursion)) :
    interpBwdPass env wfuel (calRef σ.res) fuel' (encSB env ms σ) t minDate =
      (bwdPass env fuel stk σ t minDate).map (encSB env ms) :=
  interpBwdPass_eq' env ms wfuel hms hw σ.res fuel fuel' hle stk σ t minDate (fun _ => rfl) hne

theorem interpBwdPass_ok (hms : ∀ u, (env.info u).milestone = (ms u && (env.info u).children.isEmpty))
    (hw : Extracted.bwdShiftMaxSteps < wfuel) (fuel : Nat) (σ σ' : SS) (t : Uid) (minDate : Time)
    (h : bwdPass env fuel [] σ t minDate = .ok σ') :
    interpBwdPass env wfuel (calRef σ.res) fuel (encSB env ms σ) t minDate = .ok (encSB env ms σ') := by
  rw [interpBwdPass_eq env ms wfuel hms hw fuel fuel (Nat.le_refl _) [] σ t minDate (by rw [h]; exact fun h => by cases h), h]
  rfl

end

theorem decS_encSB (env : Pj.Env) (ms : Uid → Bool) (calR : Nat → Cal) (σ : SS)
    (hc : ∀ p ∈ σ.res, calR (resRef p.1) = p.2) : decS calR (encSB env ms σ) = σ :=
  decS_encOf passEnc_bwd env ms calR σ hc

/-! ### stage 4: `__prepare_tasks` (both schedulers)

  `@staticmethod def __prepare_tasks(project: WBS)`: the WBS object is the heap object `ref w` whose attribute
  `tasks` is the list of the member tasks (`withWbs`); the task objects are those of `PassSrc.encS` (forward) or
  `encSB` (backward) - the proof is generic in the encoding of a task (`TaskEnc`). -/

/-- what the proof needs of an encoding of task objects -/
structure TaskEnc (E : TaskInfo → Bool → Fields → PyLite.Env) : Prop where
  children : ∀ info flag fl, (E info flag fl).get? "children" = some (.list (info.children.map Atom.ref))
  set_start : ∀ info flag fl v, Env.set (E info flag fl) "start" (optTime v) = E info flag { fl with start := v }
  set_end : ∀ info flag fl v, Env.set (E info flag fl) "end" (optTime v) = E info flag { fl with end_ := v }
  set_estimate : ∀ info flag fl v, Env.set (E info flag fl) "estimate" (optNum v) = E info flag { fl with est := v }
  set_spent : ∀ info flag fl v, Env.set (E info flag fl) "spent" (optNum v) = E info flag { fl with spent := v }

theorem _root_.Pj.PassSrc.PassEnc.task {E : TaskInfo → Bool → Fields → PyLite.Env} (h : PassEnc E) : TaskEnc E :=
  ⟨h.children, h.set_start, h.set_end, h.set_estimate, h.set_spent⟩

/-- the heap `h` with the WBS object `ref w`: its attribute `tasks` is the list of the member tasks -/
def withWbs (h : Nat → PyLite.Env) (w : Nat) (mem : List Uid) : Nat → PyLite.Env :=
  fun j => if j = w then [("tasks", .list (mem.map Atom.ref))] else h j

theorem heapSet_withWbs (h : Nat → PyLite.Env) (w : Nat) (mem : List Uid) (u : Nat) (a : String) (v : Val) (hu : u ≠ w) :
    heapSet (withWbs h w mem) u a v = withWbs (heapSet h u a v) w mem := by
  funext j
  by_cases hj : j = w
  · subst hj
    have : ¬ j = u := fun h => hu h.symm
    simp [heapSet, withWbs, this]
  · by_cases hju : j = u
    · subst hju; simp [heapSet, withWbs, hj]
    · simp [heapSet, withWbs, hj, hju]

theorem natCast_pos (n : Nat) : (0 : Rat) < (n : Rat) ↔ 0 < n := by
  have : (0 : Rat) = ((0 : Nat) : Rat) := rfl
  rw [this, Rat.natCast_lt_natCast]

theorem prepare_one_leaf (env : Pj.Env) (f : Uid → Fields) (u : Uid) (h : (env.info u).children.isEmpty = true) :
    prepare env f [u] = f := by
  funext x
  by_cases hx : x = u
  · subst hx; simp [prepare, h]
  · simp [prepare, hx]

theorem prepare_one_summary (env : Pj.Env) (f : Uid → Fields) (u : Uid) (h : (env.info u).children.isEmpty = false) :
    prepare env f [u] = upd f u { start := none, end_ := none, est := none, spent := none } := by
  funext x
  by_cases hx : x = u
  · subst hx; simp [prepare, h, upd]
  · simp [prepare, hx, upd]

theorem prepare_cons (env : Pj.Env) (f : Uid → Fields) (u : Uid) (l : List Uid) :
    prepare env (prepare env f [u]) l = prepare env f (u :: l) := by
  funext x
  simp only [prepare, List.contains_cons, List.contains_nil, Bool.or_false]
  cases l.contains x <;> cases (x == u) <;> cases (env.info x).children.isEmpty <;> simp

def prepBody : List Stmt :=
  match src_Fwd_prepare with
  | [.forIn _ _ b] => b
  | _ => []

theorem src_Fwd_prepare_shape : src_Fwd_prepare = [.forIn "t" (.attr (.var "project") "tasks") prepBody] := rfl
/-- the two static methods have the same text -/
theorem src_Bwd_prepare_eq : src_Bwd_prepare = src_Fwd_prepare ∧ src_Bwd_prepare_params = src_Fwd_prepare_params :=
  ⟨rfl, rfl⟩

theorem prepare_foldl (env : Pj.Env) (l : List Uid) (f : Uid → Fields) :
    l.foldl (fun f u => prepare env f [u]) f = prepare env f l := by
  induction l generalizing f with
  | nil => funext x; simp [prepare]
  | cons u l ih => rw [List.foldl_cons, ih, prepare_cons]

/-- a heap `W h` that treats the object `u` as `h` does: `W = id`, or `withWbs · w mem` for `u ≠ w` -/
def KeepsObj (W : (Nat → PyLite.Env) → Nat → PyLite.Env) (u : Nat) : Prop :=
  ∀ h, W h u = h u ∧ ∀ a v, heapSet (W h) u a v = W (heapSet h u a v)

theorem keepsObj_id (u : Nat) : KeepsObj id u := fun _ => ⟨rfl, fun _ _ => rfl⟩

theorem keepsObj_withWbs (w : Nat) (mem : List Uid) (u : Nat) (hu : u ≠ w) : KeepsObj (withWbs · w mem) u :=
  fun h => ⟨by simp only [withWbs, if_neg hu], fun a v => heapSet_withWbs h w mem u a v hu⟩

section
variable {E : TaskInfo → Bool → Fields → PyLite.Env} (hE : TaskEnc E) (H : PHandlers) (self : PyLite.Env)
  (rec : List Atom → PState → Res (Val × PState)) (env : Pj.Env) (ms : Uid → Bool)
  (W : (Nat → PyLite.Env) → Nat → PyLite.Env)
include hE

theorem prepBody_ok (f : Uid → Fields) (st : PState) (hh : st.heap = W (heapOf E env ms f)) (u : Uid)
    (hW : KeepsObj W u) (ρ : PyLite.Env) :
    ∃ ρ', execBlockP H self rec prepBody (ρ.set "t" (.atom (.ref u))) st =
      .normal ρ' { st with heap := W (heapOf E env ms (prepare env f [u])) } := by
  obtain ⟨L, heap, done, res, reads⟩ := st
  simp only at hh
  subst hh
  have hch : (W (heapOf E env ms f) u).get? "children" = some (.list ((env.info u).children.map Atom.ref)) := by
    rw [(hW _).1]; simp only [heapOf, hE.children]
  cases hc : (env.info u).children with
  | nil =>
    have hl : (env.info u).children.isEmpty = true := by simp [hc]
    refine ⟨ρ.set "t" (.atom (.ref u)), ?_⟩
    rw [prepare_one_leaf env f u hl]
    simp [prepBody, src_Fwd_prepare, execBlockP, Stmt.execP, Expr.evalP, Env.get?_set, hch, hc, truthP,
      PyLite.compare, cmpRat, Atom.asNum?, pure, Except.pure, bind, Except.bind]
  | cons c cs =>
    have hl : (env.info u).children.isEmpty = false := by simp [hc]
    have hpos : (0 : Rat) < (cs.length : Rat) + 1 := by
      rw [natCast_succ_rat]; exact (natCast_pos _).2 (by omega)
    have hs := fun h => (hW h).2
    have e1 := heapSet_heapOf (E := E) env ms f u "start" (.atom .none) _ (hE.set_start _ _ _ none)
    have e2 := fun f => heapSet_heapOf (E := E) env ms f u "end" (.atom .none) _ (hE.set_end _ _ _ none)
    have e3 := fun f => heapSet_heapOf (E := E) env ms f u "estimate" (.atom .none) _ (hE.set_estimate _ _ _ none)
    have e4 := fun f => heapSet_heapOf (E := E) env ms f u "spent" (.atom .none) _ (hE.set_spent _ _ _ none)
    rw [prepare_one_summary env f u hl]
    simp [prepBody, src_Fwd_prepare, execBlockP, Stmt.execP, Expr.evalP, Env.get?_set, hch, hc, truthP,
      PyLite.compare, cmpRat, Atom.asNum?, pure, Except.pure, bind, Except.bind, hpos, hs, e1, e2, e3, e4, upd_upd, upd]

theorem prepLoop_ok (l : List Uid) (hW : ∀ u ∈ l, KeepsObj W u) (f : Uid → Fields) (ρ : PyLite.Env) (st : PState)
    (hh : st.heap = W (heapOf E env ms f)) :
    ∃ ρ', forLoopP "t" (fun ρ st => execBlockP H self rec prepBody ρ st) (l.map Atom.ref) ρ st =
      .normal ρ' { st with heap := W (heapOf E env ms (prepare env f l)) } := by
  obtain ⟨ρ', _, hx, rfl⟩ := TaskSrc.forLoopP_foldl "t" (fun ρ st => execBlockP H self rec prepBody ρ st) Atom.ref
    (fun f' _ st' => st' = { st with heap := W (heapOf E env ms f') }) (fun f' u => prepare env f' [u]) l
    (fun f' u ρ st' hu hR => by
      obtain ⟨ρ', h⟩ := prepBody_ok hE H self rec env ms W f' st' (by rw [hR]) u (hW u hu) ρ
      exact ⟨ρ', _, h, by rw [hR]⟩) f ρ st (by rw [← hh])
  exact ⟨ρ', by rw [hx, prepare_foldl]⟩
end

section
variable {E : TaskInfo → Bool → Fields → PyLite.Env} (hE : TaskEnc E) (H : PHandlers) (self : PyLite.Env)
  (env : Pj.Env) (ms : Uid → Bool) (w : Nat) (mem : List Uid)
include hE

/-- STAGE 4.  The translated `__prepare_tasks(project)` run on a heap that encodes the fields `f` (and holds the WBS
    object `ref w` with `tasks` = `mem`) ends on the heap that encodes the model's `prepare env f mem`; everything
    else in the state is unchanged. -/
theorem callP_prepare (src : List Stmt) (hsrc : src = src_Fwd_prepare) (f : Uid → Fields) (st : PState)
    (hh : st.heap = withWbs (heapOf E env ms f) w mem) (hw : w ∉ mem) (fuel : Nat) :
    callP H self src_Fwd_prepare_params src (fuel + 1) [.ref w] st =
      .ok (.atom .none, { st with heap := withWbs (heapOf E env ms (prepare env f mem)) w mem }) := by
  subst hsrc
  have hp : Env.get? [("project", Val.atom (Atom.ref w))] "project" = some (.atom (.ref w)) := rfl
  have ht : (st.heap w).get? "tasks" = some (.list (mem.map Atom.ref)) := by
    rw [hh]; simp [withWbs, Env.get?]
  simp only [callP, src_Fwd_prepare_params, bindParams, pure, Except.pure, bind, Except.bind]
  generalize callP H self ["project"] src_Fwd_prepare fuel = rec
  obtain ⟨ρ', hl⟩ := prepLoop_ok hE H self rec env ms (withWbs · w mem) mem
    (fun u hu => keepsObj_withWbs w mem u (fun h => hw (h ▸ hu))) f [("project", .atom (.ref w))] st hh
  rw [src_Fwd_prepare_shape]
  simp only [execBlockP, Stmt.execP, Expr.evalP, hp, ht, iterOf, hl, pure, Except.pure, bind, Except.bind]
end

def wbsState (st : PState) (w : Nat) (mem : List Uid) : PState := { st with heap := withWbs st.heap w mem }

/-- run the translated static method `__prepare_tasks(ref w)` -/
def interpPrepare (src : List Stmt) (st : PState) (w : Nat) : Res PState :=
  (callP { clock := fun _ => 0, call := fun _ _ _ => throw stuck, newResource := fun _ => throw stuck } []
    src_Fwd_prepare_params src 1 [.ref w] st).map (·.2)

/-- `ForwardScheduler.__prepare_tasks` on the forward encoding: `fwdRun` starts from `prepare env f0 mem` -/
theorem interpFwdPrepare_eq (env : Pj.Env) (ms : Uid → Bool) (σ : SS) (w : Nat) (mem : List Uid) (hw : w ∉ mem) :
    interpPrepare src_Fwd_prepare (wbsState (encS env ms σ) w mem) w =
      .ok (wbsState (encS env ms { σ with f := prepare env σ.f mem }) w mem) := by
  unfold interpPrepare
  rw [callP_prepare passEnc_fwd.task _ _ env ms w mem _ rfl σ.f (wbsState (encS env ms σ) w mem) rfl hw 0]
  rfl

/-- `BackwardScheduler.__prepare_tasks` on the backward encoding: `bwdRun` starts from `prepare env f0 mem` -/
theorem interpBwdPrepare_eq (env : Pj.Env) (ms : Uid → Bool) (σ : SS) (w : Nat) (mem : List Uid) (hw : w ∉ mem) :
    interpPrepare src_Bwd_prepare (wbsState (encSB env ms σ) w mem) w =
      .ok (wbsState (encSB env ms { σ with f := prepare env σ.f mem }) w mem) := by
  unfold interpPrepare
  rw [callP_prepare passEnc_bwd.task _ _ env ms w mem _ src_Bwd_prepare_eq.1 σ.f (wbsState (encSB env ms σ) w mem) rfl hw 0]
  rfl

namespace Check
open Pj.PassSrc.Check (nof clk)

def ti (children succs : List Uid) (member : Bool := true) (resource : Option Nat := some 0) (milestone : Bool := false) :
    TaskInfo :=
  { tid := 0, parent := none, children := children, preds := [], succs := succs, member := member,
    resource := resource, milestone := milestone, minStart := none }
def wf : Nat := Extracted.bwdShiftMaxSteps + 1

def agree (env : Pj.Env) (ms : Uid → Bool) (n fuel : Nat) (σ : SS) (t : Uid) (m : Time) : Prop :=
  (interpBwdPass env wf (calRef σ.res) fuel (encSB env ms σ) t m).map (fun st => view n (decS (calRef σ.res) st))
    = (bwdPass env fuel [] σ t m).map (view n)
instance (env ms n fuel σ t m) : Decidable (agree env ms n fuel σ t m) := by unfold agree; infer_instance

/-- `agree` is `interpBwdPass_eq` read back by `decS` -/
theorem agree_of_model {env : Pj.Env} {ms : Uid → Bool} {n fuel : Nat} {σ : SS} {t : Uid} {m : Time}
    (hms : ∀ u, (env.info u).milestone = (ms u && (env.info u).children.isEmpty))
    (hrun : RunOK σ.res ((bwdPass env fuel [] σ t m).map (·.res))) : agree env ms n fuel σ t m :=
  view_of_run (decS_encSB env ms _) hrun n
    (interpBwdPass_eq env ms wf hms (Nat.lt_succ_self _) fuel fuel (Nat.le_refl _) [] σ t m)

/-- a leaf with an estimate -/
def e1 : Pj.Env :=
  { n := 1, info := fun _ => ti [] [], roots := [0], balance := true, defaultEst := 4, clock := clk, bound := 19000 }
def s1 : SS :=
  { f := fun u => if u = 0 then { nof with est := some 20 } else nof, rows := [], done := [], res := [], reads := 0 }
example : agree e1 (fun _ => false) 2 3 s1 0 19000 := agree_of_model (fun _ => rfl) (by decide +kernel)

/-- a summary with two leaves on the same (supplied) resource; the second leaf has work spent; a row of another
    task is already in the ledger.  With balancing the leaf placed first (the LAST child) takes the later days. -/
def e2 : Pj.Env :=
  { n := 3, info := fun u => match u with
      | 0 => ti [1, 2] [] (resource := none)
      | _ => ti [] [] (resource := some 3),
    roots := [0], balance := true, defaultEst := 6, clock := clk, bound := 19000 }
def s2 : SS :=
  { f := fun u => if u = 2 then { nof with est := some 12, spent := some 2 } else nof,
    rows := [{ res := some 3, day := 18998, task := 7, units := 3 }], done := [],
    res := [(some 3, .weekly none none [6, 6, 6, 6, 6, 6, 6])], reads := 0 }
example : agree e2 (fun _ => false) 4 3 s2 0 19000 :=
  agree_of_model (fun u => by simp only [e2]; split <;> rfl) (by decide +kernel)
example : agree { e2 with balance := false } (fun _ => false) 4 3 s2 0 19000 :=
  agree_of_model (fun u => by simp only [e2]; split <;> rfl) (by decide +kernel)

/-- a successor chain 0 -> 1 -> 2 where 2 is outside the WBS (it keeps its dates) and has itself an unscheduled
    successor 3 -/
def e3 : Pj.Env :=
  { n := 4, info := fun u => match u with
      | 0 => ti [] [1]
      | 1 => ti [] [2] (resource := some 1)
      | 2 => ti [] [3] (member := false)
      | _ => ti [] [] (member := false),
    roots := [0, 1], balance := true, defaultEst := 5, clock := clk, bound := 19000 }
def s3 : SS :=
  { f := fun u => if u = 2 then { nof with start := some ((37985 : Rat) / 2), end_ := some 18995 } else nof,
    rows := [], done := [], res := [], reads := 0 }
example : agree e3 (fun _ => false) 5 5 s3 0 19000 :=
  agree_of_model (fun u => by simp only [e3]; split <;> rfl) (by decide +kernel)
/-- not enough fuel: RecursionError on both sides -/
example : agree e3 (fun _ => false) 5 1 s3 0 19000 := by decide +kernel

/-- a milestone leaf (1) before a leaf (0); the flagged SUMMARY (2, children 0 and 1) is not a milestone -/
def e4 : Pj.Env :=
  { n := 3, info := fun u => match u with
      | 0 => ti [] []
      | 1 => ti [] [0] (milestone := true)
      | _ => ti [0, 1] [],
    roots := [2], balance := true, defaultEst := 3, clock := clk, bound := 19000 }
def ms4 : Uid → Bool := fun u => u = 1 || u = 2
def s4 : SS := { f := fun _ => nof, rows := [], done := [], res := [], reads := 0 }
example : agree e4 ms4 4 5 s4 2 19000 :=
  agree_of_model (fun u => by simp only [e4, ms4]; split <;> simp_all [ti]) (by decide +kernel)

/-- a summary (0, children 1 and 2) with a successor (3); its first child has the second as successor -/
def e5 : Pj.Env :=
  { n := 4, info := fun u => match u with
      | 0 => ti [1, 2] [3] (resource := none)
      | 1 => ti [] [2]
      | 2 => ti [] []
      | _ => ti [] [] (resource := some 2),
    roots := [0, 3], balance := true, defaultEst := 7, clock := clk, bound := 19000 }
def s5 : SS :=
  { f := fun u => if u = 3 then { nof with est := some 10 } else nof, rows := [], done := [], res := [], reads := 0 }
example : agree e5 (fun _ => false) 5 5 s5 0 19000 :=
  agree_of_model (fun u => by simp only [e5]; split <;> rfl) (by decide +kernel)

/-- a user-fixed end (0), a user-fixed start (1: the earlier of the two is kept), a user-fixed start and end on the
    resource `None` (2) -/
def e6 : Pj.Env :=
  { n := 4, info := fun u => match u with
      | 0 => ti [] []
      | 1 => ti [] []
      | 2 => ti [] [] (resource := none)
      | _ => ti [] [],
    roots := [0, 1, 2], balance := true, defaultEst := 3, clock := clk, bound := 19000 }
def s6 : SS :=
  { f := fun u => if u = 0 then { nof with end_ := some ((37981 : Rat) / 2), est := some 10 }
                  else if u = 1 then { nof with start := some 18000, est := some 10 }
                  else if u = 2 then { nof with start := some 18990, end_ := some 19005 } else nof,
    rows := [], done := [], res := [], reads := 0 }
example : agree e6 (fun _ => false) 4 5 s6 0 19000 :=
  agree_of_model (fun u => by simp only [e6]; split <;> rfl) (by decide +kernel)
example : agree e6 (fun _ => false) 4 5 s6 1 19000 :=
  agree_of_model (fun u => by simp only [e6]; split <;> rfl) (by decide +kernel)
example : agree e6 (fun _ => false) 4 5 s6 2 19000 :=
  agree_of_model (fun u => by simp only [e6]; split <;> rfl) (by decide +kernel)

/-- errors coincide: the child 1 counts as calculated but has no estimate (TypeError in `sum`); a summary whose
    only child has no start (ValueError in `min`) -/
def e7 : Pj.Env :=
  { n := 2, info := fun u => match u with
      | 0 => ti [1] []
      | _ => ti [] [],
    roots := [0], balance := true, defaultEst := 3, clock := clk, bound := 19000 }
def s7 : SS := { f := fun _ => nof, rows := [], done := [1], res := [], reads := 0 }
def s7' : SS :=
  { f := fun u => if u = 1 then { nof with est := some 1, spent := some 0 } else nof, rows := [], done := [1], res := [],
    reads := 0 }
example : (bwdPass e7 3 [] s7 0 19000).map (view 2) = .error (.crash .type) := by decide +kernel
example : agree e7 (fun _ => false) 3 3 s7 0 19000 :=
  agree_of_model (fun u => by simp only [e7]; split <;> rfl) (by decide +kernel)
example : (bwdPass e7 3 [] s7' 0 19000).map (view 2) = .error (.crash .value) := by decide +kernel
example : agree e7 (fun _ => false) 3 3 s7' 0 19000 :=
  agree_of_model (fun u => by simp only [e7]; split <;> rfl) (by decide +kernel)

/-- stage 4, concretely: the WBS object is `ref 9`, its members 0 (a summary), 1 and 2 (leaves); 3 is a summary
    OUTSIDE the WBS and keeps its fields -/
def eP : Pj.Env :=
  { n := 4, info := fun u => match u with
      | 0 => ti [1, 2] []
      | 3 => ti [4] [] (member := false)
      | _ => ti [] [],
    roots := [0], balance := true, defaultEst := 0, clock := clk, bound := 19000 }
def sP : SS :=
  { f := fun u => { start := some (19000 + u), end_ := some (19001 + u), est := some 5, spent := some 1 }, rows := [],
    done := [], res := [], reads := 0 }
def fieldsOf (n : Nat) (st : PState) : List Fields := (List.range n).map (fun u => decFields (st.heap u))
example : (interpPrepare src_Bwd_prepare (wbsState (encSB eP (fun _ => false) sP) 9 [0, 1, 2]) 9).map (fieldsOf 5) =
    .ok ((List.range 5).map (prepare eP sP.f [0, 1, 2])) := by
  rw [interpBwdPrepare_eq eP (fun _ => false) sP 9 [0, 1, 2] (by decide)]
  decide +kernel
example : (interpPrepare src_Fwd_prepare (wbsState (encS eP (fun _ => false) sP) 9 [0, 1, 2]) 9).map (fieldsOf 5) =
    .ok ((List.range 5).map (prepare eP sP.f [0, 1, 2])) := by
  rw [interpFwdPrepare_eq eP (fun _ => false) sP 9 [0, 1, 2] (by decide)]
  decide +kernel
example : (List.range 5).map (prepare eP sP.f [0, 1, 2]) ≠ (List.range 5).map sP.f := by decide +kernel

end Check

/-
  NEGATIVE SANITY CHECK (not compiled: the
  text of `BackwardScheduler.__backward_pass` (resp. `__prepare_tasks`) in a scratch copy of the snapshot schedule.py is
  edited, the translator is run on the mutated text, its output written to Extracted/PassSrc.lean, then
  `lake build PjVerif.Lemmas.PassSrcBwd`; afterwards the file was regenerated from the real source and the build
  succeeded again).  `Check eN` = on the environment `eN` the mutated method and the model differ (`agree` evaluated on
  both sides with `decide +kernel`; in this file these runs are instances of `interpBwdPass_eq`, so on the mutant the
  lemma named fails first).  Every semantic mutation is a Miss of the translator or breaks a lemma:

    `+ [min_date]` dropped                                              s2_ok FAILS; Check e1 e2 e4 e5 e6 e7
    `min([...] + [min_date])` -> `max(...)`                             s2_ok FAILS; Check e3 e4 e5
    children get `min_date` instead of `min_successor_starts`           src_Bwd_pass_shape FAILS; Check e5
    `reversed(_task.children)` -> `_task.children`                      it3_ok FAILS; Check e2
    `and is_leaf` dropped                                               bwdTail_shape FAILS; Check e4
    milestone: `_task.spent = 0` omitted                                bwdTail_eq FAILS; Check e4
    milestone: `_task.start = _task.end = …` -> `_task.end = …`         bwdTail_eq FAILS; Check e4
    `_task.end += timedelta(days=1)` dropped                            iEnd_ok FAILS; Check e1 e2 e3 e4 e5 e6
    `timedelta(days=1)` -> `timedelta(days=2)`                          iEnd_ok FAILS; Check e1 e2 e3 e4 e5 e6
    `_task.end += …` -> `_task.end -= …`                                iEnd_ok FAILS; Check e1 e2 e3 e4 e5 e6
    `if pred.wbs is _task.wbs` -> `if True`                             src_Bwd_pass_shape FAILS; Check e3
    `pred.wbs is _task.wbs` -> `==`                                     src_Bwd_pass_shape FAILS
    `if id(_task) in calculated: return` removed                        src_Bwd_pass_shape, bwdTail_shape, … FAIL; Check e4 e5 e7
    `calculated.append(id(_task))` -> `pass`                            bwdTail_shape FAILS; Check e1 e2 e3 e4 e5 e6
    `left_hours = max(est - spent, 0)` -> `est - spent`                 iStart_ok FAILS
    `end = min(_task.end, min_date)` -> `_task.end`                     iStart_ok FAILS; Check e6
    `end = min(_task.end, min_date)` -> `max(…)`                        iStart_ok FAILS; Check e2 e3 e5 e6
    `if _task.start is not None: start = min(…)` removed                iStart_ok FAILS; Check e6
    `start = min(_task.start, start)` -> `max(…)`                       iStart_ok FAILS; Check e6
    `if _task.start is not None` -> `is None`                           iStart_ok FAILS; Check e1 e2 e3 e4 e5 e6
    the start block guarded by `_task.start is None` (as forward)       iStart_ok FAILS; Check e6
    shift called with `_task.end` instead of `end`                      iStart_ok FAILS; Check e6
    shift called with `_task.estimate` instead of `left_hours`          iStart_ok FAILS; Check e2
    `_task.start = start` -> `_task.end = start`                        iStart_ok FAILS; Check e1 e2 e3 e4 e5 e6
    summary start `min([...])` -> `max([...])`                          iStart_ok FAILS; Check e2 e5
    nearest called with `min_date` instead of `_task.end`               iEnd_ok FAILS; Check e3 e5
    first `_task.end = min_successor_starts` -> `min_date`              iEnd_ok FAILS; Check e3 e5
    no children ends: `_task.end = min_date` -> `min_successor_starts`  iEnd_ok FAILS
    `max(children_ends)` -> `min(children_ends)`                        iEnd_ok FAILS; Check e2 e4 e5
    `if len(children_ends) == 0` -> `!= 0`                              iEnd_ok FAILS; Check e5 e7
    `if _task.end is None` -> `is not None`                             iEnd_ok FAILS; Check e1 e2 e3 e4 e5 e6
    `_task.estimate = self.__default_estimate` -> `= 0`                 bwdTail_shape FAILS; Check e2 e3 e4 e5 e6
    summary `spent` = sum of the children's ESTIMATES                   bwdTail_shape FAILS; Check e2 e4 e5
    `if t.start is not None` dropped (successor starts)                 s2_ok FAILS
    `is_leaf = len(children) == 0` -> `>= 0`                            bwdTail_shape FAILS; Check e2 e4 e5 e7
    `for pred in _task.successors` -> `_task.predecessors`              it1_ok FAILS; Check e3 e4 e5
    children loop moved before the successor loop                       src_Bwd_pass_shape, … FAIL; Check e5
    `setdefault(k, Resource(k))` -> `self.__resources[k]`               MISS
    `setdefault(k, Resource(None))`                                     MISS
    aliasing `c = calculated; c.append(id(_task))`                      MISS
    the recursion passes `[]` instead of `calculated`                   MISS
    `id(_task) in calculated` -> `_task in calculated`                  MISS
    the children recursion calls `self.__forward_pass`                  MISS
    `x = reversed(_task.children)` (outside a `for`)                    MISS
    `_task.children += []` (a list slot)                                MISS
    `min(_task.end, min_date, min_date)`, a `while` loop                MISS
    __prepare_tasks: `len(t.children) > 0` -> `>= 0` (Bwd only)         src_Bwd_prepare_eq FAILS; Check eP
    __prepare_tasks: the same in the forward method                     src_Bwd_prepare_eq, prepBody_ok FAIL; Check eP
    __prepare_tasks: `> 0` -> `== 0` (both)                             prepBody_ok FAILS; Check eP
    __prepare_tasks: `t.spent` dropped from the chain (Bwd only)        src_Bwd_prepare_eq FAILS; Check eP
    __prepare_tasks: `= None` -> `= 0` (both)                           prepBody_ok FAILS; Check eP
    __prepare_tasks: `project.tasks` -> `project.roots`, `reversed(project.tasks)`, aliasing `p = project`   MISS

  Harmless rewrites that still build: comments, a docstring, blank lines, `return None`, `sum([...], 0)` (same term);
  `estimate = 0` / `spent = 0` swapped in the milestone branch; `_task.start = x; _task.end = x` instead of the chained
  assignment; `_task.end = _task.end + timedelta(days=1)` (same term as `+=`); `if is_leaf and _task.milestone`;
  `if not (_task.end is not None)`; `_task.wbs is pred.wbs`; `0 == len(_task.children)` (same term); the branches of
  `if len(children_ends) == 0` swapped under `!= 0`; renaming the loop variable `pred`, the locals `left_hours`,
  `children_ends`; in both `__prepare_tasks`: four separate assignments instead of the chain, `0 < len(t.children)`.
  The statements the method shares with `__forward_pass` (the `calculated` test, the body of the first loop,
  `resource` / `is_leaf`, the milestone test and the milestone branch after its first assignment, the `estimate` and
  `spent` statements, `calculated.append`) are compared with the forward ones (`bwdTail_shape`, `src_Bwd_pass_shape`,
  the shape of `tailParts.msThen` in `bwdTail_eq`) and tied in Lemmas/PassSrc.lean: a rewrite of one of them that is
  harmless there still builds if it is made in BOTH methods; made in one method only it breaks the comparison.
  Harmless rewrites that break a proof or are a Miss (the proofs fix the names of the comprehension variables and do
  not know that `min` / `max` are symmetric; the translator keeps the argument order of `min` / `max` because the
  arguments may change the state): `len(children_ends) < 1` (iEnd_ok), `min([min_date] + [...])` (s2_ok), the
  comprehension variable `t` renamed (s2_ok), `max(0, est - spent)`, `min(min_date, _task.end)`,
  `min(start, _task.start)` (iStart_ok), `if not (id(_task) not in calculated)` (Miss), `_task.children[::-1]`,
  `list(reversed(_task.children))`, `timedelta(hours=24)` (Miss); any harmless edit of only ONE of the two
  `__prepare_tasks` (src_Bwd_prepare_eq), `len(t.children) != 0` and a renamed loop variable there (prepBody_ok).
-/

end Pj.PassSrcBwd

/-
  Lemmas/GraphPerm.lean — operations that only permute one children list (move / sort / reorder), the search of
  `WBS.remove`, and the one dispatch over the operations: an operation that is not list-level is a call of one of the
  four setters on arguments it names or the state stores, a permutation of one children list, or a call that touches
  nothing (`Call`).  C01 is its first reading; Lemmas/GraphBounded.lean and Lemmas/GraphInvStep.lean hold the others.
-/
import PjVerif.Lemmas.GraphParent
import PjVerif.Lemmas.GraphLinks
namespace Pj

theorem permChildren_WF (s : G) (h : Uid) (l : List Uid) (hw : WF s) (hp : l.Perm (s.children h)) :
    WF { s with children := upd s.children h l } := by
  have hmem : ∀ p x, x ∈ upd s.children h l p ↔ x ∈ s.children p := by
    intro p x
    by_cases hph : p = h
    · subst hph; simp [hp.mem_iff]
    · simp [upd, hph]
  constructor
  · intro t p
    show s.parent t = some p ↔ t ∈ upd s.children h l p
    rw [hmem]; exact hw.listed t p
  · intro p
    show (upd s.children h l p).Nodup
    by_cases hph : p = h
    · subst hph; simp only [upd_same]; exact hp.nodup_iff.2 (hw.once p)
    · simp only [upd, hph, if_false]; exact hw.once p
  · exact hw.forest
  · exact hw.rootsTop
  · exact hw.sym
  · exact hw.dag
  · exact hw.noAncDep

theorem insertAt_perm (l1 : List Uid) (task : Uid) (i : Nat) :
    (l1.take i ++ [task] ++ l1.drop i).Perm (task :: l1) := by
  have h1 : (l1.take i ++ [task] ++ l1.drop i) = l1.take i ++ task :: l1.drop i := by simp
  rw [h1]
  have h2 := @List.perm_middle _ task (l1.take i) (l1.drop i)
  rw [List.take_append_drop] at h2
  exact h2

theorem moveOne_perm (l : List Uid) (task : Uid) (b a : Option Uid) (hin : task ∈ l)
    (hba : b.isSome = true ∨ a.isSome = true) : (moveOne l task b a).Perm l := by
  have he : (task :: l.erase task).Perm l := (List.perm_cons_erase hin).symm
  cases b with
  | some b => exact (insertAt_perm _ _ _).trans he
  | none =>
    cases a with
    | some a => exact (insertAt_perm _ _ _).trans he
    | none => simp at hba

theorem foldMove_perm (l : List Uid) (b a : Option Uid) (hba : b.isSome = true ∨ a.isSome = true) :
    ∀ (ts : List Uid) (l0 : List Uid), (∀ t ∈ ts, t ∈ l) → l0.Perm l →
      (ts.foldl (fun acc t => moveOne acc t b a) l0).Perm l := by
  intro ts
  induction ts with
  | nil => intro l0 _ hp; exact hp
  | cons t ts ih =>
    intro l0 hin hp
    simp only [List.foldl_cons]
    apply ih
    · intro t' ht'; exact hin t' (List.mem_cons_of_mem _ ht')
    · have : t ∈ l0 := hp.mem_iff.2 (hin t List.mem_cons_self)
      exact (moveOne_perm l0 t b a this hba).trans hp

theorem mem_of_not_any_not_contains (ts l : List Uid) (h : ¬ (ts.any fun t => !l.contains t) = true) :
    ∀ t ∈ ts, t ∈ l := by
  intro t ht
  simp only [List.any_eq_true, not_exists, not_and] at h
  simpa using h t ht

/-- one guard of a chain of guards that all lead to the same result `x`: the chain yields `x`, or no guard holds
    and it yields the final result -/
theorem guard_step {α : Type} {g : Bool} {x y r : α} {P : Prop} (h : r = x ∨ (P ∧ r = y)) :
    (if g = true then x else r) = x ∨ ((g = false ∧ P) ∧ (if g = true then x else r) = y) := by
  cases g
  · rcases h with e | ⟨hp, e⟩
    · exact Or.inl e
    · exact Or.inr ⟨⟨rfl, hp⟩, e⟩
  · exact Or.inl rfl

theorem chMove_spec (s : G) (h : Uid) (ts : List Uid) (b a : Option Uid) : chMove s h ts b a = (s, some .runtime) ∨
    ((∀ t ∈ ts, t ∈ s.children h) ∧ (b.isSome = true ∨ a.isSome = true) ∧
     chMove s h ts b a = ({ s with children := upd s.children h (ts.foldl (fun acc t => moveOne acc t b a) (s.children h)) }, none)) := by
  -- one `guard_step` per `if` of `chMove`, in its order; what is used of the six failed guards: the first (`c1`: every
  -- task to move is a child of `h`) and the fifth (`c5`: not both anchors are missing)
  have key : chMove s h ts b a = (s, some .runtime) ∨ _ :=
    guard_step (guard_step (guard_step (guard_step (guard_step (guard_step (Or.inr ⟨trivial, rfl⟩))))))
  rcases key with e | ⟨⟨c1, _, _, _, c5, _⟩, e⟩
  · exact Or.inl e
  · refine Or.inr ⟨mem_of_not_any_not_contains _ _ (by rw [c1]; exact Bool.false_ne_true), ?_, e⟩
    cases b
    · cases a
      · cases c5
      · exact Or.inr rfl
    · exact Or.inl rfl

theorem sortBy_perm (key : Uid → Int) (rev : Bool) (l : List Uid) : (sortBy key rev l).Perm l := by
  unfold sortBy
  split
  · exact List.mergeSort_perm _ _
  · exact List.mergeSort_perm _ _

theorem reorderLoop_perm (s : G) (l : List Uid) :
    ∀ (ids : List Int) (new rest r : List Uid), reorderLoop s l ids new rest = .ok r →
      (new ++ rest).Perm l → r.Perm l := by
  intro ids
  induction ids with
  | nil =>
    intro new rest r hr hp
    simp only [reorderLoop, pure, Except.pure, Except.ok.injEq] at hr
    subst hr; exact hp
  | cons i ids ih =>
    intro new rest r hr hp
    simp only [reorderLoop] at hr
    split at hr
    · simp [throw, throwThe, MonadExceptOf.throw] at hr
    · rename_i ch _
      split at hr
      · rename_i hc
        apply ih _ _ _ hr
        have hc' : ch ∈ rest := by simpa using hc
        have h1 : (new ++ [ch] ++ rest.erase ch).Perm (new ++ ch :: rest.erase ch) := by simp
        refine h1.trans (List.Perm.trans ?_ hp)
        exact List.Perm.append_left new (List.perm_cons_erase hc').symm
      · simp [throw, throwThe, MonadExceptOf.throw] at hr

theorem not_hidden_of_TC (s : G) (hw : WF s) (t w : Uid) (h : TC (par s) t w) : s.hidden t = false := by
  cases hh : s.hidden t with
  | false => rfl
  | true => exact (par_TC_none s (hw.rootsTop t hh).1 h).elim

theorem child_not_hidden (s : G) (hw : WF s) (h c : Uid) (hc : c ∈ s.children h) : s.hidden c = false :=
  not_hidden_of_TC s hw c h (TC.single ((hw.listed c h).mpr hc))

theorem pred_not_hidden (s : G) (hw : WF s) (t a : Uid) (ha : a ∈ s.preds t) : s.hidden a = false := by
  cases hh : s.hidden a with
  | false => rfl
  | true =>
    have h1 := (hw.rootsTop a hh).2.2
    have h2 := (hw.sym a t).1 ha
    rw [h1] at h2; cases h2

theorem succ_not_hidden (s : G) (hw : WF s) (t b : Uid) (hb : b ∈ s.succs t) : s.hidden b = false :=
  pred_not_hidden s.rev hw.rev t b hb

theorem visible_of_tid (s s' : G) (h : s'.tid = s.tid) (op : Op) (hv : op.visible s) : op.visible s' := by
  intro u hu
  rw [hidden_of_tid s s' h]; exact hv u hu

theorem mem_pyInsert (l : List Uid) (i : Int) (t x : Uid) (hx : x ∈ pyInsert l i t) : x = t ∨ x ∈ l := by
  simp only [pyInsert, List.mem_append, List.mem_singleton] at hx
  rcases hx with (hx | hx) | hx
  · exact Or.inr (List.mem_of_mem_take hx)
  · exact Or.inl hx
  · exact Or.inr (List.mem_of_mem_drop hx)

/-- the depth-first search removes the task from the first list that holds it (by `remove` on that list, whose error it
    passes on), or finds no such list at or below `cur` -/
theorem removeRec_spec (t : Uid) (s : G) :
    ∀ (f : Nat) (cur : Uid) (r : G × Option Err × Bool), removeRec t f s cur = some r →
      (∃ p, t ∈ s.children p ∧ RTC (fun a b => b ∈ s.children a) cur p ∧
        r = ((chRemove s p t).1, (chRemove s p t).2, true)) ∨
      (r = (s, none, false) ∧ ¬ TC (fun a b => b ∈ s.children a) cur t) := by
  intro f
  induction f with
  | zero => intro cur r h; rw [removeRec.eq_1] at h; cases h
  | succ f ih =>
    intro cur r h
    rw [removeRec.eq_2] at h
    split at h
    · rename_i hc
      cases h
      exact Or.inl ⟨cur, by simpa using hc, RTC.refl, rfl⟩
    · rename_i hc
      have hgo : ∀ (cs : List Uid) (r : G × Option Err × Bool), removeRec.go t f s cs = some r →
          (∃ p, t ∈ s.children p ∧ (∃ c ∈ cs, RTC (fun a b => b ∈ s.children a) c p) ∧
            r = ((chRemove s p t).1, (chRemove s p t).2, true)) ∨
          (r = (s, none, false) ∧ ∀ c ∈ cs, ¬ TC (fun a b => b ∈ s.children a) c t) := by
        intro cs
        induction cs with
        | nil =>
          intro r h
          rw [removeRec.go.eq_1] at h
          cases h
          exact Or.inr ⟨rfl, fun c hc => (by cases hc)⟩
        | cons c cs ihc =>
          intro r h
          rw [removeRec.go.eq_2] at h
          split at h
          · cases h
          · rename_i heq
            cases h
            rcases ih c _ heq with ⟨p, hp, hpc, e⟩ | ⟨e, _⟩
            · exact Or.inl ⟨p, hp, ⟨c, List.mem_cons_self, hpc⟩, e⟩
            · cases e
          · rename_i heq
            cases h
            rcases ih c _ heq with ⟨p, hp, hpc, e⟩ | ⟨e, _⟩
            · exact Or.inl ⟨p, hp, ⟨c, List.mem_cons_self, hpc⟩, e⟩
            · cases e
          · rename_i heq
            rcases ih c _ heq with ⟨_, _, _, e⟩ | ⟨_, hnc⟩
            · exact Bool.noConfusion (congrArg (fun r => r.2.2) e)
            · rcases ihc r h with ⟨p, hp, ⟨c', hc', hpc⟩, e⟩ | ⟨e, hn⟩
              · exact Or.inl ⟨p, hp, ⟨c', List.mem_cons_of_mem _ hc', hpc⟩, e⟩
              · refine Or.inr ⟨e, fun c' hc' => ?_⟩
                rcases List.mem_cons.mp hc' with rfl | hc'
                · exact hnc
                · exact hn c' hc'
      rcases hgo _ r h with ⟨p, hp, ⟨c, hcc, hpc⟩, e⟩ | ⟨e, hn⟩
      · exact Or.inl ⟨p, hp, RTC.head (r := fun a b => b ∈ s.children a) hcc hpc, e⟩
      · refine Or.inr ⟨e, fun htc => ?_⟩
        rcases htc.head_cases with e | ⟨b, e1, e2⟩
        · exact hc (List.contains_iff_mem.mpr e)
        · exact hn b e1 e2

theorem wbsRemove_search (s : G) (w t : Uid) :
    (∃ p, t ∈ s.children p ∧ RTC (fun a b => b ∈ s.children a) w p ∧ wbsRemove s w t = chRemove s p t) ∨
    (wbsRemove s w t = (s, none) ∧ ¬ TC (fun a b => b ∈ s.children a) w t) ∨
    (wbsRemove s w t = (s, some (.crash .recursion)) ∧ removeRec t s.fuel s w = none) := by
  unfold wbsRemove
  split
  · rename_i heq; exact Or.inr (Or.inr ⟨rfl, heq⟩)
  · rename_i heq
    rcases removeRec_spec t s _ w _ heq with ⟨p, hp, hpw, e⟩ | ⟨e, hn⟩ <;> cases e
    · exact Or.inl ⟨p, hp, hpw, rfl⟩
    · exact Or.inr (Or.inl ⟨rfl, hn⟩)

/-- what a single call on `s` amounts to; `A` = admissible in task position, `H` = admissible as holder of a children
    list; `Q` allows a rejection with an error other than RuntimeError -/
inductive Call (Q : Prop) (A H : Uid → Prop) (s : G) : G × Option Err → Prop
  | setParent (t : Uid) (p : Option Uid) (ht : A t) (hp : ∀ q, p = some q → H q) : Call Q A H s (setParent s t p)
  | setChildren (h : Uid) (l : List Uid) (hh : H h) (hl : ∀ v ∈ l, A v) : Call Q A H s (setChildren s h l)
  | setPreds (t : Uid) (l : List Uid) (ht : A t) (hl : ∀ v ∈ l, A v) : Call Q A H s (setPreds s t l)
  | setSuccs (t : Uid) (l : List Uid) (ht : A t) (hl : ∀ v ∈ l, A v) : Call Q A H s (setSuccs s t l)
  | perm (h : Uid) (l : List Uid) (hp : l.Perm (s.children h)) : Call Q A H s ({ s with children := upd s.children h l }, none)
  | skip : Call Q A H s (s, none)
  | reject (e : Err) (he : e = .runtime ∨ Q) : Call Q A H s (s, some e)

/-- what is stored in a state is admissible -/
structure Stored (A H : Uid → Prop) (s : G) : Prop where
  children : ∀ h v, v ∈ s.children h → A v ∧ H h
  preds : ∀ t v, v ∈ s.preds t → A v
  succs : ∀ t v, v ∈ s.succs t → A v

theorem Call.weaken {Q Q' : Prop} {A H : Uid → Prop} {s : G} {r : G × Option Err} (hq : Q → Q') (c : Call Q A H s r) :
    Call Q' A H s r := by
  cases c with
  | setParent t p ht hp => exact .setParent t p ht hp
  | setChildren h l hh hl => exact .setChildren h l hh hl
  | setPreds t l ht hl => exact .setPreds t l ht hl
  | setSuccs t l ht hl => exact .setSuccs t l ht hl
  | perm h l hp => exact .perm h l hp
  | skip => exact .skip
  | reject e he => exact .reject e (he.imp id hq)

theorem Call.preserves {Q : Prop} {A H : Uid → Prop} {s : G} {r : G × Option Err} (c : Call Q A H s r) (P : G → Prop)
    (hpar : ∀ t p, A t → (∀ q, p = some q → H q) → P (Pj.setParent s t p).1)
    (hchi : ∀ h l, H h → (∀ v ∈ l, A v) → P (Pj.setChildren s h l).1)
    (hprd : ∀ t l, A t → (∀ v ∈ l, A v) → P (Pj.setPreds s t l).1)
    (hsuc : ∀ t l, A t → (∀ v ∈ l, A v) → P (Pj.setSuccs s t l).1)
    (hperm : ∀ h l, l.Perm (s.children h) → P { s with children := upd s.children h l }) (hs : P s) : P r.1 := by
  cases c with
  | setParent t p ht hp => exact hpar t p ht hp
  | setChildren h l hh hl => exact hchi h l hh hl
  | setPreds t l ht hl => exact hprd t l ht hl
  | setSuccs t l ht hl => exact hsuc t l ht hl
  | perm h l hp => exact hperm h l hp
  | skip => exact hs
  | reject e he => exact hs

theorem static_trans {s s' s'' : G} (h1 : s''.n = s'.n ∧ s''.tid = s'.tid) (h2 : s'.n = s.n ∧ s'.tid = s.tid) :
    s''.n = s.n ∧ s''.tid = s.tid :=
  ⟨h1.1.trans h2.1, h1.2.trans h2.2⟩

theorem Call.static {Q : Prop} {A H : Uid → Prop} {s : G} {r : G × Option Err} (c : Call Q A H s r) :
    r.1.n = s.n ∧ r.1.tid = s.tid :=
  c.preserves (fun s' => s'.n = s.n ∧ s'.tid = s.tid) (fun t p _ _ => setParent_static s t p)
    (fun h l _ _ => setChildren_static s h l) (fun t l _ _ => setPreds_static s t l) (fun t l _ _ => setSuccs_static s t l)
    (fun _ _ _ => ⟨rfl, rfl⟩) ⟨rfl, rfl⟩

/-- `remove` on a children list, when it acts, assigns a sub-list of the current children -/
theorem Call.chRemove {Q : Prop} {A H : Uid → Prop} {s : G} (st : Stored A H s) (h t : Uid) :
    Call Q A H s (chRemove s h t) := by
  unfold Pj.chRemove
  split
  · rename_i hc
    have hc' : t ∈ s.children h := by simpa using hc
    exact .setChildren h _ (st.children h t hc').2 (fun v hv => (st.children h v (List.mem_filter.mp hv).1).1)
  · exact .skip

theorem Call.wbsRemove {A H : Uid → Prop} {s : G} (st : Stored A H s) (w t : Uid) :
    Call True A H s (wbsRemove s w t) := by
  rcases wbsRemove_search s w t with ⟨p, _, _, e⟩ | ⟨e, _⟩ | ⟨e, _⟩ <;> rw [e]
  · exact .chRemove st p t
  · exact .skip
  · exact .reject _ (Or.inr trivial)

/-- the list-level operations: the list, and the operation applied to each of its elements -/
def Op.each : Op → Option (List Uid × (Uid → Op))
  | .listLshift ts l => some (ts, fun t => .lshift t l)
  | .listRshift ts l => some (ts, fun t => .rshift t l)
  | .listSetParent ts p => some (ts, fun t => .setParent t p)
  | .wbsRemoveAll w ts => some (ts, fun t => .wbsRemove w t)
  | .chRemoveAll h ts => some (ts, fun t => .chRemove h t)
  | _ => none

theorem Op.each_step {op : Op} {ts : List Uid} {g : Uid → Op} (h : op.each = some (ts, g)) (s : G) :
    step s op = forEach (fun s t => step s (g t)) s ts := by
  cases op <;> cases h <;> rfl

theorem Op.each_args {op : Op} {ts : List Uid} {g : Uid → Op} (h : op.each = some (ts, g)) {t : Uid} (ht : t ∈ ts) :
    (∀ u ∈ (g t).taskArgs, u ∈ op.taskArgs) ∧ (∀ u ∈ (g t).allUids, u ∈ op.allUids) ∧ (g t).each = none ∧
    ¬ ∃ h ids, g t = .chReorder h ids := by
  -- per list-level operation what is left is propositional: `u = t ∨ u ∈ l` (or `u = h ∨ u = t`) gives
  -- `u ∈ ts ∨ u ∈ l` (or `u = h ∨ u ∈ ts`) by `ht`
  cases op <;> cases h <;> refine ⟨?_, ?_, rfl, nofun⟩ <;> intro u hu <;>
    simp only [Op.taskArgs, Op.allUids, List.mem_cons, List.mem_append, List.not_mem_nil, or_false, Option.mem_toList] at hu ⊢ <;>
    grind

theorem Op.taskArgs_sub {op : Op} {u : Uid} (h : u ∈ op.taskArgs) : u ∈ op.allUids := by
  cases op <;> simp_all [Op.taskArgs, Op.allUids]

/-- every operation that is neither list-level nor the search of `WBS.remove` is one call; only `reorder` rejects with
    something other than RuntimeError -/
theorem step_call {A H : Uid → Prop} (s : G) (op : Op) (st : Stored A H s)
    (hA : ∀ u ∈ op.taskArgs, A u) (hH : ∀ u ∈ op.allUids, H u) (h1 : op.each = none)
    (hw : ∀ w t, op ≠ .wbsRemove w t) : Call (∃ h ids, op = .chReorder h ids) A H s (step s op) := by
  -- `cases h1` disposes of the list-level operations; what the hypotheses say is then spelled out per operation
  cases op <;> cases h1 <;>
    simp only [Op.allUids, Op.taskArgs, List.forall_mem_cons, List.forall_mem_append, Option.mem_toList,
      List.not_mem_nil, false_imp_iff, implies_true, and_true] at hA hH
  case setParent t p => exact .setParent t p hA.1 hH.2
  case setChildren h l => exact .setChildren h l hH.1 hA
  case chAppend h t => exact .setParent t (some h) hA (fun q hq => by cases hq; exact hH.1)
  case chRemove h t => exact .chRemove st h t
  case chInsert h i t =>
    refine .setChildren h _ hH.1 fun v hvl => ?_
    rcases mem_pyInsert _ _ _ _ hvl with rfl | hvl
    · exact hA
    · exact (st.children h v (List.mem_filter.mp hvl).1).1
  case chMove h ts b a =>
    show Call _ A H s (chMove s h ts b a)
    rcases chMove_spec s h ts b a with e | ⟨hin, hba, e⟩
    · rw [e]; exact .reject _ (Or.inl rfl)
    · rw [e]; exact .perm h _ (foldMove_perm _ b a hba ts _ hin (List.Perm.refl _))
  case chSort h keys rev => exact .perm h _ (sortBy_perm _ rev _)
  case chReorder h ids =>
    show Call _ A H s (chReorder s h ids)
    unfold chReorder
    split
    · exact .reject _ (Or.inr ⟨h, ids, rfl⟩)
    · rename_i l hl
      exact .perm h l (reorderLoop_perm s _ ids [] _ l hl (by simp))
  case setPreds t l => exact .setPreds t l hA.1 hA.2
  case setSuccs t l => exact .setSuccs t l hA.1 hA.2
  case prAppend t x =>
    exact .setPreds t _ hA.1 (List.forall_mem_append.mpr ⟨st.preds t, fun v hvx => by rw [List.mem_singleton.mp hvx]; exact hA.2⟩)
  case suAppend t x =>
    exact .setSuccs t _ hA.1 (List.forall_mem_append.mpr ⟨st.succs t, fun v hvx => by rw [List.mem_singleton.mp hvx]; exact hA.2⟩)
  case prRemove t x =>
    show Call _ A H s (prRemove s t x)
    unfold prRemove
    split
    · exact .setPreds t _ hA.1 (fun v hvl => st.preds t v (List.mem_filter.mp hvl).1)
    · exact .skip
  case suRemove t x =>
    show Call _ A H s (suRemove s t x)
    unfold suRemove
    split
    · exact .setSuccs t _ hA.1 (fun v hvl => st.succs t v (List.mem_filter.mp hvl).1)
    · exact .skip
  case floordiv h l =>
    exact .setChildren h _ hH.1 (List.forall_mem_append.mpr ⟨fun v hv => (st.children h v hv).1, hA⟩)
  case lshift t l => exact .setPreds t _ hA.1 (List.forall_mem_append.mpr ⟨st.preds t, hA.2⟩)
  case rshift t l => exact .setSuccs t _ hA.1 (List.forall_mem_append.mpr ⟨st.succs t, hA.2⟩)
  case wbsRemove w t => exact absurd rfl (hw w t)

/-- a property of states that every call keeps is kept by every operation, and no operation writes the universe size or
    a task id.  Admissibility may depend on the state through `n` and `tid` only. -/
theorem step_preserves (I : G → Prop) (A H : G → Uid → Prop)
    (hst : ∀ s, I s → Stored (A s) (H s) s)
    (hcall : ∀ s r, I s → Call True (A s) (H s) s r → I r.1)
    (hsame : ∀ s s' u, s'.n = s.n → s'.tid = s.tid → (A s u → A s' u) ∧ (H s u → H s' u))
    (s : G) (op : Op) (hi : I s) (hA : ∀ u ∈ op.taskArgs, A s u) (hH : ∀ u ∈ op.allUids, H s u) :
    I (step s op).1 ∧ (step s op).1.n = s.n ∧ (step s op).1.tid = s.tid := by
  have single : ∀ (s' : G) (op' : Op), I s' → (∀ u ∈ op'.taskArgs, A s' u) → (∀ u ∈ op'.allUids, H s' u) →
      op'.each = none → I (step s' op').1 ∧ (step s' op').1.n = s'.n ∧ (step s' op').1.tid = s'.tid := by
    intro s' op' hi' hA' hH' h1
    have c : Call True (A s') (H s') s' (step s' op') := by
      by_cases hw : ∃ w t, op' = .wbsRemove w t
      · obtain ⟨w, t, rfl⟩ := hw
        exact .wbsRemove (hst s' hi') w t
      · exact (step_call s' op' (hst s' hi') hA' hH' h1 (fun w t e => hw ⟨w, t, e⟩)).weaken (fun _ => trivial)
    exact ⟨hcall s' _ hi' c, c.static⟩
  cases h : op.each with
  | none => exact single s op hi hA hH h
  | some x =>
    obtain ⟨ts, g⟩ := x
    rw [Op.each_step h]
    refine forEach_preserves_mem (fun s' => I s' ∧ s'.n = s.n ∧ s'.tid = s.tid) _ ts s ?_ ⟨hi, rfl, rfl⟩
    intro s' t ht ⟨hi', hs'⟩
    obtain ⟨a1, a2, a3, _⟩ := Op.each_args h ht
    obtain ⟨k1, k2⟩ := single s' (g t) hi' (fun u hu => (hsame s s' u hs'.1 hs'.2).1 (hA u (a1 u hu)))
      (fun u hu => (hsame s s' u hs'.1 hs'.2).2 (hH u (a2 u hu))) a3
    exact ⟨k1, static_trans k2 hs'⟩

theorem step_static (s : G) (op : Op) : (step s op).1.n = s.n ∧ (step s op).1.tid = s.tid :=
  (step_preserves (fun _ => True) (fun _ _ => True) (fun _ _ => True)
    (fun _ _ => ⟨fun _ _ _ => ⟨trivial, trivial⟩, fun _ _ _ => trivial, fun _ _ _ => trivial⟩) (fun _ _ _ _ => trivial)
    (fun _ _ _ _ _ => ⟨id, id⟩) s op trivial (fun _ _ => trivial) (fun _ _ => trivial)).2

theorem step_n (s : G) (op : Op) : (step s op).1.n = s.n := (step_static s op).1
theorem step_tid (s : G) (op : Op) : (step s op).1.tid = s.tid := (step_static s op).2
theorem wbsRemove_n (s : G) (w t : Uid) : (wbsRemove s w t).1.n = s.n := step_n s (.wbsRemove w t)

theorem run_tid (ops : List Op) (s : G) : (run s ops).tid = s.tid := by
  induction ops generalizing s with
  | nil => rfl
  | cons op ops ih => exact (ih _).trans (step_tid s op)

theorem WF.stored {s : G} (hw : WF s) : Stored (fun u => s.hidden u = false) (fun _ => True) s :=
  ⟨fun h v hv => ⟨child_not_hidden s hw h v hv, trivial⟩, pred_not_hidden s hw, succ_not_hidden s hw⟩

theorem Call.wf {Q : Prop} {s : G} {r : G × Option Err} (c : Call Q (fun u => s.hidden u = false) (fun _ => True) s r)
    (hw : WF s) : WF r.1 :=
  c.preserves WF (fun t p ht _ => setParent_WF s t p hw ht) (fun h l _ hl => setChildren_WF s h l hw hl)
    (fun t l ht hl => setPreds_WF s t l hw ht hl) (fun t l ht hl => setSuccs_WF s t l hw ht hl)
    (fun h l hp => permChildren_WF s h l hw hp) hw

theorem fresh_WF (n : Nat) (tid : Uid → Int) : WF (fresh n tid) := by
  constructor
  · intro t p; simp [fresh]
  · intro p; simp [fresh]
  · intro t h
    cases h with
    | single h => simp [par, fresh] at h
    | tail _ h => simp [par, fresh] at h
  · intro r _; simp [fresh]
  · intro a b; simp [fresh]
  · intro t h
    cases h with
    | single h => simp [dep, fresh] at h
    | tail _ h => simp [dep, fresh] at h
  · intro a b h; simp [dep, fresh] at h

/-- C01, one step: every public mutator keeps the graph well-formed, whether the call returns or raises -/
theorem step_WF (s : G) (op : Op) (hw : WF s) (hv : op.visible s) : WF (step s op).1 :=
  (step_preserves WF (fun s u => s.hidden u = false) (fun _ _ => True) (fun _ h => h.stored) (fun _ _ h c => c.wf h)
    (fun s s' u _ ht => ⟨fun h => (hidden_of_tid s s' ht u).trans h, id⟩) s op hw hv (fun _ _ => trivial)).1

end Pj

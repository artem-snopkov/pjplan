/-
  Lemmas/FacadeSrcRuns.lean — the concrete runs of Lemmas/FacadeSrcCheck*.lean as instances of the results of
  Lemmas/FacadeSrcD.lean (`interpChRemove_eq` … `interpListSetParent_eq`): an entry point run on the canonical
  encoding of a graph `s` (`runE`) is what `expectR` says, provided the model does not end in RecursionError on that
  call (`noRec`; `move` and `reorder` have no proviso; `sort` asks that the library orders the sort keys as the model's,
  which is tested: `sortStrOK`, `sortListOK`).  Sweeps follow as in Lemmas/TaskSrcRuns.lean.
-/
import PjVerif.Lemmas.FacadeSrcD
import PjVerif.Lemmas.FacadeSrcCheck
import PjVerif.Lemmas.TaskSrcRuns
namespace Pj.FacadeSrc
open Pj.PyLite Pj.Extracted Pj.Extracted.Facade Pj.TaskSrc Pj.TaskSrc.Check
namespace Check

/-- a sweep over `None` and some tasks (`anchorsOpt s`: all of them), `None` apart -/
theorem all_none_imp {f : Option Uid → Bool} {l : List Uid} {a : Bool} {p : Uid → Bool} (h0 : a = true → f none = true)
    (h : ∀ q, p q = true → f (some q) = true) : (a && l.all p) = true → (none :: l.map some).all f = true := by
  simp only [List.all_cons, List.all_map, Bool.and_eq_true, List.all_eq_true, Function.comp]
  exact fun ⟨ha, hp⟩ => ⟨h0 ha, fun q hq => h q (hp q hq)⟩

theorem observe_opResult (s : G) (v : Val) (r : G × Option Err) :
    observe s.n (opResult (encSt s) v r) = expectR s.n v r := by
  obtain ⟨s', _ | e⟩ := r <;> rfl

theorem runE_eq (s : G) {f : PState → Res (Val × PState)} {v : Val} {r : G × Option Err}
    (h : f (encSt s) = opResult (encSt s) v r) : runE s f = expectR s.n v r := by
  unfold runE
  rw [h, observe_opResult]

/-- a general theorem with the recursion proviso, the proviso as the test `noRec` -/
theorem runE_of (s : G) {f : PState → Res (Val × PState)} {v : Val} {r : G × Option Err}
    (h : r.2 ≠ some (.crash .recursion) → f (encSt s) = opResult (encSt s) v r) (hrec : noRec r = true) :
    runE s f = expectR s.n v r :=
  runE_eq s (h (of_decide_eq_true hrec))

theorem chInsert_run (s : G) (hF : s.n + 7 ≤ FF) (h : Uid) (i : Int) (t : Uid) (hrec : noRec (chInsert s h i t) = true) :
    runE s (interpChInsert FF h i t) = expectR s.n noneV (chInsert s h i t) :=
  runE_of s (interpChInsert_eq s _ rfl h i t FF hF) hrec

theorem chRemoveAgree_of (s : G) (hF : s.n + 7 ≤ FF)
    (hrec : allU s (fun h => allU s (fun t => noRec (chRemove s h t))) = true) :
    allU s (fun h => allU s (fun t => decide (agreeChRemove s h t))) = true :=
  allU_imp (fun h => allU_imp fun t => dec_imp (runE_of s (interpChRemove_eq s _ rfl h t FF hF))) hrec

theorem chAppendAgree_of (s : G) (hF : s.n + 5 ≤ FF)
    (hrec : allU s (fun h => allU s (fun t => noRec (chAppend s h t))) = true) :
    allU s (fun h => allU s (fun t => decide (agreeChAppend s h t))) = true :=
  allU_imp (fun h => allU_imp fun t => dec_imp (runE_of s (interpChAppend_eq s _ rfl h t FF hF))) hrec

theorem listSetParent_run (s : G) (hF : s.n + 7 ≤ FF) (ts : List Uid) (q : Uid)
    (hrec : noRec (step s (.listSetParent ts (some q))) = true) :
    runE s (interpListSetParent FF ts (some q)) = expectR s.n noneV (step s (.listSetParent ts (some q))) :=
  runE_of s (interpListSetParent_some_eq s _ rfl ts q FF hF) hrec

/-- `ts.parent = None` on a reachable state -/
theorem listSetParent_none_run (s : G) (hi : Inv s) (hF : s.n + 7 ≤ FF) (ts : List Uid)
    (h : (ts.all (fun t => decide (t < s.n)) && noRec (step s (.listSetParent ts none))) = true) :
    runE s (interpListSetParent FF ts none) = expectR s.n noneV (step s (.listSetParent ts none)) := by
  rw [Bool.and_eq_true, List.all_eq_true] at h
  exact runE_of s (interpListSetParent_inv_eq s _ rfl hi ts none (fun t ht => of_decide_eq_true (h.1 t ht))
    (fun _ hq => by cases hq) FF hF) h.2

/-- the three operators of a task at once (`agreeOps` of Lemmas/FacadeSrcCheckA2.lean) -/
theorem ops_run (s : G) (hF : s.n + 7 ≤ FF) (t : Uid) {v : Val} {l : List Uid} (hv : ValueOf v l)
    (hrec : (noRec (floordiv s t l) && noRec (lshift s t l) && noRec (rshift s t l)) = true) :
    (decide (runE s (interpFloordiv FF t v) = expectR s.n v (floordiv s t l)) &&
     decide (runE s (interpLshift FF t v) = expectR s.n v (lshift s t l)) &&
     decide (runE s (interpRshift FF t v) = expectR s.n v (rshift s t l))) = true :=
  and_imp (and_imp (dec_imp (runE_of s (interpFloordiv_eq s _ rfl t v l hv FF hF)))
    (dec_imp (runE_of s (interpLshift_eq s _ rfl t v l hv FF (by omega)))))
    (dec_imp (runE_of s (interpRshift_eq s _ rfl t v l hv FF (by omega)))) hrec

/-- the two operators of a list of tasks at once (`agreeListOps` of Lemmas/FacadeSrcCheckD.lean) -/
theorem listOps_run (s : G) (hF : s.n + 6 ≤ FF) (ts : List Uid) {v : Val} {l : List Uid} (hv : ValueOf v l)
    (hrec : (noRec (step s (.listLshift ts l)) && noRec (step s (.listRshift ts l))) = true) :
    (decide (runE s (interpListLshift FF ts v) = expectR s.n v (step s (.listLshift ts l))) &&
     decide (runE s (interpListRshift FF ts v) = expectR s.n v (step s (.listRshift ts l)))) = true :=
  and_imp (dec_imp (runE_of s (interpListLshift_eq s _ rfl ts v l hv FF hF)))
    (dec_imp (runE_of s (interpListRshift_eq s _ rfl ts v l hv FF hF))) hrec

/-! ### `move`, `reorder`: no proviso -/

theorem move_run (s : G) (h : Uid) {v : Val} {ts : List Uid} (hv : ValueOf v ts) (b a : Option Uid) :
    runE s (interpChMove FF h v b a) = expectR s.n noneV (chMove s h ts b a) :=
  runE_eq s (interpChMove_eq s _ rfl h v ts hv b a FF (by decide))

theorem reorder_run (s : G) (h : Uid) (ids : List Int) :
    runE s (interpChReorder FF h ids) = expectR s.n noneV (chReorder s h ids) :=
  runE_eq s (interpChReorder_eq s _ rfl h ids FF (by decide))

/-! ### `sort`: the hypotheses of `interpChSort_str_eq` / `interpChSort_list_eq` on the children of `h`, as tests on the
    library: every call it is asked returns a value, and the sort keys it returns are ordered as the model's -/

/-- the value of a library call -/
def okD (r : Res Atom) : Atom :=
  match r with
  | .ok a => a
  | .error _ => .none

def attrL (L : Lib) (u k : Nat) : Atom := okD (L "__getattribute__" [.ref u, .str k])
def strL (L : Lib) (u k : Nat) : Atom := okD (L "str" [attrL L u k])
/-- `'-'.join([str(u.__getattribute__(k)) for k in ks])` -/
def joinL (L : Lib) (ks : List Nat) (u : Nat) : Atom := okD (L "join:-" (ks.map (strL L u)))

def ordB (s : G) (h : Uid) (key : Uid → Int) (val : Uid → Atom) : Bool :=
  decide (∀ u ∈ s.children h, ∀ v ∈ s.children h, keyLe (val u) (val v) = some (decide (key u ≤ key v)))

def sortStrOK (L : Lib) (s : G) (h : Uid) (k : Nat) (key : Uid → Int) : Bool :=
  decide (∀ u ∈ s.children h, L "__getattribute__" [.ref u, .str k] = .ok (attrL L u k)) && ordB s h key (attrL L · k)

def sortListOK (L : Lib) (s : G) (h : Uid) (ks : List Nat) (key : Uid → Int) : Bool :=
  decide (∀ u ∈ s.children h, ∀ k ∈ ks, L "__getattribute__" [.ref u, .str k] = .ok (attrL L u k)) &&
  decide (∀ u ∈ s.children h, ∀ k ∈ ks, L "str" [attrL L u k] = .ok (strL L u k)) &&
  decide (∀ u ∈ s.children h, L "join:-" (ks.map (strL L u)) = .ok (joinL L ks u)) && ordB s h key (joinL L ks)

theorem sortStr_run (L : Lib) (s : G) (h : Uid) (k : Nat) (rev : Bool) (key : Uid → Int)
    (hh : sortStrOK L s h k key = true) :
    runE s (interpChSort L FF h (.atom (.str k)) rev) = expectR s.n noneV (chSort s h key rev) := by
  simp only [sortStrOK, ordB, Bool.and_eq_true, decide_eq_true_eq] at hh
  exact runE_eq s (interpChSort_str_eq L s _ rfl h k rev key _ FF (by decide) hh.1 hh.2)

theorem sortList_run (L : Lib) (s : G) (h : Uid) (ks : List Nat) (rev : Bool) (key : Uid → Int)
    (hh : sortListOK L s h ks key = true) :
    runE s (interpChSort L FF h (.list (ks.map Atom.str)) rev) = expectR s.n noneV (chSort s h key rev) := by
  simp only [sortListOK, ordB, Bool.and_eq_true, decide_eq_true_eq] at hh
  exact runE_eq s (interpChSort_list_eq L s _ rfl h ks rev key _ _ _ FF (by decide) hh.1.1.1 hh.1.1.2 hh.1.2 hh.2)

end Check
end Pj.FacadeSrc

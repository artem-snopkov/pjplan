/-
  Lemmas/Fuel.lean — on a well-formed state over a universe of `n` objects the fuel `n + 1` never runs out:
  Python's RecursionError cannot occur in any of the graph walks (pigeonhole on a duplicate-free chain).
-/
import PjVerif.Lemmas.Rel
namespace Pj

theorem nodup_lt_length_le (n : Nat) (l : List Nat) (hn : l.Nodup) (hlt : ∀ x ∈ l, x < n) : l.length ≤ n := by
  induction n generalizing l with
  | zero =>
    cases l with
    | nil => exact Nat.le_refl 0
    | cons x xs => exact absurd (hlt x List.mem_cons_self) (Nat.not_lt_zero x)
  | succ n ih =>
    have h1 : (l.erase n).length ≤ n := by
      refine ih (l.erase n) (hn.erase n) ?_
      intro x hx
      obtain ⟨hne, hxl⟩ := (List.Nodup.mem_erase_iff hn).mp hx
      have := hlt x hxl
      omega
    have h2 : (l.erase n).length = if n ∈ l then l.length - 1 else l.length := List.length_erase
    split at h2 <;> omega

/-- `l` is a walk `t → l[0] → l[1] → …` along `R` -/
def IsChain (R : Uid → Uid → Prop) : Uid → List Uid → Prop
  | _, [] => True
  | a, b :: l => R a b ∧ IsChain R b l

theorem IsChain.reach {R : Uid → Uid → Prop} {t : Uid} {l : List Uid} (h : IsChain R t l) :
    ∀ x ∈ l, TC R t x := by
  induction l generalizing t with
  | nil => intro x hx; cases hx
  | cons b l ih =>
    obtain ⟨hb, hl⟩ := h
    intro x hx
    rcases List.mem_cons.mp hx with rfl | hx
    · exact TC.single hb
    · exact TC.head hb (ih hl x hx)

theorem IsChain.nodup {R : Uid → Uid → Prop} (hac : ∀ x, ¬ TC R x x)
    {t : Uid} {l : List Uid} (h : IsChain R t l) : (t :: l).Nodup := by
  induction l generalizing t with
  | nil => exact List.nodup_cons.mpr ⟨List.not_mem_nil, List.nodup_nil⟩
  | cons b l ih =>
    refine List.nodup_cons.mpr ⟨?_, ih h.2⟩
    intro ht
    exact hac t (h.reach t ht)

abbrev IsPath (next : Uid → List Uid) : Uid → List Uid → Prop := IsChain (fun a b => b ∈ next a)

theorem IsPath.lt {next : Uid → List Uid} {n : Nat} (hb : ∀ a b, b ∈ next a → b < n)
    {t : Uid} {l : List Uid} (h : IsPath next t l) : ∀ x ∈ l, x < n := by
  induction l generalizing t with
  | nil => intro x hx; cases hx
  | cons b l ih =>
    intro x hx
    rcases List.mem_cons.mp hx with rfl | hx
    · exact hb _ _ h.1
    · exact ih h.2 x hx

theorem IsPath.length_le {next : Uid → List Uid} {n : Nat}
    (hac : ∀ x, ¬ TC (fun a b => b ∈ next a) x x) (hb : ∀ a b, b ∈ next a → b < n)
    {t : Uid} {l : List Uid} (h : IsPath next t l) : l.length ≤ n :=
  nodup_lt_length_le n l (List.nodup_cons.mp (h.nodup hac)).2 (h.lt hb)

theorem IsPath.length_succ_le {next : Uid → List Uid} {n : Nat}
    (hac : ∀ x, ¬ TC (fun a b => b ∈ next a) x x) (hb : ∀ a b, b ∈ next a → b < n)
    {t : Uid} (ht : t < n) {l : List Uid} (h : IsPath next t l) : l.length + 1 ≤ n := by
  refine nodup_lt_length_le n (t :: l) (h.nodup hac) ?_
  intro x hx
  rcases List.mem_cons.mp hx with rfl | hx
  · exact ht
  · exact h.lt hb x hx

/-- recursion with fuel along `next`: what holds at `x` with one more unit of fuel whenever it holds at every successor
    of `x`, holds at every `x` from which all walks are shorter than the fuel -/
theorem paths_rec (next : Uid → List Uid) (P : Nat → Uid → Prop)
    (step : ∀ k x, (∀ y ∈ next x, P k y) → P (k + 1) x) :
    ∀ k x, (∀ l, IsPath next x l → l.length < k) → P k x
  | 0, _, h => absurd (h [] trivial) (Nat.lt_irrefl 0)
  | k + 1, x, h => step k x fun y hy =>
      paths_rec next P step k y fun l hl => Nat.lt_of_succ_lt_succ (h (y :: l) ⟨hy, hl⟩)

theorem descF_total_of_paths (next : Uid → List Uid) (f : Nat) (t : Uid)
    (h : ∀ l, IsPath next t l → l.length < f) : ∃ r, descF next f t = some r := by
  refine paths_rec next (fun f t => ∃ r, descF next f t = some r) (fun f t ih => ?_) f t h
  obtain ⟨ll, hll⟩ := mapM_total (fun c => (descF next f c).map (fun r => c :: r)) (next t) fun c hc => by
    obtain ⟨r, hr⟩ := ih c hc
    exact ⟨c :: r, by rw [hr]; rfl⟩
  exact ⟨ll.flatten, by rw [descF, hll]; rfl⟩

theorem descF_total_of_acyclic (next : Uid → List Uid) (n : Nat)
    (hac : ∀ x, ¬ TC (fun a b => b ∈ next a) x x) (hb : ∀ a b, b ∈ next a → b < n) (t : Uid) :
    ∃ l, descF next (n + 1) t = some l :=
  descF_total_of_paths next (n + 1) t (fun _ hl => Nat.lt_succ_of_le (hl.length_le hac hb))

theorem descF_children_total (s : G) (hw : WF s) (hb : Bounded s) (t : Uid) :
    ∃ l, descF s.children s.fuel t = some l := by
  refine descF_total_of_acyclic s.children s.n ?_ (fun a b h => (hb.children a b h).2) t
  intro x hx
  exact hw.forest x ((TC_child_iff s hw.listed x x).mp hx)

theorem subtreeF_children_total (s : G) (hw : WF s) (hb : Bounded s) (t : Uid) :
    ∃ l, subtreeF s.children s.fuel t = some l := by
  obtain ⟨l, hl⟩ := descF_children_total s hw hb t
  exact ⟨t :: l, by rw [subtreeF, hl]; rfl⟩

theorem descF_preds_total (s : G) (hw : WF s) (hb : Bounded s) (t : Uid) :
    ∃ l, descF s.preds s.fuel t = some l := by
  refine descF_total_of_acyclic s.preds s.n ?_ (fun a b h => (hb.preds a b h).2) t
  intro x hx
  exact hw.dag x (TC.flip (r := dep s) hx)

def parNext (s : G) : Uid → List Uid := fun x => (s.parent x).toList

theorem mem_parNext (s : G) (a b : Uid) : b ∈ parNext s a ↔ s.parent a = some b := by
  unfold parNext; exact Option.mem_toList

theorem parNext_acyclic (s : G) (hw : WF s) : ∀ x, ¬ TC (fun a b => b ∈ parNext s a) x x := by
  intro x hx
  exact hw.forest x (TC.mono (r' := par s) (fun a b h => (mem_parNext s a b).mp h) hx)

theorem parNext_lt (s : G) (hb : Bounded s) : ∀ a b, b ∈ parNext s a → b < s.n :=
  fun a b h => (hb.parent a b ((mem_parNext s a b).mp h)).2

theorem rootF_total_of_paths (s : G) (f : Nat) (t : Uid)
    (h : ∀ l, IsPath (parNext s) t l → l.length < f) : ∃ r, rootF s f t = some r := by
  refine paths_rec (parNext s) (fun f t => ∃ r, rootF s f t = some r) (fun f t ih => ?_) f t h
  rw [rootF]
  cases hp : s.parent t with
  | none => exact ⟨t, rfl⟩
  | some p => exact ih p ((mem_parNext s t p).mpr hp)

theorem rootF_total (s : G) (hw : WF s) (hb : Bounded s) (t : Uid) :
    ∃ r, rootF s s.fuel t = some r :=
  rootF_total_of_paths s (s.n + 1) t
    (fun _ hl => Nat.lt_succ_of_le (hl.length_le (parNext_acyclic s hw) (parNext_lt s hb)))

theorem ancF_total_of_paths (s : G) (f : Nat) (o : Option Uid)
    (h : ∀ p, o = some p → ∀ l, IsPath (parNext s) p l → l.length + 1 ≤ f) :
    ∃ r, ancF s (f + 1) o = some r := by
  cases o with
  | none => exact ⟨[], rfl⟩
  | some p =>
    -- one unit of fuel more than the walks need: the last call is on `none`
    refine paths_rec (parNext s) (fun f p => ∃ r, ancF s (f + 1) (some p) = some r) (fun f p ih => ?_) f p (h p rfl)
    rw [ancF]
    cases hh : s.hidden p with
    | true => exact ⟨[], by simp⟩
    | false =>
      rw [ancF_pubParent]
      cases hp : s.parent p with
      | none => exact ⟨[p], by simp [ancF]⟩
      | some q =>
        obtain ⟨r, hr⟩ := ih q ((mem_parNext s p q).mpr hp)
        exact ⟨p :: r, by rw [hr]; simp⟩

/-- the start has to lie inside the universe (or be `none`): from outside, the walk could be one step longer than the fuel -/
theorem ancF_total_of_lt (s : G) (hw : WF s) (hb : Bounded s) (p : Option Uid)
    (hp : ∀ u, p = some u → u < s.n) : ∃ l, ancF s s.fuel p = some l :=
  ancF_total_of_paths s s.n p
    (fun u hu _ hl => hl.length_succ_le (parNext_acyclic s hw) (parNext_lt s hb) (hp u hu))

theorem ancF_parent_total (s : G) (hw : WF s) (hb : Bounded s) (q : Uid) :
    ∃ l, ancF s s.fuel (s.parent q) = some l :=
  ancF_total_of_lt s hw hb (s.parent q) (fun u hu => (hb.parent q u hu).2)

theorem hasIdIntersection_total (s : G) (hw : WF s) (hb : Bounded s) (p : Uid) (chs : List Uid) :
    ∃ b, hasIdIntersection s p chs = some b := by
  obtain ⟨root, hroot⟩ := rootF_total s hw hb p
  obtain ⟨tree, htree⟩ := subtreeF_children_total s hw hb root
  obtain ⟨subs, hsubs⟩ := mapM_total (subtreeF s.children s.fuel) chs
    (fun a _ => subtreeF_children_total s hw hb a)
  unfold hasIdIntersection
  simp only [hroot, htree, hsubs, bind, Option.bind, pure]
  split
  · exact ⟨_, rfl⟩
  · split
    · exact ⟨_, rfl⟩
    · exact ⟨_, rfl⟩

end Pj

/-
  Lemmas/TaskSrcRuns.lean — the concrete runs of Lemmas/TaskSrcCheck*.lean as instances of the general theorems: a run
  on the canonical encoding of a graph `s`, observed on the objects `0 … n-1`, is what `expect` / `expectV` says,
  provided the model does not end in RecursionError on that call (`noRec`).  A sweep of runs then follows from the
  sweep of the same shape over the MODEL only, which the kernel evaluates (`allU_imp`, `all_imp`, `and_imp`, `dec_imp`
  carry the implication through the sweep).  At the end: a graph given by its table is a reachable state when the
  history that builds it is legal (`Inv_mk`; `g1_Inv`, `g2_Inv`), for the theorems that ask for `Inv`.
-/
import PjVerif.Lemmas.TaskSrcD
import PjVerif.Lemmas.TaskSrcCheck
import PjVerif.Lemmas.GraphInvStep
namespace Pj.TaskSrc
open Pj.PyLite Pj.Extracted
namespace Check

theorem all_imp {α : Type} {l : List α} {p q : α → Bool} (h : ∀ x, p x = true → q x = true) :
    l.all p = true → l.all q = true := by
  simp only [List.all_eq_true]
  exact fun hp x hx => h x (hp x hx)

theorem allU_imp {s : G} {p q : Uid → Bool} (h : ∀ u, p u = true → q u = true) : allU s p = true → allU s q = true :=
  all_imp h

theorem all_intro {α : Type} {l : List α} {q : α → Bool} (h : ∀ x, q x = true) : l.all q = true :=
  List.all_eq_true.2 fun x _ => h x

theorem allU_intro {s : G} {q : Uid → Bool} (h : ∀ u, q u = true) : allU s q = true :=
  all_intro h

theorem and_imp {a b c d : Bool} (h1 : a = true → c = true) (h2 : b = true → d = true) :
    (a && b) = true → (c && d) = true := by
  simp only [Bool.and_eq_true]
  exact fun h => ⟨h1 h.1, h2 h.2⟩

theorem and_intro {a b : Bool} (ha : a = true) (hb : b = true) : (a && b) = true := by rw [ha, hb]; rfl

theorem dec_imp {a : Bool} {p : Prop} [Decidable p] (h : a = true → p) : a = true → decide p = true :=
  fun ha => decide_eq_true (h ha)

/-- the proviso of the general theorems, as a test on the model's result -/
def noRec (r : G × Option Err) : Bool := decide (r.2 ≠ some (.crash .recursion))

theorem observe_setterResult (n : Nat) (st : PState) (r : G × Option Err) :
    observe n (setterResult st r) = expect n r := by
  obtain ⟨s', _ | e⟩ := r <;> rfl

/-- the hypothesis `honce` of `interpSetParent_eq` for `t.parent = None`, as a test -/
def onceAt (s : G) (t : Uid) : Bool :=
  match s.owner t, s.parent t with
  | some _, some q => decide ((s.children q).count t ≤ 1)
  | _, _ => true

theorem parent_run (s : G) (hF : s.n + 6 ≤ F) (t p : Uid) (h : noRec (setParent s t (some p)) = true) :
    observe s.n (interpSetParent F t (some p) (encSt s)) = expect s.n (setParent s t (some p)) := by
  rw [interpSetParent_eq s _ rfl t _ F hF (fun hp => by cases hp) (of_decide_eq_true h), observe_setterResult]

theorem parent_none_run (s : G) (hF : s.n + 6 ≤ F) (t : Uid) (h : (onceAt s t && noRec (setParent s t none)) = true) :
    observe s.n (interpSetParent F t none (encSt s)) = expect s.n (setParent s t none) := by
  rw [Bool.and_eq_true] at h
  rw [interpSetParent_eq s _ rfl t _ F hF (fun _ w q hw hq => ?_) (of_decide_eq_true h.2), observe_setterResult]
  have := h.1
  simp only [onceAt, hw, hq, decide_eq_true_eq] at this
  exact this

theorem preds_run (s : G) (hF : s.n + 4 ≤ F) (t : Uid) {v : Val} {l : List Uid} (hv : ValueOf v l)
    (h : noRec (setPreds s t l) = true) :
    observe s.n (interpSetPreds F t v (encSt s)) = expect s.n (setPreds s t l) := by
  rw [interpSetPreds_eq s _ rfl t v l hv F hF (of_decide_eq_true h), observe_setterResult]

theorem succs_run (s : G) (hF : s.n + 4 ≤ F) (t : Uid) {v : Val} {l : List Uid} (hv : ValueOf v l)
    (h : noRec (setSuccs s t l) = true) :
    observe s.n (interpSetSuccs F t v (encSt s)) = expect s.n (setSuccs s t l) := by
  rw [interpSetSuccs_eq s _ rfl t v l hv F hF (of_decide_eq_true h), observe_setterResult]

theorem children_run (s : G) (hF : s.n + 6 ≤ F) (t : Uid) {v : Val} {l : List Uid} (hv : ValueOf v l)
    (h : noRec (setChildren s t l) = true) :
    observe s.n (interpSetChildren F t v (encSt s)) = expect s.n (setChildren s t l) := by
  rw [interpSetChildren_eq s _ rfl t v l hv F hF (of_decide_eq_true h), observe_setterResult]

theorem runV_ok (s : G) (k : Nat) (args : List Val) (v : Val) (h : (Hd F).fnV k args (encSt s) = .ok (v, encSt s)) :
    runV s k args = expectV s (some v) := by
  unfold runV
  rw [interp_eq, h]
  rfl

/-- a helper whose model is partial (`none`: out of fuel): the run is the model's value when there is one -/
theorem runV_opt (s : G) (k : Nat) (args : List Val) {α : Type} (m : Option α) (toV : α → Val)
    (hspec : ∀ r, m = some r → (Hd F).fnV k args (encSt s) = .ok (toV r, encSt s)) (h : m.isSome = true) :
    runV s k args = expectV s (m.map toV) := by
  obtain ⟨r, hr⟩ := Option.isSome_iff_exists.1 h
  rw [hr]
  exact runV_ok s _ _ _ (hspec r hr)

/-- the recursions of the model below / above `t` end within the model's fuel -/
def helpersDefined (s : G) (t : Uid) : Bool :=
  (rootF s s.fuel t).isSome && (descF s.children s.fuel t).isSome && (ancF s s.fuel (s.parent t)).isSome &&
  (descF s.preds s.fuel t).isSome && (descF s.succs s.fuel t).isSome

theorem helpersAgree_of (s : G) (hF : s.fuel + 2 ≤ F) (hrec : allU s (helpersDefined s) = true) : helpersAgree s = true := by
  refine allU_imp (fun t ht => ?_) hrec
  simp only [helpersDefined, Bool.and_eq_true] at ht
  obtain ⟨⟨⟨⟨hroot, hch⟩, hanc⟩, hpr⟩, hsu⟩ := ht
  have hst : (subtreeF s.children s.fuel t).isSome = true := by rw [subtreeF, Option.isSome_map]; exact hch
  refine and_intro (and_intro (and_intro (and_intro (and_intro (and_intro (and_intro ?_ ?_) ?_) ?_) ?_) ?_) ?_) ?_ <;>
    refine decide_eq_true ?_
  · exact runV_opt s _ _ _ _ (fun r hr => find_root_spec progHd s _ rfl _ t r hr F (by omega)) hroot
  · refine runV_opt s _ _ _ _ (fun r hr => ?_) hst
    obtain ⟨r', hr', rfl⟩ := Option.map_eq_some_iff.1 hr
    exact collect_subtree_spec progHd s _ rfl _ t r' hr' F (by omega)
  · exact runV_opt s _ _ _ _ (fun r hr => get_all_children_spec progHd s _ rfl _ t r hr F (by omega)) hch
  · exact runV_opt s _ _ _ _ (fun r hr => get_all_parents_spec progHd s _ rfl _ t r hr F (by omega)) hanc
  · exact runV_opt s _ _ _ _ (fun r hr => get_all_predecessors_spec progHd s _ rfl _ t r hr F (by omega)) hpr
  · exact runV_opt s _ _ _ _ (fun r hr => get_all_successors_spec progHd s _ rfl _ t r hr F (by omega)) hsu
  · exact runV_ok s _ _ _ (parent_get_spec progHd s _ rfl (F - 1) t)
  · exact runV_ok s _ _ _ (raw_parent_spec progHd s _ rfl (F - 1) t)

theorem ids_run (s : G) (hF : s.fuel + 2 ≤ F) (p : Uid) (chs : List Uid) (h : (hasIdIntersection s p chs).isSome = true) :
    runV s fn_has_id_intersection [refV p, refs chs] = expectV s ((hasIdIntersection s p chs).map boolV) := by
  obtain ⟨b, hb⟩ := Option.isSome_iff_exists.1 h
  rw [hb]
  exact runV_ok s _ _ _ (has_id_intersection_spec progHd s _ rfl p chs b hb F hF)

theorem idsAgree_of (s : G) (hF : s.fuel + 2 ≤ F)
    (hrec : allU s (fun p => allU s (fun c =>
      (hasIdIntersection s p [c]).isSome && (hasIdIntersection s p [c, 12]).isSome)) = true) : idsAgree s = true :=
  allU_imp (fun p => allU_imp fun c => and_imp (dec_imp (ids_run s hF p [c])) (dec_imp (ids_run s hF p [c, 12]))) hrec

/-- `_linked_with_any` and `_unique_objects` recurse on nothing: no proviso, on every graph -/
theorem linkedAgree_all (s : G) : linkedAgree s = true :=
  allU_intro fun a => allU_intro fun b =>
    and_intro (decide_eq_true (runV_ok s _ _ _ (linked_with_any_spec progHd s _ rfl (F - 1) [a, 1] [b, 6])))
      (decide_eq_true (runV_ok s _ _ _ (unique_objects_spec progHd _ (F - 1) [a, b, 2, a, b])))

/-! ### a graph given by its table is a reachable state

  The table `mk l` is reached from `l.length` isolated objects by setting the children lists and then the successor
  lists of the table (`history`); whether that history is legal and ends in `mk l` is evaluated (`Inv_of_history`,
  Lemmas/GraphInvStep.lean). -/

def history (l : List Nd) : List Op :=
  (List.range l.length).map (fun u => .setChildren u (l.getD u dflt).children) ++
  (List.range l.length).filterMap (fun u =>
    if (l.getD u dflt).succs.isEmpty then none else some (.setSuccs u (l.getD u dflt).succs))

theorem Inv_mk (l : List Nd)
    (h : ((history l).all (legalB (mk l)) && eqB (run (fresh l.length (mk l).tid) (history l)) (mk l)) = true) :
    Inv (mk l) := by
  have out : ∀ u, l.length ≤ u → l.getD u dflt = dflt := fun u hu => by
    rw [List.getD_eq_getElem?_getD, List.getElem?_eq_none hu]; rfl
  exact Inv_of_history (mk l) (history l) (fun u hu => by simp only [mk, out u hu]; decide)
    (fun u hu => by simp only [mk, out u hu]; exact ⟨rfl, rfl, rfl, rfl, rfl⟩) h

theorem g1_Inv : Inv g1 := Inv_mk _ (by decide +kernel)
theorem g2_Inv : Inv g2 := Inv_mk _ (by decide +kernel)

end Check
end Pj.TaskSrc

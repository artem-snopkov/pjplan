/-
  Lemmas/FacadeSrcCheckA.lean — stage 1 of the translated tie for the list facades of task.py, continued: concrete
  runs of `_PredecessorsList.append / remove`, `_SuccessorsList.append / remove` (Extracted/FacadeSrc.lean)
  against Model/GraphOps.lean.
  See Lemmas/FacadeSrcCheck.lean / Lemmas/FacadeSrc.lean.
-/
import PjVerif.Lemmas.FacadeSrcCheck
namespace Pj.FacadeSrc
open Pj.PyLite Pj.Extracted Pj.Extracted.Facade Pj.TaskSrc Pj.TaskSrc.Check
namespace Check

/-! #### `t.predecessors.append(x)` / `.remove(x)`, `t.successors.append(x)` / `.remove(x)`: every pair of tasks -/

def agreeLinks (s : G) (t x : Uid) : Bool :=
  decide (runE s (interpPrAppend FF t x) = expectR s.n noneV (prAppend s t x)) &&
  decide (runE s (interpPrRemove FF t x) = expectR s.n (boolV ((s.preds t).contains x)) (prRemove s t x)) &&
  decide (runE s (interpSuAppend FF t x) = expectR s.n noneV (suAppend s t x)) &&
  decide (runE s (interpSuRemove FF t x) = expectR s.n (boolV ((s.succs t).contains x)) (suRemove s t x))

-- (`g1`, `g2`: FacadeSrcCheckR.lean)
example : allU g3 (fun t => allU g3 (fun x => agreeLinks g3 t x)) = true := by decide +kernel
example : (prAppend g1 10 11).2 = none ∧ (prAppend g1 10 11).1.succs 11 = [10] := by decide +kernel
example : (prAppend g1 2 1).2 = some .runtime := by decide +kernel             -- the parent as a predecessor
example : (prAppend g2 4 6).2 = some .runtime := by decide +kernel             -- a cycle
example : (prRemove g1 2 3).2 = none ∧ (prRemove g1 2 3).1.succs 3 = [] ∧ (prRemove g1 2 3).1.preds 2 = [] := by
  decide +kernel
example : (suRemove g2 4 5).2 = none ∧ (suRemove g2 4 5).1.succs 4 = [3] ∧ (suRemove g2 4 5).1.preds 5 = [] := by
  decide +kernel

/-- `None` as the task: RuntimeError (`_check_not_none`) -/
example : runE g1 (interpF noLib FF fn_PredecessorsList_append [refV 10, noneV]) = .error .runtime := by decide +kernel
example : runE g1 (interpF noLib FF fn_PredecessorsList_remove [refV 10, noneV]) = .error .runtime := by decide +kernel
example : runE g1 (interpF noLib FF fn_SuccessorsList_append [refV 10, noneV]) = .error .runtime := by decide +kernel
example : runE g1 (interpF noLib FF fn_SuccessorsList_remove [refV 10, noneV]) = .error .runtime := by decide +kernel

end Check
end Pj.FacadeSrc

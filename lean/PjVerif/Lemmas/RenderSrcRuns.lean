/-
  Lemmas/RenderSrcRuns.lean — the side condition of `interpGanttSrc_eq` on the views of RenderSrcCheck.lean: on the
  section values of `Check.w1`, `==` is decided by the text.
-/
import PjVerif.Lemmas.RenderSrcC
import PjVerif.Lemmas.RenderSrcCheck
namespace Pj.RenderSrc.Check
open Pj.PyLite Pj.Render

theorem secOK_views : ∀ V ∈ views, SecOK S V w1 := by
  unfold SecOK
  decide +kernel

end Pj.RenderSrc.Check

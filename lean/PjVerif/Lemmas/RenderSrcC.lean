/-
  Lemmas/RenderSrcC.lean — the translated tie for the Mermaid renderers: `MermaidGantt.__src` = `ganttSrc` (see
  Lemmas/RenderSrc.lean for the setting).  Two steps.  `gantt_src_prog`, with NO hypothesis on the section values: the run
  writes the header, then either the lines of all tasks (one section / no task) or, per section value in the order of first
  occurrence (`==` of Python), "  section str(k)" and the lines of its tasks in WBS order; it leaves one box per section in
  the store (the dict of lists `sections_map` is a dict of boxes; the pure lemmas about that idiom are in RenderSrcC0.lean).
  `progTxt_eq`: that text is the model's under `SecOK` - `==` on the section values of the WBS is decided by their text,
  which is what the model reads; str sections satisfy it (`secOK_of_strs`).
-/
import PjVerif.Lemmas.RenderSrcB
import PjVerif.Lemmas.RenderSrcC0
import PjVerif.Lemmas.RenderLemmas
namespace Pj.RenderSrc
open Pj.PyLite Pj.Render Pj.Extracted.Render
open Pj.PrintSrc (Lib lookupA refsA one oneStr D_s text_s pyEq_s any_dict s_ne_none)
open Pj.TaskSrc (callPV_eq execBlockP_cons execBlockP_nil execP_forIn noRec pyEq_refl pyEq_symm pyEq_trans pyEq_natCast)
set_option linter.unusedVariables false

variable (S : Lib) (V : View) (pts : Nat → RTask)

theorem lit_ksection (st : PState) : renderPrim S V pts "lit:gantt_section" [] st = .ok (.atom (S.s kSection)) := by
  rw [prim_lit S V pts _ st (by simp)]; rfl
theorem lit_dash (st : PState) : renderPrim S V pts "lit:-" [] st = .ok (.atom (S.s ['-'])) := by
  simp [prim_lit, lit]

theorem prim_title (a : Atom) (st : PState) : renderPrim S V pts "self.title" [a] st = .ok (.atom (S.os V.title)) := by prim_of renderPrim
theorem prim_weekends (a : Atom) (st : PState) : renderPrim S V pts "self.weekends" [a] st = .ok (.atom (.bool V.weekends)) := by prim_of renderPrim
theorem prim_tick (a : Atom) (st : PState) : renderPrim S V pts "self.tick_interval" [a] st = .ok (.atom (S.os V.tick)) := by prim_of renderPrim
theorem prim_truth (a : Atom) (st : PState) : renderPrim S V pts "truth" [a] st =
    (match pyTruth S a with | some b => .ok (.atom (.bool b)) | none => .error stuck) := by
  prim_of renderPrim
  cases pyTruth S a <;> rfl

attribute [pylite_step] lit_ksection lit_dash prim_title prim_weekends prim_tick

/-- the section value of a task: `t.gantt_section if 'gantt_section' in t.__dict__ else '-'` -/
def secA (t : Nat) : Atom := (lookupA (pts t).dict kSection).getD (S.s ['-'])

def gs (i : Nat) : Stmt := src_gantt_src.getD i .pass
theorem gs_shape : src_gantt_src = [gs 0, gs 1, gs 2, gs 3, gs 4, gs 5, gs 6, gs 7, gs 8, gs 9] := rfl

def gsCond : Expr := match gs 8 with | .ifElse c _ _ => c | _ => .none
def gsThen : List Stmt := match gs 8 with | .ifElse _ a _ => a | _ => []
def gsElse : List Stmt := match gs 8 with | .ifElse _ _ b => b | _ => []
def gsLoop1 : Stmt := match gsThen with | [_, l, _] => l | _ => .pass
def gsLoop2 : Stmt := match gsThen with | [_, _, l] => l | _ => .pass
def gsBody1 : List Stmt := match gsLoop1 with | .forIn _ _ b => b | _ => []
def gsBody2 : List Stmt := match gsLoop2 with | .forIn _ _ b => b | _ => []
def gsInner : Stmt := match gsBody2 with | [_, _, l] => l | _ => .pass
def gsLineBody : List Stmt := match gsInner with | .forIn _ _ b => b | _ => []
def gsSecE : Expr := match gsBody1 with | .assign _ e :: _ => e | _ => .none

theorem gs8_eq : gs 8 = .ifElse gsCond gsThen gsElse := rfl
theorem gsThen_eq : gsThen = [.assign "sections_map" .dictNil, gsLoop1, gsLoop2] := rfl
theorem gsElse_eq : gsElse = [.forIn "task" (.var "tasks") gsLineBody] := rfl
theorem gsLoop1_eq : gsLoop1 = .forIn "task" (.var "tasks") gsBody1 := rfl
theorem gsLoop2_eq : gsLoop2 = .forIn "k" (.var "sections_map") gsBody2 := rfl
theorem gsInner_eq : gsInner = .forIn "task" (.var "v") gsLineBody := rfl

variable {S}

theorem secE_eval (hS : S.OK) (F t : Nat) (ρ : PyLite.Env) (st : PState) (ht : ρ.get? "task" = some (.atom (.ref t))) :
    gsSecE.evalP (Hr S V pts F) [] ρ st = .ok (.atom (secA S pts t), st) := by
  have hd := any_dict hS (pts t).dict kSection
  have hg := prim_getattr' V pts hS t kSection st
  cases hv : lookupA (pts t).dict kSection with
  | none =>
    rw [hv] at hd
    simp [pylite_step, gsSecE, gsBody1, gsLoop1, gsThen, gs, src_gantt_src, ht, hd, secA, hv]
  | some x =>
    rw [hv] at hd hg
    simp [pylite_step, gsSecE, gsBody1, gsLoop1, gsThen, gs, src_gantt_src, ht, hd, hg, secA, hv]

/-- `for task in <src>: res += self.__mermaid_task(task)` for a local `src` that holds the tasks `ts`; `bs`: the locals kept -/
theorem lines_adds (hS : S.OK) (F : Nat) (bs : PyLite.Env) (src : String) (ts : List Nat)
    (hs : bs.get? "self" = some (.atom (.ref 0)) := by rfl) (hsrc : bs.get? src = some (.list (ts.map Atom.ref)) := by rfl)
    (ht : bs.get? "task" = none := by rfl) (hr : bs.get? "res" = none := by rfl) :
    Adds S (Hr S V pts (F + 2)) (Env.le bs) (Env.le bs) [.forIn "task" (.var src) gsLineBody]
      (ts.map (fun t => ganttLine (toGTask S V (pts t)))).flatten :=
  (Upd.forIn_le Atom.ref (fun t a => a ++ ganttLine (toGTask S V (pts t))) ts "task" (.var src) gsLineBody
    (inLocal_set (by decide)) (fun ρ st hρ => Pj.TaskSrc.evalP_var _ _ _ _ _ _ (hρ.get src hsrc))
    (fun c _ => Upd.of_set
      (fun ρ v h => ((h.tail ht).set_ne "res" v hr).cons (by simpa [Pj.TaskSrc.Env.get?_set] using h.get "task"))
      fun ρ a st hρ ha => by
        have hcall := gantt_line_spec V pts hS F c st
        simp [pylite_step, gsLineBody, gsInner, gsBody2, gsLoop2, gsThen, gs, src_gantt_src, ha, (hρ.tail ht).get "self" hs,
          hρ.get "task", hcall, prim_concat' V pts hS]) ht).congr fun a => by
      simp

/-! ### the first loop: `sections_map.setdefault(section, []).append(task)` -/

def gsIf2 : Stmt := match gsBody1 with | [_, a, _] => a | _ => .pass
def gsAppend : Stmt := match gsBody1 with | [_, _, a] => a | _ => .pass
theorem gsBody1_eq : gsBody1 = [.assign "task_section" gsSecE, gsIf2, gsAppend] := rfl

def setBoxes (st : PState) (b : List (List Atom)) : PState := { st with boxes := b }

theorem append_exec (H : PHandlers) (ρ : PyLite.Env) (st : PState) (d : List (Atom × Atom)) (k : Atom) (t i : Nat)
    (l : List Atom) (h1 : ρ.get? "sections_map" = some (.dict d)) (h2 : ρ.get? "task_section" = some (.atom k))
    (h3 : ρ.get? "task" = some (.atom (.ref t))) (h4 : Dict.get? d k = some (.box i)) (h5 : st.boxes[i]? = some l) :
    gsAppend.execP H [] noRec ρ st = .normal ρ (setBoxes st (st.boxes.set i (l ++ [.ref t]))) := by
  simp [gsAppend, gsBody1, gsLoop1, gsThen, gs, src_gantt_src, Stmt.execP, Expr.evalP, h1, h2, h3, h4, h5, Atom.isBox,
    bind, Except.bind, pure, Except.pure, setBoxes]

theorem if2_has (H : PHandlers) (ρ : PyLite.Env) (st : PState) (d : List (Atom × Atom)) (k : Atom)
    (h1 : ρ.get? "sections_map" = some (.dict d)) (h2 : ρ.get? "task_section" = some (.atom k))
    (h4 : (Dict.get? d k).isSome = true) :
    gsIf2.execP H [] noRec ρ st = .normal ρ st := by
  simp [gsIf2, gsBody1, gsLoop1, gsThen, gs, src_gantt_src, Stmt.execP, Expr.evalP, h1, h2, h4, truthP, execBlockP,
    bind, Except.bind, pure, Except.pure]

theorem if2_new (H : PHandlers) (ρ : PyLite.Env) (st : PState) (d : List (Atom × Atom)) (k : Atom)
    (h1 : ρ.get? "sections_map" = some (.dict d)) (h2 : ρ.get? "task_section" = some (.atom k))
    (h4 : (Dict.get? d k).isSome = false) :
    gsIf2.execP H [] noRec ρ st =
      .normal (ρ.set "sections_map" (.dict (Dict.insert d k (.box st.boxes.length)))) (setBoxes st (st.boxes ++ [[]])) := by
  simp [gsIf2, gsBody1, gsLoop1, gsThen, gs, src_gantt_src, Stmt.execP, Expr.evalP, h1, h2, h4, truthP, execBlockP, iterOf,
    bind, Except.bind, pure, Except.pure, setBoxes]

/-- `d[k].append(task)` when the key is there -/
theorem append_step (H : PHandlers) (b0 : List (List Atom)) (G : Grp) (k : Atom) (t : Nat) (ρ : PyLite.Env) (st : PState)
    (hkp : KP G) (hk : hasKey G k = true) (hb : st.boxes = b0 ++ G.map (·.2))
    (h1 : ρ.get? "sections_map" = some (.dict (dictOf b0.length G))) (h2 : ρ.get? "task_section" = some (.atom k))
    (h3 : ρ.get? "task" = some (.atom (.ref t))) :
    gsAppend.execP H [] noRec ρ st = .normal ρ (setBoxes st (b0 ++ (addAll G k (.ref t)).map (·.2))) := by
  simp only [hasKey, List.any_eq_true] at hk
  obtain ⟨p, hp, hpk⟩ := hk
  obtain ⟨i, e1, e2, e3⟩ := dict_lookup k (.ref t) G b0 p hkp hp hpk
  rw [append_exec H ρ st _ k t i p.2 h1 h2 h3 e1 (by rw [hb]; exact e2), hb, e3]

variable (S) in
def secStep (G : Grp) (t : Nat) : Grp := gstep G (secA S pts t) (.ref t)

theorem body1_step (hS : S.OK) (F : Nat) (b0 : List (List Atom)) (G : Grp) (t : Nat) (ρ : PyLite.Env) (st : PState)
    (hkp : KP G) (hb : st.boxes = b0 ++ G.map (·.2))
    (h1 : ρ.get? "sections_map" = some (.dict (dictOf b0.length G))) :
    ∃ ρ', ρ'.get? "sections_map" = some (.dict (dictOf b0.length (secStep S pts G t))) ∧
      ρ'.get? "self" = ρ.get? "self" ∧ ρ'.get? "res" = ρ.get? "res" ∧
      execBlockP (Hr S V pts F) [] noRec gsBody1 (ρ.set "task" (.atom (.ref t))) st =
        .normal ρ' (setBoxes st (b0 ++ (secStep S pts G t).map (·.2))) := by
  let ρ1 := (ρ.set "task" (.atom (.ref t))).set "task_section" (.atom (secA S pts t))
  have hsec := secE_eval V pts hS F t (ρ.set "task" (.atom (.ref t))) st (by simp [Pj.TaskSrc.Env.get?_set])
  have hs1 : (Stmt.assign "task_section" gsSecE).execP (Hr S V pts F) [] noRec (ρ.set "task" (.atom (.ref t))) st =
      .normal ρ1 st := by simp [Stmt.execP, hsec, ρ1]
  rw [gsBody1_eq, execBlockP_cons, hs1]
  simp only [execBlockP_cons, execBlockP_nil]
  have g1 : ρ1.get? "sections_map" = some (.dict (dictOf b0.length G)) := by simp [ρ1, Pj.TaskSrc.Env.get?_set, h1]
  have g2 : ρ1.get? "task_section" = some (.atom (secA S pts t)) := by simp [ρ1, Pj.TaskSrc.Env.get?_set]
  have g3 : ρ1.get? "task" = some (.atom (.ref t)) := by simp [ρ1, Pj.TaskSrc.Env.get?_set]
  cases hk : hasKey G (secA S pts t)
  · have hd : (Dict.get? (dictOf b0.length G) (secA S pts t)).isSome = false := by rw [dict_has, hk]
    rw [if2_new _ ρ1 st _ _ g1 g2 hd]
    dsimp only  -- the `match` on the outcome just rewritten reduces
    let G1 : Grp := G ++ [(secA S pts t, [])]
    have hlen : st.boxes.length = b0.length + G.length := by rw [hb]; simp
    have hins : Dict.insert (dictOf b0.length G) (secA S pts t) (.box st.boxes.length) = dictOf b0.length G1 := by
      rw [hlen]; exact dict_insert_new G _ _ hk
    have hk1 : hasKey G1 (secA S pts t) = true := by simp [G1, hasKey, pyEq_refl]
    have hkp1 : KP G1 := by
      have := gstep_KP G (secA S pts t) (.ref t) hkp
      simp only [gstep, hk, Bool.false_eq_true, if_false, KP, addAll_keys] at this
      exact this
    have := append_step (Hr S V pts F) b0 G1 (secA S pts t) t
      (ρ1.set "sections_map" (.dict (dictOf b0.length G1))) (setBoxes st (st.boxes ++ [[]])) hkp1 hk1
      (by simp [setBoxes, hb, G1]) (by simp [Pj.TaskSrc.Env.get?_set]) (by simp [Pj.TaskSrc.Env.get?_set, g2])
      (by simp [Pj.TaskSrc.Env.get?_set, g3])
    rw [hins, this]
    refine ⟨ρ1.set "sections_map" (.dict (dictOf b0.length G1)), ?_, ?_, ?_, ?_⟩
    · simp only [secStep, gstep, hk, Bool.false_eq_true, if_false, dictOf_addAll]
      simp [Pj.TaskSrc.Env.get?_set, G1]
    · simp [ρ1, Pj.TaskSrc.Env.get?_set]
    · simp [ρ1, Pj.TaskSrc.Env.get?_set]
    · simp [secStep, gstep, hk, setBoxes, G1]
  · have hd : (Dict.get? (dictOf b0.length G) (secA S pts t)).isSome = true := by rw [dict_has, hk]
    rw [if2_has _ ρ1 st _ _ g1 g2 hd]
    dsimp only
    rw [append_step (Hr S V pts F) b0 G (secA S pts t) t ρ1 st hkp hk hb g1 g2 g3]
    refine ⟨ρ1, ?_, ?_, ?_, ?_⟩
    · simp only [secStep, gstep, hk, if_true, dictOf_addAll]; exact g1
    · simp [ρ1, Pj.TaskSrc.Env.get?_set]
    · simp [ρ1, Pj.TaskSrc.Env.get?_set]
    · simp [secStep, gstep, hk]

theorem loop1 (hS : S.OK) (F : Nat) (b0 : List (List Atom)) (ts : List Nat) (G : Grp) (ρ : PyLite.Env) (st : PState)
    (hkp : KP G) (hb : st.boxes = b0 ++ G.map (·.2)) (h1 : ρ.get? "sections_map" = some (.dict (dictOf b0.length G))) :
    ∃ ρ', ρ'.get? "sections_map" = some (.dict (dictOf b0.length (ts.foldl (secStep S pts) G))) ∧
      ρ'.get? "self" = ρ.get? "self" ∧ ρ'.get? "res" = ρ.get? "res" ∧
      forLoopP "task" (fun ρ st => execBlockP (Hr S V pts F) [] noRec gsBody1 ρ st) (ts.map Atom.ref) ρ st =
        .normal ρ' (setBoxes st (b0 ++ (ts.foldl (secStep S pts) G).map (·.2))) := by
  obtain ⟨ρ', _, hl, -, rfl, h1', hs, hr⟩ := Pj.TaskSrc.forLoopP_foldl "task" _ Atom.ref
    (fun G ρ' st' => KP G ∧ st' = setBoxes st (b0 ++ G.map (·.2)) ∧ ρ'.get? "sections_map" = some (.dict (dictOf b0.length G)) ∧
      ρ'.get? "self" = ρ.get? "self" ∧ ρ'.get? "res" = ρ.get? "res") (secStep S pts) ts
    (fun G t ρ' st' _ ⟨hkp, e, h1, hs, hr⟩ => by
      obtain ⟨ρ1, a1, a2, a3, a4⟩ := body1_step V pts hS F b0 G t ρ' st' hkp (by rw [e]; rfl) h1
      exact ⟨ρ1, _, a4, gstep_KP _ _ _ hkp, by rw [e]; rfl, a1, a2.trans hs, a3.trans hr⟩)
    G ρ st ⟨hkp, by simp [setBoxes, ← hb], h1, rfl, rfl⟩
  exact ⟨ρ', h1', hs, hr, hl⟩

/-! ### the second loop: `for k, v in sections_map.items()` -/

def gsV : Stmt := match gsBody2 with | [a, _, _] => a | _ => .pass
def gsHdr : Stmt := match gsBody2 with | [_, a, _] => a | _ => .pass
theorem gsBody2_eq : gsBody2 = [gsV, gsHdr, gsInner] := rfl

theorem v_exec (H : PHandlers) (ρ : PyLite.Env) (st : PState) (d : List (Atom × Atom)) (k : Atom) (i : Nat)
    (l : List Atom) (h1 : ρ.get? "sections_map" = some (.dict d)) (h2 : ρ.get? "k" = some (.atom k))
    (h4 : Dict.get? d k = some (.box i)) (h5 : st.boxes[i]? = some l) :
    gsV.execP H [] noRec ρ st = .normal (ρ.set "v" (.list l)) st := by
  simp [gsV, gsBody2, gsLoop2, gsThen, gs, src_gantt_src, Stmt.execP, Expr.evalP, h1, h2, h4, h5,
    bind, Except.bind, pure, Except.pure]

/-- `res += '  section ' + str(k) + '\n'` -/
theorem hdr_adds (hS : S.OK) (F : Nat) (k : Atom) (bs : PyLite.Env) (hk : bs.get? "k" = some (.atom k) := by rfl)
    (hr : bs.get? "res" = none := by rfl) :
    Adds S (Hr S V pts F) (Env.le bs) (Env.le bs) [gsHdr] (lit "  section " ++ S.text k ++ ['\n']) :=
  Upd.of_set (fun ρ v h => h.set_ne "res" v hr) fun ρ a st hρ ha => by
    simp [pylite_step, gsHdr, gsBody2, gsLoop2, gsThen, gs, src_gantt_src, hρ.get "k" hk, ha, prim_concat' V pts hS,
      List.append_assoc]

variable (S) in
def secTxt (ts : List Nat) (k : Atom) : Str :=
  lit "  section " ++ S.text k ++ ['\n'] ++
    ((ts.filter (fun t => k.pyEq (secA S pts t))).map (fun t => ganttLine (toGTask S V (pts t)))).flatten

theorem loop2 (hS : S.OK) (F : Nat) (b0 : List (List Atom)) (ts : List Nat) (ρ : PyLite.Env) (st : PState) (a : Str)
    (hb : st.boxes = b0 ++ (grpSpec (secA S pts) ts).map (·.2))
    (h1 : ρ.get? "sections_map" = some (.dict (dictOf b0.length (grpSpec (secA S pts) ts))))
    (hs : ρ.get? "self" = some (.atom (.ref 0))) (ha : ρ.get? "res" = some (.atom (S.s a))) :
    ∃ ρ', ρ'.get? "res" = some (.atom (S.s (a ++ (pyDedup (ts.map (secA S pts))).flatMap (secTxt S V pts ts)))) ∧
      gsLoop2.execP (Hr S V pts (F + 2)) [] noRec ρ st = .normal ρ' st := by
  have hkeys : (dictOf b0.length (grpSpec (secA S pts) ts)).map (·.1) = pyDedup (ts.map (secA S pts)) := by
    rw [dictOf_keys]; simp only [grpSpec, keys_map]
  have hloop : gsLoop2.execP (Hr S V pts (F + 2)) [] noRec ρ st =
      forLoopP "k" (fun ρ st => execBlockP (Hr S V pts (F + 2)) [] noRec gsBody2 ρ st) (pyDedup (ts.map (secA S pts))) ρ st := by
    rw [gsLoop2_eq, ← hkeys]
    simp [Stmt.execP, Expr.evalP, h1, bind, Except.bind, pure, Except.pure, iterOf]
  rw [hloop]
  obtain ⟨ρ', hP, hacc, hl⟩ := forLoopP_str S "k" "res"
    (fun ρ st => execBlockP (Hr S V pts (F + 2)) [] noRec gsBody2 ρ st)
    (fun ρ => ρ.get? "self" = some (.atom (.ref 0)) ∧
      ρ.get? "sections_map" = some (.dict (dictOf b0.length (grpSpec (secA S pts) ts))))
    (secTxt S V pts ts) st (pyDedup (ts.map (secA S pts)))
    (by
      intro ρ a k hk hP ha
      obtain ⟨p1, p2⟩ := hP
      have hp : (k, (ts.filter (fun t => k.pyEq (secA S pts t))).map Atom.ref) ∈ grpSpec (secA S pts) ts :=
        List.mem_map.2 ⟨k, hk, rfl⟩
      obtain ⟨i, e1, e2, _⟩ := dict_lookup k .none _ b0 _ (grpSpec_KP _ _) hp (pyEq_refl k)
      rw [← hb] at e2
      let tsk := ts.filter (fun t => k.pyEq (secA S pts t))
      have x1 := v_exec (Hr S V pts (F + 2)) (ρ.set "k" (.atom k)) st _ k i _ (by simp [Pj.TaskSrc.Env.get?_set, p2])
        (by simp [Pj.TaskSrc.Env.get?_set]) e1 e2
      obtain ⟨ρ4, x3, q1, q2⟩ := ((hdr_adds V pts hS (F + 2) k _).cons (lines_adds V pts hS F
          [("k", .atom k), ("self", .atom (.ref 0)), ("sections_map", .dict (dictOf b0.length (grpSpec (secA S pts) ts))),
            ("v", .list (tsk.map Atom.ref))] "v" tsk)).run
        (ρ := (ρ.set "k" (.atom k)).set "v" (.list (tsk.map Atom.ref))) (a := a) st
        (.cons (by simp [Pj.TaskSrc.Env.get?_set]) (.cons (by simp [Pj.TaskSrc.Env.get?_set, p1])
          (.cons (by simp [Pj.TaskSrc.Env.get?_set, p2]) (.cons (by simp [Pj.TaskSrc.Env.get?_set]) (.nil _)))))
        (by simp [Pj.TaskSrc.Env.get?_set, ha])
      refine ⟨ρ4, ⟨q1.get "self", q1.get "sections_map"⟩, by rw [q2]; simp [secTxt, tsk, List.append_assoc], ?_⟩
      rw [gsBody2_eq, execBlockP_cons, x1]
      exact x3)
    ρ a ⟨hs, h1⟩ ha
  exact ⟨ρ', hacc, hl⟩

def titleTxt : Str := match V.title with | some t => lit "  title " ++ t ++ ['\n'] | none => []
def wkTxt : Str := if V.weekends then lit "  excludes weekends\n" else []
def tickTxt : Str := match V.tick with | some t => if t.isEmpty then [] else lit "  tickInterval " ++ t ++ ['\n'] | none => []

theorem adds1 (hS : S.OK) (F : Nat) : Adds S (Hr S V pts F) (Env.le nsS) (Env.le nsS) [gs 1] (lit "  dateFormat DD.MM.YYYY HH:mm\n") :=
  Upd.of_set (fun ρ v h => h.set_ne "res" v) fun ρ a st hρ ha => by simp [pylite_step, gs, src_gantt_src, ha, prim_concat' V pts hS]

theorem adds2 (hS : S.OK) (F : Nat) : Adds S (Hr S V pts F) (Env.le nsS) (Env.le nsS) [gs 2] (titleTxt V) := by
  cases ht : V.title with
  | none =>
    exact (Upd.of_skip fun ρ a st hρ ha => by simp [pylite_step, gs, src_gantt_src, hρ.get "self", ht, Lib.os]).congr fun a => by
      simp [titleTxt, ht]
  | some x =>
    simp only [titleTxt, ht]
    exact Upd.of_set (fun ρ v h => h.set_ne "res" v) fun ρ a st hρ ha => by
      simp [pylite_step, gs, src_gantt_src, hρ.get "self", ha, ht, Lib.os, s_ne_none, prim_concat' V pts hS, str_s V pts hS, List.append_assoc]

theorem adds3 (hS : S.OK) (F : Nat) : Adds S (Hr S V pts F) (Env.le nsS) (Env.le nsS) [gs 3] (wkTxt V) := by
  cases ht : V.weekends with
  | false =>
    exact (Upd.of_skip fun ρ a st hρ ha => by simp [pylite_step, gs, src_gantt_src, hρ.get "self", prim_truth, pyTruth, ht]).congr fun a => by
      simp [wkTxt, ht]
  | true =>
    simp only [wkTxt, ht]
    exact Upd.of_set (fun ρ v h => h.set_ne "res" v) fun ρ a st hρ ha => by
      simp [pylite_step, gs, src_gantt_src, hρ.get "self", ha, prim_truth, pyTruth, ht, prim_concat' V pts hS]

theorem adds4 (hS : S.OK) (F : Nat) : Adds S (Hr S V pts F) (Env.le nsS) (Env.le nsS) [gs 4] (tickTxt V) := by
  cases ht : V.tick with
  | none =>
    exact (Upd.of_skip fun ρ a st hρ ha => by simp [pylite_step, gs, src_gantt_src, hρ.get "self", prim_truth, pyTruth, ht, Lib.os]).congr fun a => by
      simp [tickTxt, ht]
  | some x =>
    have hD : S.D (S.I x) = x := hS x
    cases hx : x.isEmpty with
    | true =>
      exact (Upd.of_skip fun ρ a st hρ ha => by
        simp [pylite_step, gs, src_gantt_src, hρ.get "self", prim_truth, pyTruth, ht, Lib.os, Lib.s, hD, hx]).congr fun a => by simp [tickTxt, ht, hx]
    | false =>
      simp only [tickTxt, ht, hx, Bool.false_eq_true, if_false]
      refine Upd.of_set (fun ρ v h => h.set_ne "res" v) fun ρ a st hρ ha => ?_
      have htr : renderPrim S V pts "truth" [S.s x] st = .ok (.atom (.bool true)) := by
        rw [prim_truth]; simp [pyTruth, Lib.s, hD, hx]
      simp [pylite_step, gs, src_gantt_src, hρ.get "self", ha, htr, ht, Lib.os, prim_concat' V pts hS, str_s V pts hS, List.append_assoc]

def headTxt : Str := lit "gantt\n" ++ lit "  dateFormat DD.MM.YYYY HH:mm\n" ++ titleTxt V ++ wkTxt V ++ tickTxt V

theorem header_exec (hS : S.OK) (F : Nat) (st : PState) (rest : List Stmt) :
    ∃ ρ, ρ.get? "self" = some (.atom (.ref 0)) ∧ ρ.get? "res" = some (.atom (S.s (headTxt V))) ∧
      execBlockP (Hr S V pts F) [] noRec (gs 0 :: gs 1 :: gs 2 :: gs 3 :: gs 4 :: rest) [("self", .atom (.ref 0))] st =
        execBlockP (Hr S V pts F) [] noRec rest ρ st := by
  let ρ0 : PyLite.Env := Env.set [("self", .atom (.ref 0))] "res" (.atom (S.s (lit "gantt\n")))
  have e0 : (gs 0).execP (Hr S V pts F) [] noRec [("self", .atom (.ref 0))] st = .normal ρ0 st := by
    simp [pylite_step, gs, src_gantt_src, ρ0]
  obtain ⟨ρ4, hl, s4, a4⟩ := ((((adds1 V pts hS F).append (adds2 V pts hS F)).append (adds3 V pts hS F)).append
    (adds4 V pts hS F)).run (ρ := ρ0) (a := lit "gantt\n") st ((Env.le.refl nsS).set_ne "res" _)
    (by simp only [ρ0, Pj.TaskSrc.Env.get?_set, if_true])
  refine ⟨ρ4, s4.get "self", a4, ?_⟩
  rw [execBlockP_cons, e0]
  exact (Pj.TaskSrc.execBlockP_append _ _ _ ([gs 1] ++ [gs 2] ++ [gs 3] ++ [gs 4]) rest ρ0 st).trans (by rw [hl])

theorem comp_map (f : Atom → PState → Res (Option Atom × PState)) (h : Atom → Atom) (st : PState) (vs : List Atom)
    (hf : ∀ v ∈ vs, f v st = .ok (some (h v), st)) : compLoopP f vs st = .ok (vs.map h, st) := by
  rw [Pj.TaskSrc.compLoopP_pure f (fun v => some (h v)) st vs hf, List.filterMap_eq_map']

variable (S) in
def secH : Atom → Atom
  | .ref t => secA S pts t
  | _ => .none

variable (S) in
/-- the set of sections, in the order of their first task -/
def secsA : List Atom := pyDedup (V.tasks.map (secA S pts))

theorem gs6_eq : gs 6 = .assign "sections" (.setOf (.listComp gsSecE "task" (.var "tasks") (.bool true))) := rfl

theorem gs6_exec (hS : S.OK) (F : Nat) (ρ : PyLite.Env) (st : PState)
    (ht : ρ.get? "tasks" = some (.list (V.tasks.map Atom.ref))) :
    (gs 6).execP (Hr S V pts F) [] noRec ρ st = .normal (ρ.set "sections" (.list (secsA S V pts))) st := by
  rw [gs6_eq]
  simp only [Stmt.execP, Expr.evalP, ht, bind, Except.bind, pure, Except.pure, iterOf]
  rw [comp_map _ (secH S pts) st (V.tasks.map Atom.ref) (by
    intro v hv
    obtain ⟨c, hc, rfl⟩ := List.mem_map.1 hv
    have := secE_eval V pts hS F c (ρ.set "task" (.atom (.ref c))) st (by simp [Pj.TaskSrc.Env.get?_set])
    simp [this, truthP, pure, Except.pure, secH])]
  have e : (secH S pts ∘ Atom.ref) = secA S pts := rfl
  simp [secsA, List.map_map, e]

theorem pe11 : (Atom.num 1).pyEq (.num 1) = true := pyEq_refl _
theorem pe00 : (Atom.num 0).pyEq (.num 0) = true := pyEq_refl _
theorem pe01 : (Atom.num 0).pyEq (.num 1) = false := by decide

theorem pyEq_len1 (n : Nat) : (Atom.num ((n : Nat) : Rat)).pyEq (.num 1) = decide (n = 1) := pyEq_natCast n 1

def gsLineLoop : Stmt := .forIn "task" (.var "tasks") gsLineBody

variable (S) in
def flatTxt : Str := (V.tasks.map (fun t => ganttLine (toGTask S V (pts t)))).flatten

/-- the case without section lines: one section, or no task -/
theorem tail_flat (hS : S.OK) (F : Nat) (ρ : PyLite.Env) (st : PState) (a : Str)
    (hs : ρ.get? "self" = some (.atom (.ref 0))) (ha : ρ.get? "res" = some (.atom (S.s a)))
    (ht : ρ.get? "tasks" = some (.list (V.tasks.map Atom.ref)))
    (hse : ρ.get? "sections" = some (.list (secsA S V pts)))
    (hflat : (secsA S V pts).length = 1 ∨ secsA S V pts = []) :
    execBlockP (Hr S V pts (F + 2)) [] noRec [gs 7, gs 8, gs 9] ρ st =
      .ret (.atom (S.s (a ++ flatTxt S V pts))) st := by
  obtain ⟨ρ7, hs7, ha7, ht7, e7, c8⟩ : ∃ ρ7, ρ7.get? "self" = some (.atom (.ref 0)) ∧
      ρ7.get? "res" = some (.atom (S.s a)) ∧ ρ7.get? "tasks" = some (.list (V.tasks.map Atom.ref)) ∧
      (gs 7).execP (Hr S V pts (F + 2)) [] noRec ρ st = .normal ρ7 st ∧
      (do let (v, st') ← gsCond.evalP (Hr S V pts (F + 2)) [] ρ7 st; pure ((← truthP v), st')) = .ok (false, st) := by
    by_cases h1 : (secsA S V pts).length = 1
    · refine ⟨ρ.set "sections" (.atom .none), by simp [Pj.TaskSrc.Env.get?_set, hs],
        by simp [Pj.TaskSrc.Env.get?_set, ha], by simp [Pj.TaskSrc.Env.get?_set, ht], ?_, ?_⟩
      · simp [pylite_step, gs, src_gantt_src, hse, h1, pe11]
      · simp [pylite_step, gsCond, gs, src_gantt_src]
    · have h0 : secsA S V pts = [] := by rcases hflat with h | h; exact absurd h h1; exact h
      rw [h0] at hse
      refine ⟨ρ, hs, ha, ht, ?_, ?_⟩
      · simp [pylite_step, gs, src_gantt_src, hse, pe01]
      · simp [pylite_step, gsCond, gs, src_gantt_src, hse, pe00]
  obtain ⟨ρ8, e8', -, ha8⟩ := (lines_adds V pts hS F [("self", .atom (.ref 0)), ("tasks", .list (V.tasks.map Atom.ref))]
    "tasks" V.tasks).run (ρ := ρ7) (a := a) st (.cons hs7 (.cons ht7 (.nil _))) ha7
  rw [← gsElse_eq] at e8'
  have e9 : (gs 9).execP (Hr S V pts (F + 2)) [] noRec ρ8 st = .ret (.atom (S.s (a ++ flatTxt S V pts))) st := by
    simp [pylite_step, gs, src_gantt_src, ha8, flatTxt]
  have e8'' : (gs 8).execP (Hr S V pts (F + 2)) [] noRec ρ7 st = .normal ρ8 st := by
    rw [gs8_eq]; simp only [Stmt.execP, c8, Bool.false_eq_true, if_false, e8']
  simp only [execBlockP_cons, e7, e8'', e9]

variable (S) in
def secsTxt : Str := (secsA S V pts).flatMap (secTxt S V pts V.tasks)

/-- the case with section lines -/
theorem tail_sec (hS : S.OK) (F : Nat) (ρ : PyLite.Env) (st : PState) (a : Str)
    (hs : ρ.get? "self" = some (.atom (.ref 0))) (ha : ρ.get? "res" = some (.atom (S.s a)))
    (ht : ρ.get? "tasks" = some (.list (V.tasks.map Atom.ref)))
    (hse : ρ.get? "sections" = some (.list (secsA S V pts)))
    (h1 : (secsA S V pts).length ≠ 1) (h0 : secsA S V pts ≠ []) :
    execBlockP (Hr S V pts (F + 2)) [] noRec [gs 7, gs 8, gs 9] ρ st =
      .ret (.atom (S.s (a ++ secsTxt S V pts)))
        (setBoxes st (st.boxes ++ (grpSpec (secA S pts) V.tasks).map (·.2))) := by
  have hne : (secsA S V pts).isEmpty = false := by cases h : secsA S V pts; exact absurd h h0; rfl
  have e7 : (gs 7).execP (Hr S V pts (F + 2)) [] noRec ρ st = .normal ρ st := by
    simp [pylite_step, gs, src_gantt_src, hse, pyEq_len1, h1]
  have c8 : (do let (v, st') ← gsCond.evalP (Hr S V pts (F + 2)) [] ρ st; pure ((← truthP v), st')) = .ok (true, st) := by
    simp [pylite_step, gsCond, gs, src_gantt_src, hse, pyEq_len, hne]
  let ρ8 := ρ.set "sections_map" (.dict [])
  obtain ⟨ρ9, d9, s9, a9, l9⟩ := loop1 V pts hS (F + 2) st.boxes V.tasks [] ρ8 st (by simp [KP]) (by simp)
    (by simp [ρ8, Pj.TaskSrc.Env.get?_set, dictOf])
  have hg : V.tasks.foldl (secStep S pts) [] = grpSpec (secA S pts) V.tasks := groupsOf_eq (secA S pts) V.tasks
  rw [hg] at d9 l9
  have x1 : gsLoop1.execP (Hr S V pts (F + 2)) [] noRec ρ8 st =
      .normal ρ9 (setBoxes st (st.boxes ++ (grpSpec (secA S pts) V.tasks).map (·.2))) := by
    rw [gsLoop1_eq, execP_forIn (vs := V.tasks.map Atom.ref) (st' := st)
      (hit := by simp [Expr.evalP, ρ8, Pj.TaskSrc.Env.get?_set, ht, pure, Except.pure]), l9]
  obtain ⟨ρ10, a10, l10⟩ := loop2 V pts hS F st.boxes V.tasks ρ9
    (setBoxes st (st.boxes ++ (grpSpec (secA S pts) V.tasks).map (·.2))) a rfl d9
    (by rw [s9]; simp [ρ8, Pj.TaskSrc.Env.get?_set, hs]) (by rw [a9]; simp [ρ8, Pj.TaskSrc.Env.get?_set, ha])
  have e8' : execBlockP (Hr S V pts (F + 2)) [] noRec gsThen ρ st =
      .normal ρ10 (setBoxes st (st.boxes ++ (grpSpec (secA S pts) V.tasks).map (·.2))) := by
    have x0 : (Stmt.assign "sections_map" .dictNil).execP (Hr S V pts (F + 2)) [] noRec ρ st = .normal ρ8 st := by
      simp [Stmt.execP, Expr.evalP, pure, Except.pure, ρ8]
    rw [gsThen_eq]
    simp only [execBlockP_cons, x0, x1, l10, execBlockP_nil]
  have e9 : (gs 9).execP (Hr S V pts (F + 2)) [] noRec ρ10
      (setBoxes st (st.boxes ++ (grpSpec (secA S pts) V.tasks).map (·.2))) =
      .ret (.atom (S.s (a ++ secsTxt S V pts))) (setBoxes st (st.boxes ++ (grpSpec (secA S pts) V.tasks).map (·.2))) := by
    simp [pylite_step, gs, src_gantt_src, a10, secsTxt, secsA]
  have e8'' : (gs 8).execP (Hr S V pts (F + 2)) [] noRec ρ st =
      .normal ρ10 (setBoxes st (st.boxes ++ (grpSpec (secA S pts) V.tasks).map (·.2))) := by
    rw [gs8_eq]; simp only [Stmt.execP, c8, if_true, e8']
  simp only [execBlockP_cons, e7, e8'', e9]

variable (S) in
def progTxt : Str :=
  headTxt V ++ (if (secsA S V pts).length = 1 ∨ secsA S V pts = [] then flatTxt S V pts else secsTxt S V pts)

variable (S) in
/-- the boxes the run leaves in the store: one per section, holding its tasks in order (none without section lines) -/
def ganttBoxes : List (List Atom) :=
  if (secsA S V pts).length = 1 ∨ secsA S V pts = [] then [] else (grpSpec (secA S pts) V.tasks).map (·.2)

theorem pf_gantt : renderFuns fn_gantt_src = some (src_gantt_src_params, src_gantt_src) := rfl

theorem setBoxes_nil (st : PState) : setBoxes st (st.boxes ++ []) = st := by cases st; simp [setBoxes]

theorem gantt_src_prog (hS : S.OK) (F : Nat) (st : PState) :
    (Hr S V pts (F + 3)).fnV fn_gantt_src [.atom (.ref 0)] st =
      .ok (.atom (S.s (progTxt S V pts)), setBoxes st (st.boxes ++ ganttBoxes S V pts)) := by
  rw [rfnV_succ _ _ _ _ _ _ _ pf_gantt, callPV_eq]
  obtain ⟨ρ, hs, ha, e⟩ := header_exec V pts hS (F + 2) st [gs 5, gs 6, gs 7, gs 8, gs 9]
  have hb : bindParamsV src_gantt_src_params [.atom (.ref 0)] = .ok [("self", .atom (.ref 0))] := by
    simp [src_gantt_src_params, bindParamsV, pure, Except.pure, bind, Except.bind]
  -- `tasks = self.wbs.tasks`, then the set of the section values
  let ρ6 := (ρ.set "tasks" (.list (V.tasks.map Atom.ref))).set "sections" (.list (secsA S V pts))
  have e5 : (gs 5).execP (Hr S V pts (F + 2)) [] noRec ρ st = .normal (ρ.set "tasks" (.list (V.tasks.map Atom.ref))) st := by
    simp [pylite_step, gs, src_gantt_src, hs, refsA]
  have e6 : (gs 6).execP (Hr S V pts (F + 2)) [] noRec (ρ.set "tasks" (.list (V.tasks.map Atom.ref))) st = .normal ρ6 st :=
    gs6_exec V pts hS (F + 2) _ st (by simp [Pj.TaskSrc.Env.get?_set])
  have hs6 : ρ6.get? "self" = some (.atom (.ref 0)) := by simp [ρ6, Pj.TaskSrc.Env.get?_set, hs]
  have ha6 : ρ6.get? "res" = some (.atom (S.s (headTxt V))) := by simp [ρ6, Pj.TaskSrc.Env.get?_set, ha]
  have ht6 : ρ6.get? "tasks" = some (.list (V.tasks.map Atom.ref)) := by simp [ρ6, Pj.TaskSrc.Env.get?_set]
  have hse6 : ρ6.get? "sections" = some (.list (secsA S V pts)) := by simp [ρ6, Pj.TaskSrc.Env.get?_set]
  rw [hb, gs_shape]
  dsimp only
  rw [e, execBlockP_cons, e5]
  dsimp only
  rw [execBlockP_cons, e6]
  dsimp only
  by_cases hflat : (secsA S V pts).length = 1 ∨ secsA S V pts = []
  · rw [tail_flat V pts hS F ρ6 st _ hs6 ha6 ht6 hse6 hflat]
    simp only [progTxt, ganttBoxes, hflat, if_true, setBoxes_nil]
  · have h1 : (secsA S V pts).length ≠ 1 := fun h => hflat (Or.inl h)
    have h0 : secsA S V pts ≠ [] := fun h => hflat (Or.inr h)
    rw [tail_sec V pts hS F ρ6 st _ hs6 ha6 ht6 hse6 h1 h0]
    simp only [progTxt, ganttBoxes, hflat, if_false]

variable (S) in
/-- on the section values of the WBS, `==` is decided by the text (`str(section)` is what the model reads) -/
def SecOK : Prop := ∀ t ∈ V.tasks, ∀ u ∈ V.tasks,
  (secA S pts t).pyEq (secA S pts u) = (S.text (secA S pts t) == S.text (secA S pts u))

theorem sectionOf_eq (hS : S.OK) (t : Nat) : sectionOf (toGTask S V (pts t)) = S.text (secA S pts t) := by
  simp only [sectionOf, toGTask, secA]
  cases lookupA (pts t).dict kSection with
  | none => simp [text_s hS]
  | some x => rfl

theorem head_eq : headTxt V = ganttSrc V.title V.weekends V.tick [] := by
  have : lit "gantt\n  dateFormat DD.MM.YYYY HH:mm\n" = lit "gantt\n" ++ lit "  dateFormat DD.MM.YYYY HH:mm\n" := by
    simp [lit]
  simp only [ganttSrc, List.map_nil, List.eraseDups_nil, List.isEmpty_nil, Bool.or_true, if_true, List.flatten_nil,
    List.append_nil, this]
  rfl

theorem secs_eq (hS : S.OK) (hK : SecOK S V pts) :
    ((gTasks S V pts).map sectionOf).eraseDups = (secsA S V pts).map S.text := by
  have e1 : (gTasks S V pts).map sectionOf = (V.tasks.map (secA S pts)).map S.text := by
    simp only [gTasks, List.map_map]
    apply List.map_congr_left
    intro t _
    exact sectionOf_eq V pts hS t
  rw [e1, List.eraseDups, eraseDupsBy_eq_ded, secsA, pyDedup_eq]
  symm
  apply ded_map
  intro a ha b hb
  obtain ⟨t, ht, rfl⟩ := List.mem_map.1 ha
  obtain ⟨u, hu, rfl⟩ := List.mem_map.1 hb
  exact hK t ht u hu

theorem progTxt_eq (hS : S.OK) (hK : SecOK S V pts) :
    progTxt S V pts = ganttSrc V.title V.weekends V.tick (gTasks S V pts) := by
  rw [ganttSrc_split, ← head_eq, secs_eq V pts hS hK, progTxt]
  congr 1
  have hl : ((secsA S V pts).map S.text).length = (secsA S V pts).length := List.length_map _
  by_cases hflat : (secsA S V pts).length = 1 ∨ secsA S V pts = []
  · have : ((((secsA S V pts).map S.text).length == 1) || ((secsA S V pts).map S.text).isEmpty) = true := by
      rcases hflat with h | h
      · simp [h]
      · simp [h]
    simp only [hflat, if_true, this, flatTxt, gTasks, List.map_map]
    rfl
  · have : ((((secsA S V pts).map S.text).length == 1) || ((secsA S V pts).map S.text).isEmpty) = false := by
      have h1 : (secsA S V pts).length ≠ 1 := fun h => hflat (Or.inl h)
      have h0 : secsA S V pts ≠ [] := fun h => hflat (Or.inr h)
      simp [h1, h0]
    simp only [hflat, if_false, this, Bool.false_eq_true, secsTxt, List.map_map]
    rw [List.flatMap_def]
    congr 1
    apply List.map_congr_left
    intro k hk
    obtain ⟨u, hu, hku⟩ : ∃ u ∈ V.tasks, k = secA S pts u := by
      have := ded_sub _ _ k (by rw [← pyDedup_eq]; exact hk)
      obtain ⟨u, hu, e⟩ := List.mem_map.1 this
      exact ⟨u, hu, e.symm⟩
    simp only [Function.comp, secTxt, gTasks, List.filter_map, List.map_map]
    congr 3
    apply List.filter_congr
    intro t ht
    simp only [Function.comp, sectionOf_eq V pts hS, hku]
    rw [hK u hu t ht]
    exact Bool.beq_comm

theorem gantt_src_spec (hS : S.OK) (hK : SecOK S V pts) (F : Nat) (st : PState) :
    (Hr S V pts (F + 3)).fnV fn_gantt_src [.atom (.ref 0)] st =
      .ok (.atom (S.s (ganttSrc V.title V.weekends V.tick (gTasks S V pts))),
        setBoxes st (st.boxes ++ ganttBoxes S V pts)) := by
  rw [gantt_src_prog V pts hS F st, progTxt_eq V pts hS hK]

/-- the section values are strs (the documented use): the hypothesis holds -/
theorem secOK_of_strs (hS : S.OK)
    (h : ∀ t ∈ V.tasks, ∀ a, lookupA (pts t).dict kSection = some a → ∃ x, a = S.s x) : SecOK S V pts := by
  have hx : ∀ t ∈ V.tasks, ∃ x, secA S pts t = S.s x := by
    intro t ht
    simp only [secA]
    cases hv : lookupA (pts t).dict kSection with
    | none => exact ⟨_, rfl⟩
    | some a => exact h t ht a hv
  intro t ht u hu
  obtain ⟨x, ex⟩ := hx t ht
  obtain ⟨y, ey⟩ := hx u hu
  rw [ex, ey, pyEq_s hS, text_s hS, text_s hS]
  by_cases e : x = y <;> simp [e]

theorem interpGanttSrc_eq (hS : S.OK) (hK : SecOK S V pts) (F : Nat) (hF : 3 ≤ F) :
    interpGanttSrc S V pts F = .ok (.atom (S.s (ganttSrc V.title V.weekends V.tick (gTasks S V pts)))) :=
  interp_eq V pts hF fun F => gantt_src_spec V pts hS hK F st0

end Pj.RenderSrc

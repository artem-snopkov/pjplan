/-
  Lemmas/SchedC14.lean — C14: a `calc` ends `ok` or with the diagnosis `runtime`, never in a crash.  Total calendars make
  the loops safe, complete children make the roll-ups safe, and the cycle test of the pre-check (proved sound here)
  leaves the recursion of the passes no cycle of calls to run into.
-/
import PjVerif.Lemmas.SchedCore
import PjVerif.Lemmas.Fuel
namespace Pj

/-- the result is `ok` or the diagnosis `runtime` -/
def NoCrash {α : Type} (r : Res α) : Prop := ∀ k, r ≠ .error (.crash k)

theorem NoCrash.pure {α : Type} (a : α) : NoCrash (pure a : Res α) := fun _ h => by cases h

theorem NoCrash.runtime {α : Type} : NoCrash (.error .runtime : Res α) := fun _ h => by cases h

theorem NoCrash.bind {α β : Type} {x : Res α} {g : α → Res β} (hx : NoCrash x)
    (hg : ∀ a, x = .ok a → NoCrash (g a)) : NoCrash (x >>= g) := by
  cases x with
  | error e =>
    intro k h
    cases e with
    | runtime => cases h
    | crash k' => exact hx k' rfl
  | ok a => exact hg a rfl

theorem NoCrash.map {α β : Type} {x : Res α} (f : α → β) (hx : NoCrash x) : NoCrash (x.map f) := by
  cases x with
  | ok a => exact NoCrash.pure _
  | error e => intro k h; cases h; exact hx k rfl

theorem NoCrash.cases {α : Type} {r : Res α} (h : NoCrash r) : (∃ a, r = .ok a) ∨ r = .error .runtime := by
  cases r with
  | ok a => exact Or.inl ⟨a, rfl⟩
  | error e =>
    cases e with
    | runtime => exact Or.inr rfl
    | crash k => exact absurd rfl (h k)

theorem NoCrash.foldlM {α β : Type} (f : β → α → Res β) (l : List α) (P : β → Prop)
    (hstep : ∀ b a, a ∈ l → P b → NoCrash (f b a) ∧ ∀ b', f b a = .ok b' → P b') :
    ∀ b, P b → NoCrash (l.foldlM f b) := by
  induction l with
  | nil => intro b _; exact NoCrash.pure b
  | cons a l ih =>
    intro b hb
    rw [List.foldlM_cons]
    obtain ⟨h1, h2⟩ := hstep b a List.mem_cons_self hb
    refine NoCrash.bind h1 ?_
    intro b' hb'
    exact ih (fun b a ha => hstep b a (List.mem_cons_of_mem _ ha)) b' (h2 b' hb')

/-! ### a dead resource (C14, last clause) -/

theorem nearestFwd_dead (cal : Cal) (used : Int → Rat) (start : Time)
    (hdead : ∀ k : Nat, k < Extracted.maxDays → ∃ c, capR cal (midnight start + (k : Rat)) = .ok c ∧ c ≤ 0) :
    nearestFwd cal used start = .error .runtime := by
  unfold nearestFwd
  rw [show midnight start = ((dayOf start : Int) : Rat) from rfl, search_fwd_eq, scanDir_dead]
  · rfl
  · intro j hj
    obtain ⟨c, hc, h0⟩ := hdead j hj
    rw [Int.mul_one, Rat.intCast_add, Rat.intCast_natCast]
    exact ⟨c, hc, by grind⟩

theorem nearestBwd_dead (cal : Cal) (used : Int → Rat) (start : Time)
    (hdead : ∀ k : Nat, k < Extracted.maxDays → ∃ c, capR cal (midnight start - (k : Rat) - 1) = .ok c ∧ c ≤ 0) :
    nearestBwd cal used start = .error .runtime := by
  unfold nearestBwd
  rw [show midnight start = ((dayOf start : Int) : Rat) from rfl, search_bwd_eq, scanDir_dead]
  · rfl
  · intro j hj
    obtain ⟨c, hc, h0⟩ := hdead j hj
    rw [Int.mul_neg_one, ← Int.sub_eq_add_neg, Rat.intCast_sub, Rat.intCast_sub, Rat.intCast_natCast]
    exact ⟨c, hc, by grind⟩

/-! ### soundness of the depth-first cycle check -/

def DClosed (next : Uid → List Uid) (S : List Uid) : Prop := ∀ x ∈ S, ∀ y ∈ next x, y ∈ S
def DAcyc (next : Uid → List Uid) (S : List Uid) : Prop := ∀ x ∈ S, ¬ TC (fun a b => b ∈ next a) x x

theorem DClosed.reach {next : Uid → List Uid} {S : List Uid} (hc : DClosed next S) {x y : Uid} (hx : x ∈ S)
    (h : TC (fun a b => b ∈ next a) x y) : y ∈ S := by
  induction h with
  | single h => exact hc _ hx _ h
  | tail _ h ih => exact hc _ ih _ h

/-- what a successful (part of a) search guarantees about the validated set it returns -/
structure DfsOK (next : Uid → List Uid) (vis val v : List Uid) : Prop where
  closed : DClosed next v
  acyc : DAcyc next v
  sub : ∀ x ∈ val, x ∈ v
  fresh : ∀ x ∈ v, x ∈ val ∨ x ∉ vis

theorem DfsOK.refl {next : Uid → List Uid} {vis val : List Uid} (hc : DClosed next val) (ha : DAcyc next val) :
    DfsOK next vis val val := ⟨hc, ha, fun _ h => h, fun _ h => Or.inl h⟩

theorem DfsOK.trans {next : Uid → List Uid} {vis a b c : List Uid} (h1 : DfsOK next vis a b)
    (h2 : DfsOK next vis b c) : DfsOK next vis a c :=
  ⟨h2.closed, h2.acyc, fun x hx => h2.sub x (h1.sub x hx), fun x hx => by
    rcases h2.fresh x hx with h | h
    · exact h1.fresh x h
    · exact Or.inr h⟩

theorem dfs_fold_ok (next : Uid → List Uid) (vis : List Uid) (step : List Uid → Uid → Res (List Uid))
    (hstep : ∀ val s v, step val s = .ok v → DClosed next val → DAcyc next val → DfsOK next vis val v ∧ s ∈ v) :
    ∀ (ss : List Uid) (val v : List Uid), ss.foldlM step val = .ok v → DClosed next val → DAcyc next val →
      DfsOK next vis val v ∧ ∀ s ∈ ss, s ∈ v := by
  intro ss
  induction ss with
  | nil =>
    intro val v h hc ha
    cases h
    exact ⟨DfsOK.refl hc ha, fun s hs => by cases hs⟩
  | cons s ss ih =>
    intro val v h hc ha
    rw [List.foldlM_cons] at h
    cases h1 : step val s with
    | error e => rw [h1] at h; cases h
    | ok v1 =>
      rw [h1] at h
      obtain ⟨d1, hs1⟩ := hstep val s v1 h1 hc ha
      obtain ⟨d2, hs2⟩ := ih v1 v h d1.closed d1.acyc
      refine ⟨d1.trans d2, ?_⟩
      intro x hx
      rcases List.mem_cons.1 hx with rfl | hx
      · exact d2.sub _ hs1
      · exact hs2 x hx

theorem loopsFrom_ok (next : Uid → List Uid) : ∀ (fuel : Nat) (vis val : List Uid) (t : Uid) (v : List Uid),
    loopsFrom next fuel vis val t = .ok v → DClosed next val → DAcyc next val →
      DfsOK next vis val v ∧ t ∈ v := by
  intro fuel
  induction fuel with
  | zero => intro vis val t v h; cases h
  | succ fuel ih =>
    intro vis val t v h hc ha
    unfold loopsFrom at h
    split at h
    · rename_i hv
      cases h
      exact ⟨DfsOK.refl hc ha, List.contains_iff_mem.1 hv⟩
    · rename_i hv
      split at h
      · cases h
      · rename_i hvis
        have htval : t ∉ val := fun hc' => hv (List.contains_iff_mem.2 hc')
        have htvis : t ∉ vis := fun hc' => hvis (List.contains_iff_mem.2 hc')
        simp only [bind, Except.bind] at h
        split at h
        · cases h
        · rename_i v1 h1
          cases h
          obtain ⟨d, hs⟩ := dfs_fold_ok next (t :: vis) (fun val s => loopsFrom next fuel (t :: vis) val s)
            (fun val s v => ih (t :: vis) val s v) (next t) val v1 h1 hc ha
          have htv1 : t ∉ v1 := by
            intro hc'
            rcases d.fresh t hc' with h | h
            · exact htval h
            · exact h List.mem_cons_self
          refine ⟨⟨?_, ?_, ?_, ?_⟩, by simp⟩
          · intro x hx y hy
            rcases List.mem_append.1 hx with hx | hx
            · exact List.mem_append_left _ (d.closed x hx y hy)
            · simp only [List.mem_singleton] at hx
              subst hx
              exact List.mem_append_left _ (hs y hy)
          · intro x hx hcyc
            rcases List.mem_append.1 hx with hx | hx
            · exact d.acyc x hx hcyc
            · simp only [List.mem_singleton] at hx
              subst hx
              rcases TC.head_cases hcyc with h | ⟨y, hy, hrest⟩
              · exact htv1 (hs x h)
              · exact htv1 (d.closed.reach (hs y hy) hrest)
          · intro x hx
            exact List.mem_append_left _ (d.sub x hx)
          · intro x hx
            rcases List.mem_append.1 hx with hx | hx
            · rcases d.fresh x hx with h | h
              · exact Or.inl h
              · exact Or.inr (fun hc' => h (List.mem_cons_of_mem _ hc'))
            · simp only [List.mem_singleton] at hx
              subst hx
              exact Or.inr htvis

/-- the statement of `C14_loopsFrom_sound` -/
theorem loopsFrom_sound (next : Uid → List Uid) (fuel : Nat) (starts : List Uid) (val : List Uid)
    (h : starts.foldlM (fun v t => loopsFrom next fuel [] v t) [] = .ok val) :
    ∀ t ∈ starts, ¬ TC (fun a b => b ∈ next a) t t := by
  obtain ⟨d, hs⟩ := dfs_fold_ok next [] (fun v t => loopsFrom next fuel [] v t)
    (fun val s v => loopsFrom_ok next fuel [] val s v) starts [] val h
    (fun x hx => by cases hx) (fun x hx => by cases hx)
  intro t ht
  exact d.acyc t (hs t ht)

/-! ### the cycle check never crashes on a bounded relation -/

theorem loopsFrom_nocrash (next : Uid → List Uid) (n : Nat) (hb : ∀ a b, b ∈ next a → b < n) :
    ∀ (fuel : Nat) (vis val : List Uid) (t : Uid), vis.Nodup → (∀ x ∈ vis, x < n) → t < n →
      n + 2 ≤ fuel + vis.length → NoCrash (loopsFrom next fuel vis val t) := by
  intro fuel
  induction fuel with
  | zero =>
    intro vis val t hn hlt _ hf
    have := nodup_lt_length_le n vis hn hlt
    omega
  | succ fuel ih =>
    intro vis val t hn hlt ht hf
    unfold loopsFrom
    split
    · exact NoCrash.pure _
    · split
      · exact NoCrash.runtime
      · rename_i hvis
        have htvis : t ∉ vis := fun hc' => hvis (List.contains_iff_mem.2 hc')
        refine NoCrash.bind ?_ (fun _ _ => NoCrash.pure _)
        refine NoCrash.foldlM _ _ (fun _ => True) ?_ val trivial
        intro b a ha _
        refine ⟨ih (t :: vis) b a (List.nodup_cons.2 ⟨htvis, hn⟩) ?_ (hb t a ha) (by simp; omega), fun _ _ => trivial⟩
        intro x hx
        rcases List.mem_cons.1 hx with rfl | hx
        · exact ht
        · exact hlt x hx

theorem loopsFold_nocrash (next : Uid → List Uid) (n : Nat) (hb : ∀ a b, b ∈ next a → b < n)
    (starts : List Uid) (hs : ∀ t ∈ starts, t < n) :
    NoCrash (starts.foldlM (fun v t => loopsFrom next (n + 2) [] v t) []) := by
  refine NoCrash.foldlM _ _ (fun _ => True) ?_ [] trivial
  intro b a ha _
  exact ⟨loopsFrom_nocrash next n hb (n + 2) [] b a List.nodup_nil (fun x hx => by cases hx) (hs a ha) (by simp),
    fun _ _ => trivial⟩

/-! ### total calendars: the loops fail only with `runtime` -/

/-- no query of the calendar raises -/
def CalT (cal : Cal) : Prop := ∀ t, ∃ v, capR cal t = .ok v

def CalsOK (res : List (Option Nat × Cal)) : Prop := ∀ p ∈ res, CalT p.2

theorem defaultCal_total : CalT defaultCal := by
  intro t
  simp [defaultCal, capR, Cal.eval, bind, Except.bind, pure, Except.pure]

theorem resLookup_cals (res : List (Option Nat × Cal)) (k : Option Nat) (h : CalsOK res) :
    CalsOK (resLookup res k).1 ∧ CalT (resLookup res k).2 := by
  constructor
  · rcases resLookup_fst res k with e | e <;> rw [e]
    · exact h
    · intro p hp
      rcases List.mem_append.1 hp with hp | hp
      · exact h p hp
      · rw [List.mem_singleton.1 hp]; exact defaultCal_total
  · rw [resLookup_snd]
    rcases calOf_cases res k with ⟨p, hp, e⟩ | e <;> rw [e]
    · exact h p hp
    · exact defaultCal_total

theorem CalT.nocrash {cal : Cal} (hc : CalT cal) (t : Time) : NoCrash (capR cal t) := by
  obtain ⟨v, hv⟩ := hc t
  rw [hv]
  exact NoCrash.pure v

theorem scanDir_nocrash {s : Int} {cap : Int → Res Rat} {hit : Int → Rat → Prop} [∀ d c, Decidable (hit d c)]
    {val : Int → Rat → Res Time} (hcap : ∀ d, NoCrash (cap d)) (hval : ∀ d c, hit d c → NoCrash (val d c)) :
    ∀ (k : Nat) (d : Int), NoCrash (scanDir s cap hit val k d)
  | 0, _ => NoCrash.runtime
  | k + 1, d => NoCrash.bind (hcap d) fun c _ => by
    split
    · exact hval d c ‹_›
    · exact scanDir_nocrash hcap hval k (d + s)

/-- the loop divides by the capacity of a day that has some left: not by zero, as nothing booked is negative -/
theorem nearVal_nocrash {used : Int → Rat} (hu : ∀ d, 0 ≤ used d) (d : Int) (c : Rat) (x : Time) (hav : 0 < c - used d) :
    NoCrash (if c = 0 then throw (.crash .zeroDivision) else pure x : Res Time) := by
  have := hu d
  rw [if_neg (by grind)]
  exact NoCrash.pure _

theorem nearestFwd_nocrash (cal : Cal) (hc : CalT cal) (used : Int → Rat) (hu : ∀ d, 0 ≤ used d) (start : Time) :
    NoCrash (nearestFwd cal used start) := by
  unfold nearestFwd
  rw [show midnight start = ((dayOf start : Int) : Rat) from rfl, search_fwd_eq]
  refine NoCrash.bind (scanDir_nocrash (fun _ => hc.nocrash _) (fun _ _ _ => NoCrash.pure _) _ _) fun t ht => ?_
  obtain ⟨d1, _, _, _, _, hv, _⟩ := scanDir_spec (Or.inl rfl) _ _ _ ht
  cases hv
  rw [nearestFwdLoop_eq]
  exact scanDir_nocrash (fun _ => hc.nocrash _) (fun d c => nearVal_nocrash hu d c _) _ _

theorem nearestBwd_nocrash (cal : Cal) (hc : CalT cal) (used : Int → Rat) (hu : ∀ d, 0 ≤ used d) (start : Time) :
    NoCrash (nearestBwd cal used start) := by
  unfold nearestBwd
  rw [show midnight start = ((dayOf start : Int) : Rat) from rfl, search_bwd_eq]
  refine NoCrash.bind (scanDir_nocrash (fun _ => hc.nocrash _) (fun _ _ _ => NoCrash.pure _) _ _) fun t ht => ?_
  obtain ⟨d1, _, _, _, _, hv, _⟩ := scanDir_spec (Or.inr rfl) _ _ _ ht
  cases hv
  rw [show (d1 : Rat) - 1 = ((d1 - 1 : Int) : Rat) by rw [Rat.intCast_sub]; rfl, nearestBwdLoop_eq]
  exact scanDir_nocrash (fun _ => hc.nocrash _) (fun d c => nearVal_nocrash hu d c _) _ _

theorem fillDir_nocrash (s : Int) (cal : Cal) (hc : CalT cal) (used : Int → Rat) (maxSteps : Nat) :
    ∀ (fuel days : Nat) (day : Int) (left dau : Rat) (acc : List (Int × Rat)),
      NoCrash (fillDir s cal used maxSteps fuel days day left dau acc) := by
  intro fuel
  induction fuel with
  | zero => intro days day left dau acc; exact NoCrash.runtime
  | succ fuel ih =>
    intro days day left dau acc
    by_cases hle : left ≤ 0
    · simp only [fillDir, if_pos hle]
      exact NoCrash.pure _
    · simp only [fillDir, if_neg hle]
      obtain ⟨c, hcd⟩ := hc ((day + s : Int) : Rat)
      rw [hcd]
      refine NoCrash.bind (NoCrash.pure c) ?_
      intro c' _
      split
      · exact NoCrash.runtime
      · exact ih _ _ _ _ _

/-- the division at the end of a shift is safe: the capacity of the last reserved day is positive -/
theorem shiftFwd_nocrash (cal : Cal) (hc : CalT cal) (used : Int → Rat) (hu : ∀ d, 0 ≤ used d) (start : Time)
    (left : Rat) (hl : 0 ≤ left) : NoCrash (shiftFwd cal used start left) := by
  unfold shiftFwd
  split
  · exact NoCrash.pure _
  · rename_i h0
    rw [fillFwd_eq_fillDir]
    refine NoCrash.bind (fillDir_nocrash 1 cal hc used _ _ _ _ _ _ _) ?_
    rintro ⟨rows, day, dau⟩ hf
    obtain ⟨new, _, hspec, _⟩ := fillDir_spec (Or.inl rfl) cal used _ _ _ _ _ _ _ _ _ _ hl hf
    obtain ⟨_, _, hdau, _⟩ := hspec.last_share (by grind) hu
    simp only
    rw [if_neg (by grind)]
    exact NoCrash.pure _

theorem shiftBwd_nocrash (cal : Cal) (hc : CalT cal) (used : Int → Rat) (hu : ∀ d, 0 ≤ used d) (end_ : Time)
    (left : Rat) (hl : 0 ≤ left) : NoCrash (shiftBwd cal used end_ left) := by
  unfold shiftBwd
  split
  · exact NoCrash.pure _
  · rename_i h0
    refine NoCrash.bind ?_ ?_
    · rw [fillBwd_eq_fillDir _ _ _ _ _ _ _ 0]
      exact (fillDir_nocrash (-1) cal hc used _ _ _ _ _ _ _).map _
    · rintro ⟨rows, day⟩ hf
      obtain ⟨dau, hf'⟩ := fillBwd_ok hf
      obtain ⟨new, _, hspec, _⟩ := fillDir_spec (Or.inr rfl) cal used _ _ _ _ _ _ _ _ _ _ hl hf'
      obtain ⟨_, hcap, hdau, _⟩ := hspec.last_share (by grind) hu
      simp only [hcap]
      refine NoCrash.bind (NoCrash.pure dau) ?_
      intro c' hc'
      cases hc'
      rw [if_neg (by grind)]
      exact NoCrash.pure _

/-- every task that is done has start, end, estimate and spent -/
def DoneFull (σ : SS) : Prop := ∀ x ∈ σ.done, AllSome (σ.f x)

theorem place_doneFull (σ σ' : SS) (t : Uid) (hi : DoneFull σ) (he : Ext σ σ') (hd : σ'.done = σ.done ++ [t])
    (hf : AllSome (σ'.f t)) : DoneFull σ' := by
  intro x hx
  rcases mem_done_snoc hd hx with hx | rfl
  · rw [he.frozen x hx]; exact hi x hx
  · exact hf

theorem SS.commit_cals (env : Env) (σ : SS) (t : Uid) (o : Outcome) (hc : CalsOK σ.res) : CalsOK (σ.commit env t o).res :=
  (resLookup_cals σ.res _ hc).1

/-! ### a placement never crashes when the calendars are total and the children are complete -/

theorem sumOpt_nocrash (l : List (Option Rat)) (h : ∀ v ∈ l, v.isSome) : NoCrash (sumOpt l) := by
  rw [sumOpt_eq, if_pos (List.all_eq_true.2 h)]
  exact NoCrash.pure _

theorem rollSum_nocrash (own : Option Rat) (ch : List (Option Rat)) (h : ∀ v ∈ ch, v.isSome) : NoCrash (rollSum own ch) := by
  cases own with
  | some x => exact NoCrash.pure _
  | none => exact sumOpt_nocrash ch h

theorem filterMap_ne_nil {α β : Type} (l : List α) (g : α → Option β) (hl : l.isEmpty = false)
    (h : ∀ c ∈ l, (g c).isSome) : l.filterMap g ≠ [] := by
  cases l with
  | nil => simp at hl
  | cons a l =>
    have := h a List.mem_cons_self
    cases hg : g a with
    | none => rw [hg] at this; cases this
    | some b => simp [hg]

/-- `min()` / `max()` over the dates of children that all have one -/
theorem orValueError_nocrash (sel : List Time → Option Time) (hsel : ∀ a l, sel (a :: l) ≠ none) (l : List Time)
    (hl : l ≠ []) : NoCrash (orValueError (sel l)) := by
  cases l with
  | nil => exact absurd rfl hl
  | cons a l =>
    cases h : sel (a :: l) with
    | none => exact absurd h (hsel a l)
    | some x => exact NoCrash.pure _

theorem fwdLeaf_nocrash (clock : Nat → Time) (bound : Time) (dflt : Rat) (ms : Option Time) (cal : Cal) (hc : CalT cal)
    (used : Int → Rat) (hu : ∀ d, 0 ≤ used d) (v : Time) (r : Nat) (g : Fields) :
    NoCrash (fwdLeaf clock bound dflt ms cal used v r g) := by
  unfold fwdLeaf fwdLeafStart
  refine NoCrash.bind ?_ (fun sk _ => ?_)
  · split
    · exact NoCrash.pure _
    · exact NoCrash.map _ (nearestFwd_nocrash cal hc used hu _)
  · split
    · exact NoCrash.pure _
    · exact NoCrash.bind (shiftFwd_nocrash cal hc used hu _ _ (workLeft_nonneg _ _))
        (fun _ _ => NoCrash.pure _)

theorem bwdLeaf_nocrash (dflt : Rat) (cal : Cal) (hc : CalT cal) (used : Int → Rat) (hu : ∀ d, 0 ≤ used d) (m v : Time)
    (g : Fields) : NoCrash (bwdLeaf dflt cal used m v g) := by
  unfold bwdLeaf bwdLeafEnd
  refine NoCrash.bind ?_ (fun E _ => ?_)
  · split
    · exact NoCrash.pure _
    · exact NoCrash.map _ (nearestBwd_nocrash cal hc used hu _)
  · exact NoCrash.bind (shiftBwd_nocrash cal hc used hu _ _ (workLeft_nonneg _ _))
      (fun _ _ => NoCrash.pure _)

section summary
variable (env : Env) (t : Uid) (f : Uid → Fields) (hl : (env.info t).children.isEmpty = false)
  (hk : ∀ c ∈ (env.info t).children, AllSome (f c))
include hl hk

theorem fwdSum_nocrash : NoCrash (fwdSum env t f) := by
  unfold fwdSum
  refine NoCrash.bind (rollSum_nocrash _ _ ?_) (fun _ _ => NoCrash.bind (rollSum_nocrash _ _ ?_) (fun _ _ =>
    NoCrash.bind ?_ (fun _ _ => NoCrash.pure _)))
  · intro v hv; obtain ⟨c, hc, rfl⟩ := List.mem_map.1 hv; exact (hk c hc).2.2.1
  · intro v hv; obtain ⟨c, hc, rfl⟩ := List.mem_map.1 hv; exact (hk c hc).2.2.2
  · unfold keepOr
    split
    · exact NoCrash.pure _
    · exact orValueError_nocrash maxOpt (fun _ _ h => nomatch h) _ (filterMap_ne_nil _ _ hl (fun c hc => (hk c hc).2.1))

theorem bwdSum_nocrash (m : Time) : NoCrash (bwdSum env t m f) := by
  unfold bwdSum
  refine NoCrash.bind (rollSum_nocrash _ _ ?_) (fun _ _ => NoCrash.bind (rollSum_nocrash _ _ ?_) (fun _ _ =>
    NoCrash.bind ?_ (fun _ _ => NoCrash.pure _)))
  · intro v hv; obtain ⟨c, hc, rfl⟩ := List.mem_map.1 hv; exact (hk c hc).2.2.1
  · intro v hv; obtain ⟨c, hc, rfl⟩ := List.mem_map.1 hv; exact (hk c hc).2.2.2
  · exact orValueError_nocrash minOpt (fun _ _ h => nomatch h) _ (filterMap_ne_nil _ _ hl (fun c hc => (hk c hc).1))

end summary

theorem fwdPlace_nocrash (env : Env) (σ : SS) (t : Uid) (m : Time) (hc : CalsOK σ.res)
    (hpos : ∀ r ∈ σ.rows, 0 < r.units) (hk : ∀ c ∈ (env.info t).children, AllSome (σ.f c)) :
    NoCrash (fwdPlace env σ t m) := by
  rw [fwdPlace_eq]
  refine NoCrash.map _ ?_
  unfold fwdOut
  split
  · exact NoCrash.pure _
  · split
    · exact fwdLeaf_nocrash _ _ _ _ _ (resLookup_cals σ.res _ hc).2 _ (fun d => reserved_nonneg _ hpos _ _ _) _ _ _
    · rename_i hl
      exact fwdSum_nocrash env t σ.f (by simpa using hl) hk

theorem bwdPlace_nocrash (env : Env) (σ : SS) (t : Uid) (m m' : Time) (hc : CalsOK σ.res)
    (hpos : ∀ r ∈ σ.rows, 0 < r.units) (hk : ∀ c ∈ (env.info t).children, AllSome (σ.f c)) :
    NoCrash (bwdPlace env σ t m m') := by
  rw [bwdPlace_eq]
  refine NoCrash.map _ ?_
  unfold bwdOut
  split
  · exact NoCrash.pure _
  · split
    · exact bwdLeaf_nocrash _ _ (resLookup_cals σ.res _ hc).2 _ (fun d => reserved_nonneg _ hpos _ _ _) _ _ _
    · rename_i hl
      exact bwdSum_nocrash env t σ.f (by simpa using hl) hk _

/-! ### the recursive pass never crashes when its call graph is acyclic -/

/-- the calls a pass makes from a task satisfying `Q`: same-side links and children -/
def callE (env : Env) (links kids : Uid → List Uid) (Q : Uid → Prop) (a b : Uid) : Prop :=
  Q a ∧ ((b ∈ links a ∧ (env.info b).member = (env.info a).member) ∨ b ∈ kids a)

/-- `stk` (innermost first) is a chain of calls that leads to `t`: a walk from `t` against the calls -/
abbrev IsStk (E : Uid → Uid → Prop) (stk : List Uid) (t : Uid) : Prop := IsChain (fun a b => E b a) t stk

theorem IsStk.reach {E : Uid → Uid → Prop} {stk : List Uid} {t : Uid} (h : IsStk E stk t) :
    ∀ x ∈ stk, TC E x t := fun x hx => TC.flip (IsChain.reach h x hx)

theorem IsStk.nodup {E : Uid → Uid → Prop} (hac : ∀ x, ¬ TC E x x) {stk : List Uid} {t : Uid}
    (h : IsStk E stk t) : (t :: stk).Nodup := IsChain.nodup (fun x hx => hac x (TC.flip hx)) h

theorem passList_nocrash (I : SS → Prop) (step : SS → Uid → Res SS) (xs : List Uid)
    (hstep : ∀ σ x, x ∈ xs → I σ → NoCrash (step σ x) ∧ ∀ σ', step σ x = .ok σ' → I σ') (σ : SS) (hi : I σ) :
    NoCrash (passList step σ xs) := by
  rw [passList_eq_foldlM]
  exact NoCrash.foldlM step xs I hstep σ hi

section generic
variable (env : Env) (links kids : Uid → List Uid) (agg : SS → List Uid → Time → Time)
  (place : SS → Uid → Time → Time → Res SS)
  (hplace_ext : ∀ σ σ' t m v, t ∉ σ.done → place σ t m v = .ok σ' → Ext σ σ' ∧ σ'.done = σ.done ++ [t])
include hplace_ext

theorem gPass_nocrash (I : SS → Prop) (Q : Uid → Prop) (n : Nat)
    (hplace : ∀ σ σ' t m v, Q t → I σ → t ∉ σ.done → (∀ c ∈ kids t, c ∈ σ.done) → place σ t m v = .ok σ' → I σ')
    (hplace_nc : ∀ σ t m v, Q t → I σ → t ∉ σ.done → (∀ c ∈ kids t, c ∈ σ.done) → NoCrash (place σ t m v))
    (hkids : ∀ t c, Q t → c ∈ kids t → Q c)
    (hlinks : ∀ t p, Q t → p ∈ links t → (env.info p).member = (env.info t).member → Q p)
    (hlt : ∀ t, Q t → t < n)
    (hac : ∀ x, ¬ TC (callE env links kids Q) x x) :
    ∀ (fuel : Nat) (stk : List Uid) (σ : SS) (t : Uid) (m : Time), Q t → I σ →
      IsStk (callE env links kids Q) stk t → (∀ x ∈ stk, Q x) → n + 1 ≤ fuel + stk.length →
      NoCrash (gPass env links kids agg place fuel stk σ t m) ∧
        ∀ σ', gPass env links kids agg place fuel stk σ t m = .ok σ' → I σ' := by
  intro fuel
  induction fuel with
  | zero =>
    intro stk σ t m hq _ hstk hqs hf
    have hn := IsStk.nodup hac hstk
    have := nodup_lt_length_le n (t :: stk) hn (fun x hx => by
      rcases List.mem_cons.1 hx with rfl | hx
      · exact hlt _ hq
      · exact hlt x (hqs x hx))
    simp only [List.length_cons] at this
    omega
  | succ fuel ih =>
    intro stk σ t m hq hi hstk hqs hf
    have hinv := gPass_inv env links kids agg place hplace_ext I Q hplace hkids hlinks
    have hqs' : ∀ x ∈ t :: stk, Q x := by
      intro x hx
      rcases List.mem_cons.1 hx with rfl | hx
      · exact hq
      · exact hqs x hx
    have hf' : n + 1 ≤ fuel + (t :: stk).length := by simp only [List.length_cons]; omega
    refine ⟨?_, fun σ' hh => hinv (fuel + 1) stk σ t m σ' hq hi hh⟩
    simp only [gPass]
    split
    · exact NoCrash.pure _
    · rename_i hd
      have hd' : t ∉ σ.done := fun hc => hd (List.contains_iff_mem.2 hc)
      split
      · rename_i hs
        exact absurd (IsStk.reach hstk t (List.contains_iff_mem.1 hs)) (hac t)
      · refine NoCrash.bind ?_ ?_
        · refine passList_nocrash I _ _ ?_ σ hi
          intro a p hp ha
          split
          · rename_i hm
            have hm' : (env.info p).member = (env.info t).member := by simpa using hm
            have hqp := hlinks t p hq hp hm'
            exact ih (t :: stk) a p m hqp ha ⟨⟨hq, Or.inl ⟨hp, hm'⟩⟩, hstk⟩ hqs' hf'
          · exact ⟨NoCrash.pure _, fun σ' hh => by cases hh; exact ha⟩
        · intro σ1 h1
          have i1 : I σ1 := passList_inv I _ _ (fun a x b hxl ha hh => by
            split at hh
            · rename_i hm
              exact hinv _ _ _ _ _ _ (hlinks t x hq hxl (by simpa using hm)) ha hh
            · cases hh; exact ha) _ _ hi h1
          refine NoCrash.bind ?_ ?_
          · refine passList_nocrash I _ _ ?_ σ1 i1
            intro a c hc ha
            exact ih (t :: stk) a c _ (hkids t c hq hc) ha ⟨⟨hq, Or.inr hc⟩, hstk⟩ hqs' hf'
          · intro σ2 h2
            obtain ⟨_, _, ht2, hk, _⟩ := gPass_frame env links kids agg place hplace_ext hd' h1 h2
            have i2 : I σ2 := passList_inv I _ _ (fun a x b hxl ha hh =>
              hinv _ _ _ _ _ _ (hkids t x hq hxl) ha hh) _ _ i1 h2
            exact hplace_nc _ _ _ _ hq i2 ht2 hk

end generic

/-- the structural invariants of the WBS handed to `calc` (field for field the `EnvWF` of Props/C14.lean) -/
structure WFE (env : Env) : Prop where
  rootsLt : ∀ r ∈ env.roots, r < env.n
  childLt : ∀ a c, c ∈ (env.info a).children → c < env.n
  predLt : ∀ a p, p ∈ (env.info a).preds → p < env.n
  succLt : ∀ a p, p ∈ (env.info a).succs → p < env.n
  parentIff : ∀ c p, (env.info c).parent = some p ↔ c ∈ (env.info p).children
  childrenNodup : ∀ p, (env.info p).children.Nodup
  rootsNodup : env.roots.Nodup
  rootsTop : ∀ r ∈ env.roots, (env.info r).parent = none
  forest : ∀ x, ¬ TC (fun a b => b ∈ (env.info a).children) x x
  sym : ∀ a b, a ∈ (env.info b).preds ↔ b ∈ (env.info a).succs
  dag : ∀ x, ¬ TC (fun a b => a ∈ (env.info b).preds) x x
  noAncDep : ∀ a b, a ∈ (env.info b).preds →
    ¬ TC (fun x y => y ∈ (env.info x).children) a b ∧ ¬ TC (fun x y => y ∈ (env.info x).children) b a
  flags : env.flagsOK

abbrev chE (env : Env) : Uid → Uid → Prop := fun a b => b ∈ (env.info a).children

theorem WFE.descF_total {env : Env} (hw : WFE env) (t : Uid) : ∃ l, descF (kidsF env) (env.n + 1) t = some l :=
  descF_total_of_acyclic (kidsF env) env.n hw.forest hw.childLt t

theorem WFE.members_total {env : Env} (hw : WFE env) : ∃ mem, members env = some mem := by
  obtain ⟨ll, hll⟩ := mapM_total (fun r => subtreeF (kidsF env) (env.n + 1) r) env.roots (fun r _ => by
    obtain ⟨l, hl⟩ := hw.descF_total r
    exact ⟨r :: l, by simp only [subtreeF, hl]; rfl⟩)
  exact ⟨ll.flatten, by unfold members; show Option.map _ (List.mapM _ env.roots) = _; rw [hll]; rfl⟩

theorem members_lt (env : Env) (hw : WFE env) (mem : List Uid) (hm : members env = some mem) :
    ∀ x ∈ mem, x < env.n := by
  intro x hx
  obtain ⟨r, hr, h⟩ := (members_iff env mem hm x).1 hx
  rcases h with rfl | h
  · exact hw.rootsLt _ hr
  · rcases TC.tail_cases h with h | ⟨b, _, h⟩
    · exact hw.childLt _ _ h
    · exact hw.childLt _ _ h

theorem members_desc (env : Env) (mem : List Uid) (hm : members env = some mem) {x y : Uid} (hx : x ∈ mem)
    (h : TC (chE env) x y) : y ∈ mem := by
  induction h with
  | single h => exact members_children env mem hm _ hx _ h
  | tail _ h ih => exact members_children env mem hm _ ih _ h

theorem ancestorsOf_member (env : Env) (hw : WFE env) (mem : List Uid) (hm : members env = some mem)
    {u l : Uid} (hu : u ∈ mem) (h : TC (chE env) u l) : u ∈ ancestorsOf env (env.n + 1) l := by
  rcases List.mem_cons.1 (mem_ancestorsOf env mem hm (fun t c _ hc => (hw.parentIff c t).2 hc) u l hu h.toRTC)
    with rfl | h'
  · exact absurd h (hw.forest u)
  · exact h'

/-- `l` is a leaf at or below `x` -/
def Lf (env : Env) (x l : Uid) : Prop := (env.info l).children.isEmpty = true ∧ (l = x ∨ TC (chE env) x l)

theorem Lf.below {env : Env} {x y l : Uid} (h : Lf env y l) (hxy : TC (chE env) x y) : Lf env x l := by
  refine ⟨h.1, Or.inr ?_⟩
  rcases h.2 with rfl | h2
  · exact hxy
  · exact TC.trans hxy h2

theorem Lf_exists_of_paths (env : Env) : ∀ (k : Nat) (x : Uid),
    (∀ p, IsPath (kidsF env) x p → p.length < k) → ∃ l, Lf env x l := by
  refine paths_rec (kidsF env) (fun _ x => ∃ l, Lf env x l) (fun _ x ih => ?_)
  cases hc : (env.info x).children with
  | nil => exact ⟨x, by simp [hc], Or.inl rfl⟩
  | cons c cs =>
    have hcx : c ∈ (env.info x).children := by rw [hc]; exact List.mem_cons_self
    obtain ⟨l, hl⟩ := ih c hcx
    exact ⟨l, hl.below (TC.single hcx)⟩

theorem WFE.Lf_exists {env : Env} (hw : WFE env) (x : Uid) : ∃ l, Lf env x l :=
  Lf_exists_of_paths env (env.n + 1) x (fun _ hp => Nat.lt_succ_of_le (hp.length_le hw.forest hw.childLt))

theorem Lf_leavesOf (env : Env) (hw : WFE env) {p l : Uid} (h : Lf env p l) : l ∈ (leavesOf env p).getD [] := by
  unfold leavesOf
  split
  · rename_i hp
    rcases h.2 with rfl | h2
    · simp
    · exfalso
      have hnil : ∀ c, ¬ c ∈ (env.info p).children := by
        intro c hc; rw [List.isEmpty_iff.1 hp] at hc; cases hc
      rcases TC.head_cases h2 with hc | ⟨c, hc, _⟩
      · exact hnil _ hc
      · exact hnil _ hc
  · rename_i hp
    obtain ⟨d, hd⟩ := hw.descF_total p
    rw [hd]
    simp only [Option.map_some, Option.getD_some, List.mem_filter]
    rcases h.2 with rfl | h2
    · exact absurd h.1 hp
    · exact ⟨descF_complete _ _ _ _ hd l h2, h.1⟩

theorem leavesOf_lt (env : Env) (hw : WFE env) {p l : Uid} (hp : p < env.n) (h : l ∈ (leavesOf env p).getD []) :
    l < env.n := by
  unfold leavesOf at h
  split at h
  · simp only [Option.getD_some, List.mem_singleton] at h
    subst h; exact hp
  · cases hd : descF (kidsF env) (env.n + 1) p with
    | none => rw [hd] at h; simp at h
    | some d =>
      rw [hd] at h
      simp only [Option.map_some, Option.getD_some, List.mem_filter] at h
      have := descF_sound _ _ _ _ hd l h.1
      rcases TC.tail_cases this with h' | ⟨b, _, h'⟩
      · exact hw.childLt _ _ h'
      · exact hw.childLt _ _ h'

theorem waitsFor_lt (env : Env) (hw : WFE env) (a b : Uid) (h : b ∈ waitsFor env a) : b < env.n := by
  obtain ⟨x, _, p, hpx, hb⟩ := mem_waitsFor.1 h
  exact leavesOf_lt env hw (hw.predLt x p hpx) hb

/-- a leaf below a member task `u` waits for every leaf of every predecessor of `u` -/
theorem waitsFor_mem (env : Env) (hw : WFE env) (mem : List Uid) (hm : members env = some mem)
    {u p l l' : Uid} (hu : u ∈ mem) (hp : p ∈ (env.info u).preds) (hl : Lf env u l) (hl' : Lf env p l') :
    l' ∈ waitsFor env l := by
  refine mem_waitsFor.2 ⟨u, ?_, p, hp, Lf_leavesOf env hw hl'⟩
  rcases hl.2 with rfl | h2
  · exact List.mem_cons_self
  · exact List.mem_cons_of_mem _ (ancestorsOf_member env hw mem hm hu h2)

/-! ### a cycle of calls yields a leaf-level cycle -/

theorem call_TC_cases (env : Env) (links kids : Uid → List Uid) (Q : Uid → Prop) (R : Uid → Uid → Prop)
    (hne : ∀ x, ∃ l, Lf env x l)
    (hkid : ∀ a b, b ∈ kids a → b ∈ (env.info a).children)
    (hlink : ∀ a b, Q a → b ∈ links a → (env.info b).member = (env.info a).member →
      ∀ l l', Lf env a l → Lf env b l' → R l l') {x y : Uid}
    (h : TC (callE env links kids Q) x y) :
    TC (chE env) x y ∨ ∃ l, Lf env x l ∧ ∀ l', Lf env y l' → TC R l l' := by
  induction h with
  | single h =>
    obtain ⟨hq, h | h⟩ := h
    · obtain ⟨l, hl⟩ := hne _
      exact Or.inr ⟨l, hl, fun l' hl' => TC.single (hlink _ _ hq h.1 h.2 l l' hl hl')⟩
    · exact Or.inl (TC.single (hkid _ _ h))
  | tail hab h ih =>
    rename_i b c
    obtain ⟨hq, h | h⟩ := h
    · obtain ⟨l2, hl2⟩ := hne b
      rcases ih with ih | ⟨l, hl, ih⟩
      · exact Or.inr ⟨l2, hl2.below ih, fun l' hl' => TC.single (hlink _ _ hq h.1 h.2 l2 l' hl2 hl')⟩
      · exact Or.inr ⟨l, hl, fun l' hl' => TC.tail (ih l2 hl2) (hlink _ _ hq h.1 h.2 l2 l' hl2 hl')⟩
    · have hbc : TC (chE env) b c := TC.single (hkid _ _ h)
      rcases ih with ih | ⟨l, hl, ih⟩
      · exact Or.inl (TC.trans ih hbc)
      · exact Or.inr ⟨l, hl, fun l' hl' => ih l' (hl'.below hbc)⟩

theorem callE_source {env : Env} {links kids : Uid → List Uid} {Q : Uid → Prop} {x y : Uid}
    (h : TC (callE env links kids Q) x y) : Q x := by
  induction h with
  | single h => exact h.1
  | tail _ _ ih => exact ih

/-- no cycle of calls, given that the leaf-level relation `R` has no cycle through a leaf below a `Q` task -/
theorem call_acyclic (env : Env) (hw : WFE env) (links kids : Uid → List Uid) (Q : Uid → Prop) (R : Uid → Uid → Prop)
    (hkid : ∀ a b, b ∈ kids a → b ∈ (env.info a).children)
    (hlink : ∀ a b, Q a → b ∈ links a → (env.info b).member = (env.info a).member →
      ∀ l l', Lf env a l → Lf env b l' → R l l')
    (hR : ∀ x l, Q x → Lf env x l → ¬ TC R l l) :
    ∀ x, ¬ TC (callE env links kids Q) x x := by
  intro x h
  rcases call_TC_cases env links kids Q R hw.Lf_exists hkid hlink h with h' | ⟨l, hl, h'⟩
  · exact hw.forest x h'
  · exact hR x l (callE_source h) hl (h' l hl)

abbrev waitsE (env : Env) : Uid → Uid → Prop := fun a b => b ∈ waitsFor env a

theorem checkLoops_ok (env : Env) (mem : List Uid) (h : checkLoops env mem = .ok ()) :
    ∀ l ∈ mem, (env.info l).children.isEmpty = true → ¬ TC (waitsE env) l l := by
  unfold checkLoops at h
  simp only [bind, Except.bind] at h
  split at h
  · cases h
  · split at h
    · cases h
    · rename_i v2 h2
      intro l hl hleaf
      exact loopsFrom_sound (waitsFor env) _ _ v2 h2 l (List.mem_filter.2 ⟨hl, hleaf⟩)

theorem checkLoops_nocrash (env : Env) (hw : WFE env) (mem : List Uid) (hlt : ∀ x ∈ mem, x < env.n) :
    NoCrash (checkLoops env mem) := by
  unfold checkLoops
  refine NoCrash.bind (loopsFold_nocrash _ env.n (fun a b h => hw.predLt a b h) mem hlt) ?_
  intro _ _
  refine NoCrash.bind (loopsFold_nocrash _ env.n (waitsFor_lt env hw) _ ?_) (fun _ _ => NoCrash.pure _)
  intro t ht
  exact hlt t (List.mem_filter.1 ht).1

theorem checkLoops_cycle (env : Env) (hw : WFE env) (mem : List Uid) (hlt : ∀ x ∈ mem, x < env.n)
    (l : Uid) (hl : l ∈ mem) (hleaf : (env.info l).children.isEmpty = true) (hcyc : TC (waitsE env) l l) :
    checkLoops env mem = .error .runtime := by
  rcases (checkLoops_nocrash env hw mem hlt).cases with ⟨a, ha⟩ | h
  · cases a
    exact absurd hcyc (checkLoops_ok env mem ha l hl hleaf)
  · exact h

/-- what the passes keep: the ledger is sound, every calendar of the table is total, done tasks are complete -/
def PassInv (env : Env) (σ : SS) : Prop := LedgerOK env σ ∧ CalsOK σ.res ∧ DoneFull σ

theorem SS.commit_passInv (env : Env) (σ : SS) (t : Uid) (o : Outcome) (hi : PassInv env σ) (ht : t ∉ σ.done)
    (hg : GoodNew (placeCal env σ t) (placeUsed env σ t) o.new) (hf : AllSome o.g) : PassInv env (σ.commit env t o) :=
  ⟨SS.commit_ledger env σ t o hi.1 hg, SS.commit_cals env σ t o hi.2.1,
    place_doneFull σ _ t hi.2.2 (SS.commit_ext env σ t o ht).1 rfl (by rw [SS.commit_f_same]; exact hf)⟩

theorem Sched.place_passInv {env : Env} (d : Sched env) (hd : d.OK) (σ σ' : SS) (t : Uid) (m v : Time)
    (hi : PassInv env σ) (ht : t ∉ σ.done) (h : d.place σ t m v = .ok σ') : PassInv env σ' := by
  obtain ⟨o, rfl, hg, hf⟩ := hd.commit σ σ' t m v h
  exact SS.commit_passInv env σ t o hi ht hg hf

theorem PassInv.init (env : Env) (σ : SS) (hr : σ.rows = []) (hd : σ.done = []) (hc : CalsOK σ.res) :
    PassInv env σ :=
  ⟨LedgerOK.init env σ hr, hc, fun x hx => by rw [hd] at hx; cases hx⟩

theorem fwd_call_acyclic (env : Env) (hw : WFE env) (mem : List Uid) (hm : members env = some mem)
    (hwait : ∀ l ∈ mem, (env.info l).children.isEmpty = true → ¬ TC (waitsE env) l l) :
    ∀ x, ¬ TC (callE env (fun u => (env.info u).preds) (fun u => (env.info u).children) (· ∈ mem)) x x := by
  refine call_acyclic env hw _ _ _ (waitsE env) (fun _ _ h => h) ?_ ?_
  · intro a b ha hb _ l l' hl hl'
    exact waitsFor_mem env hw mem hm ha hb hl hl'
  · intro x l hx hl
    refine hwait l ?_ hl.1
    rcases hl.2 with rfl | h
    · exact hx
    · exact members_desc env mem hm hx h

theorem bwd_call_acyclic (env : Env) (hw : WFE env) (mem : List Uid) (hm : members env = some mem)
    (hwait : ∀ l ∈ mem, (env.info l).children.isEmpty = true → ¬ TC (waitsE env) l l) :
    ∀ x, ¬ TC (callE env (fun u => (env.info u).succs) (fun u => (env.info u).children.reverse) (· ∈ mem)) x x := by
  have hfl : ∀ t, (env.info t).member = true ↔ t ∈ mem := fun t => by
    rw [← memberList_eq env mem hm]; exact hw.flags t
  refine call_acyclic env hw _ _ _ (fun l l' => waitsE env l' l) (fun _ _ h => List.mem_reverse.1 h) ?_ ?_
  · intro a b ha hb hmb l l' hl hl'
    have hbm : b ∈ mem := (hfl b).1 (hmb.trans ((hfl a).2 ha))
    exact waitsFor_mem env hw mem hm hbm ((hw.sym a b).2 hb) hl' hl
  · intro x l hx hl hcyc
    refine hwait l ?_ hl.1 (TC.flip hcyc)
    rcases hl.2 with rfl | h
    · exact hx
    · exact members_desc env mem hm hx h

/-- a run never crashes when the calendars supplied are total, no placement of a member crashes on a state with complete
    children, and the call graph of the scheduler has no cycle among the members -/
theorem Sched.run_nocrash {env : Env} (d : Sched env) (hd : d.OK) (f0 : Uid → Fields) (res0 : List (Option Nat × Cal))
    (hw : WFE env) (hc : CalsOK res0) (mem : List Uid) (hm : members env = some mem)
    (hnc : ∀ σ t m v, PassInv env σ → (∀ c ∈ (env.info t).children, AllSome (σ.f c)) → NoCrash (d.place σ t m v))
    (hac : ∀ x, ¬ TC (callE env d.links d.kids (· ∈ mem)) x x) : NoCrash (d.run f0 res0) := by
  have hfl : ∀ t, (env.info t).member = true ↔ t ∈ mem := fun t => by
    rw [← memberList_eq env mem hm]; exact hw.flags t
  unfold Sched.run
  rw [hm]
  refine NoCrash.bind (NoCrash.pure _) ?_
  intro mem' hmem'
  cases hmem'
  refine NoCrash.bind ?_ (fun _ _ => NoCrash.pure _)
  refine passList_nocrash (PassInv env) _ _ ?_ _ (PassInv.init env _ rfl rfl hc)
  intro σ r hr hi
  exact gPass_nocrash env _ _ _ _ (d.place_ext hd) (PassInv env) (· ∈ mem) env.n
    (fun σ σ' t m v _ hi ht _ h => d.place_passInv hd σ σ' t m v hi ht h)
    (fun σ t m v _ hi _ hk => hnc σ t m v hi (fun c hc => hi.2.2 c (hk c ((hd.kids t c).2 hc))))
    (fun t c ht hc => members_children env mem hm t ht c ((hd.kids t c).1 hc))
    (fun t p ht _ he => (hfl p).1 (he.trans ((hfl t).2 ht))) (members_lt env hw mem hm) hac
    (env.n + 1) [] σ r env.bound (members_root env mem hm r ((hd.roots r).1 hr)) hi trivial (fun x hx => by cases hx)
    (by simp)

theorem fwdRun_nocrash (env : Env) (f0 : Uid → Fields) (res0 : List (Option Nat × Cal)) (hw : WFE env)
    (hc : CalsOK res0) (mem : List Uid) (hm : members env = some mem)
    (hwait : ∀ l ∈ mem, (env.info l).children.isEmpty = true → ¬ TC (waitsE env) l l) :
    NoCrash (fwdRun env f0 res0) := by
  rw [fwdRun_eq]
  exact (Sched.fwd env).run_nocrash (Sched.fwd_ok env) f0 res0 hw hc mem hm
    (fun σ t _ v hi hk => fwdPlace_nocrash env σ t v hi.2.1 hi.1.pos hk) (fwd_call_acyclic env hw mem hm hwait)

theorem bwdRun_nocrash (env : Env) (f0 : Uid → Fields) (res0 : List (Option Nat × Cal)) (hw : WFE env)
    (hc : CalsOK res0) (mem : List Uid) (hm : members env = some mem)
    (hwait : ∀ l ∈ mem, (env.info l).children.isEmpty = true → ¬ TC (waitsE env) l l) :
    NoCrash (bwdRun env f0 res0) := by
  rw [bwdRun_eq]
  exact (Sched.bwd env).run_nocrash (Sched.bwd_ok env) f0 res0 hw hc mem hm
    (fun σ t m v hi hk => bwdPlace_nocrash env σ t m v hi.2.1 hi.1.pos hk) (bwd_call_acyclic env hw mem hm hwait)

theorem bwdPrecheck_eq (env : Env) (f0 : Uid → Fields) (mem : List Uid) (hm : members env = some mem) :
    bwdPrecheck env f0 =
      if isolationOk env f0 mem = false then .error .runtime else checkLoops env mem := by
  unfold bwdPrecheck
  rw [hm]
  cases hi : isolationOk env f0 mem <;>
    simp only [bind, Except.bind, pure, Except.pure, throw, throwThe, MonadExceptOf.throw, hi]
  all_goals rfl

theorem bwdPrecheck_nocrash (env : Env) (f0 : Uid → Fields) (hw : WFE env) : NoCrash (bwdPrecheck env f0) := by
  obtain ⟨mem, hm⟩ := hw.members_total
  rw [bwdPrecheck_eq env f0 mem hm]
  split
  · exact NoCrash.runtime
  · exact checkLoops_nocrash env hw mem (members_lt env hw mem hm)

theorem bwdPrecheck_ok (env : Env) (f0 : Uid → Fields) (mem : List Uid) (hm : members env = some mem)
    (h : bwdPrecheck env f0 = .ok ()) : checkLoops env mem = .ok () := by
  rw [bwdPrecheck_eq env f0 mem hm] at h
  split at h
  · cases h
  · exact h

theorem fwdPrecheck_nocrash (env : Env) (f0 : Uid → Fields) (hw : WFE env) : NoCrash (fwdPrecheck env f0) := by
  rw [fwdPrecheck_eq_bwd_bind]
  refine NoCrash.bind (bwdPrecheck_nocrash env f0 hw) (fun _ _ => ?_)
  split
  · exact NoCrash.runtime
  · exact NoCrash.pure _

theorem fwdPrecheck_ok (env : Env) (f0 : Uid → Fields) (mem : List Uid) (hm : members env = some mem)
    (h : fwdPrecheck env f0 = .ok ()) : checkLoops env mem = .ok () := by
  rw [fwdPrecheck_eq_bwd_bind] at h
  obtain ⟨u, hu, _⟩ := bind_ok h
  exact bwdPrecheck_ok env f0 mem hm hu

theorem forwardCalc_nocrash (env : Env) (f0 : Uid → Fields) (res0 : List (Option Nat × Cal)) (hw : WFE env)
    (hc : CalsOK res0) : NoCrash (forwardCalc env f0 res0) := by
  obtain ⟨mem, hm⟩ := hw.members_total
  unfold forwardCalc
  refine NoCrash.bind (fwdPrecheck_nocrash env f0 hw) ?_
  intro u hu
  exact fwdRun_nocrash env f0 res0 hw hc mem hm (checkLoops_ok env mem (fwdPrecheck_ok env f0 mem hm hu))

theorem backwardCalc_nocrash (env : Env) (f0 : Uid → Fields) (res0 : List (Option Nat × Cal)) (hw : WFE env)
    (hc : CalsOK res0) : NoCrash (backwardCalc env f0 res0) := by
  obtain ⟨mem, hm⟩ := hw.members_total
  unfold backwardCalc
  refine NoCrash.bind (bwdPrecheck_nocrash env f0 hw) ?_
  intro u hu
  exact bwdRun_nocrash env f0 res0 hw hc mem hm (checkLoops_ok env mem (bwdPrecheck_ok env f0 mem hm hu))

theorem c14Outcome_of_nocrash (r : Res Output) (h : NoCrash r) : c14Outcome r = true := by
  rcases h.cases with ⟨a, rfl⟩ | rfl <;> rfl

theorem reachB_sound (next : Uid → List Uid) (t : Uid) : ∀ (k : Nat) (seen frontier : List Uid),
    (∀ x ∈ seen, TC (fun a b => b ∈ next a) t x) → (∀ x ∈ frontier, x = t ∨ TC (fun a b => b ∈ next a) t x) →
    ∀ x ∈ reachB next k seen frontier, TC (fun a b => b ∈ next a) t x := by
  intro k
  induction k with
  | zero => intro seen frontier hs _ x hx; exact hs x hx
  | succ k ih =>
    intro seen frontier hs hf x hx
    simp only [reachB] at hx
    have hnew : ∀ y ∈ (frontier.flatMap next).eraseDups.filter (fun x => !seen.contains x),
        TC (fun a b => b ∈ next a) t y := by
      intro y hy
      have hy' := List.mem_eraseDups.1 (List.mem_filter.1 hy).1
      obtain ⟨z, hz, hyz⟩ := List.mem_flatMap.1 hy'
      rcases hf z hz with rfl | hz'
      · exact TC.single hyz
      · exact TC.tail hz' hyz
    split at hx
    · exact hs x hx
    · refine ih _ _ ?_ (fun y hy => Or.inr (hnew y hy)) x hx
      intro y hy
      rcases List.mem_append.1 hy with hy | hy
      · exact hs y hy
      · exact hnew y hy

theorem reachFrom_sound (next : Uid → List Uid) (n : Nat) (t x : Uid) (h : x ∈ reachFrom next n t) :
    TC (fun a b => b ∈ next a) t x :=
  reachB_sound next t (n + 1) [] [t] (fun _ hx => by cases hx) (fun y hy => Or.inl (by simpa using hy)) x h

theorem waitCycle_spec (env : Env) (mem : List Uid) (hm : members env = some mem) (h : waitCycle env = true) :
    ∃ l ∈ mem, (env.info l).children.isEmpty = true ∧ TC (waitsE env) l l := by
  unfold waitCycle at h
  rw [memberList_eq env mem hm, List.any_eq_true] at h
  obtain ⟨l, hl, hc⟩ := h
  obtain ⟨hlm, hleaf⟩ := List.mem_filter.1 hl
  exact ⟨l, hlm, hleaf, reachFrom_sound _ _ _ _ (List.contains_iff_mem.1 hc)⟩

theorem bwdPrecheck_diagnoses (env : Env) (f0 : Uid → Fields) (hw : WFE env)
    (hd : (!isolationOk env f0 (memberList env) || waitCycle env) = true) : bwdPrecheck env f0 = .error .runtime := by
  obtain ⟨mem, hm⟩ := hw.members_total
  rw [bwdPrecheck_eq env f0 mem hm]
  rw [memberList_eq env mem hm] at hd
  simp only [Bool.or_eq_true, Bool.not_eq_true'] at hd
  split
  · rfl
  · rename_i hiso
    rcases hd with hd | hd
    · exact absurd hd hiso
    · obtain ⟨l, hl, hleaf, hcyc⟩ := waitCycle_spec env mem hm hd
      exact checkLoops_cycle env hw mem (members_lt env hw mem hm) l hl hleaf hcyc

theorem backwardCalc_diagnoses (env : Env) (f0 : Uid → Fields) (res0 : List (Option Nat × Cal)) (hw : WFE env)
    (hd : c14MustDiagnose env f0 false = true) : backwardCalc env f0 res0 = .error .runtime := by
  unfold backwardCalc
  rw [bwdPrecheck_diagnoses env f0 hw (by simpa [c14MustDiagnose] using hd)]
  rfl

/-- forward: the class the backward pre-check does not know is the fixed end in the future -/
theorem forwardCalc_diagnoses (env : Env) (f0 : Uid → Fields) (res0 : List (Option Nat × Cal)) (hw : WFE env)
    (hd : c14MustDiagnose env f0 true = true) : forwardCalc env f0 res0 = .error .runtime := by
  have hpre : fwdPrecheck env f0 = .error .runtime := by
    rw [fwdPrecheck_eq_bwd_bind]
    simp only [c14MustDiagnose, Bool.true_and, Bool.or_eq_true (a := _ || _)] at hd
    rcases hd with hd | hd
    · rw [bwdPrecheck_diagnoses env f0 hw hd]; rfl
    · rcases (bwdPrecheck_nocrash env f0 hw).cases with ⟨u, hu⟩ | he
      · rw [hu]; exact if_pos hd
      · rw [he]; rfl
  unfold forwardCalc
  rw [hpre]
  rfl

end Pj

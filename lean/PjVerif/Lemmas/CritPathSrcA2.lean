/-
  Lemmas/CritPathSrcA2.lean — layer A of the tie for alg/critical_path.py (see Lemmas/CritPathSrcA.lean), part 2:
  `__insert_task` (three nested loops, recursion) and `CriticalPathCalculator(tasks, None)`.
-/
import PjVerif.Lemmas.CritPathSrcA1
namespace Pj.CritPathSrc
open Pj.PyLite Pj.Extracted.CritPath
open Pj.TaskSrc (callPV_eq callPV_bound execP_assign execP_ifElse execBlockP_cons execBlockP_nil execP_forIn noRec Env.get?_set Env.get?_cons Env.get?_nil pyEq_num
  evalP_listComp_pure evalP_and_bool evalP_not_bool execBlockP_append execBlockP_one)
set_option linter.unusedSimpArgs false
set_option linter.unusedVariables false

def itLoop : Stmt := src_CPC_insert_task.getD 4 .pass
def itOwnerBody : List Stmt := match itLoop with | .forIn _ _ b => b | _ => []
def itPredLoop : Stmt := itOwnerBody.getD 0 .pass
def itPredBody : List Stmt := match itPredLoop with | .forIn _ _ b => b | _ => []
def itPLoop : Stmt := itPredBody.getD 0 .pass
def itPBody : List Stmt := match itPLoop with | .forIn _ _ b => b | _ => []
theorem itPredLoop_eq : itPredLoop =
    .forIn "pred" (.prim "predecessors" (.listCons (.var "owner") .listNil)) [itPLoop] := rfl
theorem itPLoop_eq : itPLoop = .forIn "p" (.bin .add (.listCons (.var "pred") .listNil)
    (.listOf (.prim "all_children" (.listCons (.var "pred") .listNil)))) itPBody := rfl

theorem evalP_orZero {H : PHandlers} {self ρ : PyLite.Env} {st : PState} {x : Expr} {o : Option Rat}
    (hx : x.evalP H self ρ st = .ok (.atom (optNum o), st)) :
    (Expr.ite (.isNotNone x) x (.num 0)).evalP H self ρ st = .ok (.atom (.num (o.getD 0)), st) := by
  cases o <;> simp [Expr.evalP, hx, optNum, truthP, bind, Except.bind, pure, Except.pure]

theorem dur_eq (e : CPEnv) (t : Uid) : e.dur t = pyMaxR ((e.est t).getD 0 - (e.spent t).getD 0) 0 := by
  simp only [CPEnv.dur, pyMaxR]

theorem insert_simR (e : CPEnv) (tid : Uid → Int) (B : Nat) :
    ∀ (f : Nat) (σ : Store) (t : Uid) (F : Nat), f + 3 ≤ F →
      SimR (ofOpt (insertA e tid B f σ t))
        ((Hc e tid F).fnV fn_CPC_insert_task [.atom (.ref B), .atom (.ref t)] (mkSt B σ))
        (fun σ' v st => v = .atom .none ∧ st = mkSt B σ') := by
  intro f
  induction f with
  | zero => intro σ t F _; exact SimR.outside
  | succ f ih =>
    intro σ t F hF
    obtain ⟨F, rfl⟩ : ∃ F', F = F' + 4 := ⟨F - 4, by omega⟩
    rw [fnV_succ _ _ _ _ _ _ cf_insert]
    have hprim := Hc_prim e tid (F + 3)
    unfold insertA
    by_cases hch : 0 < (e.children t).length
    · rw [if_pos hch]
      exact ⟨_, _, by simp [pylite_step, src_CPC_insert_task_params, src_CPC_insert_task, hprim, cpPrim, refs, Rat.natCast_pos, hch],
        rfl, rfl⟩
    · rw [if_neg hch]
      split
      next nodes links tasks ed mem hg =>
        have hr := encHeap_get B hg
        cases hin : (Dict.get? tasks (idA (tid t))).isSome
        · simp only [Bool.false_eq_true, if_false]
          rw [callPV_bound rfl]
          refine Sim.retNone (Q := fun σ' st => st = mkSt B σ') ?_
          unfold src_CPC_insert_task
          have hw := mkSt_set B (f := "__tasks") (v := .dict (Dict.insert tasks (idA (tid t)) (.ref t))) hg
            (o' := .calc nodes links (Dict.insert tasks (idA (tid t)) (.ref t)) ed mem) (by simp [encObj, Env.set, refsN])
          refine Sim.step (st1 := mkSt B σ) (by simp [pylite_step, hprim, cpPrim, refs, Rat.natCast_pos, hch]; rfl) ?_
          refine Sim.step (st1 := mkSt B σ) (by simp [pylite_step, hprim, cpPrim, hr, hin]; rfl) ?_
          refine Sim.step (st1 := mkSt B (setO B σ B (.calc nodes links (Dict.insert tasks (idA (tid t)) (.ref t)) ed mem)))
            (by simp [pylite_step, hprim, cpPrim, hr, hw]; rfl) ?_
          refine Sim.step (execP_assign (v := .list []) rfl) ?_
          let I : Store × List Atom → PyLite.Env → PState → Prop := fun acc ρ st => st = mkSt B acc.1 ∧
            Env.le [("self", .atom (.ref B)), ("task", .atom (.ref t)), ("p_ids", .list acc.2)] ρ
          split
          next => exact Sim.outside
          next σ2 pids hfold =>
            refine Sim.consEq (Q := I) hfold ?_ fun ρ5 _ h => ?_
            · rw [ofOpt_foldlM]
              refine Sim.forIn (g := Atom.ref) (by simp [pylite_step, hprim, cpPrim, refs]) ?_
                ⟨rfl, .cons (by simp [pylite_step]) (.cons (by simp [pylite_step]) (.cons (by simp [pylite_step]) (.nil _)))⟩
              rintro acc owner ρ _ _ ⟨rfl, hρ⟩
              unfold insertOwner
              rw [ofOpt_foldlM]
              refine Sim.one (Sim.forIn (g := Atom.ref) (by simp [pylite_step, hprim, cpPrim, refs]) ?_ ⟨rfl, hρ.set_ne "owner" _⟩)
              rintro acc pred ρ _ _ ⟨rfl, hρ⟩
              unfold insertPred
              split
              next => exact Sim.outside
              next d hd =>
                rw [ofOpt_foldlM]
                refine Sim.one (Sim.forIn (g := Atom.ref) (by simp [pylite_step, hprim, cpPrim, refs, hd]) ?_ ⟨rfl, hρ.set_ne "pred" _⟩)
                rintro acc p ρ _ _ ⟨rfl, hρ⟩
                have hρ' := hρ.set_ne "p" (.atom (.ref p))
                have hs := hρ'.get "self"
                have hp := hρ'.get "p_ids"
                unfold insertStep
                refine Sim.readCalc fun _ _ _ _ mem hgc => Sim.one ?_
                have hrc := encHeap_get B hgc
                -- the three tests: a leaf, a member, not yet among `p_ids`
                have hleaf : (Expr.cmp .eq (.len (.prim "children" (.listCons (.var "p") .listNil))) (.num 0)).evalP
                    (Hc e tid (F + 3)) [] (ρ.set "p" (.atom (.ref p))) (mkSt B acc.1) =
                    .ok (.atom (.bool (decide ((e.children p).length = 0))), mkSt B acc.1) := by
                  simp [pylite_step, hprim, cpPrim, refs, pyEq_num]
                have hmem : (Expr.isIn (.idOf (.var "p")) (.attr (.var "self") "__members")).evalP (Hc e tid (F + 3)) []
                    (ρ.set "p" (.atom (.ref p))) (mkSt B acc.1) =
                    .ok (.atom (.bool (mem.any (fun v => v.pyEq (.num ((p : Nat) : Rat))))), mkSt B acc.1) := by
                  simp [pylite_step, hs, hrc]
                have hseen : (Expr.isIn (.prim "id" (.listCons (.var "p") .listNil)) (.var "p_ids")).evalP
                    (Hc e tid (F + 3)) [] (ρ.set "p" (.atom (.ref p))) (mkSt B acc.1) =
                    .ok (.atom (.bool (acc.2.any (fun v => v.pyEq (idA (tid p))))), mkSt B acc.1) := by
                  simp [pylite_step, hprim, cpPrim, hp]
                rw [execP_ifElse (hb := rfl)
                  (hc := evalP_and_bool hleaf fun _ => evalP_and_bool hmem fun _ => evalP_not_bool hseen)]
                by_cases hin : (e.children p).length = 0 ∧ mem.any (fun v => v.pyEq (.num ((p : Nat) : Rat))) = true ∧
                    acc.2.any (fun v => v.pyEq (idA (tid p))) = false
                · rw [if_pos hin]
                  simp only [hin.1, hin.2.1, hin.2.2, decide_true, Bool.not_false, Bool.and_self, if_true]
                  refine Sim.step (execP_assign (v := .list (acc.2 ++ [idA (tid p)])) (st' := mkSt B acc.1)
                    (by simp [pylite_step, hprim, cpPrim, hp])) (Sim.one ?_)
                  refine Sim.mapO (SimR.exprCall (by simp [pylite_step, hs]) (ih acc.1 p (F + 3) (by omega))) ?_
                  rintro σ' _ _ ⟨rfl, _, _, rfl⟩
                  exact ⟨rfl, hρ'.set "p_ids" _⟩
                · rw [if_neg hin]
                  have hc : (decide ((e.children p).length = 0) && (mem.any (fun v => v.pyEq (.num ((p : Nat) : Rat))) &&
                      !acc.2.any (fun v => v.pyEq (idA (tid p))))) = false := by
                    simpa [Bool.and_eq_false_imp] using hin
                  exact Sim.ok (by rw [hc]; rfl) ⟨rfl, hρ'⟩
            · obtain ⟨rfl, hρ5⟩ := h
              have ht5 := hρ5.get "task"
              refine Sim.step (execP_assign (st' := mkSt B σ2)
                (evalP_orZero (o := e.est t) (by simp [pylite_step, hprim, cpPrim, ht5]))) ?_
              have hρ6 := hρ5.set_ne "estimate" (.atom (.num ((e.est t).getD 0)))
              have ht6 := hρ6.get "task"
              refine Sim.step (execP_assign (st' := mkSt B σ2)
                (evalP_orZero (o := e.spent t) (by simp [pylite_step, hprim, cpPrim, ht6]))) (Sim.one ?_)
              have hρ7 := hρ6.set_ne "spent" (.atom (.num ((e.spent t).getD 0)))
              rw [dur_eq]
              exact (SimR.exprCall (by simp [pylite_step, hprim, cpPrim, hρ7.get "self", hρ7.get "task", hρ7.get "p_ids", pyMax_num])
                (add_work_simR e tid B σ2 (idA (tid t)) _ pids F)).mono fun _ _ _ ⟨_, _, _, h⟩ => h
        · simp only [if_true]
          exact ⟨_, _, by simp [pylite_step, src_CPC_insert_task_params, src_CPC_insert_task, hprim, cpPrim, refs, Rat.natCast_pos, hch,
            hr, hin], rfl, rfl⟩
      next => exact SimR.outside

def ciPre : List Stmt := src_CPC_init.take 6
def ciLoop : Stmt := src_CPC_init.getD 6 .pass
def ciBody : List Stmt := match ciLoop with | .forIn _ _ b => b | _ => []
theorem ci_shape : src_CPC_init = ciPre ++ [ciLoop] := rfl
theorem ciLoop_eq : ciLoop = .forIn "t" (.var "tasks") ciBody := rfl

theorem ids_comp (H : PHandlers) (ρ : PyLite.Env) (st : PState) (l : List Uid) (h : ρ.get? "tasks" = some (refs l)) :
    (Expr.listComp (.idOf (.var "t")) "t" (.var "tasks") (.bool true)).evalP H [] ρ st =
      .ok (.list (l.map (fun u => Atom.num ((u : Nat) : Rat))), st) := by
  rw [evalP_listComp_pure H [] ρ st st _ _ _ "t" (l.map Atom.ref) (fun _ => true)
    (fun v => match v with | .ref i => .num ((i : Nat) : Rat) | _ => .none)]
  · rw [List.filter_eq_self.2 (by simp)]
    simp [List.map_map, Function.comp_def]
  · simp [pylite_step, h, refs]
  · intro v _; simp [pylite_step]
  · intro v hv _
    obtain ⟨u, _, rfl⟩ := List.mem_map.1 hv
    simp [pylite_step]

theorem construct_CPC (e : CPEnv) (tid : Uid → Int) (B f : Nat) (σ : Store) (h : initA e tid B f = some σ)
    (F : Nat) (hF : f + 3 ≤ F) (self ρ : PyLite.Env) (em : Expr)
    (hem : em.evalP (Hc e tid (F + 1)) self ρ (mkSt B []) = .ok (refs e.members, mkSt B [])) :
    (Expr.construct fn_CPC_init (.listCons em (.listCons .none .listNil))).evalP (Hc e tid (F + 1)) self ρ (mkSt B [])
      = .ok (.atom (.ref B), mkSt B σ) := by
  simp only [Expr.evalP, Expr.evalArgsP, hem, bind, Except.bind, pure, Except.pure, mkSt_reads, mkSt_heap]
  rw [fnV_succ _ _ _ _ _ _ cf_init, callPV_eq, ci_shape]
  simp only [execBlockP_append, src_CPC_init_params, bindParamsV, bind, Except.bind, pure, Except.pure]
  have hcomp := fun ρ st => ids_comp (Hc e tid F) ρ st e.members
  simp only [refs] at hcomp
  obtain ⟨ρ6, hpre, hs6, ht6, hd6⟩ : ∃ ρ6, execBlockP (Hc e tid F) [] noRec ciPre
      [("self", .atom (.ref (B + ([] : Store).length))), ("tasks", refs e.members), ("end_date", .atom .none)]
      { L := (mkSt B []).L, heap := fun j => if j = B + ([] : Store).length then [] else encHeap B [] j,
        done := (mkSt B []).done, res := (mkSt B []).res, reads := B + ([] : Store).length + 1,
        boxes := (mkSt B []).boxes } =
      .normal ρ6 (mkSt B [.calc [] [] [] .none (memOf e.members)]) ∧
      ρ6.get? "self" = some (.atom (.ref B)) ∧ ρ6.get? "tasks" = some (refs e.members) ∧
      ρ6.get? "end_date" = some (.atom .none) := by

    simp [pylite_step, ciPre, src_CPC_init, ↓hcomp, refs]
    refine Exists.intro _ (And.intro (And.intro rfl ?_) ?_)
    rotate_left
    · simp [Env.get?_set, Env.get?_cons]
    rw [mkSt_eq]
    simp only [List.length_cons, List.length_nil, PState.mk.injEq, true_and, and_true]
    funext j
    by_cases hj : j = B
    · subst hj
      simp [heapSet, encHeap, getO, Env.set, encObj, refsN, memOf]
    · have hj' : ¬ j = B + ([] : Store).length := by simpa using hj
      have := getO_append B [] (.calc [] [] [] .none (memOf e.members)) j
      simp only [List.nil_append, hj', if_false] at this
      simp [heapSet, encHeap, hj, this]
  -- `erw`: the `if j = …` of the allocation in the goal carries another instance than the one `hpre` is stated with
  erw [hpre]
  simp only [execBlockP_cons, execBlockP_nil, ciLoop_eq, List.length_nil, Nat.add_zero]
  have hl : Sim (ofOpt (initA e tid B f)) ((Stmt.forIn "t" (.var "tasks") ciBody).execP (Hc e tid F) [] noRec ρ6
      (mkSt B [.calc [] [] [] .none (memOf e.members)])) (fun σ' _ st => st = mkSt B σ') := by
    unfold initA
    rw [ofOpt_foldlM]
    refine (Sim.forIn (g := Atom.ref) (Inv := fun a ρ st => st = mkSt B a ∧
      Env.le [("self", .atom (.ref B)), ("end_date", .atom .none)] ρ)
      (by simp [pylite_step, ht6, refs]) ?_ ⟨rfl, .cons hs6 (.cons hd6 (.nil _))⟩).mono fun _ _ _ h => h.1
    rintro a b ρ _ _ ⟨rfl, hρ⟩
    have hρ' := hρ.set_ne "t" (.atom (.ref b))
    rw [show ciBody = [_] from rfl]
    refine Sim.one ?_
    rw [execP_ifElse (b := false) (v := .atom (.bool false)) (st' := mkSt B a) (hc := by simp [pylite_step, hρ'.get "end_date"])
      (hb := rfl)]
    exact (Sim.one (SimR.exprCall (by simp [pylite_step, hρ'.get "self"]) (insert_simR e tid B f a b F hF))).mono
      fun _ _ _ ⟨h1, _, _, h2⟩ => ⟨h2, h1 ▸ hρ'⟩
  rw [h] at hl
  obtain ⟨_, _, hl, rfl⟩ := hl
  rw [hl]

end Pj.CritPathSrc

/-
  Lemmas/SchedDir.lean — the run as one function of the scheduler record (`Sched.run`, which `fwdRun` and `bwdRun` are),
  the induction over a run, once for both schedulers (`Sched.run_inv`), and its first two readings: C03 (`LedgerOK` is kept)
  and the resources clause of C03 (`ResOK`: the table is the supplied one followed by the resources of members).
-/
import PjVerif.Lemmas.SchedPass
namespace Pj

variable {env : Env}

/-- the run of a scheduler: `fwdRun env` is `(Sched.fwd env).run` (`fwdRun_eq`), `bwdRun env` is `(Sched.bwd env).run` -/
def Sched.run (d : Sched env) (f0 : Uid → Fields) (res0 : List (Option Nat × Cal)) : Res Output := do
  let mem ← (match members env with | some m => pure m | none => throw (.crash .recursion))
  let σ0 : SS := { f := prepare env f0 mem, rows := [], done := [], res := res0, reads := d.reads0 }
  let σ ← passList (fun σ r => d.pass (env.n + 1) [] σ r env.bound) σ0 d.roots
  pure { f := σ.f, rows := σ.rows, res := σ.res }

theorem fwdRun_eq (env : Env) : fwdRun env = (Sched.fwd env).run := by
  funext f0 res0
  have : (fun σ r => fwdPass env (env.n + 1) [] σ r env.bound) = fun σ r => (Sched.fwd env).pass (env.n + 1) [] σ r env.bound :=
    funext fun σ => funext fun r => fwdPass_eq_gPass env _ _ _ _ _
  unfold fwdRun Sched.run
  rw [this]; rfl

theorem bwdRun_eq (env : Env) : bwdRun env = (Sched.bwd env).run := by
  funext f0 res0
  have : (fun σ r => bwdPass env (env.n + 1) [] σ r env.bound) = fun σ r => (Sched.bwd env).pass (env.n + 1) [] σ r env.bound :=
    funext fun σ => funext fun r => bwdPass_eq_gPass env _ _ _ _ _
  unfold bwdRun Sched.run
  rw [this]; rfl

theorem Sched.run_ok {env : Env} (d : Sched env) {f0 : Uid → Fields} {res0 : List (Option Nat × Cal)} {o : Output}
    (h : d.run f0 res0 = .ok o) : ∃ mem σ, members env = some mem ∧
      passList (fun σ r => d.pass (env.n + 1) [] σ r env.bound)
        { f := prepare env f0 mem, rows := [], done := [], res := res0, reads := d.reads0 } d.roots = .ok σ ∧
      o = outOf σ := by
  unfold Sched.run at h
  cases hm : members env with
  | none => simp [hm, bind, Except.bind, throw, throwThe, MonadExceptOf.throw] at h
  | some mem =>
    simp only [hm, bind, Except.bind, pure, Except.pure] at h
    split at h
    · cases h
    · rename_i σ hσ
      cases h
      exact ⟨mem, σ, rfl, hσ, rfl⟩

theorem members_done (env : Env) (mem : List Uid) (hm : members env = some mem) (σ : SS)
    (hcl : DoneClosed env σ) (hroots : ∀ r ∈ env.roots, r ∈ σ.done) : ∀ t ∈ mem, t ∈ σ.done := by
  intro t ht
  obtain ⟨rt, hrt, l, hl, htl⟩ := (members_spec env mem hm).2 t ht
  exact hcl.subtree (hroots rt hrt) _ l hl t htl

/-! ### the resource table at the end (C03, resources clause) -/

/-- the table is the supplied one followed by entries for resources of member tasks, and every done task's
    resource is in it -/
structure ResOK (env : Env) (res0 : List (Option Nat × Cal)) (σ : SS) : Prop where
  ext : ∃ r, σ.res = res0 ++ r ∧ ∀ p ∈ r, ∃ t, (env.info t).member = true ∧ (env.info t).resource = p.1
  have_ : ∀ x ∈ σ.done, (σ.res.map (·.1)).contains (env.info x).resource = true

theorem SS.commit_resOK (env : Env) (res0 : List (Option Nat × Cal)) (σ : SS) (t : Uid) (o : Outcome)
    (hm : (env.info t).member = true) (hi : ResOK env res0 σ) : ResOK env res0 (σ.commit env t o) := by
  obtain ⟨⟨r, hr, hrk⟩, _, _⟩ := resLookup_spec σ.res (env.info t).resource
  obtain ⟨r0, hr0, hk0⟩ := hi.ext
  refine ⟨⟨r0 ++ r, by rw [show (σ.commit env t o).res = σ.res ++ r from hr, hr0, List.append_assoc], ?_⟩,
    SS.commit_hasRes env σ t o hi.have_⟩
  intro p hp
  rcases List.mem_append.1 hp with hp | hp
  · exact hk0 p hp
  · exact ⟨t, hm, (hrk p hp).1.symm⟩

/-- the resources clause of C03, from what the passes guarantee about the final state -/
theorem c03Resources_of (env : Env) (res0 : List (Option Nat × Cal)) (σ : SS) (hf : env.flagsOK)
    (mem : List Uid) (hm : members env = some mem) (hdone : ∀ t ∈ mem, t ∈ σ.done) (hres : ResOK env res0 σ) :
    c03Resources env res0 (outOf σ) = true := by
  unfold outOf
  obtain ⟨r, hr, hk⟩ := hres.ext
  unfold c03Resources
  simp only [Bool.and_eq_true, List.all_eq_true, memberList_eq env mem hm]
  refine ⟨⟨fun t ht => hres.have_ t (hdone t ht), ?_⟩, ?_⟩
  · show ((σ.res.map (·.1)).take res0.length == res0.map (·.1)) = true
    rw [hr, List.map_append, List.take_left' (by simp)]
    simp
  · intro p hp
    have hp' : p ∈ r := by
      have : (σ.res.drop res0.length) = r := by rw [hr, List.drop_left' rfl]
      exact this ▸ hp
    obtain ⟨t, htm, htr⟩ := hk p hp'
    rw [List.any_eq_true]
    exact ⟨t, (member_iff env hf mem hm t).1 htm, by simp [htr]⟩

theorem ResOK.init (env : Env) (res0 : List (Option Nat × Cal)) (σ : SS) (hr : σ.res = res0) (hd : σ.done = []) :
    ResOK env res0 σ :=
  ⟨⟨[], by simp [hr], by simp⟩, fun x hx => (by rw [hd] at hx; cases hx)⟩

section run
variable (d : Sched env) (hd : d.OK)
include hd

/-- the one induction over a run, for both schedulers: an invariant that every placement keeps holds of the final state, and
    every member is done there.  The placement may assume what `gPass_inv2` offers. -/
theorem Sched.run_inv {f0 : Uid → Fields} {res0 : List (Option Nat × Cal)} {o : Output} (I : SS → Prop)
    (Q : Uid → Time → Prop)
    (hplace : ∀ σ1 σ σ' t m, Q t m → I σ → t ∉ σ.done → (∀ c ∈ (env.info t).children, c ∈ σ.done) → Ext σ1 σ →
      (∀ p ∈ d.links t, (env.info p).member = (env.info t).member → p ∈ σ1.done) →
      ((env.info t).children = [] → σ = σ1) →
      d.place σ t m (d.agg σ1 (d.links t) m) = .ok σ' → I σ')
    (hkids : ∀ σ t c m, Q t m → c ∈ (env.info t).children → Q c (d.agg σ (d.links t) m))
    (hlinks : ∀ t p m, Q t m → p ∈ d.links t → (env.info p).member = (env.info t).member → Q p m)
    (hroot : ∀ r ∈ env.roots, Q r env.bound)
    (h0 : I { f := prepare env f0 (memberList env), rows := [], done := [], res := res0, reads := d.reads0 })
    (h : d.run f0 res0 = .ok o) : ∃ σ, o = outOf σ ∧ I σ ∧ ∀ t ∈ memberList env, t ∈ σ.done := by
  obtain ⟨mem, σ, hm, hp, rfl⟩ := d.run_ok h
  rw [memberList_eq env mem hm] at h0 ⊢
  -- `done` is closed under `children` all along, so with the roots every member is done at the end
  have hI : DoneClosed env σ ∧ I σ :=
    passList_inv (fun s => DoneClosed env s ∧ I s) _ _ (fun _ r _ hr ha hh =>
      ⟨d.pass_doneClosed hd _ _ _ _ _ _ ha.1 hh,
        d.pass_inv2 hd I Q hplace hkids hlinks _ _ _ _ _ _ (hroot r ((hd.roots r).1 hr)) ha.2 hh⟩) _ _
      ⟨fun _ hx => (by cases hx), h0⟩ hp
  exact ⟨σ, rfl, hI.2, members_done env mem hm σ hI.1 fun r hr =>
    passList_all_done _ _ (fun _ _ _ _ hh => d.pass_ext hd _ _ _ _ _ _ hh) _ _ hp r ((hd.roots r).2 hr)⟩

/-- C03, both directions: the ledger invariant holds of the final state -/
theorem Sched.run_c03 {f0 : Uid → Fields} {res0 : List (Option Nat × Cal)} {o : Output} (h : d.run f0 res0 = .ok o) :
    c03Positive o = true ∧ c03OwnResource env o = true ∧ c03CapacityDay o = true ∧ c03NoOverAlloc env o = true := by
  obtain ⟨σ, rfl, hl, _⟩ := d.run_inv hd (LedgerOK env) (fun _ _ => True)
    (fun _ σ σ' t m _ hi ht hk _ _ _ hpl => by
      obtain ⟨o, rfl, hg, _⟩ := hd.commit σ σ' t m _ hpl
      exact SS.commit_ledger env σ t o hi hg)
    (fun _ _ _ _ _ _ => trivial) (fun _ _ _ _ _ _ => trivial) (fun _ _ => trivial) (LedgerOK.init env _ rfl) h
  exact c03_of_ledger env σ hl

/-- the resources clause of C03, both directions -/
theorem Sched.run_c03Resources {f0 : Uid → Fields} {res0 : List (Option Nat × Cal)} {o : Output} (hf : env.flagsOK)
    (h : d.run f0 res0 = .ok o) : c03Resources env res0 o = true := by
  obtain ⟨mem, _, hm, _⟩ := d.run_ok h
  obtain ⟨σ, rfl, hres, hdone⟩ := d.run_inv hd (ResOK env res0) (fun t _ => t ∈ mem)
    (fun _ σ σ' t m hq hi _ _ _ _ _ hpl => by
      obtain ⟨o, rfl, _⟩ := hd.commit σ σ' t m _ hpl
      exact SS.commit_resOK env res0 σ t o ((member_iff env hf mem hm t).2 hq) hi)
    (fun _ t c _ ht hc => members_children env mem hm t ht c hc)
    (fun t p _ ht _ he => members_links env hf mem hm t p ht he) (members_root env mem hm)
    (ResOK.init env res0 _ rfl rfl) h
  exact c03Resources_of env res0 σ hf mem hm (memberList_eq env mem hm ▸ hdone) hres

end run

end Pj

/-
  Lemmas/FacadeSrcA.lean — stage 1 of the translated tie for the list facades of task.py (general theorems):
  `_ChildrenList.remove / insert`, `_PredecessorsList.append / remove`, `_SuccessorsList.append / remove`,
  `_ImmutableTaskList.__add__`, `Task.__floordiv__ / __lshift__ / __rshift__`.
  See Lemmas/FacadeSrc.lean for the setting and Lemmas/FacadeSrcD.lean for the list of results.
-/
import PjVerif.Lemmas.FacadeSrc
import PjVerif.Lemmas.FacadeSrcMono
import PjVerif.Lemmas.TaskSrcD
namespace Pj.FacadeSrc
open Pj.PyLite Pj.Extracted Pj.Extracted.Facade Pj.TaskSrc
set_option linter.unusedSimpArgs false
set_option linter.unusedVariables false

abbrev Hf (L : Lib) (F : Nat) : PHandlers := progH (facPrim L) facadeFuns F

theorem interpF_eq (L : Lib) (F k : Nat) (args : List Val) (st : PState) :
    interpF L F k args st = (Hf L F).fnV k args st := rfl

theorem taskFuns_lt {k : Nat} {x : List String × List Stmt} (h : taskFuns k = some x) : k < 25 :=
  Nat.lt_of_not_le fun hc => by
    obtain ⟨j, rfl⟩ := Nat.exists_eq_add_of_le' hc
    exact nomatch (h : none = some x)

theorem facadeFuns_task : ∀ k, k < 25 → facadeFuns k = taskFuns k
  | 0, _ | 1, _ | 2, _ | 3, _ | 4, _ | 5, _ | 6, _ | 7, _ | 8, _ | 9, _ | 10, _ | 11, _ | 12, _ | 13, _ | 14, _ | 15, _
  | 16, _ | 17, _ | 18, _ | 19, _ | 20, _ | 21, _ | 22, _ | 23, _ | 24, _ => rfl
  | k + 25, h => absurd h (by omega)

theorem tblLe : TblLe taskFuns facadeFuns := fun k _ h => (facadeFuns_task k (taskFuns_lt h)).trans h

/-- no `try … except` of the program task.py handles `stuck` (it has no `try` at all): the side condition of
    `progH_mono`, see Lemmas/FacadeSrcMono.lean -/
theorem tblOk : TblOk taskFuns := by
  intro k params body h
  have key : ∀ k < 25, (match taskFuns k with | some x => noCatchStuckL x.2 | none => true) = true := by
    decide +kernel
  have := key k (taskFuns_lt h)
  rw [h] at this
  exact this

theorem primLe (L : Lib) : PrimLe taskPrim (facPrim L) := by
  intro n as st
  unfold facPrim
  by_cases hn : n = "_root"
  · rw [if_pos hn]; exact RLe.refl _
  · left
    unfold taskPrim
    split
    · rw [if_neg hn]; rfl
    · rfl

/-- what was proved about a run of the program task.py holds in the extended program -/
theorem lift (L : Lib) {F k : Nat} {args : List Val} {st : PState} {r : Res (Val × PState)}
    (h : (Hd F).fnV k args st = r) (hns : r ≠ .error stuck) : (Hf L F).fnV k args st = r :=
  progH_mono (primLe L) tblLe tblOk F k args st r h hns

theorem fnVf_succ (L : Lib) (F k : Nat) (params : List String) (body : List Stmt)
    (h : facadeFuns k = some (params, body)) (args : List Val) (st : PState) :
    (Hf L (F + 1)).fnV k args st = callPV (Hf L F) params body args st :=
  progH_fnV_succ (facPrim L) facadeFuns F k params body h args st

/-- the extended program contains task.py: the ties of Lemmas/TaskSrc*.lean hold in it -/
def progHf (L : Lib) : TaskProg :=
  ⟨Hf L, fun F k p b h => fnVf_succ L F k p b (tblLe k _ h), fun F w st => by cases F <;> rfl⟩

theorem check_not_none_f (L : Lib) (st : PState) (F : Nat) (t : Uid) :
    (Hf L (F + 1)).fnV fn_check_not_none [.atom (.ref t)] st = .ok (.atom .none, st) :=
  check_not_none_spec (progHf L) st F t

theorem to_list_f (L : Lib) {v : Val} {l : List Uid} (hv : ValueOf v l) (st : PState) (F : Nat) :
    (Hf L (F + 1)).fnV fn_to_list [v] st = .ok (refs l, st) :=
  hv.run (progHf L) st F

theorem children_set_f (L : Lib) (s : G) (st : PState) (hh : st.heap = encHeap s) (h : Uid) (l : List Uid) (F : Nat)
    (v : Val) (hv : ValueOf v l) (hF : s.fuel + 5 ≤ F) (hrec : (setChildren s h l).2 ≠ some (.crash .recursion)) :
    (Hf L F).fnV fn_Task_children_set [.atom (.ref h), v] st = setterResult st (setChildren s h l) :=
  children_set_spec (progHf L) s st hh h l F v hv hF hrec

theorem preds_set_f (L : Lib) (s : G) (st : PState) (hh : st.heap = encHeap s) (t : Uid) (l : List Uid) (F : Nat)
    (v : Val) (hv : ValueOf v l) (hF : s.fuel + 3 ≤ F) (hrec : (setPreds s t l).2 ≠ some (.crash .recursion)) :
    (Hf L F).fnV fn_Task_predecessors_set [.atom (.ref t), v] st = setterResult st (setPreds s t l) :=
  preds_set_spec (progHf L) s st hh t l F v hv hF hrec

theorem succs_set_f (L : Lib) (s : G) (st : PState) (hh : st.heap = encHeap s) (t : Uid) (l : List Uid) (F : Nat)
    (v : Val) (hv : ValueOf v l) (hF : s.fuel + 3 ≤ F) (hrec : (setSuccs s t l).2 ≠ some (.crash .recursion)) :
    (Hf L F).fnV fn_Task_successors_set [.atom (.ref t), v] st = setterResult st (setSuccs s t l) :=
  succs_set_spec (progHf L) s st hh t l F v hv hF hrec

theorem parent_set_f (L : Lib) (s : G) (st : PState) (hh : st.heap = encHeap s) (t : Uid) (p : Option Uid) (F : Nat)
    (hF : s.fuel + 5 ≤ F)
    (honce : p = none → ∀ w q, s.owner t = some w → s.parent t = some q → (s.children q).count t ≤ 1)
    (hrec : (setParent s t p).2 ≠ some (.crash .recursion)) :
    (Hf L F).fnV fn_Task_parent_set [.atom (.ref t), .atom (optRef p)] st = setterResult st (setParent s t p) :=
  parent_set_spec (progHf L) s st hh t p F hF honce hrec

/-- what a run of a facade method / operator is compared with: the returned value `v` and the encoding of the model's
    new state when the model accepts, the model's error when it rejects (`setterResult` = `opResult` with `None`) -/
def opResult (st : PState) (v : Val) (r : G × Option Err) : Res (Val × PState) :=
  match r with
  | (s', none) => .ok (v, withG st s')
  | (_, some e) => .error e

theorem setterResult_eq (st : PState) (r : G × Option Err) : setterResult st r = opResult st (.atom .none) r := rfl

/-- `opResult`, for a state given as a store `withG st s`, in the form the rules of Lemmas/TaskSim.lean speak of -/
theorem opResult_withG (st : PState) (s : G) (v : Val) (r : G × Option Err) :
    opResult (withG st s) v r = callResult st v r := rfl

/-- `[x for x in it if x != y]` (`!=` on tasks is identity) -/
theorem evalP_comp_ne (H : PHandlers) (self ρ : PyLite.Env) (st0 st : PState) (it : Expr) (x y : String) (l : List Uid)
    (t : Uid) (hxy : x ≠ y) (hit : it.evalP H self ρ st0 = .ok (refs l, st)) (hy : ρ.get? y = some (.atom (.ref t))) :
    (Expr.listComp (.var x) x it (.cmp .ne (.var x) (.var y))).evalP H self ρ st0 =
      .ok (refs (l.filter (fun v => v != t)), st) :=
  evalP_filter_refs H self ρ st0 st _ it x l _ hit fun c _ => by
    simp [Expr.evalP, Env.get?_set, hxy, hy, PyLite.compare, not_pyEq_ref, pure, Except.pure, bind, Except.bind]

/-- `[x for x in it if x is not y]` -/
theorem evalP_comp_notSame (H : PHandlers) (self ρ : PyLite.Env) (st0 st : PState) (it : Expr) (x y : String)
    (l : List Uid) (t : Uid) (hxy : x ≠ y) (hit : it.evalP H self ρ st0 = .ok (refs l, st))
    (hy : ρ.get? y = some (.atom (.ref t))) :
    (Expr.listComp (.var x) x it (.not (.isSame (.var x) (.var y)))).evalP H self ρ st0 =
      .ok (refs (l.filter (fun v => v != t)), st) :=
  evalP_filter_refs H self ρ st0 st _ it x l _ hit fun c _ => by
    by_cases h : c = t <;> simp [Expr.evalP, Env.get?_set, hxy, hy, h, truthP, pure, Except.pure, bind, Except.bind]

/-! ### `remove`, under any handlers

  `remove` of the three facades is the same text up to the attribute it reads, the setter it calls and the name of a
  bound variable; wbs.py has the one of `_ChildrenList` as a function of its own (Lemmas/WbsSrcB.lean). -/

/-- the body of `remove` of a list facade over the attribute `fld` with the setter `setFn` (`y`: the variable of the
    comprehension) -/
def srcRemove (fld : String) (setFn : Nat) (y : String) : List Stmt :=
  [.expr (.callFn fn_check_not_none (.listCons (.var "task") .listNil)),
   .ifElse (.not (.isIn (.var "task") (.attr (.var "_facade_parent") fld))) [.ret (.bool false)] [],
   .expr (.callFn setFn (.listCons (.var "_facade_parent") (.listCons
     (.listComp (.var y) y (.attr (.var "_facade_parent") fld) (.cmp .ne (.var y) (.var "task"))) .listNil))),
   .ret (.bool true)]

/-- `l`: what the attribute holds; `r`: what the setter, where it is called, does in the model -/
theorem remove_body_spec (H : PHandlers) (fld : String) (setFn : Nat) (y : String) (hy : y ≠ "task") (s : G)
    (st : PState) (hh : st.heap = encHeap s) (h t : Uid) (l : List Uid) (r : G × Option Err)
    (hattr : (encTask s h).get? fld = some (refs l))
    (hchk : H.fnV fn_check_not_none [.atom (.ref t)] st = .ok (.atom .none, st))
    (hset : l.contains t = true →
      H.fnV setFn [.atom (.ref h), refs (l.filter (fun x => x != t))] st = setterResult st r) :
    callPV H ["_facade_parent", "task"] (srcRemove fld setFn y) [.atom (.ref h), .atom (.ref t)] st =
      opResult st (.atom (.bool (l.contains t))) (if l.contains t then r else (s, none)) := by
  have hany := any_ref_pyEq l t
  cases hc : l.contains t with
  | false =>
    rw [hc] at hany
    simp only [Bool.false_eq_true, if_false, opResult, withG_self st s hh]
    simp [pylite_step, srcRemove, hchk, hh, hattr, refs, hany]
  | true =>
    rw [hc] at hany
    have hcomp := evalP_comp_ne H [] [("_facade_parent", .atom (.ref h)), ("task", .atom (.ref t))] st st
      (.attr (.var "_facade_parent") fld) y "task" l t hy
      (evalP_attr (evalP_var _ _ _ _ _ _ rfl) (by rw [hh, encHeap_apply, hattr])) rfl
    have h2 := hset hc
    rcases r with ⟨s', _ | e⟩ <;>
      (simp only [setterResult, refs] at h2 hcomp
       simp only [if_true, opResult]
       simp [pylite_step, srcRemove, hchk, hh, hattr, refs, hany, ↓hcomp, h2])

/-! ### the three relations

  `remove` of the three facades, `append` of the two link facades and the operators `//`, `<<`, `>>` are the same
  text up to the attribute they read and the setter they call: each is interpreted once, for a relation `R`. -/

/-- one of the three relations behind a list facade: the attribute of the owner, its setter among the functions of the
    program, what the two are in the model, and the fuel the setter needs beyond `s.fuel` -/
structure Rel where
  field : String
  setFn : Nat
  get : G → Uid → List Uid
  set : G → Uid → List Uid → G × Option Err
  fuel : Nat
  attr : ∀ s u, (encTask s u).get? field = some (refs (get s u))
  setter : ∀ (L : Lib) (s : G) (st : PState), st.heap = encHeap s → ∀ (t : Uid) (l : List Uid) (F : Nat) (v : Val),
    ValueOf v l → s.fuel + fuel ≤ F → (set s t l).2 ≠ some (.crash .recursion) →
    (Hf L F).fnV setFn [.atom (.ref t), v] st = setterResult st (set s t l)

def Rel.children : Rel :=
  ⟨"children", fn_Task_children_set, G.children, setChildren, 5, encTask_children, children_set_f⟩
def Rel.preds : Rel :=
  ⟨"predecessors", fn_Task_predecessors_set, G.preds, setPreds, 3, encTask_preds, preds_set_f⟩
def Rel.succs : Rel :=
  ⟨"successors", fn_Task_successors_set, G.succs, setSuccs, 3, encTask_succs, succs_set_f⟩

/-- `owner.<field>` -/
theorem Rel.evalP_attr (R : Rel) (H : PHandlers) (self ρ : PyLite.Env) (s : G) (st : PState) (hh : st.heap = encHeap s)
    (x : String) (h : Uid) (hx : ρ.get? x = some (.atom (.ref h))) :
    (Expr.attr (.var x) R.field).evalP H self ρ st = .ok (refs (R.get s h), st) := by
  simp only [Expr.evalP, hx, hh, encHeap_apply, R.attr, bind, Except.bind, pure, Except.pure]

theorem evalP_attr_children (H : PHandlers) (self ρ : PyLite.Env) (s : G) (st : PState) (hh : st.heap = encHeap s)
    (x : String) (h : Uid) (hx : ρ.get? x = some (.atom (.ref h))) :
    (Expr.attr (.var x) "children").evalP H self ρ st = .ok (refs (s.children h), st) :=
  Rel.children.evalP_attr H self ρ s st hh x h hx

/-! ### `remove` -/

theorem tf_ch_remove : facadeFuns fn_ChildrenList_remove = some (src_ChildrenList_remove_params, src_ChildrenList_remove) :=
  rfl
theorem tf_pr_remove : facadeFuns fn_PredecessorsList_remove =
    some (src_PredecessorsList_remove_params, src_PredecessorsList_remove) := rfl
theorem tf_su_remove : facadeFuns fn_SuccessorsList_remove =
    some (src_SuccessorsList_remove_params, src_SuccessorsList_remove) := rfl

theorem remove_spec (R : Rel) (y : String) (hy : y ≠ "task") (L : Lib) (s : G) (st : PState) (hh : st.heap = encHeap s)
    (h t : Uid) (F : Nat) (hF : s.fuel + R.fuel ≤ F + 1)
    (hrec : (if (R.get s h).contains t then R.set s h ((R.get s h).filter (fun x => x != t)) else (s, none)).2 ≠
      some (.crash .recursion)) :
    callPV (Hf L (F + 1)) ["_facade_parent", "task"] (srcRemove R.field R.setFn y) [.atom (.ref h), .atom (.ref t)] st =
      opResult st (.atom (.bool ((R.get s h).contains t)))
        (if (R.get s h).contains t then R.set s h ((R.get s h).filter (fun x => x != t)) else (s, none)) :=
  remove_body_spec _ _ _ y hy s st hh h t _ _ (R.attr s h) (check_not_none_f L st F t) fun hc =>
    R.setter L s st hh h _ (F + 1) _ (valueOf_refs _) hF (by rwa [if_pos hc] at hrec)

theorem ch_remove_spec (L : Lib) (s : G) (st : PState) (hh : st.heap = encHeap s) (h t : Uid) (F : Nat)
    (hF : s.fuel + 6 ≤ F) (hrec : (chRemove s h t).2 ≠ some (.crash .recursion)) :
    (Hf L F).fnV fn_ChildrenList_remove [.atom (.ref h), .atom (.ref t)] st =
      opResult st (.atom (.bool ((s.children h).contains t))) (chRemove s h t) := by
  obtain ⟨F, rfl, hF⟩ := fuel_split 2 hF
  rw [fnVf_succ _ _ _ _ _ tf_ch_remove]
  exact remove_spec .children "t" (by decide) L s st hh h t F (by show _ + 5 ≤ _; omega) hrec

theorem pr_remove_spec (L : Lib) (s : G) (st : PState) (hh : st.heap = encHeap s) (t x : Uid) (F : Nat)
    (hF : s.fuel + 4 ≤ F) (hrec : (prRemove s t x).2 ≠ some (.crash .recursion)) :
    (Hf L F).fnV fn_PredecessorsList_remove [.atom (.ref t), .atom (.ref x)] st =
      opResult st (.atom (.bool ((s.preds t).contains x))) (prRemove s t x) := by
  obtain ⟨F, rfl, hF⟩ := fuel_split 2 hF
  rw [fnVf_succ _ _ _ _ _ tf_pr_remove]
  exact remove_spec .preds "v" (by decide) L s st hh t x F (by show _ + 3 ≤ _; omega) hrec

theorem su_remove_spec (L : Lib) (s : G) (st : PState) (hh : st.heap = encHeap s) (t x : Uid) (F : Nat)
    (hF : s.fuel + 4 ≤ F) (hrec : (suRemove s t x).2 ≠ some (.crash .recursion)) :
    (Hf L F).fnV fn_SuccessorsList_remove [.atom (.ref t), .atom (.ref x)] st =
      opResult st (.atom (.bool ((s.succs t).contains x))) (suRemove s t x) := by
  obtain ⟨F, rfl, hF⟩ := fuel_split 2 hF
  rw [fnVf_succ _ _ _ _ _ tf_su_remove]
  exact remove_spec .succs "v" (by decide) L s st hh t x F (by show _ + 3 ≤ _; omega) hrec

/-! ### `_ChildrenList.insert` -/

theorem pyInsertA_refs (l : List Uid) (i : Int) (t : Uid) :
    pyInsertA (l.map Atom.ref) i (Atom.ref t) = (pyInsert l i t).map Atom.ref := by
  simp [pyInsertA, pyInsert, List.map_take, List.map_drop]

theorem tf_ch_insert : facadeFuns fn_ChildrenList_insert = some (src_ChildrenList_insert_params, src_ChildrenList_insert) :=
  rfl

theorem ch_insert_spec (L : Lib) (s : G) (st : PState) (hh : st.heap = encHeap s) (h : Uid) (i : Int) (t : Uid) (F : Nat)
    (hF : s.fuel + 6 ≤ F) (hrec : (chInsert s h i t).2 ≠ some (.crash .recursion)) :
    (Hf L F).fnV fn_ChildrenList_insert [.atom (.ref h), intV i, .atom (.ref t)] st =
      opResult st (.atom .none) (chInsert s h i t) := by
  obtain ⟨F, rfl, hF⟩ := fuel_split 2 hF
  rw [fnVf_succ _ _ _ _ _ tf_ch_insert]
  have h1 := check_not_none_f L st F t
  unfold chInsert at hrec ⊢
  have hcomp := evalP_comp_notSame (Hf L (F + 1)) []
    [("_facade_parent", .atom (.ref h)), ("index", intV i), ("task", .atom (.ref t))] st st
    (.attr (.var "_facade_parent") "children") "t" "task" (s.children h) t (by decide)
    (evalP_attr_children _ _ _ s st hh _ h rfl) rfl
  have h2 := children_set_f L s st hh h _ (F + 1) _ (valueOf_refs _) (by omega) hrec
  simp only [refs, intV] at h2 hcomp
  cases hr : setChildren s h (pyInsert (List.filter (fun x => x != t) (s.children h)) i t) with
  | mk s' e =>
    rw [hr] at h2
    cases e with
    | none =>
      simp only [setterResult] at h2
      simp only [opResult, intV]
      simp [pylite_step, src_ChildrenList_insert_params, src_ChildrenList_insert, h1, ↓hcomp, Atom.asInt?_int, pyInsertA_refs, h2]
    | some e =>
      simp only [setterResult] at h2
      simp only [opResult, intV]
      simp [pylite_step, src_ChildrenList_insert_params, src_ChildrenList_insert, h1, ↓hcomp, Atom.asInt?_int, pyInsertA_refs, h2]

/-! ### `append` of `_PredecessorsList` / `_SuccessorsList` -/

theorem valueOf_append (l : List Uid) (x : Uid) : ValueOf (.list (l.map Atom.ref ++ [Atom.ref x])) (l ++ [x]) := by
  have := valueOf_refs (l ++ [x])
  simpa [refs] using this

theorem tf_pr_append : facadeFuns fn_PredecessorsList_append =
    some (src_PredecessorsList_append_params, src_PredecessorsList_append) := rfl
theorem tf_su_append : facadeFuns fn_SuccessorsList_append =
    some (src_SuccessorsList_append_params, src_SuccessorsList_append) := rfl

/-- the body of `append` of the link facades -/
def srcAppend (R : Rel) : List Stmt :=
  [.expr (.callFn fn_check_not_none (.listCons (.var "task") .listNil)),
   .expr (.callFn R.setFn (.listCons (.var "_facade_parent") (.listCons (.bin .add
     (.listComp (.var "v") "v" (.attr (.var "_facade_parent") R.field) (.bool true)) (.listCons (.var "task") .listNil))
     .listNil)))]

theorem append_spec (R : Rel) (L : Lib) (s : G) (st : PState) (hh : st.heap = encHeap s) (t x : Uid) (F : Nat)
    (hF : s.fuel + R.fuel ≤ F + 1) (hrec : (R.set s t (R.get s t ++ [x])).2 ≠ some (.crash .recursion)) :
    callPV (Hf L (F + 1)) ["_facade_parent", "task"] (srcAppend R) [.atom (.ref t), .atom (.ref x)] st =
      opResult st (.atom .none) (R.set s t (R.get s t ++ [x])) := by
  have h1 := check_not_none_f L st F x
  have hcomp := evalP_listComp_id (Hf L (F + 1)) [] [("_facade_parent", .atom (.ref t)), ("task", .atom (.ref x))] st st
    (.attr (.var "_facade_parent") R.field) "v" ((R.get s t).map Atom.ref) (R.evalP_attr _ _ _ s st hh _ t rfl)
  have h2 := R.setter L s st hh t _ (F + 1) _ (valueOf_append (R.get s t) x) hF hrec
  cases hr : R.set s t (R.get s t ++ [x]) with
  | mk s' e =>
    rw [hr] at h2
    cases e with
    | none =>
      simp only [setterResult] at h2
      simp only [opResult]
      simp [pylite_step, srcAppend, h1, ↓hcomp, h2]
    | some e =>
      simp only [setterResult] at h2
      simp only [opResult]
      simp [pylite_step, srcAppend, h1, ↓hcomp, h2]

theorem pr_append_spec (L : Lib) (s : G) (st : PState) (hh : st.heap = encHeap s) (t x : Uid) (F : Nat)
    (hF : s.fuel + 4 ≤ F) (hrec : (prAppend s t x).2 ≠ some (.crash .recursion)) :
    (Hf L F).fnV fn_PredecessorsList_append [.atom (.ref t), .atom (.ref x)] st =
      opResult st (.atom .none) (prAppend s t x) := by
  obtain ⟨F, rfl, hF⟩ := fuel_split 2 hF
  rw [fnVf_succ _ _ _ _ _ tf_pr_append]
  exact append_spec .preds L s st hh t x F (by show _ + 3 ≤ _; omega) hrec

theorem su_append_spec (L : Lib) (s : G) (st : PState) (hh : st.heap = encHeap s) (t x : Uid) (F : Nat)
    (hF : s.fuel + 4 ≤ F) (hrec : (suAppend s t x).2 ≠ some (.crash .recursion)) :
    (Hf L F).fnV fn_SuccessorsList_append [.atom (.ref t), .atom (.ref x)] st =
      opResult st (.atom .none) (suAppend s t x) := by
  obtain ⟨F, rfl, hF⟩ := fuel_split 2 hF
  rw [fnVf_succ _ _ _ _ _ tf_su_append]
  exact append_spec .succs L s st hh t x F (by show _ + 3 ≤ _; omega) hrec

/-! ### `_ImmutableTaskList.__add__` and the operators of `Task` -/

theorem tf_add : facadeFuns fn_ImmutableTaskList_add = some (src_ImmutableTaskList_add_params, src_ImmutableTaskList_add) :=
  rfl

/-- `<facade of the list l0> + v` = the list `l0 ++ _to_list(v)` (a new list; nothing is written) -/
theorem add_spec (L : Lib) (st : PState) (F : Nat) (l0 : List Uid) (v : Val) (l : List Uid) (hv : ValueOf v l) :
    (Hf L (F + 2)).fnV fn_ImmutableTaskList_add [refs l0, v] st = .ok (refs (l0 ++ l), st) := by
  rw [fnVf_succ _ _ _ _ _ tf_add]
  have h1 := to_list_f L hv st F
  simp only [refs] at h1 ⊢
  simp [pylite_step, src_ImmutableTaskList_add_params, src_ImmutableTaskList_add, h1]

/-- `x.<field> = x.<field> + other` as the operators `//`, `<<`, `>>` write it (`x` = `self`, or the loop variable of
    the list-level operators) -/
def stExtend (R : Rel) (x : String) : Stmt :=
  .expr (.callFn R.setFn (.listCons (.var x) (.listCons (.callFn fn_ImmutableTaskList_add
    (.listCons (.attr (.var x) R.field) (.listCons (.var "other") .listNil))) .listNil)))

theorem execP_extend (R : Rel) (x : String) (L : Lib) (s : G) (st : PState) (ρ : PyLite.Env)
    (t : Uid) (v : Val) (l : List Uid) (hx : ρ.get? x = some (.atom (.ref t))) (ho : ρ.get? "other" = some v)
    (hv : ValueOf v l) (F : Nat) (hF : s.fuel + R.fuel ≤ F + 2) :
    Does (· = ρ) st (R.set s t (R.get s t ++ l)) ((stExtend R x).execP (Hf L (F + 2)) [] noRec ρ (withG st s)) :=
  Does.expr (v := .atom .none) rfl fun hrec => by
    rw [evalP_callFn2 (ha := evalP_var _ _ _ _ _ _ hx) (hb := by
      rw [evalP_callFn2 (hb := evalP_var _ _ _ _ _ _ ho)
        (ha := evalP_attr (evalP_var _ _ _ _ _ _ hx) (by rw [withG_heap, encHeap_apply, R.attr]))]
      exact add_spec L _ F (R.get s t) v l hv), R.setter L s _ rfl t _ (F + 2) _ (valueOf_refs _) hF hrec,
      setterResult_withG]

/-- the body of `//`, `<<`, `>>` of `Task` -/
theorem extend_spec (R : Rel) (L : Lib) (s : G) (st : PState) (hh : st.heap = encHeap s) (t : Uid) (v : Val) (l : List Uid)
    (hv : ValueOf v l) (F : Nat) (hF : s.fuel + R.fuel ≤ F + 2)
    (hrec : (R.set s t (R.get s t ++ l)).2 ≠ some (.crash .recursion)) :
    callPV (Hf L (F + 2)) ["self", "other"] [stExtend R "self", .ret (.var "other")] [.atom (.ref t), v] st =
      opResult st v (R.set s t (R.get s t ++ l)) := by
  obtain ⟨st, rfl⟩ := exists_withG hh
  rw [opResult_withG]
  exact Does.callPV_ret (body := [_]) rfl (Sim.one (execP_extend R "self" L s st _ t v l rfl rfl hv F hF))
    (fun _ _ h => h ▸ evalP_var _ _ _ _ _ _ rfl) hrec

theorem tf_floordiv : facadeFuns fn_Task_floordiv = some (src_Task_floordiv_params, src_Task_floordiv) := rfl
theorem tf_lshift : facadeFuns fn_Task_lshift = some (src_Task_lshift_params, src_Task_lshift) := rfl
theorem tf_rshift : facadeFuns fn_Task_rshift = some (src_Task_rshift_params, src_Task_rshift) := rfl

theorem floordiv_spec (L : Lib) (s : G) (st : PState) (hh : st.heap = encHeap s) (h : Uid) (v : Val) (l : List Uid)
    (hv : ValueOf v l) (F : Nat) (hF : s.fuel + 6 ≤ F) (hrec : (floordiv s h l).2 ≠ some (.crash .recursion)) :
    (Hf L F).fnV fn_Task_floordiv [.atom (.ref h), v] st = opResult st v (floordiv s h l) := by
  obtain ⟨F, rfl, hF⟩ := fuel_split 3 hF
  rw [fnVf_succ _ _ _ _ _ tf_floordiv]
  exact extend_spec .children L s st hh h v l hv F (by show _ + 5 ≤ _; omega) hrec

theorem lshift_spec (L : Lib) (s : G) (st : PState) (hh : st.heap = encHeap s) (t : Uid) (v : Val) (l : List Uid)
    (hv : ValueOf v l) (F : Nat) (hF : s.fuel + 4 ≤ F) (hrec : (lshift s t l).2 ≠ some (.crash .recursion)) :
    (Hf L F).fnV fn_Task_lshift [.atom (.ref t), v] st = opResult st v (lshift s t l) := by
  obtain ⟨F, rfl, hF⟩ := fuel_split 3 hF
  rw [fnVf_succ _ _ _ _ _ tf_lshift]
  exact extend_spec .preds L s st hh t v l hv F (by show _ + 3 ≤ _; omega) hrec

theorem rshift_spec (L : Lib) (s : G) (st : PState) (hh : st.heap = encHeap s) (t : Uid) (v : Val) (l : List Uid)
    (hv : ValueOf v l) (F : Nat) (hF : s.fuel + 4 ≤ F) (hrec : (rshift s t l).2 ≠ some (.crash .recursion)) :
    (Hf L F).fnV fn_Task_rshift [.atom (.ref t), v] st = opResult st v (rshift s t l) := by
  obtain ⟨F, rfl, hF⟩ := fuel_split 3 hF
  rw [fnVf_succ _ _ _ _ _ tf_rshift]
  exact extend_spec .succs L s st hh t v l hv F (by show _ + 3 ≤ _; omega) hrec

/-! ### `None` as the task: every facade method that takes a task starts with `_check_not_none(task, 'Task')` -/

theorem check_not_none_none (P : TaskProg) (st : PState) (F : Nat) :
    (P.H (F + 1)).fnV fn_check_not_none [.atom .none] st = .error .runtime := by
  rw [P.call _ _ _ _ tf_check_not_none]
  simp [pylite_step, src_check_not_none_params, src_check_not_none]

theorem check_first_none (L : Lib) (st : PState) (F : Nat) {k : Nat} {params : List String} {rest : List Stmt}
    {args : List Val} {ρ : PyLite.Env}
    (htf : facadeFuns k = some (params, .expr (.callFn fn_check_not_none (.listCons (.var "task") .listNil)) :: rest))
    (hb : bindParamsV params args = .ok ρ) (ht : ρ.get? "task" = some (.atom .none)) :
    (Hf L (F + 2)).fnV k args st = .error .runtime := by
  rw [fnVf_succ _ _ _ _ _ htf, callPV_bound hb, execBlockP_cons, execP_expr_err (he := by
    rw [evalP_callFn1 (ha := evalP_var _ _ _ _ _ _ ht)]; exact check_not_none_none (progHf L) st F)]
  rfl

/-- `h.children.remove(None)`, `.insert(i, None)`, `.append(None)`, `t.predecessors.append(None)` / `.remove(None)`,
    `t.successors.append(None)` / `.remove(None)`: RuntimeError, in every state, whatever the facade -/
theorem none_arg_spec (L : Lib) (st : PState) (F : Nat) (o : Val) (i : Val) :
    (Hf L (F + 2)).fnV fn_ChildrenList_remove [o, .atom .none] st = .error .runtime ∧
    (Hf L (F + 2)).fnV fn_ChildrenList_insert [o, i, .atom .none] st = .error .runtime ∧
    (Hf L (F + 2)).fnV fn_ChildrenList_append [o, .atom .none] st = .error .runtime ∧
    (Hf L (F + 2)).fnV fn_PredecessorsList_append [o, .atom .none] st = .error .runtime ∧
    (Hf L (F + 2)).fnV fn_PredecessorsList_remove [o, .atom .none] st = .error .runtime ∧
    (Hf L (F + 2)).fnV fn_SuccessorsList_append [o, .atom .none] st = .error .runtime ∧
    (Hf L (F + 2)).fnV fn_SuccessorsList_remove [o, .atom .none] st = .error .runtime :=
  ⟨check_first_none L st F tf_ch_remove rfl rfl, check_first_none L st F tf_ch_insert rfl rfl,
   check_first_none L st F (tblLe _ _ tf_children_append) rfl rfl,
   check_first_none L st F tf_pr_append rfl rfl, check_first_none L st F tf_pr_remove rfl rfl,
   check_first_none L st F tf_su_append rfl rfl, check_first_none L st F tf_su_remove rfl rfl⟩

end Pj.FacadeSrc

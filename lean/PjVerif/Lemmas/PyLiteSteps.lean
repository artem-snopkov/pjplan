/-
  Lemmas/PyLiteSteps.lean — how the pass layer of PyLite (Model/PyLite.lean) takes one step: a call, a block, a comprehension,
  the statement and expression forms that more than one tie meets (each with its siblings; a form one tie alone uses stands
  with that tie), and the values every store is made of: numbers and `==`, dicts with keys up to `==`, the write to one slot
  of one object.  A `for` loop has ONE induction, `forLoopP_foldlM`: the loop over `l.map g` is the model's `l.foldlM`; the
  other loop lemmas read it.  Nothing here mentions a translated program or the encoding of a particular store.
-/
import PjVerif.Lemmas.PyLiteEqns
import PjVerif.Lemmas.PyLiteSimp
import PjVerif.Lemmas.ListFacts
namespace Pj.TaskSrc
open Pj.PyLite

/-- the programs that `callPV` runs do not use `recurse` -/
abbrev noRec : List Atom → PState → Res (Val × PState) := fun _ _ => .error stuck

theorem callPV_eq (H : PHandlers) (params : List String) (body : List Stmt) (args : List Val) (st : PState) :
    callPV H params body args st =
      match bindParamsV params args with
      | .error e => .error e
      | .ok env =>
        match execBlockP H [] noRec body env st with
        | .normal _ st' => .ok (.atom .none, st')
        | .cont _ st' => .ok (.atom .none, st')
        | .ret v st' => .ok (v, st')
        | .raise e => .error e := rfl

def blockRes : OutcomeP → Res (Val × PState)
  | .normal _ st' => .ok (.atom .none, st')
  | .cont _ st' => .ok (.atom .none, st')
  | .ret v st' => .ok (v, st')
  | .raise e => .error e

theorem callPV_bound {H : PHandlers} {params : List String} {body : List Stmt} {args : List Val} {ρ : PyLite.Env}
    {st : PState} (hb : bindParamsV params args = .ok ρ) :
    callPV H params body args st = blockRes (execBlockP H [] noRec body ρ st) := by
  rw [callPV_eq, hb]
  rfl

theorem execBlockP_cons (H : PHandlers) (self : PyLite.Env) (rec : List Atom → PState → Res (Val × PState))
    (s : Stmt) (ss : List Stmt) (ρ : PyLite.Env) (st : PState) :
    execBlockP H self rec (s :: ss) ρ st =
      match s.execP H self rec ρ st with
      | .normal ρ' st' => execBlockP H self rec ss ρ' st'
      | r => r := by
  simp only [execBlockP]
  cases s.execP H self rec ρ st <;> rfl

theorem execBlockP_append (H : PHandlers) (self : PyLite.Env) (rec : List Atom → PState → Res (Val × PState))
    (p q : List Stmt) (ρ : PyLite.Env) (st : PState) :
    execBlockP H self rec (p ++ q) ρ st =
      match execBlockP H self rec p ρ st with
      | .normal ρ' st' => execBlockP H self rec q ρ' st'
      | o => o := by
  induction p generalizing ρ st with
  | nil => simp only [List.nil_append, execBlockP_nil]
  | cons s p ih =>
    simp only [List.cons_append, execBlockP_cons]
    cases s.execP H self rec ρ st <;> simp only [ih]

theorem execBlockP_one (H : PHandlers) (self : PyLite.Env) (rec : List Atom → PState → Res (Val × PState)) (s : Stmt)
    (ρ : PyLite.Env) (st : PState) : execBlockP H self rec [s] ρ st = s.execP H self rec ρ st := by
  rw [execBlockP_cons]
  cases s.execP H self rec ρ st <;> simp only [execBlockP_nil]

theorem blockRes_ret (H : PHandlers) (e : Expr) (ρ : PyLite.Env) (st : PState) :
    blockRes (execBlockP H [] noRec [.ret e] ρ st) = e.evalP H [] ρ st := by
  rw [execBlockP_cons]
  simp only [Stmt.execP]
  rcases e.evalP H [] ρ st with err | ⟨v, st'⟩ <;> rfl

theorem progH_fnV_succ (prim : String → List Atom → PState → Res Val) (tbl : FunTable) (F k : Nat) (params : List String)
    (body : List Stmt) (h : tbl k = some (params, body)) (args : List Val) (st : PState) :
    (progH prim tbl (F + 1)).fnV k args st = callPV (progH prim tbl F) params body args st := by
  simp only [progH, h]

theorem progH_prim (prim : String → List Atom → PState → Res Val) (tbl : FunTable) (F : Nat) :
    (progH prim tbl F).prim = prim := by cases F <;> rfl

theorem runProg_of_le {prim : String → List Atom → PState → Res Val} {tbl : FunTable} {n F k : Nat} {args : List Val}
    {st : PState} {r : Res (Val × PState)} (hF : n ≤ F) (h : ∀ F', (progH prim tbl (F' + n)).fnV k args st = r) :
    runProg prim tbl F k args st = r := by
  obtain ⟨F, rfl⟩ : ∃ F', F = F' + n := ⟨F - n, by omega⟩
  exact h F

/-- `k` units of a fuel bound are spent on `k` nested calls -/
theorem fuel_split {a F : Nat} (k : Nat) (h : a + k ≤ F) : ∃ F', F = F' + k ∧ a ≤ F' :=
  ⟨F - k, by omega, by omega⟩

theorem Env.get?_cons (p : String × Val) (ρ : PyLite.Env) (y : String) :
    Env.get? (p :: ρ) y = if p.1 = y then some p.2 else Env.get? ρ y := by
  by_cases h : p.1 = y <;> simp [Env.get?, h]

theorem Env.get?_nil (y : String) : Env.get? [] y = none := rfl

theorem Env.get?_isSome_iff (ρ : PyLite.Env) (y : String) : (ρ.get? y).isSome ↔ y ∈ ρ.map (·.1) := by
  rw [Env.get?, Option.isSome_map, List.find?_isSome, List.mem_map]
  exact ⟨fun ⟨p, hp, h⟩ => ⟨p, hp, beq_iff_eq.1 h⟩, fun ⟨p, hp, h⟩ => ⟨p, hp, beq_iff_eq.2 h⟩⟩

theorem Env.get?_set (ρ : PyLite.Env) (x y : String) (v : Val) :
    (Env.set ρ x v).get? y = if x = y then some v else ρ.get? y := by
  induction ρ with
  | nil => by_cases h : x = y <;> simp [Env.set, Env.get?, h]
  | cons p ρ ih =>
    unfold Env.set
    by_cases hp : p.1 = x
    · simp only [hp, beq_self_eq_true, if_true, Env.get?_cons]
      by_cases h : x = y <;> simp [h]
    · have hp' : (p.1 == x) = false := by simpa using hp
      simp only [hp', Bool.false_eq_true, if_false, Env.get?_cons, ih]
      by_cases h : x = y
      · subst h; simp [hp]
      · simp [h]

theorem Env.set_set (ρ : PyLite.Env) (x : String) (a b : Val) : (ρ.set x a).set x b = ρ.set x b := by
  induction ρ with
  | nil => simp [Env.set]
  | cons p ρ ih =>
    by_cases h : p.1 = x
    · simp [Env.set, h]
    · have h' : (p.1 == x) = false := by simpa using h
      simp [Env.set, h', ih]

theorem pyEq_refl (a : Atom) : a.pyEq a = true := by simp [Atom.pyEq]

theorem pyEq_symm (a b : Atom) : a.pyEq b = b.pyEq a := by
  simp only [Atom.pyEq]; exact decide_eq_decide.2 ⟨Eq.symm, Eq.symm⟩

theorem pyEq_trans {a b c : Atom} (h1 : a.pyEq b = true) (h2 : b.pyEq c = true) : a.pyEq c = true := by
  simp only [Atom.pyEq, decide_eq_true_eq] at *; exact h1.trans h2

theorem pyEq_num (a b : Rat) : (Atom.num a).pyEq (Atom.num b) = decide (a = b) := by
  simp [Atom.pyEq, Atom.norm]

theorem pyEq_natCast (a b : Nat) : (Atom.num ((a : Nat) : Rat)).pyEq (.num ((b : Nat) : Rat)) = decide (a = b) := by
  rw [pyEq_num]; exact decide_eq_decide.2 Rat.natCast_inj

theorem compare_eq_num (a b : Rat) : PyLite.compare .eq (.atom (.num a)) (.atom (.num b)) = .ok (.atom (.bool (decide (a = b)))) := by
  simp [PyLite.compare, pyEq_num, pure, Except.pure]

theorem compare_ne_num (a b : Rat) : PyLite.compare .ne (.atom (.num a)) (.atom (.num b)) = .ok (.atom (.bool (!decide (a = b)))) := by
  simp [PyLite.compare, pyEq_num, pure, Except.pure]

theorem compare_gt_num (a b : Rat) : PyLite.compare .gt (.atom (.num a)) (.atom (.num b)) = .ok (.atom (.bool (decide (b < a)))) := by
  simp [PyLite.compare, Atom.asNum?, cmpRat, pure, Except.pure]

theorem natCast_succ_rat (n : Nat) : ((n : Nat) : Rat) + 1 = ((n + 1 : Nat) : Rat) := by
  rw [Rat.natCast_add]; rfl

theorem asInt?_nat (n : Nat) : (Atom.num ((n : Nat) : Rat)).asInt? = some (n : Int) := by
  simp [Atom.asInt?]

theorem evalP_var (H : PHandlers) (self ρ : PyLite.Env) (st : PState) (x : String) (v : Val) (h : ρ.get? x = some v) :
    (Expr.var x).evalP H self ρ st = .ok (v, st) := by
  simp only [Expr.evalP, h, pure, Except.pure]

theorem evalP_num (H : PHandlers) (self ρ : PyLite.Env) (st : PState) (q : Rat) :
    (Expr.num q).evalP H self ρ st = .ok (.atom (.num q), st) := by
  simp only [Expr.evalP, pure, Except.pure]

theorem evalP_len (H : PHandlers) (self ρ : PyLite.Env) (st st' : PState) (l : Expr) (vs : List Atom)
    (h : l.evalP H self ρ st = .ok (.list vs, st')) :
    (Expr.len l).evalP H self ρ st = .ok (.atom (.num ((vs.length : Nat) : Rat)), st') := by
  simp only [Expr.evalP, h, bind, Except.bind, pure, Except.pure]

theorem evalP_bin {H : PHandlers} {self ρ : PyLite.Env} {st st' st'' : PState} {op : BinOp} {a b : Expr} {x y r : Val}
    (ha : a.evalP H self ρ st = .ok (x, st')) (hb : b.evalP H self ρ st' = .ok (y, st''))
    (hr : arithP op x y = .ok r) :
    (Expr.bin op a b).evalP H self ρ st = .ok (r, st'') := by
  simp only [Expr.evalP, ha, hb, hr, bind, Except.bind, pure, Except.pure]

theorem evalP_cmp (H : PHandlers) (self ρ : PyLite.Env) (st st' st'' : PState) (op : CmpOp) (a b : Expr) (x y r : Val)
    (ha : a.evalP H self ρ st = .ok (x, st')) (hb : b.evalP H self ρ st' = .ok (y, st''))
    (hr : PyLite.compare op x y = .ok r) :
    (Expr.cmp op a b).evalP H self ρ st = .ok (r, st'') := by
  simp only [Expr.evalP, ha, hb, hr, bind, Except.bind, pure, Except.pure]

theorem evalP_attr {H : PHandlers} {self ρ : PyLite.Env} {st st' : PState} {e : Expr} {f : String} {i : Nat} {v : Val}
    (he : e.evalP H self ρ st = .ok (.atom (.ref i), st')) (hget : (st'.heap i).get? f = some v) :
    (Expr.attr e f).evalP H self ρ st = .ok (v, st') := by
  simp only [Expr.evalP, he, hget, bind, Except.bind, pure, Except.pure]

theorem evalP_ite {H : PHandlers} {self ρ : PyLite.Env} {st st' : PState} {c a b : Expr} {x : Val} {t : Bool}
    (hc : c.evalP H self ρ st = .ok (x, st')) (ht : truthP x = .ok t) :
    (Expr.ite c a b).evalP H self ρ st = if t then a.evalP H self ρ st' else b.evalP H self ρ st' := by
  simp only [Expr.evalP, hc, ht, bind, Except.bind]

theorem evalP_dictIndex {H : PHandlers} {self ρ : PyLite.Env} {st st' st'' : PState} {d k : Expr}
    {kvs : List (Atom × Atom)} {key v : Atom} (hd : d.evalP H self ρ st = .ok (.dict kvs, st'))
    (hk : k.evalP H self ρ st' = .ok (.atom key, st'')) (hv : Dict.get? kvs key = some v) :
    (Expr.dictIndex d k).evalP H self ρ st = .ok (.atom v, st'') := by
  simp only [Expr.evalP, hd, hk, hv, bind, Except.bind, pure, Except.pure]

theorem evalP_dictGet {H : PHandlers} {self ρ : PyLite.Env} {st st' st'' : PState} {d k : Expr}
    {kvs : List (Atom × Atom)} {key : Atom} (hd : d.evalP H self ρ st = .ok (.dict kvs, st'))
    (hk : k.evalP H self ρ st' = .ok (.atom key, st'')) :
    (Expr.dictGet d k).evalP H self ρ st = .ok (.atom ((Dict.get? kvs key).getD .none), st'') := by
  simp only [Expr.evalP, hd, hk, bind, Except.bind, pure, Except.pure]
  cases Dict.get? kvs key <;> rfl

theorem evalP_isNone_var (H : PHandlers) (self ρ : PyLite.Env) (st : PState) (x : String) (v : Val)
    (hx : ρ.get? x = some v) :
    (Expr.isNone (.var x)).evalP H self ρ st = .ok (.atom (.bool (decide (v = .atom .none))), st) := by
  simp only [Expr.evalP, hx, bind, Except.bind, pure, Except.pure]

theorem evalP_isNotNone_var (H : PHandlers) (self ρ : PyLite.Env) (st : PState) (x : String) (v : Val)
    (hx : ρ.get? x = some v) :
    (Expr.isNotNone (.var x)).evalP H self ρ st = .ok (.atom (.bool (!decide (v = .atom .none))), st) := by
  simp only [Expr.evalP, hx, bind, Except.bind, pure, Except.pure]

/-- `not a`, `a and b`, `a or b` on tests that leave the state alone; `b` is asked for only where Python evaluates it -/
theorem evalP_not_bool {H : PHandlers} {self ρ : PyLite.Env} {st : PState} {a : Expr} {x : Bool}
    (ha : a.evalP H self ρ st = .ok (.atom (.bool x), st)) :
    (Expr.not a).evalP H self ρ st = .ok (.atom (.bool (!x)), st) := by
  simp only [Expr.evalP, ha, truthP, bind, Except.bind, pure, Except.pure]

theorem evalP_and_bool {H : PHandlers} {self ρ : PyLite.Env} {st : PState} {a b : Expr} {x y : Bool}
    (ha : a.evalP H self ρ st = .ok (.atom (.bool x), st))
    (hb : x = true → b.evalP H self ρ st = .ok (.atom (.bool y), st)) :
    (Expr.and a b).evalP H self ρ st = .ok (.atom (.bool (x && y)), st) := by
  cases x
  · simp [Expr.evalP, ha, truthP, bind, Except.bind, pure, Except.pure]
  · simp [Expr.evalP, ha, hb rfl, truthP, bind, Except.bind, pure, Except.pure]

theorem evalP_or_bool {H : PHandlers} {self ρ : PyLite.Env} {st : PState} {a b : Expr} {x y : Bool}
    (ha : a.evalP H self ρ st = .ok (.atom (.bool x), st))
    (hb : x = false → b.evalP H self ρ st = .ok (.atom (.bool y), st)) :
    (Expr.or a b).evalP H self ρ st = .ok (.atom (.bool (x || y)), st) := by
  cases x
  · simp [Expr.evalP, ha, hb rfl, truthP, bind, Except.bind, pure, Except.pure]
  · simp [Expr.evalP, ha, truthP, bind, Except.bind, pure, Except.pure]

theorem evalP_callFn1 (H : PHandlers) (self ρ : PyLite.Env) (st st' : PState) (k : Nat) (a : Expr) (v : Val)
    (ha : a.evalP H self ρ st = .ok (v, st')) :
    (Expr.callFn k (.listCons a .listNil)).evalP H self ρ st = H.fnV k [v] st' := by
  simp only [Expr.evalP, Expr.evalArgsP, ha, bind, Except.bind, pure, Except.pure]

theorem evalP_callFn2 (H : PHandlers) (self ρ : PyLite.Env) (st st' st'' : PState) (k : Nat) (a b : Expr) (v w : Val)
    (ha : a.evalP H self ρ st = .ok (v, st')) (hb : b.evalP H self ρ st' = .ok (w, st'')) :
    (Expr.callFn k (.listCons a (.listCons b .listNil))).evalP H self ρ st = H.fnV k [v, w] st'' := by
  simp only [Expr.evalP, Expr.evalArgsP, ha, hb, bind, Except.bind, pure, Except.pure]

theorem evalP_callFn3 (H : PHandlers) (self ρ : PyLite.Env) (st st1 st2 st3 : PState) (k : Nat) (a b c : Expr)
    (u v w : Val) (ha : a.evalP H self ρ st = .ok (u, st1)) (hb : b.evalP H self ρ st1 = .ok (v, st2))
    (hc : c.evalP H self ρ st2 = .ok (w, st3)) :
    (Expr.callFn k (.listCons a (.listCons b (.listCons c .listNil)))).evalP H self ρ st = H.fnV k [u, v, w] st3 := by
  simp only [Expr.evalP, Expr.evalArgsP, ha, hb, hc, bind, Except.bind, pure, Except.pure]

theorem compLoopP_pure (f : Atom → PState → Res (Option Atom × PState)) (g : Atom → Option Atom) (st : PState)
    (vs : List Atom) (h : ∀ v ∈ vs, f v st = .ok (g v, st)) : compLoopP f vs st = .ok (vs.filterMap g, st) := by
  induction vs with
  | nil => rfl
  | cons v vs ih =>
    have h1 := h v (List.mem_cons_self)
    have h2 := ih (fun w hw => h w (List.mem_cons_of_mem _ hw))
    simp only [compLoopP, h1, h2, bind, Except.bind, pure, Except.pure, List.filterMap_cons]
    cases g v <;> rfl

/-- `[elt for x in it if cond]` whose condition and element only read -/
theorem evalP_listComp_pure (H : PHandlers) (self ρ : PyLite.Env) (st0 st : PState) (elt cond it : Expr) (x : String)
    (vs : List Atom) (p : Atom → Bool) (e : Atom → Atom)
    (hit : it.evalP H self ρ st0 = .ok (.list vs, st))
    (hc : ∀ v ∈ vs, cond.evalP H self (ρ.set x v) st = .ok (.atom (.bool (p v)), st))
    (he : ∀ v ∈ vs, p v = true → elt.evalP H self (ρ.set x v) st = .ok (.atom (e v), st)) :
    (Expr.listComp elt x it cond).evalP H self ρ st0 = .ok (.list ((vs.filter p).map e), st) := by
  simp only [Expr.evalP, hit, bind, Except.bind, pure, Except.pure, iterOf]
  rw [compLoopP_pure (g := fun v => if p v then some (e v) else none)]
  · have key : vs.filterMap (fun v => if p v then some (e v) else none) = (vs.filter p).map e := by
      clear hc he hit
      induction vs with
      | nil => rfl
      | cons v vs ih => cases hp : p v <;> simp [hp, ih]
    simp [key]
  · intro v hv
    cases hp : p v with
    | false => simp [hc v hv, hp, truthP, pure, Except.pure]
    | true => simp [hc v hv, he v hv hp, hp, truthP, pure, Except.pure]

theorem evalP_listComp_id (H : PHandlers) (self ρ : PyLite.Env) (st0 st : PState) (it : Expr) (x : String)
    (vs : List Atom) (hit : it.evalP H self ρ st0 = .ok (.list vs, st)) :
    (Expr.listComp (.var x) x it (.bool true)).evalP H self ρ st0 = .ok (.list vs, st) := by
  rw [evalP_listComp_pure H self ρ st0 st (.var x) (.bool true) it x vs (fun _ => true) (fun v => v) hit]
  · simp
  · intro v _; simp [Expr.evalP, pure, Except.pure]
  · intro v _ _; simp [Expr.evalP, Env.get?_set, pure, Except.pure]

theorem nextLoopP_pure (f : Atom → PState → Res (Option Atom × PState)) (g : Atom → Option Atom) (st : PState) :
    ∀ (vs : List Atom), (∀ v ∈ vs, f v st = .ok (g v, st)) → nextLoopP f vs st = .ok (vs.findSome? g, st) := by
  intro vs
  induction vs with
  | nil => intro _; rfl
  | cons v vs ih =>
    intro h
    have h1 := h v List.mem_cons_self
    have h2 := ih (fun v hv => h v (List.mem_cons_of_mem _ hv))
    simp only [nextLoopP, h1, bind, Except.bind, List.findSome?_cons]
    cases g v with
    | some a => rfl
    | none => simpa using h2

theorem evalP_nextComp_pure (H : PHandlers) (self ρ : PyLite.Env) (st0 st : PState) (elt cond it : Expr) (x : String)
    (vs : List Atom) (p : Atom → Bool) (e : Atom → Atom)
    (hit : it.evalP H self ρ st0 = .ok (.list vs, st))
    (hc : ∀ v ∈ vs, cond.evalP H self (ρ.set x v) st = .ok (.atom (.bool (p v)), st))
    (he : ∀ v ∈ vs, p v = true → elt.evalP H self (ρ.set x v) st = .ok (.atom (e v), st)) :
    (Expr.nextComp elt x it cond).evalP H self ρ st0 =
      match vs.find? p with
      | some v => .ok (.atom (e v), st)
      | none => .error (.crash .stopIteration) := by
  simp only [Expr.evalP, hit, bind, Except.bind, pure, Except.pure, iterOf]
  rw [nextLoopP_pure (g := fun v => if p v then some (e v) else none)]
  · have key : vs.findSome? (fun v => if p v then some (e v) else none) = (vs.find? p).map e := by
      clear hc he hit
      induction vs with
      | nil => rfl
      | cons v vs ih => cases hp : p v <;> simp [hp, ih]
    simp only [key]
    cases vs.find? p <;> rfl
  · intro v hv
    cases hp : p v with
    | false => simp [hc v hv, hp, truthP, pure, Except.pure]
    | true => simp [hc v hv, he v hv hp, hp, truthP, pure, Except.pure]

theorem pairLoopP_pure (f : Atom → PState → Res (Option (Atom × Atom) × PState)) (g : Atom → Option (Atom × Atom))
    (st : PState) (vs : List Atom) (h : ∀ v ∈ vs, f v st = .ok (g v, st)) :
    pairLoopP f vs st = .ok (vs.filterMap g, st) := by
  induction vs with
  | nil => rfl
  | cons v vs ih =>
    have h1 := h v (List.mem_cons_self)
    have h2 := ih (fun w hw => h w (List.mem_cons_of_mem _ hw))
    simp only [pairLoopP, h1, h2, bind, Except.bind, pure, Except.pure, List.filterMap_cons]
    cases g v <;> rfl

theorem evalP_dictComp_pure (H : PHandlers) (self ρ : PyLite.Env) (st0 st : PState) (k v it : Expr) (x : String)
    (vs : List Atom) (ke ve : Atom → Atom)
    (hit : it.evalP H self ρ st0 = .ok (.list vs, st))
    (hk : ∀ a ∈ vs, k.evalP H self (ρ.set x a) st = .ok (.atom (ke a), st))
    (hv : ∀ a ∈ vs, v.evalP H self (ρ.set x a) st = .ok (.atom (ve a), st)) :
    (Expr.dictComp k v x it (.bool true)).evalP H self ρ st0 =
      .ok (.dict (Dict.ofList (vs.map (fun a => (ke a, ve a)))), st) := by
  simp only [Expr.evalP, hit, bind, Except.bind, pure, Except.pure, iterOf]
  rw [pairLoopP_pure (g := fun a => some (ke a, ve a))]
  · simp [List.filterMap_eq_map']
  · intro a ha
    simp [hk a ha, hv a ha, truthP, pure, Except.pure]

theorem execP_assign {H : PHandlers} {self : PyLite.Env} {rec : List Atom → PState → Res (Val × PState)} {x : String}
    {e : Expr} {ρ : PyLite.Env} {st st' : PState} {v : Val} (he : e.evalP H self ρ st = .ok (v, st')) :
    (Stmt.assign x e).execP H self rec ρ st = .normal (ρ.set x v) st' := by
  simp only [Stmt.execP, he]

theorem execP_aug_list {H : PHandlers} {self : PyLite.Env} {rec : List Atom → PState → Res (Val × PState)} {x : String}
    {e : Expr} {ρ : PyLite.Env} {st st' : PState} {a b : List Atom} (hx : ρ.get? x = some (.list a))
    (he : e.evalP H self ρ st = .ok (.list b, st')) :
    (Stmt.aug x .add e).execP H self rec ρ st = .normal (Env.set ρ x (.list (a ++ b))) st' := by
  simp only [Stmt.execP, hx, he, arithP, pure, Except.pure]

theorem execP_setAttr (H : PHandlers) (self : PyLite.Env) (rec : List Atom → PState → Res (Val × PState)) (o : Expr)
    (f : String) (e : Expr) (ρ : PyLite.Env) (st st1 st2 : PState) (v : Val) (i : Nat)
    (he : e.evalP H self ρ st = .ok (v, st1)) (ho : o.evalP H self ρ st1 = .ok (.atom (.ref i), st2)) :
    (Stmt.setAttr o f e).execP H self rec ρ st = .normal ρ { st2 with heap := heapSet st2.heap i f v } := by
  simp only [Stmt.execP, he, ho, bind, Except.bind, pure, Except.pure]

theorem execP_ifElse {H : PHandlers} {self : PyLite.Env} {rec : List Atom → PState → Res (Val × PState)}
    {c : Expr} {t e : List Stmt} {ρ : PyLite.Env} {st st' : PState} {v : Val} {b : Bool}
    (hc : c.evalP H self ρ st = .ok (v, st')) (hb : truthP v = .ok b) :
    (Stmt.ifElse c t e).execP H self rec ρ st =
      if b then execBlockP H self rec t ρ st' else execBlockP H self rec e ρ st' := by
  simp only [Stmt.execP, hc, hb, bind, Except.bind, pure, Except.pure]

theorem execP_ret {H : PHandlers} {self : PyLite.Env} {rec : List Atom → PState → Res (Val × PState)}
    {e : Expr} {ρ : PyLite.Env} {st st' : PState} {v : Val} (he : e.evalP H self ρ st = .ok (v, st')) :
    (Stmt.ret e).execP H self rec ρ st = .ret v st' := by
  simp only [Stmt.execP, he]

theorem execP_expr {H : PHandlers} {self : PyLite.Env} {rec : List Atom → PState → Res (Val × PState)}
    {e : Expr} {ρ : PyLite.Env} {st st' : PState} {v : Val} (he : e.evalP H self ρ st = .ok (v, st')) :
    (Stmt.expr e).execP H self rec ρ st = .normal ρ st' := by
  simp only [Stmt.execP, he]

theorem execP_expr_err {H : PHandlers} {self : PyLite.Env} {rec : List Atom → PState → Res (Val × PState)}
    {e : Expr} {ρ : PyLite.Env} {st : PState} {err : Err} (he : e.evalP H self ρ st = .error err) :
    (Stmt.expr e).execP H self rec ρ st = .raise err := by
  simp only [Stmt.execP, he]

theorem execP_forIn (H : PHandlers) (self : PyLite.Env) (rec : List Atom → PState → Res (Val × PState)) (x : String)
    (it : Expr) (body : List Stmt) (ρ : PyLite.Env) (st st' : PState) (vs : List Atom)
    (hit : it.evalP H self ρ st = .ok (.list vs, st')) :
    (Stmt.forIn x it body).execP H self rec ρ st =
      forLoopP x (fun ρ st => execBlockP H self rec body ρ st) vs ρ st' := by
  simp only [Stmt.execP, hit, bind, Except.bind, pure, Except.pure, iterOf]

/-- A `for` loop over the items `l.map g` run as a monadic fold of the model.  `R a ρ st` relates the model's
    accumulator to the local environment and the store; a round started in related states ends normally in states related
    to `a'` when `m a c = .ok a'`, and raises `e` when `m a c = .error e`.  Errors in `skip` are outside the claim (the
    model's own RecursionError, where the source would run on). -/
theorem forLoopP_foldlM {α σ : Type} (x : String) (body : PyLite.Env → PState → OutcomeP) (g : α → Atom)
    (R : σ → PyLite.Env → PState → Prop) (m : σ → α → Except Err σ) (skip : Err → Prop) :
    ∀ (l : List α),
      (∀ a c ρ st, c ∈ l → R a ρ st →
        match m a c with
        | .ok a' => ∃ ρ' st', body (ρ.set x (g c)) st = .normal ρ' st' ∧ R a' ρ' st'
        | .error e => ¬ skip e → body (ρ.set x (g c)) st = .raise e) →
      ∀ a ρ st, R a ρ st →
        match l.foldlM m a with
        | .ok a' => ∃ ρ' st', forLoopP x body (l.map g) ρ st = .normal ρ' st' ∧ R a' ρ' st'
        | .error e => ¬ skip e → forLoopP x body (l.map g) ρ st = .raise e := by
  intro l
  induction l with
  | nil => intro _ a ρ st hR; exact ⟨ρ, st, rfl, hR⟩
  | cons c l ih =>
    intro hb a ρ st hR
    have h1 := hb a c ρ st List.mem_cons_self hR
    simp only [List.foldlM_cons, bind, Except.bind, List.map_cons, forLoopP]
    cases hm : m a c with
    | error e =>
      rw [hm] at h1
      intro hs
      simp only [h1 hs]
    | ok a' =>
      rw [hm] at h1
      obtain ⟨ρ', st', hbody, hR'⟩ := h1
      simp only [hbody]
      exact ih (fun a c ρ st hc => hb a c ρ st (List.mem_cons_of_mem _ hc)) a' ρ' st' hR'

theorem forLoopP_foldl {α σ : Type} (x : String) (body : PyLite.Env → PState → OutcomeP) (g : α → Atom)
    (R : σ → PyLite.Env → PState → Prop) (m : σ → α → σ) (l : List α)
    (hb : ∀ a c ρ st, c ∈ l → R a ρ st →
      ∃ ρ' st', body (ρ.set x (g c)) st = .normal ρ' st' ∧ R (m a c) ρ' st')
    (a : σ) (ρ : PyLite.Env) (st : PState) (hR : R a ρ st) :
    ∃ ρ' st', forLoopP x body (l.map g) ρ st = .normal ρ' st' ∧ R (l.foldl m a) ρ' st' := by
  have h := forLoopP_foldlM x body g R (fun a c => .ok (m a c)) (fun _ => False) l hb a ρ st hR
  rwa [show l.foldlM (fun a c => (Except.ok (m a c) : Except Err σ)) a = .ok (l.foldl m a) from List.foldlM_pure] at h

/-- A loop that only checks its items: `chk c = some e` means that the round of `c` raises `e`.  The loop raises what the
    first failing item raises and otherwise leaves the store alone.  Errors in `skip` are outside the claim. -/
theorem forLoopP_findSome {α : Type} (x : String) (body : PyLite.Env → PState → OutcomeP) (g : α → Atom)
    (P : PyLite.Env → Prop) (chk : α → Option Err) (skip : Err → Prop) (st : PState) :
    ∀ (l : List α),
      (∀ ρ c, c ∈ l → P ρ →
        match chk c with
        | none => ∃ ρ', P ρ' ∧ body (ρ.set x (g c)) st = .normal ρ' st
        | some e => ¬ skip e → body (ρ.set x (g c)) st = .raise e) →
      ∀ ρ, P ρ →
        match l.findSome? chk with
        | none => ∃ ρ', P ρ' ∧ forLoopP x body (l.map g) ρ st = .normal ρ' st
        | some e => ¬ skip e → forLoopP x body (l.map g) ρ st = .raise e := by
  intro l hb ρ hP
  have h := forLoopP_foldlM x body g (fun (_ : Unit) ρ st' => P ρ ∧ st' = st) (fun a c => (chk c).elim (.ok a) .error) skip l
    (fun _ c ρ _ hc ⟨hP, e⟩ => by
      subst e
      have h1 := hb ρ c hc hP
      cases hk : chk c <;> rw [hk] at h1
      · obtain ⟨ρ', hP', ho⟩ := h1; exact ⟨ρ', _, ho, hP', rfl⟩
      · exact h1) () ρ st ⟨hP, rfl⟩
  rw [foldlM_findSome] at h
  cases hf : l.findSome? chk <;> rw [hf] at h
  · obtain ⟨ρ', _, ho, hP', rfl⟩ := h; exact ⟨ρ', hP', ho⟩
  · exact h

theorem forLoopP_check (x : String) (body : PyLite.Env → PState → OutcomeP) (P : PyLite.Env → Prop)
    (chk : Atom → Option Err) (st : PState) :
    ∀ (vs : List Atom),
      (∀ ρ v, v ∈ vs → P ρ →
        match chk v with
        | none => ∃ ρ', P ρ' ∧ body (ρ.set x v) st = .normal ρ' st
        | some e => body (ρ.set x v) st = .raise e) →
      ∀ ρ, P ρ →
        match vs.findSome? chk with
        | none => ∃ ρ', P ρ' ∧ forLoopP x body vs ρ st = .normal ρ' st
        | some e => forLoopP x body vs ρ st = .raise e := by
  intro vs hb ρ hP
  have h := forLoopP_findSome x body id P chk (fun _ => False) st vs
    (fun ρ v hv hP => by have := hb ρ v hv hP; split <;> simp_all) ρ hP
  rw [List.map_id] at h
  split <;> simp_all

theorem forLoopP_local {α σ : Type} (f : α → Atom) (enc : σ → Val) (m : σ → α → σ) (x acc : String)
    (body : PyLite.Env → PState → OutcomeP) (P : PyLite.Env → Prop) (st : PState) (l : List α)
    (hb : ∀ ρ a c, c ∈ l → P ρ → ρ.get? acc = some (enc a) →
      ∃ ρ', P ρ' ∧ ρ'.get? acc = some (enc (m a c)) ∧ body (ρ.set x (.atom (f c))) st = .normal ρ' st)
    (ρ : PyLite.Env) (a : σ) (hP : P ρ) (ha : ρ.get? acc = some (enc a)) :
    ∃ ρ', P ρ' ∧ ρ'.get? acc = some (enc (l.foldl m a)) ∧ forLoopP x body (l.map f) ρ st = .normal ρ' st := by
  obtain ⟨ρ', _, hl, rfl, hP', ha'⟩ := forLoopP_foldl x body f
    (fun a ρ st' => st' = st ∧ P ρ ∧ ρ.get? acc = some (enc a)) m l
    (fun a c ρ _ hc ⟨e, hP, ha⟩ => by
      subst e; obtain ⟨ρ', h1, h2, h3⟩ := hb ρ a c hc hP ha; exact ⟨ρ', _, h3, rfl, h1, h2⟩)
    a ρ st ⟨rfl, hP, ha⟩
  exact ⟨ρ', hP', ha', hl⟩

/-! ### symbolic execution of a translated body

  `simp [pylite_step, h₁, …]` runs a translated body on given facts `hᵢ`: the set holds the equations of the evaluators, of
  the monad of `Res` and of the lookups in an environment (tagged here), and what every family adds where it proves it:
  the reads of its encoded store and its primitives that need no hypothesis (at most a closed condition on the name of a
  literal, which `simp` decides). -/

attribute [pylite_step] callPV_eq bindParamsV execBlockP Stmt.execP Expr.evalP Expr.evalArgsP iterOf truthP arithP arith
  arithTime PyLite.compare cmpRat Atom.asNum? pure Except.pure bind Except.bind throw throwThe MonadExceptOf.throw
  Env.get?_set Env.get?_cons Env.get?_nil

end Pj.TaskSrc

namespace Pj.PyLite
open Pj.TaskSrc (pyEq_refl pyEq_symm pyEq_trans Env.get?_set)

theorem Atom.asInt?_int (i : Int) : (Atom.num ((i : Int) : Rat)).asInt? = some i := by
  simp [Atom.asInt?, Rat.num_intCast, Rat.den_intCast]

theorem Atom.pyEq_iff (a b : Atom) : a.pyEq b = true ↔ a.norm = b.norm := by simp [Atom.pyEq]

theorem Atom.pyEq_congr {a b : Atom} (h : a.pyEq b = true) (c : Atom) : a.pyEq c = b.pyEq c := by
  simp only [Atom.pyEq, (Atom.pyEq_iff a b).1 h]

theorem Dict.get?_nil (k : Atom) : Dict.get? [] k = none := rfl

theorem Dict.get?_cons (p : Atom × Atom) (d : List (Atom × Atom)) (k : Atom) :
    Dict.get? (p :: d) k = if p.1.pyEq k then some p.2 else Dict.get? d k := by
  unfold Dict.get?
  rw [List.find?_cons]
  split <;> simp_all

theorem Dict.get?_congr (d : List (Atom × Atom)) {a k : Atom} (h : a.pyEq k = true) : Dict.get? d k = Dict.get? d a := by
  unfold Dict.get?
  simp only [Atom.pyEq, (Atom.pyEq_iff a k).1 h]

theorem Dict.get?_insert (d : List (Atom × Atom)) (k v k' : Atom) :
    Dict.get? (Dict.insert d k v) k' = if k.pyEq k' then some v else Dict.get? d k' := by
  induction d with
  | nil => simp [Dict.insert, Dict.get?]
  | cons p d ih =>
    unfold Dict.insert
    by_cases hpk : p.1.pyEq k = true
    · rw [if_pos hpk, get?_cons, get?_cons, Atom.pyEq_congr hpk k']
      split <;> rfl
    · rw [if_neg hpk, get?_cons, ih, get?_cons]
      by_cases hpk' : p.1.pyEq k' = true
      · have : ¬ k.pyEq k' = true := fun h => hpk (pyEq_trans hpk' ((pyEq_symm k' k).trans h))
        simp [this, hpk']
      · simp [hpk']

theorem Dict.get?_foldl_insert (kvs acc : List (Atom × Atom)) (k : Atom) :
    Dict.get? (kvs.foldl (fun d p => Dict.insert d p.1 p.2) acc) k =
      match kvs.reverse.find? (fun p => p.1.pyEq k) with
      | some p => some p.2
      | none => Dict.get? acc k := by
  induction kvs generalizing acc with
  | nil => simp
  | cons p kvs ih =>
    rw [List.foldl_cons, ih, List.reverse_cons, List.find?_append]
    cases hf : List.find? (fun p => p.1.pyEq k) kvs.reverse with
    | some q => simp
    | none =>
      rw [get?_insert]
      by_cases hp : p.1.pyEq k = true <;> simp [hp]

theorem Dict.get?_ofList (kvs : List (Atom × Atom)) (k : Atom) :
    Dict.get? (Dict.ofList kvs) k = (kvs.reverse.find? (fun p => p.1.pyEq k)).map (·.2) := by
  unfold Dict.ofList
  rw [get?_foldl_insert]
  cases List.find? (fun p => p.1.pyEq k) kvs.reverse <;> simp [Dict.get?]

theorem Dict.get?_isSome_of_mem (d : List (Atom × Atom)) (k : Atom) (h : k ∈ d.map (·.1)) : (Dict.get? d k).isSome := by
  induction d with
  | nil => cases h
  | cons p d ih =>
    rw [get?_cons]
    split
    · rfl
    · next hp =>
      rcases List.mem_cons.1 h with rfl | h
      · exact absurd (pyEq_refl _) hp
      · exact ih h

theorem Dict.insert_absent (d : List (Atom × Atom)) (k v : Atom) (h : Dict.get? d k = none) :
    Dict.insert d k v = d ++ [(k, v)] := by
  induction d with
  | nil => rfl
  | cons p d ih =>
    rw [get?_cons] at h
    by_cases hp : p.1.pyEq k = true
    · simp [hp] at h
    · simp only [hp, if_false, Bool.false_eq_true] at h
      simp only [Dict.insert, hp, Bool.false_eq_true, if_false, List.cons_append, ih h]

theorem Dict.insert_keys (k v : Atom) : ∀ d : List (Atom × Atom),
    (Dict.insert d k v).map (·.1) = if (d.map (·.1)).any (·.pyEq k) then d.map (·.1) else d.map (·.1) ++ [k]
  | [] => rfl
  | p :: d => by
    rw [Dict.insert, List.map_cons, List.any_cons]
    cases p.1.pyEq k
    · rw [Bool.false_or, if_neg Bool.false_ne_true, List.map_cons, insert_keys k v d, apply_ite (p.1 :: ·)]; rfl
    · rfl

theorem heapSet_same (h : Nat → Env) (i : Nat) (f : String) (v : Val) : heapSet h i f v i = (h i).set f v := by
  simp [heapSet]

theorem heapSet_other (h : Nat → Env) (i j : Nat) (f : String) (v : Val) (hne : j ≠ i) : heapSet h i f v j = h j := by
  simp [heapSet, hne]

theorem heapSet_get_ne (h : Nat → Env) (i j : Nat) (f g : String) (v : Val) (hne : f ≠ g) :
    (heapSet h i f v j).get? g = (h j).get? g := by
  by_cases hj : j = i
  · subst hj; rw [heapSet_same, Env.get?_set, if_neg hne]
  · rw [heapSet_other h i j f v hj]

/-- a store that encodes a model object by object: writing the slot is updating the one object -/
theorem heapSet_eq_of {h h' : Nat → Env} {i : Nat} {f : String} {v : Val} (hi : (h i).set f v = h' i)
    (ho : ∀ j, j ≠ i → h' j = h j) : heapSet h i f v = h' := by
  funext j
  by_cases hj : j = i
  · subst hj; rw [heapSet_same, hi]
  · rw [heapSet_other h i j f v hj, ho j hj]

end Pj.PyLite

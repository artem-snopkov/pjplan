/-
  Lemmas/PyLogic.lean — the program logic of the source ties that run on the pass layer of PyLite.

  * `Env.le bs ρ`: the locals `ρ` bind at least what the finite list `bs` binds.  A loop body or a block states
    what it READS as such a list; an assignment to any other variable keeps it (`Env.le.set_ne`, side condition by `rfl`).
  * `Sim r o Q`: the outcome `o` of a statement / block / loop refines the model's step `r : Res α`: a model error is
    raised (the model's own RecursionError is left out, once and for all), a model value `a` ends normally in locals and
    a state with `Q a ρ st`.  The rules compose along the model's `>>=`; `Sim.forLoop` is THE loop rule (the loop over
    `l.map g` is `l.foldlM step`).
  * `SimR r c Q`: the same for the result `c : Res (Val × PState)` of an expression / a call.  A rule is named after the
    judgment of its main hypothesis (`h.mono`, `h.one`, `h.expr`).

  Which to use.  A tie whose model steps are `Res` values states its functions as `SimR` (the callee's `SimR` is the
  caller's step through `SimR.expr`) and its blocks as `Sim`; the equations `interp… = model.map enc` of the ties follow
  by `SimR.eq_none_map` or by cases on the model's result.  Two readings of `Sim` exist for particular shapes of model and
  state, each with its own rules where the shape makes them shorter:
  * `Upd` (Lemmas/PyUpd.lean): the model is a function `m : σ → σ` on the value kept in ONE place - a local, the store
    kept (the texts, lists and numbers a printer or renderer builds), or a box, the rest of the store kept (the table the
    sheet printer hands its rows to).
  * `Does` (Lemmas/TaskSim.lean): the model's step is a pair `G × Option Err` (a graph even when it fails) and the store is
    the encoding of the graph.  There a callee's tie is taken as the EQUATION `c = callResult st v r` under the proviso,
    not as a `SimR`, because the ties of task.py are stated as such equations.
-/
import PjVerif.Lemmas.PyLiteSteps
namespace Pj.PyLite
open Pj.TaskSrc (Env.get?_set execBlockP_cons execBlockP_append execBlockP_nil execBlockP_one blockRes)

/-- `ρ` binds at least what `bs` binds -/
def Env.le (bs ρ : Env) : Prop := ∀ x v, bs.get? x = some v → ρ.get? x = some v

theorem Env.le.refl (ρ : Env) : Env.le ρ ρ := fun _ _ h => h

theorem Env.le.nil (ρ : Env) : Env.le [] ρ := fun _ _ h => by cases h

theorem Env.le.get {bs ρ : Env} (h : Env.le bs ρ) (x : String) {v : Val} (hx : bs.get? x = some v := by rfl) :
    ρ.get? x = some v := h x v hx

theorem Env.le.cons {bs ρ : Env} {x : String} {v : Val} (hx : ρ.get? x = some v) (h : Env.le bs ρ) :
    Env.le ((x, v) :: bs) ρ := by
  intro y w hy
  rw [TaskSrc.Env.get?_cons] at hy
  split at hy
  · next e => subst e; cases hy; exact hx
  · exact h y w hy

theorem Env.le.tail {bs ρ : Env} {p : String × Val} (h : Env.le (p :: bs) ρ) (hx : bs.get? p.1 = none := by rfl) :
    Env.le bs ρ := by
  intro y w hy
  refine h y w ?_
  rw [TaskSrc.Env.get?_cons, if_neg]
  · exact hy
  · intro e; rw [e, hy] at hx; cases hx

theorem Env.le.append (bs more : Env) : Env.le bs (bs ++ more) := by
  intro x v h
  induction bs with
  | nil => cases h
  | cons p bs ih =>
    rw [List.cons_append, TaskSrc.Env.get?_cons] at *
    split <;> simp_all

theorem Env.le.set_ne {bs ρ : Env} (h : Env.le bs ρ) (x : String) (v : Val) (hx : bs.get? x = none := by rfl) :
    Env.le bs (ρ.set x v) := by
  intro y w hy
  rw [Env.get?_set]
  split
  · next e => subst e; rw [hx] at hy; cases hy
  · exact h y w hy

theorem Env.le.set {bs ρ : Env} (h : Env.le bs ρ) (x : String) (v : Val) : Env.le (bs.set x v) (ρ.set x v) := by
  intro y w hy
  rw [Env.get?_set] at hy ⊢
  split
  · next e => rw [if_pos e] at hy; exact hy
  · next e => rw [if_neg e] at hy; exact h y w hy

/-- `o` does what the model's `r` does; `Q` relates the model's value to the locals and the state afterwards -/
def Sim {α : Type} (r : Res α) (o : OutcomeP) (Q : α → Env → PState → Prop) : Prop :=
  match r with
  | .ok a => ∃ ρ st, o = .normal ρ st ∧ Q a ρ st
  | .error e => e ≠ .crash .recursion → o = .raise e

/-- the same for the result of an expression or a call -/
def SimR {α : Type} (r : Res α) (c : Res (Val × PState)) (Q : α → Val → PState → Prop) : Prop :=
  match r with
  | .ok a => ∃ v st, c = .ok (v, st) ∧ Q a v st
  | .error e => e ≠ .crash .recursion → c = .error e

section
variable {α β : Type} {H : PHandlers} {self : Env} {rec : List Atom → PState → Res (Val × PState)}

theorem Sim.ok {a : α} {o : OutcomeP} {Q : α → Env → PState → Prop} {ρ : Env} {st : PState}
    (ho : o = .normal ρ st) (hQ : Q a ρ st) : Sim (.ok a) o Q := ⟨ρ, st, ho, hQ⟩

theorem Sim.error {e : Err} {o : OutcomeP} {Q : α → Env → PState → Prop} (ho : o = .raise e) : Sim (.error e) o Q :=
  fun _ => ho

theorem Sim.mono {r : Res α} {o : OutcomeP} {Q Q' : α → Env → PState → Prop} (h : Sim r o Q)
    (hQ : ∀ a ρ st, Q a ρ st → Q' a ρ st) : Sim r o Q' := by
  cases r with
  | error e => exact h
  | ok a => obtain ⟨ρ, st, ho, hq⟩ := h; exact ⟨ρ, st, ho, hQ _ _ _ hq⟩

theorem Sim.and_ok {r : Res α} {o : OutcomeP} {Q : α → Env → PState → Prop} (h : Sim r o Q) :
    Sim r o (fun a ρ st => r = .ok a ∧ Q a ρ st) := by
  cases r with
  | error e => exact h
  | ok a => obtain ⟨ρ, st, ho, hq⟩ := h; exact ⟨ρ, st, ho, rfl, hq⟩

theorem Sim.bind_pure {r : Res α} {o : OutcomeP} {f : α → β} {Q : α → Env → PState → Prop}
    {Q' : β → Env → PState → Prop} (h : Sim r o Q) (hQ : ∀ a ρ st, Q a ρ st → Q' (f a) ρ st) :
    Sim (r >>= fun a => pure (f a)) o Q' := by
  cases r with
  | error e => exact h
  | ok a => obtain ⟨ρ, st, ho, hq⟩ := h; exact ⟨ρ, st, ho, hQ _ _ _ hq⟩

theorem Sim.of_if {b : Bool} {e : Err} {o : OutcomeP} {Q : Unit → Env → PState → Prop} {ρ : Env} {st : PState}
    (ho : o = if b then .normal ρ st else .raise e) (hQ : Q () ρ st) :
    Sim (if b then .ok () else .error e) o Q := by
  cases b
  · exact fun _ => ho
  · exact ⟨ρ, st, ho, hQ⟩

theorem Sim.one {r : Res α} {s : Stmt} {ρ : Env} {st : PState} {Q : α → Env → PState → Prop}
    (h : Sim r (s.execP H self rec ρ st) Q) : Sim r (execBlockP H self rec [s] ρ st) Q := by
  rw [execBlockP_one]; exact h

theorem Sim.append {r : Res α} {k : α → Res β} {p q : List Stmt} {ρ : Env} {st : PState}
    {Q : α → Env → PState → Prop} {Q' : β → Env → PState → Prop}
    (h1 : Sim r (execBlockP H self rec p ρ st) Q)
    (h2 : ∀ a ρ1 st1, Q a ρ1 st1 → Sim (k a) (execBlockP H self rec q ρ1 st1) Q') :
    Sim (r >>= k) (execBlockP H self rec (p ++ q) ρ st) Q' := by
  rw [execBlockP_append]
  cases r with
  | error e => intro hne; rw [h1 hne]
  | ok a => obtain ⟨ρ1, st1, ho, hq⟩ := h1; rw [ho]; exact h2 a ρ1 st1 hq

theorem Sim.cons {r : Res α} {k : α → Res β} {s : Stmt} {ss : List Stmt} {ρ : Env} {st : PState}
    {Q : α → Env → PState → Prop} {Q' : β → Env → PState → Prop}
    (h1 : Sim r (s.execP H self rec ρ st) Q)
    (h2 : ∀ a ρ1 st1, Q a ρ1 st1 → Sim (k a) (execBlockP H self rec ss ρ1 st1) Q') :
    Sim (r >>= k) (execBlockP H self rec (s :: ss) ρ st) Q' :=
  Sim.append (p := [s]) h1.one h2

/-- a statement the model does not see -/
theorem Sim.step {r : Res α} {s : Stmt} {ss : List Stmt} {ρ ρ1 : Env} {st st1 : PState} {Q : α → Env → PState → Prop}
    (h1 : s.execP H self rec ρ st = .normal ρ1 st1) (h2 : Sim r (execBlockP H self rec ss ρ1 st1) Q) :
    Sim r (execBlockP H self rec (s :: ss) ρ st) Q := by
  rw [execBlockP_cons, h1]; exact h2

theorem Sim.nil {a : α} {ρ : Env} {st : PState} {Q : α → Env → PState → Prop} (hQ : Q a ρ st) :
    Sim (.ok a) (execBlockP H self rec [] ρ st) Q := ⟨ρ, st, execBlockP_nil .., hQ⟩

theorem Sim.ifElse {r : Res α} {c : Expr} {t e : List Stmt} {b : Bool} {ρ : Env} {st st' : PState}
    {Q : α → Env → PState → Prop} (hc : c.evalP H self ρ st = .ok (.atom (.bool b), st'))
    (h : Sim r (execBlockP H self rec (if b then t else e) ρ st') Q) :
    Sim r ((Stmt.ifElse c t e).execP H self rec ρ st) Q := by
  rw [TaskSrc.execP_ifElse hc rfl]
  cases b <;> exact h

/-- THE loop rule (`forLoopP_foldlM` read for `Sim`); `Inv` relates the model's accumulator to the locals and the state -/
theorem Sim.forLoop (x : String) (body : Env → PState → OutcomeP) (g : β → Atom) (step : α → β → Res α)
    (Inv : α → Env → PState → Prop) (l : List β)
    (hb : ∀ a b ρ st, b ∈ l → Inv a ρ st → Sim (step a b) (body (ρ.set x (.atom (g b))) st) Inv)
    (a : α) (ρ : Env) (st : PState) (h : Inv a ρ st) :
    Sim (l.foldlM step a) (forLoopP x body (l.map g) ρ st) Inv := by
  have hl := TaskSrc.forLoopP_foldlM x body g Inv step (· = .crash .recursion) l (fun a b ρ st hm hI => by
    have h1 := hb a b ρ st hm hI
    cases hs : step a b <;> rw [hs] at h1 <;> exact h1) a ρ st h
  cases hf : l.foldlM step a <;> rw [hf] at hl <;> exact hl

/-- the `for` statement, its iterable in the form `Stmt.execP` evaluates it (any iterable value) -/
theorem Sim.forIn_iter {x : String} {it : Expr} {body : List Stmt} {g : β → Atom} {step : α → β → Res α}
    {Inv : α → Env → PState → Prop} {l : List β} {ρ : Env} {st st' : PState} {a : α}
    (hit : (do let (v, st') ← it.evalP H self ρ st; pure ((← iterOf v), st')) = .ok (l.map g, st'))
    (hb : ∀ a b ρ st, b ∈ l → Inv a ρ st →
      Sim (step a b) (execBlockP H self rec body (ρ.set x (.atom (g b))) st) Inv)
    (h : Inv a ρ st') :
    Sim (l.foldlM step a) ((Stmt.forIn x it body).execP H self rec ρ st) Inv := by
  simp only [Stmt.execP, hit]
  exact Sim.forLoop x _ g step Inv l hb a ρ st' h

theorem Sim.forIn {x : String} {it : Expr} {body : List Stmt} {g : β → Atom} {step : α → β → Res α}
    {Inv : α → Env → PState → Prop} {l : List β} {ρ : Env} {st st' : PState} {a : α}
    (hit : it.evalP H self ρ st = .ok (.list (l.map g), st'))
    (hb : ∀ a b ρ st, b ∈ l → Inv a ρ st →
      Sim (step a b) (execBlockP H self rec body (ρ.set x (.atom (g b))) st) Inv)
    (h : Inv a ρ st') :
    Sim (l.foldlM step a) ((Stmt.forIn x it body).execP H self rec ρ st) Inv :=
  Sim.forIn_iter (by simp only [hit, bind, Except.bind, pure, Except.pure, iterOf]) hb h

theorem Sim.forIn_all {x : String} {it : Expr} {body : List Stmt} {g : β → Atom} {p : β → Bool} {e : Err}
    {I : Env → PState → Prop} {l : List β} {ρ : Env} {st st' : PState}
    (hit : it.evalP H self ρ st = .ok (.list (l.map g), st'))
    (hb : ∀ b ρ st, b ∈ l → I ρ st →
      Sim (if p b then .ok () else .error e) (execBlockP H self rec body (ρ.set x (.atom (g b))) st) (fun _ => I))
    (h : I ρ st') :
    Sim (if l.all p then .ok () else .error e) ((Stmt.forIn x it body).execP H self rec ρ st) (fun _ => I) := by
  rw [← foldlM_check]
  exact Sim.forIn hit (fun _ b ρ st hm hI => hb b ρ st hm hI) h

theorem callP_bound {params : List String} {body : List Stmt} {fuel : Nat} {args : List Atom} {st : PState} {ρ : Env}
    (hb : bindParams params args = .ok ρ) :
    callP H self params body (fuel + 1) args st =
      TaskSrc.blockRes (execBlockP H self (callP H self params body fuel) body ρ st) := by
  simp only [callP, hb]
  cases execBlockP H self (callP H self params body fuel) body ρ st <;> rfl

theorem Sim.retNone {r : Res α} {o : OutcomeP} {Q : α → PState → Prop} (h : Sim r o (fun a _ st => Q a st)) :
    SimR r (TaskSrc.blockRes o) (fun a v st => v = .atom .none ∧ Q a st) := by
  cases r with
  | error e => intro hne; rw [h hne]; rfl
  | ok a => obtain ⟨ρ, st, ho, hq⟩ := h; exact ⟨_, st, by rw [ho]; rfl, rfl, hq⟩

theorem SimR.mono {r : Res α} {c : Res (Val × PState)} {Q Q' : α → Val → PState → Prop} (h : SimR r c Q)
    (hQ : ∀ a v st, Q a v st → Q' a v st) : SimR r c Q' := by
  cases r with
  | error e => exact h
  | ok a => obtain ⟨v, st, hc, hq⟩ := h; exact ⟨v, st, hc, hQ _ _ _ hq⟩

theorem SimR.and_ok {r : Res α} {c : Res (Val × PState)} {Q : α → Val → PState → Prop} (h : SimR r c Q) :
    SimR r c (fun a v st => r = .ok a ∧ Q a v st) := by
  cases r with
  | error e => exact h
  | ok a => obtain ⟨v, st, hc, hq⟩ := h; exact ⟨v, st, hc, rfl, hq⟩

theorem SimR.of_if {b : Bool} {e : Err} {c : Res (Val × PState)} {v : Val} {st1 : PState}
    (hc : c = if b then .ok (v, st1) else .error e) :
    SimR (if b then .ok () else .error e) c (fun _ v' st' => v' = v ∧ st' = st1) := by
  cases b
  · exact fun _ => hc
  · exact ⟨v, st1, hc, rfl, rfl⟩

/-- the outcome of a statement that is a call made for its effect -/
def callOutcome (ρ : Env) : Res (Val × PState) → OutcomeP
  | .ok (_, st') => .normal ρ st'
  | .error e => .raise e

theorem SimR.outcome {r : Res α} {c : Res (Val × PState)} {ρ : Env} {Q : α → Val → PState → Prop} (h : SimR r c Q) :
    Sim r (callOutcome ρ c) (fun a ρ' st' => ρ' = ρ ∧ ∃ v, Q a v st') := by
  cases r with
  | error e => intro hne; rw [h hne]; rfl
  | ok a => obtain ⟨v, st', hc, hq⟩ := h; rw [hc]; exact ⟨ρ, st', rfl, rfl, v, hq⟩

theorem SimR.expr {r : Res α} {e : Expr} {ρ : Env} {st : PState} {Q : α → Val → PState → Prop}
    (h : SimR r (e.evalP H self ρ st) Q) :
    Sim r ((Stmt.expr e).execP H self rec ρ st) (fun a ρ' st' => ρ' = ρ ∧ ∃ v, Q a v st') := by
  have h' := h.outcome (ρ := ρ)
  simp only [Stmt.execP]
  cases he : e.evalP H self ρ st with
  | error e => rw [he] at h'; exact h'
  | ok p => rw [he] at h'; exact h'

theorem SimR.assign {r : Res α} {x : String} {e : Expr} {ρ : Env} {st : PState} {Q : α → Val → PState → Prop}
    (h : SimR r (e.evalP H self ρ st) Q) :
    Sim r ((Stmt.assign x e).execP H self rec ρ st) (fun a ρ' st' => ∃ v, ρ' = ρ.set x v ∧ Q a v st') := by
  simp only [Stmt.execP]
  cases r with
  | error e => intro hne; rw [h hne]
  | ok a => obtain ⟨v, st', hc, hq⟩ := h; rw [hc]; exact ⟨_, st', rfl, v, rfl, hq⟩

theorem SimR.assignCall {r : Res α} {x : String} {k : Nat} {args : Expr} {vs : List Val} {ρ : Env} {st : PState}
    {Q : α → Val → PState → Prop} (ha : args.evalArgsP H self ρ st = .ok (vs, st)) (h : SimR r (H.fnV k vs st) Q) :
    Sim r ((Stmt.assign x (.callFn k args)).execP H self rec ρ st) (fun a ρ' st' => ∃ v, ρ' = ρ.set x v ∧ Q a v st') :=
  SimR.assign (by simp only [Expr.evalP, ha, bind, Except.bind]; exact h)

theorem SimR.exprCall {r : Res α} {k : Nat} {args : Expr} {vs : List Val} {ρ : Env} {st : PState}
    {Q : α → Val → PState → Prop} (ha : args.evalArgsP H self ρ st = .ok (vs, st)) (h : SimR r (H.fnV k vs st) Q) :
    Sim r ((Stmt.expr (.callFn k args)).execP H self rec ρ st) (fun a ρ' st' => ρ' = ρ ∧ ∃ v, Q a v st') :=
  SimR.expr (by simp only [Expr.evalP, ha, bind, Except.bind]; exact h)

theorem Sim.retBy {r : Res α} {ss : List Stmt} {s : Stmt} {ρ : Env} {st : PState} {Q : α → Env → PState → Prop}
    {Q' : α → Val → PState → Prop} (h : Sim r (execBlockP H self rec ss ρ st) Q)
    (hs : ∀ a ρ1 st1, Q a ρ1 st1 → ∃ v st2, s.execP H self rec ρ1 st1 = .ret v st2 ∧ Q' a v st2) :
    SimR r (TaskSrc.blockRes (execBlockP H self rec (ss ++ [s]) ρ st)) Q' := by
  rw [execBlockP_append]
  cases r with
  | error e => intro hne; rw [h hne]; rfl
  | ok a =>
    obtain ⟨ρ1, st1, ho, hq⟩ := h
    obtain ⟨v, st2, hv, hq'⟩ := hs a ρ1 st1 hq
    rw [ho]
    exact ⟨v, st2, by simp only [execBlockP_one, hv]; rfl, hq'⟩

theorem Sim.ret {r : Res α} {ss : List Stmt} {e : Expr} {ρ : Env} {st : PState} {Q : α → Env → PState → Prop}
    {Q' : α → Val → PState → Prop} (h : Sim r (execBlockP H self rec ss ρ st) Q)
    (he : ∀ a ρ1 st1, Q a ρ1 st1 → ∃ v, e.evalP H self ρ1 st1 = .ok (v, st1) ∧ Q' a v st1) :
    SimR r (TaskSrc.blockRes (execBlockP H self rec (ss ++ [.ret e]) ρ st)) Q' :=
  h.retBy fun a ρ1 st1 hq => by
    obtain ⟨v, hv, hq'⟩ := he a ρ1 st1 hq
    exact ⟨v, st1, TaskSrc.execP_ret hv, hq'⟩

theorem Sim.blockRes_if {b : Bool} {e : Err} {o : OutcomeP} {st1 : PState}
    (h : Sim (if b then .ok () else .error e) o (fun _ _ st => st = st1)) (he : e ≠ .crash .recursion := by decide) :
    TaskSrc.blockRes o = if b then .ok (.atom .none, st1) else .error e := by
  cases b
  · rw [h he]; rfl
  · obtain ⟨ρ, st, ho, rfl⟩ := h; rw [ho]; rfl

theorem SimR.eq_none_map {r : Res α} {c : Res (Val × PState)} {F : α → PState}
    (h : SimR r c (fun a v st => v = .atom .none ∧ st = F a)) (hne : r ≠ .error (.crash .recursion)) :
    c = r.map (fun a => (.atom .none, F a)) := by
  cases r with
  | error e => exact h (fun he => hne (by rw [he]))
  | ok a => obtain ⟨v, st, hc, rfl, rfl⟩ := h; rw [hc]; rfl

end
end Pj.PyLite

/-
  Lemmas/PrintSrcCheckB.lean — concrete runs on the WBS `w1` of Lemmas/PrintSrcCheck.lean.  Stages 1, 2: the cell texts
  and the layout numbers.  Stage 3: the calls `__print_task_subtree` / `repr` make on the table (the log) are the model's
  rows (`subtreeRows`, the header row of `sheet`), and the value of `repr` is the model's `sheet` (through the primitive
  "text_repr" = `render`).  Every run that agrees with the model is an instance of the general theorems
  (Lemmas/PrintSrcRuns.lean: `fieldValue_w1` … `repr_w1`); where a run is compared with a literal text, the model is
  evaluated by the kernel.  See Lemmas/PrintSrc.lean.
-/
import PjVerif.Lemmas.PrintSrcRuns
namespace Pj.PrintSrc
open Pj.PyLite Pj.Print Pj.Extracted.Print
namespace Check

/-! ### stage 1: the cell texts -/

example : ((List.range 7).all (fun t => allFields.all (fun f =>
    decide (interpFieldValue S w1 FC t f = .ok (.atom (S.s (fieldValue ts1 t f))))))) = true :=
  List.all_eq_true.2 fun t _ => List.all_eq_true.2 fun f _ => decide_eq_true (fieldValue_w1 t f)

example : ((List.range 7).all (fun t => (List.range 7).all (fun l =>
    decide (interpLinkedId S w1 FC t (some l) = .ok (.atom (S.s (linkedId ts1 t l))))))) = true :=
  List.all_eq_true.2 fun t _ => List.all_eq_true.2 fun l _ => decide_eq_true (linkedId_w1 t l)

example : interpLinkedId S w1 FC 1 none = .ok (.atom (S.s [])) := interpLinkedId_eq w1 cLib_ok FC 1 none (by decide)

/-- the exact texts (what the real Python prints, up to the stand-ins `cFmt` / `cStr` of `cLib` for `strftime` and `str` of a
    number): links outside the WBS are marked, the hidden root is empty, duplicates stay -/
example : interpFieldValue S w1 FC 2 "predecessors".toList = .ok (.atom (S.s "[1,50(external),60(external)]".toList)) := by
  rw [fieldValue_w1]; decide +kernel
example : interpFieldValue S w1 FC 3 "predecessors".toList = .ok (.atom (S.s "[2,2,]".toList)) := by rw [fieldValue_w1]; decide +kernel
example : interpFieldValue S w1 FC 6 "parent".toList = .ok (.atom (S.s "50(external)".toList)) := by rw [fieldValue_w1]; decide +kernel
example : interpFieldValue S w1 FC 2 "PRIO".toList = .ok (.atom (S.s [])) := by rw [fieldValue_w1]; decide +kernel
example : interpFieldValue S w1 FC 4 "PRIO".toList = .ok (.atom (S.s "9".toList)) := by rw [fieldValue_w1]; decide +kernel
example : interpFieldValue S w1 FC 2 "Prio".toList = .ok (.atom (S.s "3".toList)) := by rw [fieldValue_w1]; decide +kernel
example : interpFieldValue S w1 FC 1 "end".toList = .ok (.atom (S.s "-".toList)) := by rw [fieldValue_w1]; decide +kernel
example : interpFieldValue S w1 FC 1 "estimate".toList = .ok (.atom (S.s "5".toList)) := by rw [fieldValue_w1]; decide +kernel
example : interpFieldValue S w1 FC 1 "spent".toList = .ok (.atom (S.s "-".toList)) := by rw [fieldValue_w1]; decide +kernel
example : interpFieldValue S w1 FC 1 "start".toList = .ok (.atom (S.s "@19000".toList)) := by rw [fieldValue_w1]; decide +kernel
example : interpFieldValue S w1 FC 3 "id".toList = .ok (.atom (S.s "x-3".toList)) := by rw [fieldValue_w1]; decide +kernel

/-! ### stage 2: the layout numbers -/

example : ((List.range 7).all (fun t => (List.range 3).all (fun lv => [0, 7, 30].all (fun cur =>
    decide (interpTitleLen S w1 FC t lv cur = .ok (.atom (i (titleLen ts1 8 lv t cur)))))))) = true :=
  List.all_eq_true.2 fun t _ => List.all_eq_true.2 fun lv _ => List.all_eq_true.2 fun cur _ =>
    decide_eq_true (titleLen_w1 t lv cur)
example : interpTitleLen S w1 FC 1 0 0 = .ok (.atom (i 8)) := by rw [titleLen_w1]; decide +kernel     -- "   Gamma"
example : interpTitleLen S w1 FC 0 0 0 = .ok (.atom (i 11)) := by rw [titleLen_w1]; decide +kernel

example : (allFields.all (fun f => [[0], [1, 5], [], [3, 6]].all (fun l =>
    decide (interpMaxFieldLen S w1 FC l f = .ok (.atom (i (maxFieldLen ts1 f 8 l))))))) = true :=
  List.all_eq_true.2 fun f _ => List.all_eq_true.2 fun l _ => decide_eq_true (maxFieldLen_w1 l f)
example : interpMaxFieldLen S w1 FC [1] "id".toList = .ok (.atom (i 3)) := by rw [maxFieldLen_w1]; decide +kernel           -- len("id") + 1 = len("x-3")
example : interpMaxFieldLen S w1 FC [1] "predecessors".toList = .ok (.atom (i 29)) := by rw [maxFieldLen_w1]; decide +kernel

/-! ### stage 3: the rows and the sheet -/

/-- two level colours only: level 2 falls back to GREY -/
def th1 : PyTheme := { header := some (some "91m".toList), levels := ["94m".toList, "96m".toList] }
/-- no header colour key (GREY), no level colours -/
def th2 : PyTheme := { header := none, levels := [] }
/-- header colour None -/
def th3 : PyTheme := { header := some none, levels := ["94m".toList] }

def fs1 : List Str := ["id", "name", "Prio", "predecessors", "nosuch"].map String.toList

def subtreeOK (th : PyTheme) (fields : List Str) (children : Bool) (level t : Nat) (log : List Atom) : Bool :=
  decide (interpSubtree S w1 th FC t fields level children log =
    .ok (log ++ logOfRows S (subtreeRows ts1 fields children (toTheme th) 8 level t)))

example : ([th1, th2, th3].all (fun th => [true, false].all (fun ch => [0, 1, 3, 5].all (fun t =>
    subtreeOK th fs1 ch 0 t [] && subtreeOK th fs1 ch 1 t [.bool true, .none])))) = true :=
  List.all_eq_true.2 fun th _ => List.all_eq_true.2 fun ch _ => List.all_eq_true.2 fun t _ =>
    Bool.and_eq_true_iff.2 ⟨decide_eq_true (subtree_w1 th fs1 ch 0 t _), decide_eq_true (subtree_w1 th fs1 ch 1 t _)⟩

/-- the exact log: depth first, three blanks per level, `print_color` "91m" overrides the level colour of task 2, a
    `print_color` None does not (task 3: level 2, beyond the two level colours: GREY "97m") -/
example : interpSubtree S w1 th1 FC 1 (["id", "name"].map String.toList) 0 true [] = .ok
    [.bool true, S.s "94m".toList, S.s "1".toList, S.s "Alpha".toList,
     .bool true, S.s "91m".toList, S.s "2".toList, S.s "   beta".toList,
     .bool true, S.s "97m".toList, S.s "x-3".toList, S.s "      ".toList,
     .bool true, S.s "96m".toList, S.s "4".toList, S.s "   Gamma".toList] := by rw [subtree_w1]; decide +kernel

/-- `children=False`: one row -/
example : interpSubtree S w1 th1 FC 1 (["id", "name"].map String.toList) 0 false [] = .ok
    [.bool true, S.s "94m".toList, S.s "1".toList, S.s "Alpha".toList] := by rw [subtree_w1]; decide +kernel

def reprOK (th : PyTheme) (tasks : List Nat) (fields : List Str) (children : Bool) : Bool :=
  let header : Option Str × List Cell :=
    ((toTheme th).header, fields.map (fun f => { text := f.map asciiUpper, color := (toTheme th).header }))
  let rows := header :: (tasks.map (subtreeRows ts1 fields children (toTheme th) 8 0)).flatten
  decide (interpRepr S w1 th FC tasks fields children =
    .ok (.atom (S.s (sheet ts1 7 tasks fields children (toTheme th))), logOfRows S rows))
  && decide (rowsOfLog S (logOfRows S rows) = some rows)

example : reprOK th1 [1, 5] fs1 true = true :=
  Bool.and_eq_true_iff.2 ((repr_w1 th1 [1, 5] fs1 true).imp decide_eq_true decide_eq_true)
example : reprOK th2 [0] fs1 true = true :=
  Bool.and_eq_true_iff.2 ((repr_w1 th2 [0] fs1 true).imp decide_eq_true decide_eq_true)
example : reprOK th3 [2, 4] fs1 false = true :=
  Bool.and_eq_true_iff.2 ((repr_w1 th3 [2, 4] fs1 false).imp decide_eq_true decide_eq_true)
example : reprOK th1 [] fs1 true = true :=
  Bool.and_eq_true_iff.2 ((repr_w1 th1 [] fs1 true).imp decide_eq_true decide_eq_true)
example : reprOK th1 [1] [] true = true :=
  Bool.and_eq_true_iff.2 ((repr_w1 th1 [1] [] true).imp decide_eq_true decide_eq_true)

end Check
end Pj.PrintSrc

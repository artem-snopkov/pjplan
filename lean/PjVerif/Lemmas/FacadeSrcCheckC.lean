/-
  Lemmas/FacadeSrcCheckC.lean — stage 3 of the translated tie for the list facades of task.py: concrete
  runs of `_ChildrenList.sort` (Extracted/FacadeSrc.lean) against `chSort` (Model/GraphOps.lean) for a concrete meaning of
  the library primitives.  The sorting runs are instances of `interpChSort_str_eq` / `interpChSort_list_eq`, their
  hypotheses tested on the library (`sortStrOK`, `sortListOK`, Lemmas/FacadeSrcRuns.lean); the failing runs are evaluated.
  `List.mergeSort` (in `sortBy`) does not reduce in the kernel (well-founded recursion), so the
  model's result is computed through `sortBy_eq_insSort` (Lemmas/FacadeSrcSort.lean): `chSort = chSortI`.
  See Lemmas/FacadeSrcCheck.lean / Lemmas/FacadeSrc.lean.
-/
import PjVerif.Lemmas.FacadeSrcCheckB
import PjVerif.Lemmas.FacadeSrcSort
import PjVerif.Lemmas.FacadeSrcRuns
namespace Pj.FacadeSrc
open Pj.PyLite Pj.Extracted Pj.Extracted.Facade Pj.TaskSrc Pj.TaskSrc.Check
namespace Check

/-- `chSort` with the insertion sort -/
def chSortI (s : G) (h : Uid) (key : Uid → Int) (rev : Bool) : G × Option Err :=
  let l := insSort (fun a b => if rev then decide (key b ≤ key a) else decide (key a ≤ key b)) (s.children h)
  ({ s with children := upd s.children h l }, none)

theorem chSort_eq (s : G) (h : Uid) (key : Uid → Int) (rev : Bool) : chSort s h key rev = chSortI s h key rev := by
  unfold chSort chSortI
  rw [sortBy_eq_insSort]

/-- the attributes of the tasks of `g6`: attribute 0 (`name`) a string, given by its rank; attribute 1 (`prio`) an `int`
    (two tasks share each value); attribute 2 (`note`) is `None` for some tasks -/
def attrOf (u k : Nat) : Atom :=
  match k with
  | 0 => .str ([9, 4, 2, 4, 7, 1, 3].getD u 0)
  | 1 => .num (([0, 3, 1, 3, 2, 1, 5] : List Int).getD u 0 : Rat)
  | _ => if u % 2 = 0 then .none else .str u

/-- `str(v)` of an `int` 0 … 9 is the digit, the string of rank 48 + v; of a string the string itself.
    `'-'.join([a, b])` for two strings of ranks < 100: the rank `100 * a + b` (the lexicographic order of the pairs) -/
def lib : Lib := fun name args =>
  if name = "__getattribute__" then
    match args with
    | [.ref u, .str k] => .ok (attrOf u k)
    | _ => .error stuck
  else if name = "str" then
    match args with
    | [.str k] => .ok (.str k)
    | [.num q] => if q.den = 1 then .ok (.str (48 + q.num.toNat)) else .error stuck
    | _ => .error stuck
  else if name = "join:-" then
    match args with
    | [.str a] => .ok (.str a)
    | [.str a, .str b] => .ok (.str (100 * a + b))
    | _ => .error stuck
  else .error stuck

def rank0 (u : Uid) : Int := ([9, 4, 2, 4, 7, 1, 3] : List Int).getD u 0
def rank1 (u : Uid) : Int := ([0, 3, 1, 3, 2, 1, 5] : List Int).getD u 0
def rank10 (u : Uid) : Int := 100 * (48 + rank1 u) + rank0 u

def agreeSort (s : G) (h : Uid) (keyV : Val) (key : Uid → Int) (rev : Bool) : Prop :=
  runE s (interpChSort lib FF h keyV rev) = expectR s.n noneV (chSortI s h key rev)
instance (s h keyV key rev) : Decidable (agreeSort s h keyV key rev) := by unfold agreeSort; infer_instance

def strV (k : Nat) : Val := .atom (.str k)

theorem sortStr_agree (s : G) (h : Uid) (k : Nat) (rev : Bool) (key : Uid → Int) (hh : sortStrOK lib s h k key = true) :
    agreeSort s h (strV k) key rev :=
  (sortStr_run lib s h k rev key hh).trans (congrArg _ (chSort_eq s h key rev))

theorem sortList_agree (s : G) (h : Uid) (ks : List Nat) (rev : Bool) (key : Uid → Int)
    (hh : sortListOK lib s h ks key = true) : agreeSort s h (.list (ks.map Atom.str)) key rev :=
  (sortList_run lib s h ks rev key hh).trans (congrArg _ (chSort_eq s h key rev))

-- one attribute: a string / an `int`, ascending and descending (ties keep their order, with `reverse` too)
example : allU g6 (fun h => decide (agreeSort g6 h (strV 0) rank0 false) && decide (agreeSort g6 h (strV 0) rank0 true) &&
    decide (agreeSort g6 h (strV 1) rank1 false) && decide (agreeSort g6 h (strV 1) rank1 true)) = true := by
  -- `interpChSort_str_eq`: the library reads the attributes of the children, and orders them as `rank0` / `rank1`
  have hlib : allU g6 (fun h => sortStrOK lib g6 h 0 rank0 && sortStrOK lib g6 h 1 rank1) = true := by decide +kernel
  refine allU_imp (fun h hh => ?_) hlib
  rw [Bool.and_eq_true] at hh
  exact and_intro (and_intro (and_intro (decide_eq_true (sortStr_agree g6 h 0 false rank0 hh.1))
    (decide_eq_true (sortStr_agree g6 h 0 true rank0 hh.1))) (decide_eq_true (sortStr_agree g6 h 1 false rank1 hh.2)))
    (decide_eq_true (sortStr_agree g6 h 1 true rank1 hh.2))
example : (chSortI g6 0 rank0 false).1.children 0 = [5, 2, 1, 3, 4] ∧ (chSortI g6 0 rank0 true).1.children 0 = [4, 1, 3, 2, 5] ∧
    (chSortI g6 0 rank1 false).1.children 0 = [2, 5, 4, 1, 3] ∧ (chSortI g6 0 rank1 true).1.children 0 = [1, 3, 4, 2, 5] := by
  decide +kernel
-- several attributes: `[prio, name]` (the string `str(prio) + '-' + name`), `[name]`
example : allU g6 (fun h => decide (agreeSort g6 h (.list [.str 1, .str 0]) rank10 false) &&
    decide (agreeSort g6 h (.list [.str 1, .str 0]) rank10 true) &&
    decide (agreeSort g6 h (.list [.str 0]) rank0 false)) = true := by
  have hlib : allU g6 (fun h => sortListOK lib g6 h [1, 0] rank10 && sortListOK lib g6 h [0] rank0) = true := by
    decide +kernel
  refine allU_imp (fun h hh => ?_) hlib
  rw [Bool.and_eq_true] at hh
  exact and_intro (and_intro (decide_eq_true (sortList_agree g6 h [1, 0] false rank10 hh.1))
    (decide_eq_true (sortList_agree g6 h [1, 0] true rank10 hh.1))) (decide_eq_true (sortList_agree g6 h [0] false rank0 hh.2))
example : (chSortI g6 0 rank10 false).1.children 0 = [5, 2, 4, 1, 3] := by decide +kernel
-- the model's statement for these runs is about `chSort`
example : runE g6 (interpChSort lib FF 0 (strV 0) true) = expectR g6.n noneV (chSort g6 0 rank0 true) :=
  sortStr_run lib g6 0 0 true rank0 (by decide +kernel)
/-- a key that is neither a `str` nor a list: RuntimeError -/
example : runE g6 (interpChSort lib FF 0 noneV false) = .error .runtime := by decide +kernel
/-- keys that cannot be compared (`None` and a string: Python raises TypeError): outside the fragment, the run is stuck -/
example : runE g6 (interpChSort lib FF 0 (strV 2) false) = .error stuck := by decide +kernel
/-- an attribute the library does not know: stuck -/
example : runE g6 (interpChSort noLib FF 0 (strV 0) false) = .error stuck := by decide +kernel

end Check
end Pj.FacadeSrc

/-
  Lemmas/CritPathSrcRuns.lean — how the concrete runs of Lemmas/CritPathSrcCheckB.lean follow from the theorems (this
  file holds no run).  The exact list a run returns is the list the program over the typed store returns (`interpCriticalPath_of_cpA`), and
  that program is cheap to evaluate; `agree` comes from `interpCriticalPath_grid`, whose hypotheses are decidable
  statements about the model alone (`GridOK`).  See Lemmas/CritPathSrc.lean.
-/
import PjVerif.Lemmas.CritPathSrcD
import PjVerif.Lemmas.CritPathSrcCheck
namespace Pj.CritPathSrc
open Pj.PyLite Pj.CPEnv

theorem G8_of_den (q : Rat) (h : (8 * q).den = 1) : G8 q := ⟨(8 * q).num, Rat.ext rfl h⟩

def onGridB (e : CPEnv) : Bool := (leaves e).all (fun t => (8 * e.dur t).den == 1)

theorem onGrid_of_B (e : CPEnv) (h : onGridB e = true) : OnGrid e := by
  intro t ht
  have := List.all_eq_true.mp h t ht
  exact G8_of_den _ (by simpa using this)

instance (e : CPEnv) (tid : Uid → Int) : Decidable (IdInj e tid) := by unfold IdInj; infer_instance
instance (e : CPEnv) : Decidable (DescOK e) := by unfold DescOK; infer_instance

/-- the hypotheses of `interpCriticalPath_grid` as one decidable statement -/
def GridOK (e : CPEnv) (tid : Uid → Int) : Prop :=
  IdInj e tid ∧ DescOK e ∧ acyclicB e = true ∧ onGridB e = true ∧ ∀ len ∈ projectLen e, len < 100000000

instance (e : CPEnv) (tid : Uid → Int) : Decidable (GridOK e tid) := by unfold GridOK; infer_instance

namespace Check

theorem agree_of_grid {e : CPEnv} {tid : Uid → Int} (h : GridOK e tid) (hF : 2 * e.n + 9 ≤ FC) : agree e tid = true := by
  obtain ⟨hid, hdesc, hac, hg, hlt⟩ := h
  obtain ⟨r, l, hr, hl, hnd, hmem⟩ := interpCriticalPath_grid e tid hid hdesc hac (onGrid_of_B e hg) hlt FC hF
  have hnd' : (r.map Atom.ref).Nodup := List.Pairwise.map _ (fun a b hab h => hab (Atom.ref.inj h)) hnd
  unfold agree
  rw [hr, hl]
  simp [refs, sameSet, eraseDups_eq_self_of_nodup _ hnd', hmem]

/-- run and model fail with the same error -/
theorem agree_of_error {e : CPEnv} {tid : Uid → Int} {a : Err} (hr : interpCriticalPath FC e tid = .error a)
    (hm : e.criticalPath = .error a) : agree e tid = true := by
  unfold agree
  rw [hr, hm]
  exact decide_eq_true rfl

end Check
end Pj.CritPathSrc

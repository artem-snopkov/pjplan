/-
  Lemmas/FacadeSrcCheckD.lean — stage 4 of the translated tie for the list facades of task.py: concrete
  runs of `_ImmutableTaskList.__lshift__ / __rshift__` and of the bulk assignment `tasks.parent = p`
  (`_ImmutableTaskList.__setattr__` for the key `parent`; Extracted/FacadeSrc.lean) against `step s (.listLshift …)`,
  `(.listRshift …)`, `(.listSetParent …)` (Model/GraphOps.lean).  See Lemmas/FacadeSrcCheck.lean / Lemmas/FacadeSrc.lean.
-/
import PjVerif.Lemmas.FacadeSrcCheck
import PjVerif.Lemmas.FacadeSrcRuns
namespace Pj.FacadeSrc
open Pj.PyLite Pj.Extracted Pj.Extracted.Facade Pj.TaskSrc Pj.TaskSrc.Check
namespace Check

def agreeListOps (s : G) (ts : List Uid) (v : Val) (l : List Uid) : Bool :=
  decide (runE s (interpListLshift FF ts v) = expectR s.n v (step s (.listLshift ts l))) &&
  decide (runE s (interpListRshift FF ts v) = expectR s.n v (step s (.listRshift ts l)))

/-- lists of two / three tasks (also with a repetition), every task / a fixed pair as the other side -/
example : allU g2 (fun a => allU g2 (fun x => agreeListOps g2 [a, 1] (refV x) [x])) = true := by
  -- no call ends in RecursionError (evaluated on the model), so every run is `interpListLshift_eq` / `interpListRshift_eq`
  have hrec : allU g2 (fun a => allU g2 (fun x => noRec (step g2 (.listLshift [a, 1] [x])) &&
      noRec (step g2 (.listRshift [a, 1] [x])))) = true := by decide +kernel
  exact allU_imp (fun a => allU_imp fun x => listOps_run g2 (by decide) [a, 1] (valueOf_task x)) hrec
example : allU g1 (fun a => agreeListOps g1 [a, 10, a] (refs [6, 11]) [6, 11] && agreeListOps g1 [12, a] (refV 3) [3]) = true := by
  have hrec : allU g1 (fun a => (noRec (step g1 (.listLshift [a, 10, a] [6, 11])) &&
      noRec (step g1 (.listRshift [a, 10, a] [6, 11]))) && (noRec (step g1 (.listLshift [12, a] [3])) &&
      noRec (step g1 (.listRshift [12, a] [3])))) = true := by decide +kernel
  exact allU_imp (fun a => and_imp (listOps_run g1 (by decide) [a, 10, a] (valueOf_refs _))
    (listOps_run g1 (by decide) [12, a] (valueOf_task 3))) hrec
example : allU g3 (fun a => allU g3 (fun x => agreeListOps g3 [a, 2] (refV x) [x])) = true := by decide +kernel
example : agreeListOps g1 [] (refV 3) [3] = true ∧ agreeListOps g1 [10, 11] noneV [] = true :=
  ⟨listOps_run g1 (by decide) [] (valueOf_task 3) (by decide +kernel),
   listOps_run g1 (by decide) [10, 11] valueOf_none (by decide +kernel)⟩
example : (step g1 (.listLshift [10, 11] [6])).2 = none ∧ (step g1 (.listLshift [10, 11] [6])).1.succs 6 = [7, 10, 11] ∧
    (step g1 (.listLshift [10, 11] [6])).1.preds 11 = [6] := by decide +kernel
/-- not atomic: the first task is linked, the second is rejected (it would be its own predecessor) -/
example : (step g1 (.listLshift [10, 11] [11])).2 = some .runtime ∧ (step g1 (.listLshift [10, 11] [11])).1.preds 10 = [11] := by
  decide +kernel

def agreeSetParent (s : G) (ts : List Uid) (p : Option Uid) : Prop :=
  runE s (interpListSetParent FF ts p) = expectR s.n noneV (step s (.listSetParent ts p))
instance (s ts p) : Decidable (agreeSetParent s ts p) := by unfold agreeSetParent; infer_instance

-- `tasks.parent = q` for a task `q`: no call ends in RecursionError (evaluated on the model), so every run is
-- `interpListSetParent_some_eq`; `tasks.parent = None`: `interpListSetParent_inv_eq` on the reachable states g1, g2
-- (`g1_Inv`, `g2_Inv`: Lemmas/TaskSrcRuns.lean), hidden roots included
example : allU g2 (fun a => (anchorsOpt g2).all (fun p => decide (agreeSetParent g2 [a, 4] p))) = true := by
  have hrec : allU g2 (fun a => ([a, 4].all (fun t => decide (t < g2.n)) && noRec (step g2 (.listSetParent [a, 4] none))) &&
      allU g2 (fun q => noRec (step g2 (.listSetParent [a, 4] (some q))))) = true := by decide +kernel
  exact allU_imp (fun a => all_none_imp (dec_imp (listSetParent_none_run g2 g2_Inv (by decide) [a, 4]))
    fun q => dec_imp (listSetParent_run g2 (by decide) [a, 4] q)) hrec
example : allU g1 (fun a => [none, some 3, some 10, some 8].all (fun p => decide (agreeSetParent g1 [a, 10] p))) = true := by
  have hrec : allU g1 (fun a => ([a, 10].all (fun t => decide (t < g1.n)) && noRec (step g1 (.listSetParent [a, 10] none))) &&
      [3, 10, 8].all (fun q => noRec (step g1 (.listSetParent [a, 10] (some q))))) = true := by decide +kernel
  exact allU_imp (fun a => all_none_imp (l := [3, 10, 8]) (dec_imp (listSetParent_none_run g1 g1_Inv (by decide) [a, 10]))
    fun q => dec_imp (listSetParent_run g1 (by decide) [a, 10] q)) hrec
example : allU g3 (fun a => (anchorsOpt g3).all (fun p => decide (agreeSetParent g3 [a, 2] p))) = true := by decide +kernel
example : (step g1 (.listSetParent [10, 11] (some 3))).2 = none ∧
    (step g1 (.listSetParent [10, 11] (some 3))).1.children 3 = [10, 11] ∧
    (step g1 (.listSetParent [10, 11] (some 3))).1.owner 11 = some 0 := by decide +kernel
/-- not atomic: 10 has moved when 2 (linked with 3) is rejected -/
example : (step g1 (.listSetParent [10, 2, 11] (some 3))).2 = some .runtime ∧
    (step g1 (.listSetParent [10, 2, 11] (some 3))).1.children 3 = [10] ∧ agreeSetParent g1 [10, 2, 11] (some 3) :=
  ⟨by decide +kernel, by decide +kernel, listSetParent_run g1 (by decide) [10, 2, 11] 3 (by decide +kernel)⟩
example : (step g1 (.listSetParent [2, 5] none)).2 = none ∧ (step g1 (.listSetParent [2, 5] none)).1.children 0 = [1, 3, 2] ∧
    (step g1 (.listSetParent [2, 5] none)).1.parent 5 = none := by decide +kernel

end Check
end Pj.FacadeSrc

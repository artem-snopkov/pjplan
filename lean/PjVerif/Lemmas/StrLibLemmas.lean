/-
  Lemmas/StrLibLemmas.lean — the facts about a string library `S` with `S.OK` (Lemmas/StrLib.lean) that the three
  string-building ties share: `==` on keys is `==` on texts, `x in o.__dict__` is a lookup, literal names; and the tactic
  `prim_of` for the branches of a primitive table.
-/
import PjVerif.Lemmas.StrLib
import PjVerif.Lemmas.PyLiteSteps
namespace Pj.PrintSrc
open Pj.PyLite Pj.Print

/-- a name that starts with `lit:`, in the terms of the primitive tables -/
theorem litName (name : String) (h : "lit:".toList.isPrefixOf name.toList = true) :
    name.startsWith "lit:" = true ∧ (name.drop 4).toString.toList = name.toList.drop 4 := by
  obtain ⟨t, ht⟩ := List.isPrefixOf_iff_prefix.1 h
  obtain rfl : name = "lit:" ++ String.ofList t := String.toList_injective (by simp [← ht])
  constructor
  · simp
  · simp [String.toList_copy_drop]

set_option hygiene false in
/-- a primitive of the table `t` whose name is not a literal: the dispatch on the name.  (Not hygienic: `oneTask` is the
    helper of the table's own file.) -/
macro "prim_of " t:ident : tactic => `(tactic|
  (unfold $t
   rw [if_neg (by decide +kernel)]
   simp [oneTask, oneStr, one, pure, Except.pure]))

variable {S : Lib}

theorem D_s (hS : S.OK) (x : Str) : S.D (S.I x) = x := hS x
theorem text_s (hS : S.OK) (x : Str) : S.text (S.s x) = x := hS x

theorem s_ne_none (x : Str) : (S.s x = Atom.none) = False := by simp [Lib.s]

theorem pyEq_s (hS : S.OK) (a b : Str) : (S.s a).pyEq (S.s b) = decide (a = b) := by
  simp only [Atom.pyEq, Lib.s, Atom.norm]
  by_cases h : a = b
  · simp [h]
  · have : S.I a ≠ S.I b := fun e => h (by rw [← hS a, ← hS b, e])
    simp [h, this]

theorem pyEq_optRefA (a b : Option Nat) : (optRefA a).pyEq (optRefA b) = decide (a = b) := by
  cases a <;> cases b <;> simp [optRefA, Atom.pyEq, Atom.norm]

theorem any_dict (hS : S.OK) (d : List (Str × Atom)) (x : Str) :
    (d.map (fun p => S.s p.1)).any (fun v => v.pyEq (S.s x)) = (lookupA d x).isSome := by
  induction d with
  | nil => rfl
  | cons p d ih =>
    simp only [List.map_cons, List.any_cons, ih, pyEq_s hS, lookupA, List.find?_cons]
    by_cases h : p.1 = x
    · simp [h]
    · have h' : (p.1 == x) = false := by simpa using h
      simp [h, h']

end Pj.PrintSrc

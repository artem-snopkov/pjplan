/-
  Lemmas/CritPathSrcA1.lean — layer A of the tie for alg/critical_path.py (see Lemmas/CritPathSrcA.lean), part 1:
  how a write and an allocation on the PyLite heap read on the typed store, the rules by which a translated body is
  walked beside the store program, and the small functions (`_PNode()`, `_PLink()`, `__new_node`, `__connect`,
  `__add_work`).
-/
import PjVerif.Lemmas.CritPathSrcStore
import PjVerif.Lemmas.PyLogic
namespace Pj.CritPathSrc
open Pj.PyLite Pj.Extracted.CritPath
open Pj.TaskSrc (callPV_eq callPV_bound execP_assign execBlockP_cons execBlockP_nil execBlockP_append execBlockP_one execP_forIn noRec Env.get?_set Env.get?_cons Env.get?_nil)
set_option linter.unusedSimpArgs false
set_option linter.unusedVariables false

theorem fnV_succ (e : CPEnv) (tid : Uid → Int) (F k : Nat) (params : List String) (body : List Stmt)
    (h : cpFuns k = some (params, body)) (args : List Val) (st : PState) :
    (Hc e tid (F + 1)).fnV k args st = callPV (Hc e tid F) params body args st :=
  TaskSrc.progH_fnV_succ (cpPrim e tid) cpFuns F k params body h args st

theorem Hc_prim (e : CPEnv) (tid : Uid → Int) (F : Nat) : (Hc e tid F).prim = cpPrim e tid :=
  TaskSrc.progH_prim (cpPrim e tid) cpFuns F

theorem cf_PNode : cpFuns fn_PNode_init = some (src_PNode_init_params, src_PNode_init) := rfl
theorem cf_PLink : cpFuns fn_PLink_init = some (src_PLink_init_params, src_PLink_init) := rfl
theorem cf_init : cpFuns fn_CPC_init = some (src_CPC_init_params, src_CPC_init) := rfl
theorem cf_insert : cpFuns fn_CPC_insert_task = some (src_CPC_insert_task_params, src_CPC_insert_task) := rfl
theorem cf_new_node : cpFuns fn_CPC_new_node = some (src_CPC_new_node_params, src_CPC_new_node) := rfl
theorem cf_connect : cpFuns fn_CPC_connect = some (src_CPC_connect_params, src_CPC_connect) := rfl
theorem cf_add_work : cpFuns fn_CPC_add_work = some (src_CPC_add_work_params, src_CPC_add_work) := rfl
theorem cf_forward : cpFuns fn_CPC_forward = some (src_CPC_forward_params, src_CPC_forward) := rfl
theorem cf_backward : cpFuns fn_CPC_backward = some (src_CPC_backward_params, src_CPC_backward) := rfl
theorem cf_calc : cpFuns fn_CPC_calc = some (src_CPC_calc_params, src_CPC_calc) := rfl
theorem cf_cp : cpFuns fn_WBS_critical_path = some (src_WBS_critical_path_params, src_WBS_critical_path) := rfl

section store
variable (B : Nat)

theorem getO_idx {σ : Store} {a : Nat} {o : Obj} (h : getO B σ a = some o) : σ[a - B]? = some o := by
  unfold getO at h
  by_cases hlt : a < B
  · simp [hlt] at h
  · simpa only [hlt, if_false] using h

theorem encHeap_get {σ : Store} {a : Nat} {o : Obj} (h : getO B σ a = some o) : encHeap B σ a = encObj o := by
  simp only [encHeap, h]

theorem heapSet_enc {σ : Store} {a : Nat} {o o' : Obj} {f : String} {v : Val} (h : getO B σ a = some o)
    (h' : (encObj o).set f v = encObj o') : heapSet (encHeap B σ) a f v = encHeap B (setO B σ a o') :=
  heapSet_eq_of (by simp only [encHeap, getO_setO B σ a a o o' h, if_true, h, h']) fun j hj => by
    simp only [encHeap, getO_setO B σ a j o o' h, hj, if_false]

/-- `inst` (here and in `heapSet_new`): the `if` of the interpreter's allocation comes with the instance its own
    elaboration found, not the one this statement would elaborate to -/
theorem alloc_enc (σ : Store) (o : Obj) (inst : ∀ j, Decidable (j = B + σ.length)) :
    (fun j => @ite _ (j = B + σ.length) (inst j) (encObj o) (encHeap B σ j)) = encHeap B (σ ++ [o]) := by
  funext j
  simp only [encHeap, getO_append]
  by_cases hj : j = B + σ.length <;> simp [hj]

theorem heapSet_new (h : Nat → PyLite.Env) (a : Nat) (E : PyLite.Env) (f : String) (v : Val)
    (inst : ∀ j, Decidable (j = a)) :
    heapSet (fun j => @ite _ (j = a) (inst j) E (h j)) a f v = fun j => @ite _ (j = a) (inst j) (E.set f v) (h j) := by
  funext j
  by_cases hj : j = a <;> simp [heapSet, hj]

theorem initSt_eq : initSt B = mkSt B [] := by
  simp only [initSt, mkSt, List.length_nil, Nat.add_zero]
  congr 1
  funext j
  simp [encHeap, getO]

theorem mkSt_eq (σ : Store) :
    mkSt B σ = { L := [], heap := encHeap B σ, done := [], res := [], reads := B + σ.length, boxes := [] } := rfl

@[simp] theorem mkSt_heap (σ : Store) : (mkSt B σ).heap = encHeap B σ := rfl
@[simp] theorem mkSt_reads (σ : Store) : (mkSt B σ).reads = B + σ.length := rfl
@[simp] theorem mkSt_L (σ : Store) : (mkSt B σ).L = [] := rfl
@[simp] theorem mkSt_done (σ : Store) : (mkSt B σ).done = [] := rfl
@[simp] theorem mkSt_res (σ : Store) : (mkSt B σ).res = [] := rfl
@[simp] theorem mkSt_boxes (σ : Store) : (mkSt B σ).boxes = [] := rfl

/-- `r`: the allocation pointer, in whatever form the run has left it -/
theorem mkSt_set {σ : Store} {a : Nat} {o o' : Obj} {f : String} {v : Val} (h : getO B σ a = some o)
    (h' : (encObj o).set f v = encObj o') (r : Nat) (hr : r = B + σ.length) :
    ({ L := [], heap := heapSet (encHeap B σ) a f v, done := [], res := [], reads := r, boxes := [] } : PState)
      = mkSt B (setO B σ a o') := by
  rw [mkSt_eq, heapSet_enc B h h', length_setO, hr]

end store

attribute [pylite_step] mkSt_heap mkSt_reads mkSt_L mkSt_done mkSt_res mkSt_boxes length_setO encObj refsN

theorem pyMax_num (a b : Rat) : pyMax (.atom (.num a)) (.atom (.num b)) = .ok (.atom (.num (pyMaxR a b))) := by
  by_cases h : a < b <;>
    simp [pyMax, PyLite.compare, cmpRat, pyMaxR, Atom.asNum?, h, bind, Except.bind, pure, Except.pure]

theorem pyMin_num (a b : Rat) : pyMin (.atom (.num a)) (.atom (.num b)) = .ok (.atom (.num (pyMinR a b))) := by
  by_cases h : b < a <;>
    simp [pyMin, PyLite.compare, cmpRat, pyMinR, Atom.asNum?, h, bind, Except.bind, pure, Except.pure]

theorem construct_PNode (e : CPEnv) (tid : Uid → Int) (F B : Nat) (self ρ : PyLite.Env) (σ : Store) :
    (Expr.construct fn_PNode_init .listNil).evalP (Hc e tid (F + 1)) self ρ (mkSt B σ)
      = .ok (.atom (.ref (B + σ.length)), mkSt B (σ ++ [.node [] [] none none])) := by
  simp only [mkSt_eq, Expr.evalP, Expr.evalArgsP, bind, Except.bind, pure, Except.pure]
  rw [fnV_succ _ _ _ _ _ _ cf_PNode]
  simp [pylite_step, src_PNode_init_params, src_PNode_init, mkSt_eq]
  refine ⟨?_, by omega⟩
  simp only [heapSet_new]
  rw [← alloc_enc B σ _ (fun j => instDecidableEqNat j _)]
  simp [Env.set, encObj, refsN, optNum]

theorem construct_PLink (e : CPEnv) (tid : Uid → Int) (F B : Nat) (self ρ : PyLite.Env) (σ : Store) (eu es ee : Expr)
    (u : Rat) (s t : Nat)
    (hu : eu.evalP (Hc e tid (F + 1)) self ρ (mkSt B σ) = .ok (.atom (.num u), mkSt B σ))
    (hs : es.evalP (Hc e tid (F + 1)) self ρ (mkSt B σ) = .ok (.atom (.ref s), mkSt B σ))
    (ht : ee.evalP (Hc e tid (F + 1)) self ρ (mkSt B σ) = .ok (.atom (.ref t), mkSt B σ)) :
    (Expr.construct fn_PLink_init (.listCons eu (.listCons es (.listCons ee .listNil)))).evalP (Hc e tid (F + 1)) self ρ
        (mkSt B σ)
      = .ok (.atom (.ref (B + σ.length)), mkSt B (σ ++ [.link s t u])) := by
  simp only [mkSt_eq] at hu hs ht ⊢
  simp only [Expr.evalP, Expr.evalArgsP, bind, Except.bind, pure, Except.pure, hu, hs, ht]
  rw [fnV_succ _ _ _ _ _ _ cf_PLink]
  simp [pylite_step, src_PLink_init_params, src_PLink_init, mkSt_eq]
  refine ⟨?_, by omega⟩
  simp only [heapSet_new]
  rw [← alloc_enc B σ _ (fun j => instDecidableEqNat j _)]
  simp [Env.set, encObj, refsN, optNum]

/-- a step of the store program as a model step: `none` (the run raises or leaves the typed store, or the fuel of
    `insertA` / `forwardA` / `backwardA` is used up) is outside the claim, like the model's RecursionError in `Sim` -/
def ofOpt {α : Type} : Option α → Res α
  | some a => .ok a
  | none => .error (.crash .recursion)

section rules
variable {α β : Type} {H : PHandlers} {self : PyLite.Env} {rec : List Atom → PState → Res (Val × PState)}
  {o : OutcomeP} {Q : α → PyLite.Env → PState → Prop} {Q' : β → PyLite.Env → PState → Prop}

theorem Sim.outside : Sim (ofOpt (none : Option α)) o Q := fun h => absurd rfl h

theorem SimR.outside {c : Res (Val × PState)} {Q : α → Val → PState → Prop} : SimR (ofOpt (none : Option α)) c Q :=
  fun h => absurd rfl h

theorem SimR.of_some {x : Option α} {c : Res (Val × PState)} {V : α → Val} {S : α → PState}
    (h : SimR (ofOpt x) c (fun a v st => v = V a ∧ st = S a)) {a : α} (hx : x = some a) : c = .ok (V a, S a) := by
  subst hx
  obtain ⟨_, _, hc, rfl, rfl⟩ := h
  exact hc

theorem ofOpt_foldlM (m : α → β → Option α) (l : List β) (a : α) :
    ofOpt (l.foldlM m a) = l.foldlM (fun a b => ofOpt (m a b)) a := by
  induction l generalizing a with
  | nil => rfl
  | cons b l ih =>
    rw [List.foldlM_cons, List.foldlM_cons]
    cases m a b with
    | none => rfl
    | some a1 => exact ih a1

/-- sequencing.  The store program binds by `match x with | none => none | some a => …`, which no rule stated with
    `>>=` unifies with: `split` the goal first, then this rule takes the `some` case -/
theorem Sim.consEq {x : Option α} {a : α} {r : Res β} {s : Stmt} {ss : List Stmt} {ρ : PyLite.Env} {st : PState}
    (hx : x = some a) (h1 : Sim (ofOpt x) (s.execP H self rec ρ st) Q)
    (h2 : ∀ ρ1 st1, Q a ρ1 st1 → Sim r (execBlockP H self rec ss ρ1 st1) Q') :
    Sim r (execBlockP H self rec (s :: ss) ρ st) Q' := by
  subst hx
  obtain ⟨ρ1, st1, ho, hq⟩ := h1
  rw [execBlockP_cons, ho]
  exact h2 ρ1 st1 hq

theorem Sim.mapO {x : Option α} {f : α → β} (h : Sim (ofOpt x) o Q) (hQ : ∀ a ρ st, Q a ρ st → Q' (f a) ρ st) :
    Sim (ofOpt (x.map f)) o Q' := by
  cases x with
  | none => exact Sim.outside
  | some a => obtain ⟨ρ, st, ho, hq⟩ := h; exact ⟨ρ, st, ho, hQ _ _ _ hq⟩

variable {B : Nat} {σ : Store} {a : Nat}

/-- reading the calculator, a node, a link: stated with the store program's own `match`, so that they apply to it as
    written -/
theorem Sim.readCalc {k : List Nat → List (Atom × Atom) → List (Atom × Atom) → Atom → List Atom → Option β}
    (h : ∀ n l t d m, getO B σ a = some (.calc n l t d m) → Sim (ofOpt (k n l t d m)) o Q') :
    Sim (ofOpt (match getO B σ a with | some (.calc n l t d m) => k n l t d m | _ => none)) o Q' := by
  split
  · next hg => exact h _ _ _ _ _ hg
  · exact Sim.outside

theorem Sim.readNode {k : List Nat → List Nat → Option Rat → Option Rat → Option β}
    (h : ∀ fw bw su eu, getO B σ a = some (.node fw bw su eu) → Sim (ofOpt (k fw bw su eu)) o Q') :
    Sim (ofOpt (match getO B σ a with | some (.node fw bw su eu) => k fw bw su eu | _ => none)) o Q' := by
  split
  · next hg => exact h _ _ _ _ hg
  · exact Sim.outside

theorem Sim.readLink {k : Nat → Nat → Rat → Option β}
    (h : ∀ s t u, getO B σ a = some (.link s t u) → Sim (ofOpt (k s t u)) o Q') :
    Sim (ofOpt (match getO B σ a with | some (.link s t u) => k s t u | _ => none)) o Q' := by
  split
  · next hg => exact h _ _ _ hg
  · exact Sim.outside

end rules

/-- `stOf a`: the state that belongs to the accumulator `a`; `P a ρ`: what the locals satisfy -/
theorem forLoopP_foldO {α β : Type} (x : String) (body : PyLite.Env → PState → OutcomeP)
    (stOf : α → PState) (P : α → PyLite.Env → Prop) (m : α → β → Option α) (g : β → Atom) :
    ∀ (l : List β),
      (∀ a b ρ a', b ∈ l → P a ρ → m a b = some a' →
        ∃ ρ', body (ρ.set x (.atom (g b))) (stOf a) = .normal ρ' (stOf a') ∧ P a' ρ') →
      ∀ a ρ a', P a ρ → l.foldlM m a = some a' →
        ∃ ρ', forLoopP x body (l.map g) ρ (stOf a) = .normal ρ' (stOf a') ∧ P a' ρ' := by
  intro l hb a ρ a' hP h
  have hl := Sim.forLoop x body g (fun a b => ofOpt (m a b)) (fun a ρ st => st = stOf a ∧ P a ρ) l
    (fun a b ρ st hm ⟨hst, hP⟩ => by
      subst hst
      cases hs : m a b with
      | none => exact Sim.outside
      | some a1 => obtain ⟨ρ', h1, h2⟩ := hb a b ρ a1 hm hP hs; exact Sim.ok h1 ⟨rfl, h2⟩) a ρ (stOf a) ⟨rfl, hP⟩
  rw [← ofOpt_foldlM, h] at hl
  obtain ⟨ρ', _, h1, rfl, h2⟩ := hl
  exact ⟨ρ', h1, h2⟩

theorem new_node_simR (e : CPEnv) (tid : Uid → Int) (B : Nat) (σ : Store) (F : Nat) :
    SimR (ofOpt (newNodeA B σ)) ((Hc e tid (F + 2)).fnV fn_CPC_new_node [.atom (.ref B)] (mkSt B σ))
      (fun p v st => v = .atom (.ref p.1) ∧ st = mkSt B p.2) := by
  unfold newNodeA
  simp only [newPNode]
  split
  next nodes links tasks ed mem hg =>
    rw [fnV_succ _ _ _ _ _ _ cf_new_node]
    have hc := fun ρ => construct_PNode e tid F B [] ρ σ
    have hr := encHeap_get B hg
    have hw := mkSt_set B (f := "__nodes") (v := .list (nodes.map Atom.ref ++ [Atom.ref (B + σ.length)])) hg
      (o' := .calc (nodes ++ [B + σ.length]) links tasks ed mem) (by simp [encObj, Env.set, refsN])
    refine ⟨_, _, ?_, rfl, rfl⟩
    simp [pylite_step, src_CPC_new_node_params, src_CPC_new_node, ↓hc, hr, hw]
  next => exact SimR.outside

theorem connect_simR (e : CPEnv) (tid : Uid → Int) (B : Nat) (σ : Store) (s t : Nat) (u : Rat) (F : Nat) :
    SimR (ofOpt (connectA B σ s t u))
      ((Hc e tid (F + 2)).fnV fn_CPC_connect [.atom (.ref s), .atom (.ref t), .atom (.num u)] (mkSt B σ))
      (fun p v st => v = .atom (.ref p.1) ∧ st = mkSt B p.2) := by
  unfold connectA
  simp only [newPLink]
  split
  next fw bw su eu hg1 =>
    split
    next fw' bw' su' eu' hg2 =>
      rw [fnV_succ _ _ _ _ _ _ cf_connect]
      have hc := fun ρ hu hs ht => construct_PLink e tid F B [] ρ σ (.var "units") (.var "start") (.var "end") u s t hu hs ht
      have hr1 := encHeap_get B hg1
      have hr2 := encHeap_get B hg2
      have hw1 := mkSt_set B (f := "forward_links") (v := .list (fw.map Atom.ref ++ [Atom.ref (B + σ.length)])) hg1
        (o' := .node (fw ++ [B + σ.length]) bw su eu) (by simp [encObj, Env.set, refsN])
      have hw2 := mkSt_set B (f := "backward_links") (v := .list (bw'.map Atom.ref ++ [Atom.ref (B + σ.length)])) hg2
        (o' := .node fw' (bw' ++ [B + σ.length]) su' eu') (by simp [encObj, Env.set, refsN])
      refine ⟨_, _, ?_, rfl, rfl⟩
      simp [pylite_step, src_CPC_connect_params, src_CPC_connect, ↓hc, hr1, hr2, hw1, hw2]
    next => exact SimR.outside
  next => exact SimR.outside

theorem connect_sim (e : CPEnv) (tid : Uid → Int) (B : Nat) (σ σ' : Store) (s t : Nat) (u : Rat) (r : Nat)
    (h : connectA B σ s t u = some (r, σ')) (F : Nat) :
    (Hc e tid (F + 2)).fnV fn_CPC_connect [.atom (.ref s), .atom (.ref t), .atom (.num u)] (mkSt B σ)
      = .ok (.atom (.ref r), mkSt B σ') :=
  SimR.of_some (connect_simR e tid B σ s t u F) h

def awLoop : Stmt := src_CPC_add_work.getD 4 .pass
def awBody : List Stmt := match awLoop with | .forIn _ _ b => b | _ => []
theorem awLoop_eq : awLoop = .forIn "p" (.var "predecessors") awBody := rfl

theorem add_work_simR (e : CPEnv) (tid : Uid → Int) (B : Nat) (σ : Store) (ida : Atom) (u : Rat) (preds : List Atom)
    (F : Nat) :
    SimR (ofOpt (addWorkA B σ ida u preds))
      ((Hc e tid (F + 3)).fnV fn_CPC_add_work [.atom (.ref B), .atom ida, .atom (.num u), .list preds] (mkSt B σ))
      (fun σ' v st => v = .atom .none ∧ st = mkSt B σ') := by
  rw [fnV_succ _ _ _ _ _ _ cf_add_work, callPV_bound rfl]
  refine Sim.retNone (Q := fun σ' st => st = mkSt B σ') ?_
  unfold addWorkA src_CPC_add_work
  split
  next => exact Sim.outside
  next s σ1 h1 =>
    refine Sim.consEq h1 (SimR.assignCall (by simp [pylite_step]) (new_node_simR e tid B σ F)) fun _ _ h => ?_
    obtain ⟨_, rfl, rfl, rfl⟩ := h
    split
    next => exact Sim.outside
    next t σ2 h2 =>
      refine Sim.consEq h2 (SimR.assignCall (by simp [pylite_step]) (new_node_simR e tid B σ1 F)) fun _ _ h => ?_
      obtain ⟨_, rfl, rfl, rfl⟩ := h
      split
      next => exact Sim.outside
      next l σ3 h3 =>
        refine Sim.consEq h3 (SimR.assignCall (by simp [pylite_step]) (connect_simR e tid B σ2 s t u F)) fun _ _ h => ?_
        obtain ⟨_, rfl, rfl, rfl⟩ := h
        refine Sim.readCalc fun nodes links tasks ed mem hg => ?_
        have hr := encHeap_get B hg
        have hw := mkSt_set B (f := "__links") (v := .dict (Dict.insert links ida (.ref l))) hg
          (o' := .calc nodes (Dict.insert links ida (.ref l)) tasks ed mem) (by simp [encObj, Env.set, refsN])
        refine Sim.step (st1 := mkSt B (setO B σ3 B (.calc nodes (Dict.insert links ida (.ref l)) tasks ed mem)))
          (by simp [pylite_step, hr, hw]; rfl) (Sim.one ?_)
        rw [ofOpt_foldlM]
        refine (Sim.forIn (g := id) (Inv := fun a ρ st => st = mkSt B a ∧
          Env.le [("self", .atom (.ref B)), ("start", .atom (.ref s))] ρ) (by simp [pylite_step])
          ?_ ⟨rfl, .cons (by simp [pylite_step]) (.cons (by simp [pylite_step]) (.nil _))⟩).mono fun _ _ _ h => h.1
        rintro a p ρ _ _ ⟨rfl, hρ⟩
        have hs := hρ.get "self"
        have hst := hρ.get "start"
        unfold addWorkStep
        refine Sim.readCalc fun _ lk _ _ _ hgc => ?_
        have hr1 := encHeap_get B hgc
        split
        next lp hd =>
          refine Sim.readLink fun _ ep _ hgl => ?_
          have hr2 := encHeap_get B hgl
          refine Sim.step (execP_assign (v := .atom (.ref lp)) (st' := mkSt B a) (by simp [pylite_step, hs, hr1, hd])) (Sim.one ?_)
          refine Sim.mapO (SimR.exprCall (by simp [pylite_step, hst, hr2]) (connect_simR e tid B a ep s 0 F)) ?_
          rintro p _ _ ⟨rfl, _, _, rfl⟩
          exact ⟨rfl, (hρ.set_ne "p" _).set_ne "link" _⟩
        next => exact Sim.outside

theorem add_work_sim (e : CPEnv) (tid : Uid → Int) (B : Nat) (σ σ' : Store) (ida : Atom) (u : Rat) (preds : List Atom)
    (h : addWorkA B σ ida u preds = some σ') (F : Nat) :
    (Hc e tid (F + 3)).fnV fn_CPC_add_work [.atom (.ref B), .atom ida, .atom (.num u), .list preds] (mkSt B σ)
      = .ok (.atom .none, mkSt B σ') :=
  SimR.of_some (add_work_simR e tid B σ ida u preds F) h

end Pj.CritPathSrc

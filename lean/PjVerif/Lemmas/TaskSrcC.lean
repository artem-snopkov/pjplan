/-
  Lemmas/TaskSrcC.lean — stage C of the translated tie for task.py: the `predecessors` / `successors` setters (general
  theorems).  The two setters are one text with the two relations swapped: everything is proved once, over the relation
  the setter assigns (`Dir`, `lkBody`, `links_set_spec`), and read off for the two (`preds_set_spec`, `succs_set_spec`).
  See Lemmas/TaskSrc.lean for the setting and the list of results.
-/
import PjVerif.Lemmas.TaskSrcB
namespace Pj.TaskSrc
open Pj.PyLite Pj.Extracted
set_option linter.unusedSimpArgs false
set_option linter.unusedVariables false

variable (P : TaskProg)

/-- a checking loop whose model may run out of fuel at some item: only the items up to the first failing one matter -/
theorem forLoopP_check' (x : String) (body : PyLite.Env → PState → OutcomeP) (P : PyLite.Env → Prop)
    (chk : Atom → Option Err) (st : PState) :
    ∀ (vs : List Atom),
      (∀ ρ v, v ∈ vs → P ρ → chk v ≠ some (.crash .recursion) →
        match chk v with
        | none => ∃ ρ', P ρ' ∧ body (ρ.set x v) st = .normal ρ' st
        | some e => body (ρ.set x v) st = .raise e) →
      vs.findSome? chk ≠ some (.crash .recursion) →
      ∀ ρ, P ρ →
        match vs.findSome? chk with
        | none => ∃ ρ', P ρ' ∧ forLoopP x body vs ρ st = .normal ρ' st
        | some e => forLoopP x body vs ρ st = .raise e := by
  intro vs hb hne ρ hP
  have h := forLoopP_findSome x body id P chk (· = .crash .recursion) st vs
    (fun ρ v hv hP => by
      cases hc : chk v with
      | none => have := hb ρ v hv hP (by simp [hc]); rwa [hc] at this
      | some e => intro hs; have := hb ρ v hv hP (by simpa [hc] using hs); rwa [hc] at this) ρ hP
  rw [List.map_id] at h
  cases hf : vs.findSome? chk with
  | none => rwa [hf] at h
  | some e => rw [hf] at h hne; exact h (by simpa using hne)

/-- the local environment of the two link setters after their first four statements -/
structure LinkEnv (ρ : PyLite.Env) (t : Uid) (l anc desc : List Uid) : Prop where
  self : ρ.get? "self" = some (.atom (.ref t))
  value : ρ.get? "value" = some (refs l)
  parents : ρ.get? "parents" = some (refs anc)
  children : ρ.get? "children" = some (refs desc)

theorem LinkEnv.setv {ρ : PyLite.Env} {t : Uid} {l anc desc : List Uid} (h : LinkEnv ρ t l anc desc) (v : Val) :
    LinkEnv (Env.set ρ "v" v) t l anc desc :=
  ⟨by rw [Env.get?_set, if_neg (by decide)]; exact h.self, by rw [Env.get?_set, if_neg (by decide)]; exact h.value,
   by rw [Env.get?_set, if_neg (by decide)]; exact h.parents, by rw [Env.get?_set, if_neg (by decide)]; exact h.children⟩

/-- the cycle check of `chkLinks` for one item -/
def cycF (next : Uid → List Uid) (f : Nat) (t : Uid) (v : Uid) : Option Err :=
  if v = t then some .runtime
  else match descF next f v with
    | none => some (.crash .recursion)
    | some r => if r.contains t then some .runtime else none

theorem chkLinks_eq (s : G) (next : Uid → List Uid) (t : Uid) (l : List Uid) :
    chkLinks s next t l =
      match ancF s s.fuel (s.parent t) with
      | none => some (.crash .recursion)
      | some anc =>
        match descF s.children s.fuel t with
        | none => some (.crash .recursion)
        | some desc =>
          if l.any (fun v => anc.contains v || desc.contains v) then some .runtime
          else l.findSome? (cycF next s.fuel t) := rfl

theorem filter_filter_ne (l : List Uid) (t : Uid) :
    (l.filter (fun x => x != t)).filter (fun x => x != t) = l.filter (fun x => x != t) := by
  rw [List.filter_filter]; congr 1; funext x; simp

theorem contains_eraseDups' (l : List Uid) (a : Uid) : l.eraseDups.contains a = l.contains a :=
  contains_eraseDups l a

/-! #### the two relations

The two setters are one text: the `successors` setter is the `predecessors` setter with the two relations swapped.
`Dir` names the relation a setter assigns; the other one (`flip`) is its mirror, kept by the linked tasks. -/

inductive Dir
  | pred
  | succ

namespace Dir

def flip : Dir → Dir
  | pred => succ
  | succ => pred

def fld : Dir → String
  | pred => "predecessors"
  | succ => "successors"

def allFn : Dir → Nat
  | pred => fn_Task_get_all_predecessors
  | succ => fn_Task_get_all_successors

def get : Dir → G → Uid → List Uid
  | pred, s => s.preds
  | succ, s => s.succs

def put : Dir → G → (Uid → List Uid) → G
  | pred, s, g => { s with preds := g }
  | succ, s, g => { s with succs := g }

variable (d : Dir)

theorem get_put (s : G) (g : Uid → List Uid) : d.get (d.put s g) = g := by cases d <;> rfl
theorem put_put (s : G) (g g' : Uid → List Uid) : d.put (d.put s g) g' = d.put s g' := by cases d <;> rfl
theorem put_get (s : G) : d.put s (d.get s) = s := by cases d <;> rfl

theorem encTask_link (s : G) (u : Uid) : (encTask s u).get? d.fld = some (refs (d.get s u)) := by
  cases d
  · exact encTask_preds s u
  · exact encTask_succs s u

theorem heapSet_link (s : G) (t : Uid) (l : List Uid) :
    heapSet (encHeap s) t d.fld (refs l) = encHeap (d.put s (upd (d.get s) t l)) := by
  cases d
  · exact heapSet_preds s t l
  · exact heapSet_succs s t l

theorem get_all_spec (s : G) (st : PState) (hh : st.heap = encHeap s) (f : Nat) (t : Uid) (r : List Uid)
    (h : descF (d.get s) f t = some r) (F : Nat) (hF : f + 1 ≤ F) :
    (P.H F).fnV d.allFn [.atom (.ref t)] st = .ok (refs r.eraseDups, st) := by
  cases d
  · exact get_all_predecessors_spec P s st hh f t r h F hF
  · exact get_all_successors_spec P s st hh f t r h F hF

end Dir

/-- `v.<d> = [x for x in v.<d> if x is not t]` -/
def unlink (d : Dir) (t : Uid) (s' : G) (v : Uid) : G :=
  d.put s' (upd (d.get s') v ((d.get s' v).filter (fun x => x != t)))

theorem foldl_unlink (d : Dir) (t : Uid) (l : List Uid) (s0 : G) :
    l.foldl (unlink d t) s0 =
      d.put s0 (fun v => if l.contains v then (d.get s0 v).filter (fun x => x != t) else d.get s0 v) := by
  induction l generalizing s0 with
  | nil => simp [Dir.put_get]
  | cons a l ih =>
    simp only [List.foldl_cons, ih, unlink, Dir.get_put, Dir.put_put]
    congr 1
    funext v
    simp only [List.contains_cons]
    by_cases hva : v = a
    · subst hva
      simp only [upd_same, filter_filter_ne, BEq.rfl, Bool.true_or, if_true]
      split <;> rfl
    · have hb : (v == a) = false := by simpa using hva
      simp only [upd_other _ _ _ _ hva, hb, Bool.false_or]

/-- `if t not in v.<d>: v.<d>.append(t)` -/
def link (d : Dir) (t : Uid) (s' : G) (v : Uid) : G :=
  if (d.get s' v).contains t then s' else d.put s' (upd (d.get s') v (d.get s' v ++ [t]))

theorem foldl_link (d : Dir) (t : Uid) (l : List Uid) (s0 : G) :
    l.foldl (link d t) s0 =
      d.put s0 (fun v => if l.contains v ∧ !(d.get s0 v).contains t then d.get s0 v ++ [t] else d.get s0 v) := by
  induction l generalizing s0 with
  | nil => simp [Dir.put_get]
  | cons a l ih =>
    simp only [List.foldl_cons, ih, link]
    cases hc : (d.get s0 a).contains t with
    | true =>
      simp only [if_true]
      congr 1
      funext v
      simp only [List.contains_cons]
      by_cases hva : v = a
      · subst hva
        have hm : t ∈ d.get s0 v := by simpa using hc
        simp [hm]
      · have hb : (v == a) = false := by simpa using hva
        simp only [hb, Bool.false_or]
    | false =>
      simp only [Bool.false_eq_true, if_false, Dir.get_put, Dir.put_put]
      congr 1
      funext v
      simp only [List.contains_cons]
      by_cases hva : v = a
      · subst hva
        have hm : t ∉ d.get s0 v := by simpa using hc
        simp [hm, upd_same]
      · have hb : (v == a) = false := by simpa using hva
        simp only [upd_other _ _ _ _ hva, hb, Bool.false_or]

/-- `mutPreds` / `mutSuccs` as the setter computes them: the old links lose their mirror entries, the relation is
    assigned, the new links get theirs -/
def mutLinks (d : Dir) (s : G) (t : Uid) (l : List Uid) : G :=
  let s3 := (d.get s t).foldl (unlink d.flip t) s
  l.foldl (link d.flip t) (d.put s3 (upd (d.get s3) t l))

theorem mutPreds_eq (s : G) (t : Uid) (l : List Uid) : mutPreds s t l = mutLinks .pred s t l := by
  rw [mutLinks, foldl_link, foldl_unlink]
  rfl

theorem mutSuccs_eq (s : G) (t : Uid) (l : List Uid) : mutSuccs s t l = mutLinks .succ s t l := by
  rw [mutLinks, foldl_link, foldl_unlink]
  rfl

def setLinks (d : Dir) (s : G) (t : Uid) (l : List Uid) : G × Option Err :=
  match chkLinks s (d.get s) t l with
  | some e => (s, some e)
  | none => (mutLinks d s t l, none)

theorem setPreds_eq (s : G) (t : Uid) (l : List Uid) : setPreds s t l = setLinks .pred s t l := by
  unfold setPreds setLinks
  rw [mutPreds_eq]
  rfl

theorem setSuccs_eq (s : G) (t : Uid) (l : List Uid) : setSuccs s t l = setLinks .succ s t l := by
  unfold setSuccs setLinks
  rw [mutSuccs_eq]
  rfl

/-! #### the text of the two setters

`pd_shape` / `sd_shape` fix the statement ORDER of the two translated setters (four statements, two validation loops, the
unlink loop, the assignment, the mirror loop) with the loops `pdL1` … left abstract; no proof below uses them (the proofs
go through `pd_body` / `sd_body`): they are the lemmas that fail first when a source edit reorders or drops a loop. -/

def pdL1 : Stmt := match src_Task_predecessors_set with | _ :: _ :: _ :: _ :: l :: _ => l | _ => .pass
def pdL2 : Stmt := match src_Task_predecessors_set with | _ :: _ :: _ :: _ :: _ :: l :: _ => l | _ => .pass
def pdL3 : Stmt := match src_Task_predecessors_set with | _ :: _ :: _ :: _ :: _ :: _ :: l :: _ => l | _ => .pass
def pdL4 : Stmt := match src_Task_predecessors_set with | _ :: _ :: _ :: _ :: _ :: _ :: _ :: _ :: l :: _ => l | _ => .pass

theorem pd_shape : src_Task_predecessors_set =
    [.assign "value" (.callFn fn_to_list (.listCons (.var "value") .listNil)),
     .expr (.callFn fn_check_no_nones_in_list (.listCons (.var "value") .listNil)),
     .assign "parents" (.callFn fn_Task_get_all_parents (.listCons (.var "self") .listNil)),
     .assign "children" (.callFn fn_Task_get_all_children (.listCons (.var "self") .listNil)),
     pdL1, pdL2, pdL3,
     .setAttr (.var "self") "predecessors" (.listComp (.var "v") "v" (.var "value") (.bool true)),
     pdL4] := rfl

def sdL1 : Stmt := match src_Task_successors_set with | _ :: _ :: _ :: _ :: l :: _ => l | _ => .pass
def sdL2 : Stmt := match src_Task_successors_set with | _ :: _ :: _ :: _ :: _ :: l :: _ => l | _ => .pass
def sdL3 : Stmt := match src_Task_successors_set with | _ :: _ :: _ :: _ :: _ :: _ :: l :: _ => l | _ => .pass
def sdL4 : Stmt := match src_Task_successors_set with | _ :: _ :: _ :: _ :: _ :: _ :: _ :: _ :: l :: _ => l | _ => .pass

theorem sd_shape : src_Task_successors_set =
    [.assign "value" (.callFn fn_to_list (.listCons (.var "value") .listNil)),
     .expr (.callFn fn_check_no_nones_in_list (.listCons (.var "value") .listNil)),
     .assign "parents" (.callFn fn_Task_get_all_parents (.listCons (.var "self") .listNil)),
     .assign "children" (.callFn fn_Task_get_all_children (.listCons (.var "self") .listNil)),
     sdL1, sdL2, sdL3,
     .setAttr (.var "self") "successors" (.listComp (.var "v") "v" (.var "value") (.bool true)),
     sdL4] := rfl

def lkB1 : List Stmt :=
  [.ifElse (.or (.isIn (.var "v") (.var "parents")) (.isIn (.var "v") (.var "children"))) [.raiseRuntime] []]
def lkB2 (d : Dir) : List Stmt :=
  [.ifElse (.or (.isSame (.var "v") (.var "self"))
      (.isIn (.var "self") (.callFn d.allFn (.listCons (.var "v") .listNil)))) [.raiseRuntime] []]
def lkB3 (d : Dir) : List Stmt :=
  [.setAttr (.var "v") d.flip.fld
    (.listComp (.var "t") "t" (.attr (.var "v") d.flip.fld) (.not (.isSame (.var "t") (.var "self"))))]
def lkB4 (d : Dir) : List Stmt :=
  [.ifElse (.not (.isIn (.var "self") (.attr (.var "v") d.flip.fld)))
    [.attrAppend (.var "v") d.flip.fld (.var "self")] []]

def lkBody (d : Dir) : List Stmt :=
  [.assign "value" (.callFn fn_to_list (.listCons (.var "value") .listNil)),
   .expr (.callFn fn_check_no_nones_in_list (.listCons (.var "value") .listNil)),
   .assign "parents" (.callFn fn_Task_get_all_parents (.listCons (.var "self") .listNil)),
   .assign "children" (.callFn fn_Task_get_all_children (.listCons (.var "self") .listNil)),
   .forIn "v" (.var "value") lkB1,
   .forIn "v" (.var "value") (lkB2 d),
   .forIn "v" (.attr (.var "self") d.fld) (lkB3 d),
   .setAttr (.var "self") d.fld (.listComp (.var "v") "v" (.var "value") (.bool true)),
   .forIn "v" (.var "value") (lkB4 d)]

theorem pd_body : src_Task_predecessors_set = lkBody .pred := rfl
theorem sd_body : src_Task_successors_set = lkBody .succ := rfl

section loops
variable (d : Dir) (s : G) (st : PState) (t : Uid) (l anc desc : List Uid) (F : Nat)

/-- `for v in value: if v in parents or v in children: raise` -/
theorem lk_l1 (ρ : PyLite.Env) (hρ : LinkEnv ρ t l anc desc) :
    Does (LinkEnv · t l anc desc) st
      (chk s (if l.any (fun v => anc.contains v || desc.contains v) then some .runtime else none))
      ((Stmt.forIn "v" (.var "value") lkB1).execP (P.H F) [] noRec ρ (withG st s)) := by
  rw [← findSome_if]
  refine Does.forIn_check _ (evalP_var _ _ _ _ _ _ hρ.value) hρ fun ρ c _ hP => Does.stmt (hP.setv (.atom (.ref c))) fun _ => ?_
  have ha := any_ref_pyEq anc c
  have hd := any_ref_pyEq desc c
  have hpa := hP.parents
  have hch := hP.children
  simp only [refs] at hpa hch
  generalize anc.map Atom.ref = A at ha hpa
  generalize desc.map Atom.ref = D at hd hch
  cases hca : anc.contains c with
  | true =>
    rw [hca] at ha
    simp [pylite_step, lkB1, hpa, hch, ha, hd]
  | false =>
    rw [hca] at ha
    cases hcd : desc.contains c <;> rw [hcd] at hd <;> simp [pylite_step, lkB1, hpa, hch, ha, hd]

/-- `for v in value: if v is self or self in v.all_<d>: raise` -/
theorem lk_l2 (hF : s.fuel + 1 ≤ F) (ρ : PyLite.Env) (hρ : LinkEnv ρ t l anc desc) :
    Does (LinkEnv · t l anc desc) st (chk s (l.findSome? (cycF (d.get s) s.fuel t)))
      ((Stmt.forIn "v" (.var "value") (lkB2 d)).execP (P.H F) [] noRec ρ (withG st s)) := by
  refine Does.forIn_check _ (evalP_var _ _ _ _ _ _ hρ.value) hρ fun ρ c _ hP =>
    Does.stmt (hP.setv (.atom (.ref c))) fun hne => ?_
  have hse := (hP.setv (.atom (.ref c))).self
  simp only [cycF] at hne ⊢
  by_cases hct : c = t
  · subst hct
    simp [pylite_step, lkB2, hse]
  · simp only [hct, if_false] at hne ⊢
    cases hd : descF (d.get s) s.fuel c with
    | none => simp [hd] at hne
    | some r =>
      have hcall := d.get_all_spec P s (withG st s) rfl _ c r hd F hF
      have hany := (any_ref_pyEq r.eraseDups t).trans (contains_eraseDups r t)
      simp only [refs] at hcall
      generalize r.eraseDups.map Atom.ref = R at hany hcall
      dsimp only
      cases hc : r.contains t <;> rw [hc] at hany <;> simp [pylite_step, lkB2, hse, hct, hcall, hany]

/-- `for v in self.<d>: v.<mirror> = [x for x in v.<mirror> if x is not self]` -/
theorem lk_l3 (s0 : G) (ρ : PyLite.Env) (hρ : LinkEnv ρ t l anc desc) :
    ∃ ρ', LinkEnv ρ' t l anc desc ∧
      (Stmt.forIn "v" (.attr (.var "self") d.fld) (lkB3 d)).execP (P.H F) [] noRec ρ (withG st s0) =
        .normal ρ' (withG st ((d.get s0 t).foldl (unlink d.flip t) s0)) := by
  rw [execP_forIn (vs := (d.get s0 t).map Atom.ref) (st' := withG st s0)
    (hit := by simp [pylite_step, hρ.self, refs, Dir.encTask_link])]
  obtain ⟨ρ', st', hl, rfl, hP'⟩ := forLoopP_foldl "v" (fun ρ st => execBlockP (P.H F) [] noRec (lkB3 d) ρ st) Atom.ref
    (fun (s' : G) ρ st' => st' = withG st s' ∧ LinkEnv ρ t l anc desc) (unlink d.flip t) (d.get s0 t)
    (by
      intro s' c ρ st' _ hR
      obtain ⟨rfl, hP⟩ := hR
      refine ⟨Env.set ρ "v" (.atom (.ref c)), withG st (unlink d.flip t s' c), ?_, rfl, hP.setv _⟩
      have hse := (hP.setv (.atom (.ref c))).self
      have hcomp : (Expr.listComp (.var "t") "t" (.attr (.var "v") d.flip.fld)
            (.not (.isSame (.var "t") (.var "self")))).evalP (P.H F) [] (Env.set ρ "v" (.atom (.ref c))) (withG st s') =
          .ok (refs ((d.flip.get s' c).filter (fun x => x != t)), withG st s') := by
        refine evalP_filter_refs _ _ _ _ _ _ _ "t" _ _ (by simp [pylite_step, refs, Dir.encTask_link]) ?_
        intro x _
        have hse' : (Env.set (Env.set ρ "v" (.atom (.ref c))) "t" (.atom (.ref x))).get? "self" =
            some (.atom (.ref t)) := by rw [Env.get?_set, if_neg (by decide)]; exact hse
        by_cases hxt : x = t
        · subst hxt; simp [pylite_step, hse']
        · simp [pylite_step, hse', hxt]
      rw [lkB3, execBlockP_cons, execP_setAttr (he := hcomp)
        (ho := evalP_var _ _ _ _ _ _ (by rw [Env.get?_set, if_pos rfl]))]
      simp only [withG_heap, Dir.heapSet_link, execBlockP_nil]
      rfl)
    s0 ρ (withG st s0) ⟨rfl, hρ⟩
  exact ⟨ρ', hP', hl⟩

/-- `for v in value: if self not in v.<mirror>: v.<mirror>.append(self)` -/
theorem lk_l4 (s0 : G) (ρ : PyLite.Env) (hρ : LinkEnv ρ t l anc desc) :
    ∃ ρ', (Stmt.forIn "v" (.var "value") (lkB4 d)).execP (P.H F) [] noRec ρ (withG st s0) =
      .normal ρ' (withG st (l.foldl (link d.flip t) s0)) := by
  rw [execP_forIn (vs := l.map Atom.ref) (st' := withG st s0) (hit := evalP_var _ _ _ _ _ _ hρ.value)]
  obtain ⟨ρ', st', hl, rfl, -⟩ := forLoopP_foldl "v" (fun ρ st => execBlockP (P.H F) [] noRec (lkB4 d) ρ st) Atom.ref
    (fun (s' : G) ρ st' => st' = withG st s' ∧ LinkEnv ρ t l anc desc) (link d.flip t) l
    (by
      intro s' c ρ st' _ hR
      obtain ⟨rfl, hP⟩ := hR
      refine ⟨Env.set ρ "v" (.atom (.ref c)), withG st (link d.flip t s' c), ?_, rfl, hP.setv _⟩
      have hse := (hP.setv (.atom (.ref c))).self
      have hany := any_ref_pyEq (d.flip.get s' c) t
      unfold link
      cases hc : (d.flip.get s' c).contains t with
      | true =>
        rw [hc] at hany
        simp only [if_true]
        simp [pylite_step, lkB4, hse, refs, hany, Dir.encTask_link]
      | false =>
        rw [hc] at hany
        simp only [Bool.false_eq_true, if_false]
        have happ := d.flip.heapSet_link s' c (d.flip.get s' c ++ [t])
        simp only [refs, List.map_append, List.map_cons, List.map_nil] at happ
        simp [pylite_step, lkB4, hse, refs, hany, happ, mk_withG, Dir.encTask_link])
    s0 ρ (withG st s0) ⟨rfl, hρ⟩
  exact ⟨ρ', hl⟩

theorem setLinks_seq (ha : ancF s s.fuel (s.parent t) = some anc) (hd : descF s.children s.fuel t = some desc) :
    setLinks d s t l =
      andThen (chk s (if l.any (fun v => anc.contains v || desc.contains v) then some .runtime else none)) fun _ =>
        andThen (chk s (l.findSome? (cycF (d.get s) s.fuel t))) fun _ => (mutLinks d s t l, none) := by
  unfold setLinks andThen
  rw [chkLinks_eq]
  simp only [ha, hd]
  cases l.any (fun v => anc.contains v || desc.contains v)
  · cases l.findSome? (cycF (d.get s) s.fuel t) <;> rfl
  · rfl

/-- STAGE C.  The setter of the relation `d` = `setLinks d`, for EVERY state `s` -/
theorem links_set_spec (hh : st.heap = encHeap s) (k : Nat) (htf : taskFuns k = some (["self", "value"], lkBody d))
    (v : Val) (hv : ValueOf v l) (hF : s.fuel + 3 ≤ F)
    (hrec : (setLinks d s t l).2 ≠ some (.crash .recursion)) :
    (P.H F).fnV k [.atom (.ref t), v] st = setterResult st (setLinks d s t l) := by
  obtain ⟨st, rfl⟩ := exists_withG hh
  obtain ⟨F, rfl, hF⟩ := fuel_split 2 hF
  rw [P.call _ _ _ _ htf]
  rw [setterResult_withG]
  refine Does.callPV (Q := fun _ => True) rfl ?_ hrec
  have hdef := hrec
  unfold setLinks at hdef
  rw [chkLinks_eq] at hdef
  cases ha : ancF s s.fuel (s.parent t) with
  | none => simp [ha] at hdef
  | some anc =>
    cases hd : descF s.children s.fuel t with
    | none => simp [ha, hd] at hdef
    | some desc =>
      rw [setLinks_seq d s t l anc desc ha hd, lkBody]
      refine Does.step (execP_assign (he := by
        rw [evalP_callFn1 (ha := evalP_var _ _ _ _ _ _ rfl)]; exact hv.run P _ F)) ?_
      refine Does.step (execP_expr (he := by
        rw [evalP_callFn1 (ha := evalP_var _ _ _ _ _ _ (by rw [Env.get?_set, if_pos rfl]))]
        exact check_no_nones_spec P _ F l)) ?_
      refine Does.step (execP_assign (he := by
        rw [evalP_callFn1 (ha := evalP_var _ _ _ _ _ _ (by rw [Env.get?_set, if_neg (by decide)]; rfl))]
        exact get_all_parents_spec P s _ rfl _ t anc ha (F + 1) (by omega))) ?_
      refine Does.step (execP_assign (he := by
        rw [evalP_callFn1 (ha := evalP_var _ _ _ _ _ _
          (by rw [Env.get?_set, if_neg (by decide), Env.get?_set, if_neg (by decide)]; rfl))]
        exact get_all_children_spec P s _ rfl _ t desc hd (F + 1) (by omega))) ?_
      have hρ4 : LinkEnv (Env.set (Env.set (Env.set [("self", Val.atom (Atom.ref t)), ("value", v)] "value" (refs l))
          "parents" (refs anc)) "children" (refs desc)) t l anc desc :=
        ⟨by simp [Env.get?_set, Env.get?_cons], by simp [Env.get?_set, Env.get?_cons],
         by simp [Env.get?_set, Env.get?_cons], by simp [Env.get?_set, Env.get?_cons]⟩
      generalize (Env.set (Env.set (Env.set [("self", Val.atom (Atom.ref t)), ("value", v)] "value" (refs l))
          "parents" (refs anc)) "children" (refs desc)) = ρ4 at hρ4
      refine Does.cons (lk_l1 P s st t l anc desc (F + 1) ρ4 hρ4) fun ρ5 _ hρ5 => ?_
      refine Does.cons (lk_l2 P d s st t l anc desc (F + 1) (by omega) ρ5 hρ5) fun ρ6 _ hρ6 => ?_
      obtain ⟨ρ7, hρ7, h3⟩ := lk_l3 P d st t l anc desc (F + 1) s ρ6 hρ6
      refine Does.step h3 ?_
      unfold mutLinks
      generalize (d.get s t).foldl (unlink d.flip t) s = s3
      have hcomp : (Expr.listComp (.var "v") "v" (.var "value") (.bool true)).evalP (P.H (F + 1)) [] ρ7
          (withG st s3) = .ok (refs l, withG st s3) :=
        evalP_listComp_id _ _ _ _ _ _ _ _ (evalP_var _ _ _ _ _ _ hρ7.value)
      refine Does.step (ρ1 := ρ7) (by rw [execP_setAttr (he := hcomp) (ho := evalP_var _ _ _ _ _ _ hρ7.self)]) ?_
      simp only [withG_heap, Dir.heapSet_link, mk_withG, withG_L, withG_done, withG_res, withG_reads, withG_boxes]
      obtain ⟨ρ8, h4⟩ := lk_l4 P d st t l anc desc (F + 1) (d.put s3 (upd (d.get s3) t l)) ρ7 hρ7
      rw [execBlockP_one, h4]
      exact Does.ok trivial

end loops

theorem preds_set_spec (s : G) (st : PState) (hh : st.heap = encHeap s) (t : Uid) (l : List Uid) (F : Nat)
    (v : Val) (hv : ValueOf v l) (hF : s.fuel + 3 ≤ F)
    (hrec : (setPreds s t l).2 ≠ some (.crash .recursion)) :
    (P.H F).fnV fn_Task_predecessors_set [.atom (.ref t), v] st = setterResult st (setPreds s t l) := by
  rw [setPreds_eq] at hrec ⊢
  exact links_set_spec P .pred s st t l F hh _ rfl v hv hF hrec

theorem succs_set_spec (s : G) (st : PState) (hh : st.heap = encHeap s) (t : Uid) (l : List Uid) (F : Nat)
    (v : Val) (hv : ValueOf v l) (hF : s.fuel + 3 ≤ F)
    (hrec : (setSuccs s t l).2 ≠ some (.crash .recursion)) :
    (P.H F).fnV fn_Task_successors_set [.atom (.ref t), v] st = setterResult st (setSuccs s t l) := by
  rw [setSuccs_eq] at hrec ⊢
  exact links_set_spec P .succ s st t l F hh _ rfl v hv hF hrec

/-- STAGE C.  As `interpSetParent_eq`, for the translated `predecessors` setter and every admissible right-hand side `v` (`ValueOf`: a
    Python list of tasks and `None`s, a single task, `None`); no well-formedness is needed -/
theorem interpSetPreds_eq (s : G) (st : PState) (hh : st.heap = encHeap s) (t : Uid) (v : Val) (l : List Uid)
    (hv : ValueOf v l) (F : Nat) (hF : s.n + 4 ≤ F) (hrec : (setPreds s t l).2 ≠ some (.crash .recursion)) :
    interpSetPreds F t v st = setterResult st (setPreds s t l) :=
  preds_set_spec progHd s st hh t l F v hv (by unfold G.fuel; omega) hrec

theorem interpSetSuccs_eq (s : G) (st : PState) (hh : st.heap = encHeap s) (t : Uid) (v : Val) (l : List Uid)
    (hv : ValueOf v l) (F : Nat) (hF : s.n + 4 ≤ F) (hrec : (setSuccs s t l).2 ≠ some (.crash .recursion)) :
    interpSetSuccs F t v st = setterResult st (setSuccs s t l) :=
  succs_set_spec progHd s st hh t l F v hv (by unfold G.fuel; omega) hrec

end Pj.TaskSrc

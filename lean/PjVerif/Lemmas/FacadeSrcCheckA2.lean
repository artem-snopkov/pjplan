/-
  Lemmas/FacadeSrcCheckA2.lean — stage 1 of the translated tie for the list facades of task.py, continued: concrete
  runs of the operators `Task.__floordiv__ / __lshift__ / __rshift__` (Extracted/FacadeSrc.lean) against
  `floordiv` / `lshift` / `rshift` (Model/GraphOps.lean).  See Lemmas/FacadeSrcCheck.lean / Lemmas/FacadeSrc.lean.
-/
import PjVerif.Lemmas.FacadeSrcCheck
import PjVerif.Lemmas.FacadeSrcRuns
namespace Pj.FacadeSrc
open Pj.PyLite Pj.Extracted Pj.Extracted.Facade Pj.TaskSrc Pj.TaskSrc.Check
namespace Check

/-! #### `h // v`, `t << v`, `t >> v`: the value `v` is a list of tasks, a task, `None`, a list with `None`s; the
    operators return `v` -/

def agreeOps (s : G) (t : Uid) (v : Val) (l : List Uid) : Bool :=
  decide (runE s (interpFloordiv FF t v) = expectR s.n v (floordiv s t l)) &&
  decide (runE s (interpLshift FF t v) = expectR s.n v (lshift s t l)) &&
  decide (runE s (interpRshift FF t v) = expectR s.n v (rshift s t l))

-- on `g1`, `g2` no call ends in RecursionError (evaluated on the model), so every run is `interpFloordiv_eq` /
-- `interpLshift_eq` / `interpRshift_eq`
example : allU g1 (fun t => [1, 3, 6, 9, 10, 12].all (fun a => agreeOps g1 t (refV a) [a])) = true := by
  have hrec : allU g1 (fun t => [1, 3, 6, 9, 10, 12].all (fun a => noRec (floordiv g1 t [a]) && noRec (lshift g1 t [a]) &&
      noRec (rshift g1 t [a]))) = true := by decide +kernel
  exact allU_imp (fun t => all_imp fun a => ops_run g1 (by decide) t (valueOf_task a)) hrec
example : allU g2 (fun t => allU g2 (fun a => agreeOps g2 t (refs [a, 6]) [a, 6])) = true := by
  have hrec : allU g2 (fun t => allU g2 (fun a => noRec (floordiv g2 t [a, 6]) && noRec (lshift g2 t [a, 6]) &&
      noRec (rshift g2 t [a, 6]))) = true := by decide +kernel
  exact allU_imp (fun t => allU_imp fun a => ops_run g2 (by decide) t (valueOf_refs _)) hrec
example : allU g3 (fun t => allU g3 (fun a => agreeOps g3 t (refs [a]) [a])) = true := by decide +kernel
example : allU g1 (fun t => agreeOps g1 t noneV [] && agreeOps g1 t (.list [.ref 10, .none, .ref 11]) [10, 11]) = true := by
  have hrec : allU g1 (fun t => (noRec (floordiv g1 t []) && noRec (lshift g1 t []) && noRec (rshift g1 t [])) &&
      (noRec (floordiv g1 t [10, 11]) && noRec (lshift g1 t [10, 11]) && noRec (rshift g1 t [10, 11]))) = true := by
    decide +kernel
  exact allU_imp (fun t => and_imp (ops_run g1 (by decide) t valueOf_none)
    (ops_run g1 (by decide) t (valueOf_list [some 10, none, some 11]))) hrec
example : (floordiv g1 1 [10, 11]).2 = none ∧ (floordiv g1 1 [10, 11]).1.children 1 = [2, 10, 11] ∧
    (floordiv g1 1 [10, 11]).1.owner 11 = some 0 := by decide +kernel          -- appended, not replaced
example : (floordiv g1 1 [3]).2 = none ∧ (floordiv g1 1 [3]).1.children 1 = [2, 3] ∧
    (floordiv g1 1 [3]).1.children 0 = [1] := by decide +kernel
example : (lshift g1 10 [11, 6]).2 = none ∧ (lshift g1 10 [11, 6]).1.preds 10 = [11, 6] ∧
    (lshift g1 10 [11, 6]).1.succs 6 = [7, 10] := by decide +kernel
example : (rshift g2 6 [4]).2 = some .runtime := by decide +kernel              -- a cycle
/-- a value that is neither a task, a list nor `None` (an `int`): outside the encoding, the run is stuck -/
example : runE g1 (interpFloordiv FF 1 (intV 5)) = .error stuck := by decide +kernel

end Check
end Pj.FacadeSrc

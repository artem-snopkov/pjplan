/-
  Lemmas/WbsSrcCheckC.lean — stage 3 of the translated tie for wbs.py, concrete runs (kernel-checked): `WBS.clone()` /
  `WBS.subtree(roots)` with `__clone` / `__clone_tasks` / `link_target` (Extracted/WbsSrc.lean) against `cloneWbs` /
  `cloneSel` (Model/Clone.lean).  Compared: the returned WBS object (its hidden root), the allocation pointer (= the
  model's new universe size) and ALL objects of the final store below it - the source objects, the outside tasks that
  gain mirror links, the clones and the new hidden root.  See Lemmas/WbsSrc.lean.  Here: what is compared, and the runs
  that no general theorem covers (a root that is hidden or not a member, the cyclic g3); the runs with member roots are
  instances of `interpClone_eq` / `interpSubtree_eq` (WbsSrcRuns.lean).
-/
import PjVerif.Lemmas.WbsSrc
import PjVerif.Lemmas.TaskSrcCheck
namespace Pj.WbsSrc
open Pj.PyLite Pj.Extracted Pj.TaskSrc Pj.TaskSrc.Check

namespace CheckC

/-- WBS 0 (hidden) > 1 > (2, 3), 5; links 3 → 2, 2 → 5 inside; 2 → 7 into ANOTHER WBS (6 hidden > 7, 7 shares its id
    with 2); 4 → 3 from a detached task; 7 → 8 between outside tasks; 9 detached (shares its id with 1) -/
def g5 : G := mk [
  { tid := emptyId, children := [1, 5], owner := some 0 },
  { tid := 10, parent := some 0, children := [2, 3], owner := some 0 },
  { tid := 20, parent := some 1, preds := [3], succs := [5, 7], owner := some 0 },
  { tid := 30, parent := some 1, preds := [4], succs := [2], owner := some 0 },
  { tid := 40, succs := [3] },
  { tid := 50, parent := some 0, preds := [2], owner := some 0 },
  { tid := emptyId, children := [7], owner := some 6 },
  { tid := 20, parent := some 6, preds := [2], succs := [8], owner := some 6 },
  { tid := 80, preds := [7] },
  { tid := 10 }]

def FC : Nat := 60

def observeC (r : Res (Val × PState)) : Res (Val × Nat × List PyLite.Env) :=
  r.map (fun x => (x.1, x.2.reads, view x.2.reads x.2.heap))

def expectClone (r : G × Option Err × Uid) : Res (Val × Nat × List PyLite.Env) :=
  match r with
  | (s', none, nw) => .ok (refV nw, s'.n, view s'.n (encHeap s'))
  | (_, some e, _) => .error e

def runC (s : G) (k : Nat) (args : List Val) : Res (Val × Nat × List PyLite.Env) :=
  observeC (interpW noFilt FC k args (encStN s))

def cloneAgree (s : G) (w : Uid) : Bool := decide (runC s fn_WBS_clone [refV w] = expectClone (cloneWbs s w))

def subtreeAgree (s : G) (w : Uid) (roots : List Uid) : Bool :=
  decide (runC s fn_WBS_subtree [refV w, refs roots] = expectClone (cloneSel s w roots))

-- the hidden root itself / the hidden root of another WBS as a root: RuntimeError on both sides
example : subtreeAgree g5 0 [0] = true := by decide +kernel
example : subtreeAgree g5 0 [6] = true := by decide +kernel
-- roots that are NOT members of the WBS, with ids of their own: agreement (the foreign tasks are copied, their links
-- to members of the WBS are dropped)
example : subtreeAgree g5 0 [8] = true := by decide +kernel
example : subtreeAgree g5 0 [4, 8] = true := by decide +kernel
example : subtreeAgree g5 0 [9, 2] = true := by decide +kernel
/-- a cyclic state (TaskSrcCheck.g3, not well formed): RecursionError on both sides -/
example : subtreeAgree g3 0 [0] = true := by decide +kernel

/-! #### outside the hypotheses of the general theorem: a foreign root that shares an id

  The model identifies tasks by identity (`dedupFirst`, `cloneOf`), the source by id (`all_tasks` / `cloned_tasks` are
  dicts keyed by `task.id`).  Inside one WBS ids are unique (C05), so for roots that are members of the WBS - the
  hypothesis of `clone_rec_spec` - both coincide.  For a root that is NOT a member of the WBS and shares its id with
  a selected task, or with a member of the WBS linked to it, they differ: -/

/-- `wbs0.subtree([t7])`, t7 a member of another WBS with the id of t2 (a member of wbs0 and predecessor of t7): the
    model drops the link to the unselected member t2 and succeeds; the source looks `t2.id` up in `cloned_tasks`, finds
    the clone of t7 itself, makes it its own predecessor: RuntimeError -/
example : (expectClone (cloneSel g5 0 [7])).map (·.2.1) = .ok 12 ∧
    runC g5 fn_WBS_subtree [refV 0, refs [7]] = .error .runtime := by decide +kernel

/-- `wbs0.subtree([t1, t9])`, t9 detached with the id of t1: the model copies both and fails when both clones become
    roots of the new WBS (RuntimeError: id intersection); the source's dict keeps ONE task per id (t9, the last one) -
    the subtree of t1 is copied without t1, the clone of t9 is used twice as a root - and succeeds -/
example : (expectClone (cloneSel g5 0 [1, 9])).map (·.2.1) = .error .runtime ∧
    (runC g5 fn_WBS_subtree [refV 0, refs [1, 9]]).map (·.2.1) = .ok 14 := by decide +kernel

end CheckC
end Pj.WbsSrc

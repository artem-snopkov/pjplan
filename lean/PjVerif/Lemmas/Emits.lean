/-
  Lemmas/Emits.lean — texts that a reader can be cut at: after `s` the reader `φ` is back in its start state and has
  produced `out`.  Stated with the rest of the text as a continuation, so that it composes along `++` and `flatten`, as
  the writers of Model/Print.lean and Model/Render.lean do.  Used for the terminal's view of a coloured row
  (`Print.visibleAux false`) and for the line readers of the Mermaid sources (`Render.Reads`).
-/
namespace Pj

def Emits {β : Type} (φ : List Char → List β) (s : List Char) (out : List β) : Prop :=
  ∀ rest, φ (s ++ rest) = out ++ φ rest

variable {α β : Type} {φ : List Char → List β}

theorem Emits.nil : Emits φ [] [] := fun _ => rfl

theorem Emits.append {a b : List Char} {x y : List β} (ha : Emits φ a x) (hb : Emits φ b y) : Emits φ (a ++ b) (x ++ y) := by
  intro rest
  rw [List.append_assoc, ha, hb, List.append_assoc]

theorem Emits.flatten (l : List α) (f : α → List Char) (e : α → List β) (h : ∀ a ∈ l, Emits φ (f a) (e a)) :
    Emits φ (l.map f).flatten (l.flatMap e) := by
  induction l with
  | nil => exact Emits.nil
  | cons a l ih =>
    rw [List.map_cons, List.flatten_cons, List.flatMap_cons]
    exact (h a List.mem_cons_self).append (ih fun a ha => h a (List.mem_cons_of_mem _ ha))

theorem Emits.flatten_nil (l : List α) (f : α → List Char) (h : ∀ a ∈ l, Emits φ (f a) []) : Emits φ (l.map f).flatten [] := by
  have := Emits.flatten l f (fun _ => []) h
  rwa [List.flatMap_eq_nil_iff.2 fun _ _ => rfl] at this

theorem Emits.out {s : List Char} {out : List β} (h : Emits φ s out) (h0 : φ [] = []) : φ s = out := by
  have := h []
  rwa [List.append_nil, h0, List.append_nil] at this

end Pj

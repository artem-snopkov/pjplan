/-
  Lemmas/PyLiteSimp.lean — the simp set `pylite_step`, by which `simp [pylite_step, h₁, …]` runs a translated body of the
  pass layer (Model/PyLite.lean) symbolically; Lemmas/PyLiteSteps.lean tags the evaluators and says what the ties add.
  (An attribute cannot be used in the module that declares it: hence this module.)
-/
import Lean.Meta.Tactic.Simp.RegisterCommand

/-- one step of the pass-layer evaluators (`Expr.evalP`, `Stmt.execP`, `execBlockP`), the monad of `Res`, the lookups
    in an environment -/
register_simp_attr pylite_step

/-
  Lemmas/CritPathSrcC5.lean — the translated tie for alg/critical_path.py: the program over the typed store
  (`cpA`, Lemmas/CritPathSrcNet.lean) returns the model's critical tasks (`cpA_ok`, `criticalPath_mem`); the grid
  hypothesis implies the tolerance hypothesis (`tolExact_of_grid`).  See Lemmas/CritPathSrc.lean.
-/
import PjVerif.Lemmas.CritPathSrcC4
namespace Pj.CritPathSrc
open Pj.PyLite Pj.CPEnv
set_option linter.unusedSimpArgs false
set_option linter.unusedVariables false

section top
variable (e : CPEnv) (tid : Uid → Int) (B : Nat)

/-- `CriticalPathCalculator(tasks, None).calc()` over the typed store: the zero-float leaves, in the order of insertion -/
theorem cpA_ok (hid : IdInj e tid) (hdesc : DescOK e) (hac : acyclicB e = true) (htol : TolExact e) (f : Nat)
    (hf : 2 * (e.n + 1) + 2 ≤ f) :
    ∃ (done : List Uid) (σ : Store) (len : Rat), projectLen e = some len ∧ (∀ t, t ∈ done ↔ t ∈ leaves e) ∧ done.Nodup ∧
      cpA e tid B f = some ((done.filter (critOf e len)).map Atom.ref, σ) := by
  obtain ⟨len, hlen⟩ := projectLen_of_acyclic e hac
  obtain ⟨σ, done, S, E, L, hinit, hb, hdone⟩ := init_ok e tid B hid hdesc hac f (by omega)
  obtain ⟨σ5, hcalc⟩ := calc_ok e tid B hid hac htol hb hdone hlen f hf
  exact ⟨done, σ5, len, hlen, hdone, hb.nodup, by simp only [cpA, hinit, hcalc]⟩

theorem criticalPath_mem {len : Rat} {l : List Uid} (hlen : projectLen e = some len) (h : criticalPath e = .ok l) :
    ∀ t, t ∈ l ↔ t ∈ leaves e ∧ critOf e len t = true := by
  obtain ⟨len', hlen', rfl⟩ := (criticalPath_ok_iff e l).mp h
  cases hlen.symm.trans hlen'
  exact fun t => List.mem_filter

end top

section grid
variable (e : CPEnv)

/-- a multiple of 1/8 -/
def G8 (q : Rat) : Prop := ∃ k : Int, 8 * q = k

theorem G8.zero : G8 0 := ⟨0, by grind⟩
theorem G8.add {a b : Rat} (ha : G8 a) (hb : G8 b) : G8 (a + b) := by
  obtain ⟨k1, h1⟩ := ha
  obtain ⟨k2, h2⟩ := hb
  exact ⟨k1 + k2, by rw [Rat.intCast_add]; grind⟩
theorem G8.sub {a b : Rat} (ha : G8 a) (hb : G8 b) : G8 (a - b) := by
  obtain ⟨k1, h1⟩ := ha
  obtain ⟨k2, h2⟩ := hb
  exact ⟨k1 - k2, by rw [Rat.intCast_sub]; grind⟩
/-- a fold of `max` / `min` returns one of the numbers folded -/
theorem G8.fold {op : Rat → Rat → Rat} {R : Rat → Rat → Prop} (h : Selects op R) {l : List Rat} {a : Rat} (ha : G8 a)
    (hl : ∀ x ∈ l, G8 x) : G8 (l.foldl op a) :=
  (h.foldl l a).1.elim (fun e => e.symm ▸ ha) (hl _)

/-- every length `max(estimate - spent, 0)` of a leaf of the calculated set is a multiple of 1/8 -/
def OnGrid : Prop := ∀ t ∈ leaves e, G8 (e.dur t)

theorem efF_grid (hg : OnGrid e) : ∀ (f : Nat) (t : Uid) (v : Rat), t ∈ leaves e → efF e f t = some v → G8 v := by
  intro f
  induction f with
  | zero => intro t v _ h; simp [efF] at h
  | succ f ih =>
    intro t v ht h
    rw [efF] at h
    simp only [Option.map_eq_some_iff] at h
    obtain ⟨ll, hll, rfl⟩ := h
    refine (G8.fold ratMax_selects G8.zero ?_).add (hg t ht)
    intro x hx
    obtain ⟨p, hp, hpx⟩ := mapM_some_mem_inv _ _ _ hll x hx
    exact ih p x (prereqs_leaf e hp) hpx

theorem projectLen_grid (hg : OnGrid e) {len : Rat} (h : projectLen e = some len) : G8 len := by
  unfold projectLen at h
  simp only [Option.map_eq_some_iff] at h
  obtain ⟨ll, hll, rfl⟩ := h
  refine G8.fold ratMax_selects G8.zero ?_
  intro x hx
  obtain ⟨t, ht, htx⟩ := mapM_some_mem_inv _ _ _ hll x hx
  exact efF_grid e hg _ t x ht htx

theorem lfF_grid (hg : OnGrid e) {len : Rat} (hlen : G8 len) :
    ∀ (f : Nat) (t : Uid) (v : Rat), lfF e len f t = some v → G8 v := by
  intro f
  induction f with
  | zero => intro t v h; simp [lfF] at h
  | succ f ih =>
    intro t v h
    rcases lfF_pick e len f t v h with ⟨_, rfl⟩ | ⟨a, ha, l, hl, rfl⟩
    · exact hlen
    · exact (ih a l hl).sub (hg a ((mem_succsOf e t a).mp ha).1)

/-- on the grid of eighths and below a project length of 10^8 the float test of the source is the exact test -/
theorem tolExact_of_grid (hg : OnGrid e) (hlt : ∀ len, projectLen e = some len → len < 100000000) : TolExact e := by
  intro len hlen t ht f l hf hl
  have hG : G8 (l - (f - e.dur t) - e.dur t) :=
    ((lfF_grid e hg (projectLen_grid e hg hlen) _ t l hl).sub ((efF_grid e hg _ t f ht hf).sub (hg t ht))).sub (hg t ht)
  obtain ⟨k, hk⟩ := hG
  have hl8 := hlt len hlen
  generalize l - (f - e.dur t) - e.dur t = r at hk ⊢
  constructor
  · intro h
    have h1 : 8 * r < 1 ∧ -1 < 8 * r := by grind
    rw [hk] at h1
    have a : (k : Rat) < ((1 : Int) : Rat) := by simpa using h1.1
    have b : (((-1 : Int)) : Rat) < (k : Rat) := by simpa using h1.2
    rw [Rat.intCast_lt_intCast] at a b
    have : k = 0 := by omega
    subst this
    grind
  · intro h
    subst h
    grind

end grid

end Pj.CritPathSrc

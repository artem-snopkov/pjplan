/-
  Lemmas/CritPathSrcNet.lean — the object store of alg/critical_path.py as a list of typed objects (`Obj`), its encoding
  as a PyLite heap (`encHeap`, `mkSt`), and the program of critical_path.py re-written over that store, function by
  function, in the `Option` monad (`none` = the run leaves the typed store or raises): `newNodeA`, `connectA`, `addWorkA`,
  `insertA`, `initA`, `forwardA`, `backwardA`, `calcA`, `cpA`.  Lemmas/CritPathSrcStore.lean: reading the store after a
  write and after an allocation.  Lemmas/CritPathSrcA1 … A3 / A.lean show that the translated source computes what these
  functions compute (a statement-by-statement simulation); Lemmas/CritPathSrcB.lean / CritPathSrcC1 … C5.lean relate
  them to Model/CritPath.lean.  See Lemmas/CritPathSrc.lean.
-/
import PjVerif.Lemmas.CritPathSrc
namespace Pj.CritPathSrc
open Pj.PyLite Pj.Extracted.CritPath

/-- an object of the module: a `_PNode`, a `_PLink`, the `CriticalPathCalculator` -/
inductive Obj
  | node (fw bw : List Nat) (su eu : Option Rat)      -- forward_links, backward_links, start_units, end_units
  | link (s e : Nat) (u : Rat)                        -- start, end, units
  | calc (nodes : List Nat) (links tasks : List (Atom × Atom)) (ed : Atom) (mem : List Atom)
                                                      -- __nodes, __links, __tasks, __end_date, __members
  deriving DecidableEq, Repr, Inhabited

/-- the objects allocated so far: the i-th is the object `ref (B + i)` -/
abbrev Store := List Obj

def refsN (l : List Nat) : Val := .list (l.map Atom.ref)

def encObj : Obj → PyLite.Env
  | .node fw bw su eu =>
    [("forward_links", refsN fw), ("backward_links", refsN bw), ("start_units", .atom (optNum su)),
     ("end_units", .atom (optNum eu))]
  | .link s e u => [("start", .atom (.ref s)), ("end", .atom (.ref e)), ("units", .atom (.num u))]
  | .calc nodes links tasks ed mem =>
    [("__nodes", refsN nodes), ("__links", .dict links), ("__tasks", .dict tasks), ("__end_date", .atom ed),
     ("__members", .list mem)]

section store
variable (B : Nat)

def getO (σ : Store) (a : Nat) : Option Obj := if a < B then none else σ[a - B]?

def setO (σ : Store) (a : Nat) (o : Obj) : Store := σ.set (a - B) o

/-- the heap: the objects of the store from the address `B` on, nothing elsewhere -/
def encHeap (σ : Store) : Nat → PyLite.Env := fun j =>
  match getO B σ j with
  | some o => encObj o
  | none => []

/-- the Python state of a run: the store, the allocation pointer behind it -/
def mkSt (σ : Store) : PState :=
  { L := [], heap := encHeap B σ, done := [], res := [], reads := B + σ.length, boxes := [] }

/-- one step of `max` / `min` on numbers, as Python takes it -/
def pyMaxR (a b : Rat) : Rat := if a < b then b else a
def pyMinR (a b : Rat) : Rat := if b < a then b else a

/-- `_PNode()` -/
def newPNode (σ : Store) : Nat × Store := (B + σ.length, σ ++ [.node [] [] none none])

/-- `_PLink(units, start, end)` -/
def newPLink (σ : Store) (u : Rat) (s e : Nat) : Nat × Store := (B + σ.length, σ ++ [.link s e u])

/-- `self.__new_node()` -/
def newNodeA (σ : Store) : Option (Nat × Store) :=
  let r := newPNode B σ
  match getO B r.2 B with
  | some (.calc nodes links tasks ed mem) => some (r.1, setO B r.2 B (.calc (nodes ++ [r.1]) links tasks ed mem))
  | _ => none

/-- `self.__connect(start, end, units)` -/
def connectA (σ : Store) (s e : Nat) (u : Rat) : Option (Nat × Store) :=
  let r := newPLink B σ u s e
  match getO B r.2 s with
  | some (.node fw bw su eu) =>
    let σ2 := setO B r.2 s (.node (fw ++ [r.1]) bw su eu)
    match getO B σ2 e with
    | some (.node fw' bw' su' eu') => some (r.1, setO B σ2 e (.node fw' (bw' ++ [r.1]) su' eu'))
    | _ => none
  | _ => none

/-- one round of the loop of `__add_work`: `link = self.__links[p]; self.__connect(link.end, start, 0)` -/
def addWorkStep (s : Nat) (σ : Store) (p : Atom) : Option Store :=
  match getO B σ B with
  | some (.calc _ links _ _ _) =>
    match Dict.get? links p with
    | some (.ref lp) =>
      match getO B σ lp with
      | some (.link _ ep _) => (connectA B σ ep s 0).map (·.2)
      | _ => none
    | _ => none
  | _ => none

/-- `self.__add_work(id, units, predecessors)` -/
def addWorkA (σ : Store) (id : Atom) (u : Rat) (preds : List Atom) : Option Store :=
  match newNodeA B σ with
  | none => none
  | some (s, σ1) =>
    match newNodeA B σ1 with
    | none => none
    | some (e, σ2) =>
      match connectA B σ2 s e u with
      | none => none
      | some (l, σ3) =>
        match getO B σ3 B with
        | some (.calc nodes links tasks ed mem) =>
          preds.foldlM (addWorkStep B s) (setO B σ3 B (.calc nodes (Dict.insert links id (.ref l)) tasks ed mem))
        | _ => none

end store

section insert
variable (e : CPEnv) (tid : Uid → Int) (B : Nat)

/-- the innermost loop body of `__insert_task`: the candidate `p` -/
def insertStep (rec : Store → Uid → Option Store) (acc : Store × List Atom) (p : Uid) : Option (Store × List Atom) :=
  match getO B acc.1 B with
  | some (.calc _ _ _ _ mem) =>
    if (e.children p).length = 0 ∧ mem.any (fun v => v.pyEq (.num ((p : Nat) : Rat))) = true ∧
        acc.2.any (fun v => v.pyEq (idA (tid p))) = false then
      (rec acc.1 p).map (fun σ' => (σ', acc.2 ++ [idA (tid p)]))
    else some acc
  | _ => none

/-- the loop over `[pred] + list(pred.all_children)` -/
def insertPred (rec : Store → Uid → Option Store) (acc : Store × List Atom) (pred : Uid) : Option (Store × List Atom) :=
  match descF e.children (e.n + 1) pred with
  | none => none
  | some d => (pred :: d).foldlM (insertStep e tid B rec) acc

/-- the loop over `owner.predecessors` -/
def insertOwner (rec : Store → Uid → Option Store) (acc : Store × List Atom) (owner : Uid) : Option (Store × List Atom) :=
  (e.preds owner).foldlM (insertPred e tid B rec) acc

/-- `self.__insert_task(task)` with at most `f` nested activations -/
def insertA : Nat → Store → Uid → Option Store
  | 0, _, _ => none
  | f + 1, σ, t =>
    if 0 < (e.children t).length then some σ
    else
      match getO B σ B with
      | some (.calc nodes links tasks ed mem) =>
        if (Dict.get? tasks (idA (tid t))).isSome then some σ
        else
          let σ1 := setO B σ B (.calc nodes links (Dict.insert tasks (idA (tid t)) (.ref t)) ed mem)
          match (t :: e.ancestors (e.n + 1) t).foldlM (insertOwner e tid B (insertA f)) (σ1, []) with
          | none => none
          | some (σ2, pids) => addWorkA B σ2 (idA (tid t)) (e.dur t) pids
      | _ => none

/-- `set([id(t) for t in tasks])` -/
def memOf (members : List Uid) : List Atom := pyDedup (members.map (fun u => Atom.num ((u : Nat) : Rat)))

/-- `CriticalPathCalculator(tasks, None)`: the store after `__init__` (the calculator is the object `ref B`) -/
def initA (f : Nat) : Option Store :=
  e.members.foldlM (fun σ t => insertA e tid B f σ t) [.calc [] [] [] .none (memOf e.members)]

end insert

section passes
variable (B : Nat)

/-- `node.start_units = v` / `node.end_units = v` -/
def setSU (σ : Store) (a : Nat) (v : Option Rat) : Option Store :=
  match getO B σ a with
  | some (.node fw bw _ eu) => some (setO B σ a (.node fw bw v eu))
  | _ => none

def setEU (σ : Store) (a : Nat) (v : Option Rat) : Option Store :=
  match getO B σ a with
  | some (.node fw bw su _) => some (setO B σ a (.node fw bw su v))
  | _ => none

/-- one round of the loop of `__forward` -/
def fwdStep (rec : Store → Nat → Option Store) (acc : Store × Rat) (l : Nat) : Option (Store × Rat) :=
  match getO B acc.1 l with
  | some (.link s _ _) =>
    match getO B acc.1 s with
    | some (.node _ _ su _) =>
      match (if su.isNone then rec acc.1 s else some acc.1) with
      | none => none
      | some σ' =>
        match getO B σ' l with
        | some (.link s' _ u') =>
          match getO B σ' s' with
          | some (.node _ _ (some v) _) => some (σ', pyMaxR acc.2 (v + u'))
          | _ => none
        | _ => none
    | _ => none
  | _ => none

/-- `self.__forward(node)` with at most `f` nested activations -/
def forwardA : Nat → Store → Nat → Option Store
  | 0, _, _ => none
  | f + 1, σ, a =>
    match getO B σ a with
    | some (.node _ bw su _) =>
      if su.isNone then
        match bw.foldlM (fwdStep B (forwardA f)) (σ, 0) with
        | none => none
        | some (σ', ms) => setSU B σ' a (some ms)
      else some σ
    | _ => none

/-- one round of the loop of `__backward` -/
def bwdStep (rec : Store → Nat → Option Store) (acc : Store × Option Rat) (l : Nat) : Option (Store × Option Rat) :=
  match getO B acc.1 l with
  | some (.link _ en _) =>
    match getO B acc.1 en with
    | some (.node _ _ _ eu) =>
      match (if eu.isNone then rec acc.1 en else some acc.1) with
      | none => none
      | some σ' =>
        match getO B σ' l with
        | some (.link _ en' u') =>
          match getO B σ' en' with
          | some (.node _ _ _ (some v)) =>
            some (σ', some (match acc.2 with | none => v - u' | some m => pyMinR m (v - u')))
          | _ => none
        | _ => none
    | _ => none
  | _ => none

/-- `self.__backward(node)` with at most `f` nested activations -/
def backwardA : Nat → Store → Nat → Option Store
  | 0, _, _ => none
  | f + 1, σ, a =>
    match getO B σ a with
    | some (.node fw _ _ eu) =>
      if eu.isNone then
        match fw.foldlM (bwdStep B (backwardA f)) (σ, none) with
        | none => none
        | some (σ', me) =>
          match me with
          | some m => setEU B σ' a (some m)
          | none =>
            match getO B σ' a with
            | some (.node _ _ su' _) => setEU B σ' a su'
            | _ => none
      else some σ
    | _ => none

/-- `len(n.backward_links) == 0` / `len(n.forward_links) == 0` -/
def noBw (σ : Store) (n : Nat) : Option Bool :=
  match getO B σ n with
  | some (.node _ bw _ _) => some (decide (bw.length = 0))
  | _ => none

def noFw (σ : Store) (n : Nat) : Option Bool :=
  match getO B σ n with
  | some (.node fw _ _ _) => some (decide (fw.length = 0))
  | _ => none

/-- `[n for n in l if c(n)]` -/
def filterO (c : Nat → Option Bool) : List Nat → Option (List Nat)
  | [] => some []
  | n :: l =>
    match c n with
    | none => none
    | some b => (filterO c l).map (fun r => if b then n :: r else r)

def nodesOf (σ : Store) : Option (List Nat) :=
  match getO B σ B with
  | some (.calc nodes _ _ _ _) => some nodes
  | _ => none

/-- one round of the last loop of `calc`: the task of the link `links[k]` joins the result when its float passes the
    tolerance test -/
def resStep (en : Nat) (σ : Store) (res : List Atom) (k : Atom) : Option (List Atom) :=
  match getO B σ B with
  | some (.calc _ links tasks _ _) =>
    match Dict.get? links k with
    | some (.ref v) =>
      match getO B σ v with
      | some (.link s t u) =>
        match getO B σ t, getO B σ s, getO B σ en with
        | some (.node _ _ _ (some teu)), some (.node _ _ (some ssu) _), some (.node _ _ (some len) _) =>
          let r := teu - ssu - u
          if (if r < 0 then -r else r) ≤ (1 / 1000000000 : Rat) * pyMaxR 1 len then
            match Dict.get? tasks k with
            | some tk => some (res ++ [tk])
            | none => none
          else some res
        | _, _, _ => none
      | _ => none
    | _ => none
  | _ => none

/-- `self.calc()` (with `__end_date = None`) with at most `f` nested activations of the passes: the result -/
def calcA (f : Nat) (σ : Store) : Option (List Atom × Store) :=
  match getO B σ B with
  | some (.calc nodes _ _ _ _) =>
    match filterO (noBw B σ) nodes, filterO (noFw B σ) nodes with
    | some startNodes, some endNodes =>
      let b := newPNode B σ
      match setSU B b.2 b.1 (some 0) with
      | none => none
      | some σ1 =>
        match startNodes.foldlM (fun σ n => (connectA B σ b.1 n 0).map (·.2)) σ1 with
        | none => none
        | some σ2 =>
          let en := newPNode B σ2
          match endNodes.foldlM (fun σ n => (connectA B σ n en.1 0).map (·.2)) en.2 with
          | none => none
          | some σ3 =>
            match nodesOf B σ3 with
            | none => none
            | some nodes3 =>
              match (nodes3 ++ [en.1]).foldlM (forwardA B f) σ3 with
              | none => none
              | some σ4 =>
                match nodesOf B σ4 with
                | none => none
                | some nodes4 =>
                  match nodes4.foldlM (backwardA B f) σ4 with
                  | none => none
                  | some σ5 =>
                    match getO B σ5 B with
                    | some (.calc _ links _ ed _) =>
                      match (links.map (·.1)).foldlM (resStep B en.1 σ5) [] with
                      | none => none
                      | some res => if ed = .none then some (res, σ5) else none
                    | _ => none
    | _, _ => none
  | _ => none

end passes

/-- `CriticalPathCalculator(tasks, None).calc()` over the typed store -/
def cpA (e : CPEnv) (tid : Uid → Int) (B : Nat) (f : Nat) : Option (List Atom × Store) :=
  match initA e tid B f with
  | none => none
  | some σ => calcA B f σ

end Pj.CritPathSrc

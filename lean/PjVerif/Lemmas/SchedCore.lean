/-
  Lemmas/SchedCore.lean — the invariant of a scheduling run and the induction over it, for both schedulers.
  `Core` holds of every state of every run; what a property adds is a fact `P σ t` about each task that is done,
  established when `t` is placed (`Placing`: everything the pass knows at that point) and kept by later placements
  (`Tasks`).  `Sched.run_tasks` is the induction, over the scheduler record of Lemmas/SchedPass.lean.  `Seen` is the fact
  of this kind that the clauses about the ledger share: what the ledger still shows of a placement (the rows, the calendar
  and the bookings it saw), so that such a clause is read at the end of the run off the outcome the placement computed.
-/
import PjVerif.Lemmas.SchedDir
namespace Pj

/-- what holds of every state of a run started from the fields `fi`: the ledger is sound, rows belong to done
    tasks, done tasks are members with their resource in the table, tasks not yet done are untouched -/
structure Core (env : Env) (fi : Uid → Fields) (σ : SS) : Prop where
  ledger : LedgerOK env σ
  rowsDone : ∀ r ∈ σ.rows, r.task ∈ σ.done
  doneMem : ∀ x ∈ σ.done, (env.info x).member = true
  init : ∀ x, x ∉ σ.done → σ.f x = fi x
  hasRes : ∀ x ∈ σ.done, (σ.res.map (·.1)).contains (env.info x).resource = true

theorem Core.start (env : Env) (fi : Uid → Fields) (res0 : List (Option Nat × Cal)) (k : Nat) :
    Core env fi { f := fi, rows := [], done := [], res := res0, reads := k } :=
  ⟨LedgerOK.init env _ rfl, fun _ h => (nomatch h), fun _ h => (nomatch h), fun _ _ => rfl, fun _ h => (nomatch h)⟩

theorem Core.noRows {env : Env} {fi : Uid → Fields} {σ : SS} (hc : Core env fi σ) {t : Uid} (ht : t ∉ σ.done) :
    ∀ r ∈ σ.rows, r.task ≠ t := fun r hr h => ht (h ▸ hc.rowsDone r hr)

theorem Core.used_nonneg {env : Env} {fi : Uid → Fields} {σ : SS} (hc : Core env fi σ) (t : Uid) (d : Int) :
    0 ≤ placeUsed env σ t d := placeUsed_nonneg env σ t hc.ledger d

theorem Core.commit {env : Env} {fi : Uid → Fields} {σ : SS} {t : Uid} {o : Outcome}
    (hc : Core env fi σ) (hm : (env.info t).member = true) (ht : t ∉ σ.done)
    (hg : GoodNew (placeCal env σ t) (placeUsed env σ t) o.new) : Core env fi (σ.commit env t o) := by
  obtain ⟨he, hd⟩ := SS.commit_ext env σ t o ht
  refine ⟨SS.commit_ledger env σ t o hc.ledger hg, he.rows_done hc.rowsDone, ?_, ?_,
    SS.commit_hasRes env σ t o hc.hasRes⟩
  · intro x hx
    rcases mem_done_snoc hd hx with hx | rfl
    · exact hc.doneMem x hx
    · exact hm
  · intro x hx
    rw [he.untouched x hx]
    exact hc.init x (fun h => hx (he.done_sub h))

theorem Core.place {env : Env} {fi : Uid → Fields} {d : Sched env} (hd : d.OK) {σ σ' : SS} {t : Uid} {m v : Time}
    (hc : Core env fi σ) (hm : (env.info t).member = true) (ht : t ∉ σ.done) (h : d.place σ t m v = .ok σ') :
    Core env fi σ' := by
  obtain ⟨o, rfl, hg, _⟩ := hd.commit σ σ' t m v h
  exact hc.commit hm ht hg

/-- what the ledger of `σ` shows of the task `t`, placed with outcome `o` when its resource had the calendar `cal` and the
    ledger view `used`: its fields and rows are those of `o`, its resource still has that calendar, what was booked before
    its first row is `used`, and (balancing) what is booked now is at least `used` and its own rows -/
structure Seen (env : Env) (σ : SS) (t : Uid) (cal : Cal) (used : Int → Rat) (o : Outcome) : Prop where
  f : σ.f t = o.g
  rows : rowsOf σ.rows t = o.new.map (mkRow (env.info t).resource t)
  cal : calOf σ.res (env.info t).resource = cal
  key : (σ.res.map (·.1)).contains (env.info t).resource = true
  own : ∀ d, reserved σ.rows (env.info t).resource d (some t) = daySum o.new d
  before : o.new ≠ [] → ∀ d, bookedBefore env (outOf σ) (env.info t).resource d t = used d
  atLeast : env.balance = true → ∀ d, used d + daySum o.new d ≤ reserved σ.rows (env.info t).resource d none
  nonneg : ∀ d, 0 ≤ used d

section
variable {env : Env} {σ σ' : SS} {t : Uid} {cal : Cal} {used : Int → Rat} {o : Outcome}

theorem Seen.cap (h : Seen env σ t cal used o) {d : Int} {c : Rat} (hc : capR cal (d : Rat) = .ok c) :
    capMid σ.res (env.info t).resource d = c := by
  unfold Pj.capMid
  rw [h.cal, hc]

theorem Seen.commit {fi : Uid → Fields} (hc : Core env fi σ) (ht : t ∉ σ.done) :
    Seen env (σ.commit env t o) t (placeCal env σ t) (placeUsed env σ t) o := by
  obtain ⟨hb, hown, htot⟩ := booked_after_place env σ (σ.commit env t o) t o.new (hc.noRows ht) rfl
  obtain ⟨_, hcal, hkey⟩ := resLookup_spec σ.res (env.info t).resource
  exact ⟨SS.commit_f_same env σ t o, rowsOf_placed _ _ _ _ (hc.noRows ht), hcal, hkey, hown, hb,
    fun hbal d => by rw [htot d, placeUsed_balance env σ t hbal]; exact Rat.le_refl, hc.used_nonneg t⟩

theorem Seen.full_of_le (h : Seen env σ t cal used o) (hbal : env.balance = true) {d : Int} {c : Rat}
    (hc : capR cal (d : Rat) = .ok c) (hle : c ≤ used d + daySum o.new d) :
    capMid σ.res (env.info t).resource d ≤ reserved σ.rows (env.info t).resource d none := by
  rw [h.cap hc]
  exact Rat.le_trans hle (h.atLeast hbal d)

theorem Seen.full (h : Seen env σ t cal used o) (hbal : env.balance = true) (hl : LedgerOK env σ) {d : Int}
    (hd : DayFull cal used d) : capMid σ.res (env.info t).resource d ≤ reserved σ.rows (env.info t).resource d none := by
  obtain ⟨c, hc, hfull⟩ := hd
  have h0 : 0 ≤ daySum o.new d := by rw [← h.own d]; exact reserved_nonneg _ hl.pos _ _ _
  exact h.full_of_le hbal hc (by grind)

theorem Seen.keep (h : Seen env σ t cal used o) (he : Ext σ σ') (hl' : LedgerOK env σ') (ht : t ∈ σ.done) :
    Seen env σ' t cal used o := by
  obtain ⟨hf, hro, hown, hcap, hbefore⟩ := he.view env ht
  obtain ⟨r, hr, _⟩ := he.res
  refine ⟨hf.trans h.f, hro.trans h.rows, by rw [hr, calOf_append _ _ _ h.key]; exact h.cal,
    by rw [hr]; exact contains_append_left _ _ _ h.key, fun d => (hown _ d).trans (h.own d), fun hne d => ?_,
    fun hbal d => Rat.le_trans (h.atLeast hbal d) (reserved_mono_ext he hl' _ d), h.nonneg⟩
  rw [hbefore (by rw [h.rows]; simpa using hne)]
  exact h.before hne d

end

/-- everything the pass of the scheduler `d` knows when it places `t`, called with `m`: `σ1` is the state in which the
    date handed down was aggregated over the links, `σ` the state before the placement (after the children), `σ'` the
    state after it -/
structure Placing (env : Env) (fi : Uid → Fields) (d : Sched env) (σ1 σ σ' : SS) (t : Uid) (m : Time) : Prop where
  core : Core env fi σ
  core' : Core env fi σ'
  mem : (env.info t).member = true
  fresh : t ∉ σ.done
  kids : ∀ c ∈ (env.info t).children, c ∈ σ.done
  ext1 : Ext σ1 σ
  ext : Ext σ σ'
  linksDone : ∀ p ∈ d.links t, (env.info p).member = (env.info t).member → p ∈ σ1.done
  leaf : (env.info t).children.isEmpty = true → σ = σ1
  run : d.place σ t m (d.agg σ1 (d.links t) m) = .ok σ'

section
variable {env : Env} {fi : Uid → Fields} {d : Sched env} {σ1 σ σ' : SS} {t : Uid} {m : Time}

theorem Placing.init (h : Placing env fi d σ1 σ σ' t m) : σ.f t = fi t := h.core.init t h.fresh

/-- the tasks `t` is linked to keep, from `σ1` on, the fields the aggregate was taken from: those inside the WBS are
    done in `σ1`, the others are never placed -/
theorem Placing.linked (h : Placing env fi d σ1 σ σ' t m) {p : Uid} (hp : p ∈ d.links t) :
    σ'.f p = σ1.f p ∧ σ.f p = σ1.f p ∧ (p ∈ σ1.done ∨ (env.info p).member = false) := by
  by_cases hpm : (env.info p).member = true
  · have h1 := h.linksDone p hp (hpm.trans h.mem.symm)
    exact ⟨(h.ext1.trans h.ext).frozen p h1, h.ext1.frozen p h1, Or.inl h1⟩
  · have hn : p ∉ σ'.done := fun hc => hpm (h.core'.doneMem p hc)
    exact ⟨(h.ext1.trans h.ext).untouched p hn, h.ext1.untouched p (fun hc => hn (h.ext.done_sub hc)),
      Or.inr (by simpa using hpm)⟩

end

/-- a fact about each done task: the placement of `t` establishes it (`new`), later placements keep it (`keep`) -/
structure Tasks (env : Env) (fi : Uid → Fields) (d : Sched env) (P : SS → Uid → Prop) (Q : Uid → Time → Prop) : Prop where
  keep : ∀ σ σ' t, Core env fi σ → Core env fi σ' → Ext σ σ' → t ∈ σ.done → P σ t → P σ' t
  new : ∀ σ1 σ σ' t m, Placing env fi d σ1 σ σ' t m → Q t m → (∀ x ∈ σ.done, P σ x) → P σ' t

/-- `Core` and the facts of the done tasks, as one invariant -/
def CoreP (env : Env) (fi : Uid → Fields) (P : SS → Uid → Prop) (σ : SS) : Prop :=
  Core env fi σ ∧ ∀ t ∈ σ.done, P σ t

/-- a run of either scheduler: `Core` holds at the end, every member is done and has its fact.  `Q` relates a member
    to the date it is called with. -/
theorem Sched.run_tasks {env : Env} (d : Sched env) (hd : d.OK) {f0 : Uid → Fields} {res0 : List (Option Nat × Cal)}
    {o : Output} (hf : env.flagsOK) (P : SS → Uid → Prop) (Q : Uid → Time → Prop)
    (hT : Tasks env (prepare env f0 (memberList env)) d P Q)
    (hroot : ∀ r ∈ env.roots, Q r env.bound)
    (hkids : ∀ σ t c m, t ∈ memberList env → Q t m → c ∈ (env.info t).children → Q c (d.agg σ (d.links t) m))
    (hlinks : ∀ t p m, t ∈ memberList env → Q t m → p ∈ d.links t → p ∈ memberList env → Q p m)
    (h : d.run f0 res0 = .ok o) :
    ∃ σ, o = outOf σ ∧ Core env (prepare env f0 (memberList env)) σ ∧ ∀ t ∈ memberList env, t ∈ σ.done ∧ P σ t := by
  have hmem : ∀ t, t ∈ memberList env → ∀ p, (env.info p).member = (env.info t).member → p ∈ memberList env :=
    fun t ht p he => (hf p).1 (he.trans ((hf t).2 ht))
  obtain ⟨mem, _, hm, _⟩ := d.run_ok h
  have hch : ∀ t ∈ memberList env, ∀ c ∈ (env.info t).children, c ∈ memberList env :=
    memberList_eq env mem hm ▸ members_children env mem hm
  have hrt : ∀ r ∈ env.roots, r ∈ memberList env := memberList_eq env mem hm ▸ members_root env mem hm
  obtain ⟨σ, ho, hI, hdone⟩ := d.run_inv hd (CoreP env (prepare env f0 (memberList env)) P)
    (fun t m => t ∈ memberList env ∧ Q t m)
    (fun σ1 σ σ' t m hq hi ht hk e1 hl h12 hpl => by
      have hm := (hf t).2 hq.1
      have hc' := hi.1.place hd hm ht hpl
      obtain ⟨he, hdn⟩ := d.place_ext hd σ σ' t m _ ht hpl
      refine ⟨hc', fun x hx => ?_⟩
      rcases mem_done_snoc hdn hx with hx | rfl
      · exact hT.keep _ _ _ hi.1 hc' he hx (hi.2 x hx)
      · exact hT.new σ1 σ σ' x m ⟨hi.1, hc', hm, ht, hk, e1, he, hl, fun h0 => h12 (List.isEmpty_iff.1 h0), hpl⟩ hq.2 hi.2)
    (fun σ t c m hq hc => ⟨hch t hq.1 c hc, hkids σ t c m hq.1 hq.2 hc⟩)
    (fun t p m hq hp he => have hpm := hmem t hq.1 p he; ⟨hpm, hlinks t p m hq.1 hq.2 hp hpm⟩)
    (fun r hr => ⟨hrt r hr, hroot r hr⟩) ⟨Core.start env _ res0 _, fun _ h => (nomatch h)⟩ h
  exact ⟨σ, ho, hI.1, fun t ht => ⟨hdone t ht, hI.2 t (hdone t ht)⟩⟩
/-- without links on tasks that have children a child is called with the date its parent was called with -/
theorem nsl_agg (env : Env) (hs : noSummaryLinks env = true) {t c : Uid} (ht : t ∈ memberList env)
    (hc : c ∈ (env.info t).children) (σ : SS) (m : Time) :
    (Sched.fwd env).agg σ ((Sched.fwd env).links t) m = m ∧ (Sched.bwd env).agg σ ((Sched.bwd env).links t) m = m := by
  obtain ⟨h1, h2⟩ := nsl_spec env hs t ht (List.isEmpty_eq_false_iff_exists_mem.2 ⟨c, hc⟩)
  exact ⟨show maxEnds σ (env.info t).preds m = m by rw [h1]; rfl,
    show minStarts σ (env.info t).succs m = m by rw [h2]; rfl⟩

end Pj

/-
  Lemmas/StrLib.lean — what the three string-building ties (the sheet printer, the Mermaid renderers, the DHTMLX data) share:
  STRINGS are atoms `.str k`, and a string library `S : Lib` relates keys and texts (`S.I`, `S.D`, with the hypothesis
  `S.OK : ∀ s, S.D (S.I s) = s`, so that Python's `==` on strs is `==` on keys); `S.text a` is Python's `str(a)`.  See the
  "Setting" of Lemmas/PrintSrc.lean.  Also the helpers of the primitive tables, the empty store `st0` and the concrete library
  `cLib` of the Check files.
-/
import PjVerif.Model.PyLite
import PjVerif.Model.Print
namespace Pj.PrintSrc
open Pj.PyLite Pj.Print

/-! ### the string library -/

structure Lib where
  I : Str → Nat
  D : Nat → Str
  strOf : Atom → Str
  fmt : Time → Str
  emptyId : Atom

def Lib.OK (S : Lib) : Prop := ∀ s, S.D (S.I s) = s

def Lib.s (S : Lib) (x : Str) : Atom := .str (S.I x)

def Lib.os (S : Lib) : Option Str → Atom
  | none => .none
  | some x => S.s x

/-- Python's `str(a)` -/
def Lib.text (S : Lib) : Atom → Str
  | .str k => S.D k
  | a => S.strOf a

def refsA (l : List Nat) : Val := .list (l.map Atom.ref)

def optRefA : Option Nat → Atom
  | none => .none
  | some i => .ref i

def lookupA (d : List (Str × Atom)) (k : Str) : Option Atom := (d.find? (fun p => p.1 == k)).map (·.2)

def one (args : List Atom) (f : Atom → Res Val) : Res Val :=
  match args with
  | [a] => f a
  | _ => throw stuck

def oneTask (args : List Atom) (f : Nat → Val) : Res Val :=
  match args with
  | [.ref t] => pure (f t)
  | _ => throw stuck

def oneStr (args : List Atom) (f : Nat → Val) : Res Val :=
  match args with
  | [.str k] => pure (f k)
  | _ => throw stuck

def st0 : PState := { L := [], heap := fun _ => [], done := [], res := [], reads := 0, boxes := [] }


/-! ### a concrete string library (used by the Check files) -/

def B : Nat := 1114113

/-- the key of a text: its characters as the digits 1 … 1114112 of a number in base `B` -/
def enc : Str → Nat
  | [] => 0
  | c :: cs => c.toNat + 1 + B * enc cs

/-- (the patterns `m + 1` make the kernel evaluate the key once, to a literal) -/
def decF : Nat → Nat → Str
  | 0, _ => []
  | _, 0 => []
  | f + 1, m + 1 => Char.ofNat (m % B) :: decF f ((m + 1) / B)

def dec : Nat → Str
  | 0 => []
  | m + 1 => decF (m + 1) (m + 1)

/-- `str` of an int / a fraction (the Check files' stand-in for Python's `str` on numbers), '?' otherwise -/
def cStr : Atom → Str
  | .num q => (if q.num < 0 then ['-'] else []) ++ Nat.toDigits 10 q.num.natAbs ++
      (if q.den = 1 then [] else '/' :: Nat.toDigits 10 q.den)
  | .bool b => if b then "True".toList else "False".toList
  | _ => ['?']

/-- a stand-in for `strftime`: '@' and the day number -/
def cFmt (t : Time) : Str := '@' :: Nat.toDigits 10 t.floor.natAbs

def cLib : Lib := { I := enc, D := dec, strOf := cStr, fmt := cFmt, emptyId := .num 9223372036854775807 }

end Pj.PrintSrc

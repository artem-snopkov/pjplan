/-
  Lemmas/DhtmlxSrcCheckB.lean — the concrete runs, continued: the user attributes on `w1`, and FAMILIES of runs of the
  translated `DhtmlxGantt.__data` against Model/Render.lean: the progress over a grid of (estimate, spent, end), every shape
  of a WBS of three tasks with every choice of one predecessor (instances of `interpOut_eq`, Lemmas/DhtmlxSrcA.lean).  The
  summary and the NEGATIVE CHECK are the comment block at the end of this file.
-/
import PjVerif.Lemmas.DhtmlxSrcRuns
namespace Pj.DhtmlxSrc
open Pj.PyLite Pj.Render Pj.Extracted.Dhtmlx
open Pj.PrintSrc (Lib cLib enc dec cLib_ok)
namespace Check

/-! ### the user attributes on `w1`, read in the model's `expData` (`outData_w1`) -/

/-- entry 3 is task 0: `text` is the name, not "HACK"; `note` is carried as the text "7"; `_Task__x` is dropped -/
example : ((outData V1 w1).getD 3 []).map (·.1) =
    ["id", "text", "type", "start_date", "end_date", "resource", "estimate", "spent", "open", "parent", "progress",
     "css_class", "note"].map s := by rw [outData_w1]; decide +kernel
example : field ((outData V1 w1).getD 3 []) "text" = some (s "Phase") := by rw [outData_w1]; decide +kernel
example : field ((outData V1 w1).getD 3 []) "note" = some (s "7") := by rw [outData_w1]; decide +kernel
/-- entry 0 is task 1: `progress` is 2/5, not 5; `open` is the value of `gantt_open`, which is carried as well -/
example : field ((outData V1 w1).getD 0 []) "progress" = some (.num (2/5)) := by rw [outData_w1]; decide +kernel
example : field ((outData V1 w1).getD 0 []) "open" = some (s "false") := by rw [outData_w1]; decide +kernel
example : field ((outData V1 w1).getD 0 []) "gantt_open" = some (s "false") := by rw [outData_w1]; decide +kernel
example : field ((outData V1 w1).getD 0 []) "css_class" = some (s "dhtmlx_bar_0") := by rw [outData_w1]; decide +kernel
/-- entry 2 is task 2: `type` is milestone, not "project" -/
example : field ((outData V1 w1).getD 2 []) "type" = some (s "milestone") := by rw [outData_w1]; decide +kernel
/-- entry 1 is task 3: `open` is 'true' (no `gantt_open`), not False; `color` is carried -/
example : field ((outData V1 w1).getD 1 []) "open" = some (s "true") := by rw [outData_w1]; decide +kernel
example : field ((outData V1 w1).getD 1 []) "color" = some (s "red") := by rw [outData_w1]; decide +kernel
example : field ((outData V1 w1).getD 1 []) "css_class" = some .none := by rw [outData_w1]; decide +kernel


def agrees (V : View) (w : Nat → RTask) (c : PDict) : Bool :=
  decide (interpOut S V w FC c = .ok (some (expData S V w c, expLinks S V w)))

/-! ### progress: one task, estimate × spent × end (the clock reads 100) -/

def one (est : Rat) (sp : Option Rat) (e : Time) : Nat → RTask := fun _ =>
  { id := 9, name := "T".toList, milestone := false, start := 50, end_ := e, resource := none, estimate := est, spent := sp,
    parent := none, children := [], preds := [], dict := [] }

def Vone : View := { roots := [0], tasks := [0], n := 1, now := 100, fmt := cLib.fmt, alloc := 10 }

def ests : List Rat := [0, 5, 1/2, -2]
def spents : List (Option Rat) := [none, some 0, some 3, some 5, some 9, some (1/4)]
def ends : List Time := [99, 100, 101]

example : (ests.all (fun est => spents.all (fun sp => ends.all (fun e => agrees Vone (one est sp e) [])))) = true :=
  -- every run is an instance of `interpOut_eq`: the task has no user attributes
  List.all_eq_true.2 fun _ _ => List.all_eq_true.2 fun _ _ => List.all_eq_true.2 fun _ _ =>
    decide_eq_true (interpOut_plain _ _ fun _ => rfl)

/-- the model's progress on the grid lies in 0 … 1 (ends 101: not past) -/
example : (ests.map (fun est => spents.map (fun sp => progressOf (toDTask Vone (one est sp 101 0))))) =
    [[0, 0, 0, 0, 0, 0], [0, 0, 3/5, 1, 1, 1/20], [0, 0, 1, 1, 1, 1/2], [0, 0, 0, 0, 0, 0]] := by decide +kernel
example : (spents.all (fun sp => progressOf (toDTask Vone (one 5 sp 99 0)) == 1)) = true := by decide +kernel

/-! ### shapes: three tasks 0 1 2 (+ 3 outside), every forest, every single predecessor link -/

def shape (par : Nat → Option Nat) (from_ to : Nat) : Nat → RTask := fun u =>
  { id := (u : Int) + 10, name := "T".toList, milestone := u == 1, start := 110, end_ := 120, resource := none,
    estimate := 4, spent := some 1, parent := par u,
    children := (List.range 3).filter (fun c => par c == some u),
    preds := if u = to then [from_] else [], dict := [] }

def pre (par : Nat → Option Nat) : Nat → Nat → List Nat
  | 0, _ => []
  | f + 1, t => (((List.range 3).filter (fun c => par c == some t)).map (fun c => c :: pre par f c)).flatten

def Vshape (par : Nat → Option Nat) : View :=
  let roots := (List.range 3).filter (fun c => par c == none)
  { roots := roots, tasks := (roots.map (fun r => r :: pre par 4 r)).flatten, n := 3, now := 100, fmt := cLib.fmt, alloc := 10 }

/-- the forests on {0, 1, 2} (parent of every node) -/
def forests : List (Nat → Option Nat) :=
  [fun _ => none,
   fun u => if u = 1 then some 0 else none, fun u => if u = 2 then some 0 else none, fun u => if u = 2 then some 1 else none,
   fun u => if u = 0 then some 1 else none, fun u => if u = 0 then some 2 else none, fun u => if u = 1 then some 2 else none,
   fun u => if u = 0 then none else some 0, fun u => if u = 1 then none else some 1, fun u => if u = 2 then none else some 2,
   fun u => if u = 1 then some 0 else if u = 2 then some 1 else none,
   fun u => if u = 2 then some 0 else if u = 1 then some 2 else none,
   fun u => if u = 0 then some 1 else if u = 2 then some 0 else none,
   fun u => if u = 2 then some 1 else if u = 0 then some 2 else none,
   fun u => if u = 0 then some 2 else if u = 1 then some 0 else none,
   fun u => if u = 1 then some 2 else if u = 0 then some 1 else none]

example : ((forests.take 6).all (fun par => (List.range 4).all (fun a => (List.range 3).all (fun b =>
    agrees (Vshape par) (shape par a b) [])))) = true :=
  List.all_eq_true.2 fun _ _ => List.all_eq_true.2 fun _ _ => List.all_eq_true.2 fun _ _ =>
    decide_eq_true (interpOut_plain _ _ fun _ => rfl)
example : (((forests.drop 6).take 5).all (fun par => (List.range 4).all (fun a => (List.range 3).all (fun b =>
    agrees (Vshape par) (shape par a b) [])))) = true :=
  List.all_eq_true.2 fun _ _ => List.all_eq_true.2 fun _ _ => List.all_eq_true.2 fun _ _ =>
    decide_eq_true (interpOut_plain _ _ fun _ => rfl)
example : ((forests.drop 11).all (fun par => (List.range 4).all (fun a => (List.range 3).all (fun b =>
    agrees (Vshape par) (shape par a b) [])))) = true :=
  List.all_eq_true.2 fun _ _ => List.all_eq_true.2 fun _ _ => List.all_eq_true.2 fun _ _ =>
    decide_eq_true (interpOut_plain _ _ fun _ => rfl)

end Check
end Pj.DhtmlxSrc

/-
  SUMMARY.  The translator (tools/extract_dhtmlx.py, key `dhtmlx_src` of tools/extract.py), the generated program
  (Extracted/DhtmlxSrc.lean: `src_data` = `DhtmlxGantt.__data` up to `json.dumps`, `src_cell_init` synthetic), the entry
  point `interpData` / `interpOut` and the general theorem `interpOut_eq` (DhtmlxSrcA.lean): for every string library that
  is OK, every view, every task table in which the names of each `__dict__` are distinct, every `task_classes` and fuel ≥ 2

      interpOut S V w F tc = .ok (some (expData S V w tc, expLinks S V w))

  i.e. the list `data` is, entry by entry in the model's order (`dhtmlxOrder`), the dict whose `id, text, type, start_date,
  end_date, parent, progress` are those of the model's `dhtmlxData` (`entryDict`), and the list `links` is the model's
  `dhtmlxLinks` (`linkDict`: ids 1, 2, 3, …, `type` '0').  Its instances in the Check files: the WBS `w1` of
  DhtmlxSrcCheck.lean (nested tasks, a milestone, spent above the estimate, no estimate, an ended task, a predecessor outside
  the WBS, a predecessor emitted after its successor, a doubled predecessor, a parent outside the WBS, a css class, the user
  attributes `text` / `progress` / `type` / `open` that do not replace the computed values, `note` / `color` / `gantt_open`
  carried as text, a private `_Task__x` dropped), its sub-plan, the empty WBS, the grid estimate × spent × end of this file
  and every forest of three tasks with every single predecessor link.
  Remarks.  The source has no `project` type (the type is `milestone` / `task`) and the progress is 1 for a task that ended
  before now, else `1 - max(estimate - spent, 0) / estimate` for a positive estimate and a spent that is not None, else 0 - as
  in the model.  `datetime.now()` reads the same on every call (the model's `endPast` is per task anyway).

  NEGATIVE CHECK (scratch copy /tmp/leanwork3/scratch_neg: mutated copy of gantt.py → extract_dhtmlx → the statements of the
  examples of DhtmlxSrcCheck.lean and of the user attributes above evaluated by the kernel, `decide +kernel`; script
  scratch_neg/neg.py; the three runs on `w1`: `V1`, the sub-plan `V2`, `w2`.  In the build those examples are instances of
  `interpOut_eq`, whose proof is about the unmutated term: on a mutant the theorem fails first.  Miss = the translator
  refuses the edited source (it leaves the translatable fragment), which the check reports as a broken tie).
    `k not in data_val` → `k not in data`                         Miss (membership in a list local)
    links only to tasks already emitted (comprehension on `data`)  Miss (ListComp)
    `for p in t.successors`                                        Miss (attribute `successors`)
    source / target swapped                                        fails: the three runs on `w1`
    clamp `max(…, 0)` dropped                                      fails: the three runs (task 3: spent 12 of 8)
    `parent` of a root 1 instead of 0                              fails: the three runs
    `parent` without `in self.wbs.tasks`                           fails: `V2` (the sub-plan)
    `'project' if len(t.children) else …` before the milestone test  Miss (`len` / `children`)
    `'task' if t.milestone else 'milestone'`                       fails: the three runs and the `type` example
    `link_id = 0` moved into the loop over the tasks               fails: the three runs
    `t.end <= datetime.now()`                                      fails: `V1`, `w2` (task 5 ends exactly now)
    `[_root] + _root.all_children`                                 Miss (operator)
    `not k.startswith('_Task')` dropped                            fails: `V1`, `w2` and the key list of entry 3
  Harmless rewrites that still check: `elif` written as a nested `if`; `'task' if not t.milestone else 'milestone'`; the
  two conjuncts of the guard swapped; `_root` / `link_id` renamed; `0 < t.estimate`.

  LIMITATIONS.  A dict display is translated as `x = {}; x[k] = v; …`; a dict that is appended to a list / a list that is a
  value of the final dict is held by an object of the store (`cell_init`), read back by `readOut`.  `t.all_children` is a
  primitive (= the model's `postList` over the raw children).  The names of a `__dict__` are distinct (a hypothesis of
  `interpOut_eq`).  `task_classes` is given (`__task_classes` is not translated).  `json.dumps`, `str`, `strftime` are
  primitives.
-/

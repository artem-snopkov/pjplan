/-
  Lemmas/SchedStep.lean — one placement as a function of the task's own fields.
  `fwdPlace` / `bwdPlace` thread a pass state through three stages; what they compute depends on the state only through
  the fields of the task (and of its children), the ledger view `used`, the calendar and the clock counter.  `fwdOut` /
  `bwdOut` compute that `Outcome`; `SS.commit` writes it back; `fwdPlace_eq` / `bwdPlace_eq` say the placement is exactly
  this, errors included.  A successful outcome is then read kind by kind (milestone, leaf, summary); of every kind the
  reservations fit and all four fields are set.
-/
import PjVerif.Lemmas.SchedFill
import PjVerif.Spec.Sched2
namespace Pj

theorem setF_f_same (σ : SS) (t : Uid) (g : Fields → Fields) : (setF σ t g).f t = g (σ.f t) := by
  simp [setF]

/-- the usage row a placement of `t` writes for one `(day, units)` pair -/
def mkRow (r : Option Nat) (t : Uid) (p : Int × Rat) : Row := { res := r, day := p.1, task := t, units := p.2 }

/-- the calendar and the ledger view a placement of `t` in state `σ` works with -/
abbrev placeCal (env : Env) (σ : SS) (t : Uid) : Cal := (resLookup σ.res (env.info t).resource).2
abbrev placeUsed (env : Env) (σ : SS) (t : Uid) : Int → Rat := usedBy env σ.rows (env.info t).resource t

/-- what a placement hands back to the pass: the new fields of its task, the `(day, units)` pairs it reserved and the
    number of clock readings it took -/
structure Outcome where
  g : Fields
  new : List (Int × Rat)
  reads : Nat

/-- the pass state after `t` has been placed with outcome `o` -/
def SS.commit (env : Env) (σ : SS) (t : Uid) (o : Outcome) : SS :=
  { f := upd σ.f t o.g, rows := σ.rows ++ o.new.map (mkRow (env.info t).resource t), done := σ.done ++ [t],
    res := (resLookup σ.res (env.info t).resource).1, reads := σ.reads + o.reads }

/-- `leftOf` on an estimate and a spent amount -/
def workLeft (es sp : Rat) : Rat := if es - sp < 0 then 0 else es - sp

/-- `if _task.start is None` of `__forward_pass` for a task without children: the start and the number of clock readings -/
def fwdLeafStart (clock : Nat → Time) (ms : Option Time) (cal : Cal) (used : Int → Rat) (v : Time) (r : Nat) (g : Fields) :
    Res (Time × Nat) :=
  match g.start with
  | some s => pure (s, 0)
  | none => (nearestFwd cal used (maxT (maxT v (clock r)) (ms.getD epoch))).map (·, 1)

/-- the four `if _task.… is None` statements of `__forward_pass` for a task without children, as a function of its fields
    `g` at clock counter `r` -/
def fwdLeaf (clock : Nat → Time) (bound : Time) (dflt : Rat) (ms : Option Time) (cal : Cal) (used : Int → Rat) (v : Time)
    (r : Nat) (g : Fields) : Res Outcome := do
  let sk ← fwdLeafStart clock ms cal used v r g
  let es := g.est.getD dflt
  let sp := g.spent.getD 0
  match g.end_ with
  | some e => pure ⟨⟨some sk.1, some e, some es, some sp⟩, [], sk.2⟩
  | none => do
    let er ← shiftFwd cal used (maxT sk.1 (clock (r + sk.2))) (workLeft es sp)
    pure ⟨⟨some sk.1, some (maxT (if bound < clock (r + sk.2 + 1) then maxT er.1 (clock (r + sk.2 + 1)) else er.1) sk.1),
      some es, some sp⟩, er.2, sk.2 + 2⟩

/-- `if _task.end is None` of `__backward_pass` for a task without children -/
def bwdLeafEnd (cal : Cal) (used : Int → Rat) (v : Time) (g : Fields) : Res Time :=
  match g.end_ with
  | some e => pure e
  | none => (nearestBwd cal used v).map (· + 1)

/-- the same statements of `__backward_pass` (end, estimate, spent, start) for a task without children -/
def bwdLeaf (dflt : Rat) (cal : Cal) (used : Int → Rat) (m v : Time) (g : Fields) : Res Outcome := do
  let E ← bwdLeafEnd cal used v g
  let es := g.est.getD dflt
  let sp := g.spent.getD 0
  let sr ← shiftBwd cal used (minT E m) (workLeft es sp)
  pure ⟨⟨some (match g.start with | some old => minT old sr.1 | none => sr.1), some E, some es, some sp⟩, sr.2, 0⟩

/-- the estimate / spent roll-up of a summary: kept when present, else the sum over the children -/
def rollSum (own : Option Rat) (ch : List (Option Rat)) : Res Rat :=
  match own with
  | some x => pure x
  | none => sumOpt ch

/-- the state after a stage of the placement of `t` -/
def SS.stage (env : Env) (σ : SS) (t : Uid) (o : Outcome) : SS :=
  { σ with f := upd σ.f t o.g, rows := σ.rows ++ o.new.map (mkRow (env.info t).resource t), reads := σ.reads + o.reads }

theorem SS.stage_self (env : Env) (σ : SS) (t : Uid) : σ.stage env t ⟨σ.f t, [], 0⟩ = σ := by
  simp [SS.stage, upd_self]

theorem SS.stage_stage (env : Env) (σ : SS) (t : Uid) (o1 o2 : Outcome) :
    (σ.stage env t o1).stage env t o2 = σ.stage env t ⟨o2.g, o1.new ++ o2.new, o1.reads + o2.reads⟩ := by
  simp [SS.stage, upd_upd, Nat.add_assoc]

theorem fwdStart_leaf_eq (env : Env) (cal : Cal) (used : Int → Rat) (t : Uid) (v : Time) (σ : SS)
    (hl : (env.info t).children.isEmpty = true) :
    fwdStart env cal used t v σ =
      (fwdLeafStart env.clock (env.info t).minStart cal used v σ.reads (σ.f t)).map
        (fun sk => σ.stage env t ⟨{ σ.f t with start := some sk.1 }, [], sk.2⟩) := by
  unfold fwdStart fwdLeafStart
  cases hs : (σ.f t).start with
  | some s =>
    show pure σ = pure (σ.stage env t ⟨⟨some s, (σ.f t).end_, (σ.f t).est, (σ.f t).spent⟩, [], 0⟩)
    rw [← hs, SS.stage_self]
  | none =>
    simp only [hl, if_true, now, bind, Except.bind, Except.map]
    cases nearestFwd cal used (maxT (maxT v (env.clock σ.reads)) ((env.info t).minStart.getD epoch)) with
    | error e => rfl
    | ok s => simp [setF, SS.stage, pure, Except.pure]

theorem fillEst_leaf_eq (env : Env) (t : Uid) (σ : SS) (hl : (env.info t).children.isEmpty = true) :
    fillEst env t σ = pure (σ.stage env t
      ⟨⟨(σ.f t).start, (σ.f t).end_, some ((σ.f t).est.getD env.defaultEst), some ((σ.f t).spent.getD 0)⟩, [], 0⟩) := by
  unfold fillEst
  simp only [hl, if_true]
  cases he : (σ.f t).est <;> cases hsp : (σ.f t).spent <;>
    simp [bind, Except.bind, pure, Except.pure, setF, SS.stage, hsp, he, upd_upd]
  rw [← he, ← hsp, upd_self]

theorem leftOf_eq (σ : SS) (t : Uid) : leftOf σ t = workLeft ((σ.f t).est.getD 0) ((σ.f t).spent.getD 0) := rfl

theorem fwdEnd_leaf_eq (env : Env) (cal : Cal) (used : Int → Rat) (t : Uid) (σ : SS)
    (hl : (env.info t).children.isEmpty = true) :
    fwdEnd env cal used t σ =
      match (σ.f t).end_ with
      | some _ => pure σ
      | none => (shiftFwd cal used (maxT ((σ.f t).start.getD epoch) (env.clock σ.reads)) (leftOf σ t)).map (fun er =>
          σ.stage env t ⟨{ σ.f t with end_ := some (maxT
            (if env.bound < env.clock (σ.reads + 1) then maxT er.1 (env.clock (σ.reads + 1)) else er.1)
            ((σ.f t).start.getD epoch)) }, er.2, 2⟩) := by
  unfold fwdEnd
  cases he : (σ.f t).end_ with
  | some e => rfl
  | none =>
    have hL : ∀ r, leftOf { σ with reads := r } t = leftOf σ t := fun _ => rfl
    simp only [hl, if_true, now, bind, Except.bind, Except.map, hL]
    cases shiftFwd cal used (maxT ((σ.f t).start.getD epoch) (env.clock σ.reads)) (leftOf σ t) with
    | error e => rfl
    | ok er => simp [setF, SS.stage, addRows, pure, Except.pure, mkRow]; rfl

@[simp] theorem SS.stage_f_same (env : Env) (σ : SS) (t : Uid) (o : Outcome) : (σ.stage env t o).f t = o.g := by
  simp [SS.stage]

@[simp] theorem SS.stage_reads (env : Env) (σ : SS) (t : Uid) (o : Outcome) : (σ.stage env t o).reads = σ.reads + o.reads := rfl

theorem SS.markDone_stage (env : Env) (σ : SS) (t : Uid) (o : Outcome) :
    markDone (SS.stage env { σ with res := (resLookup σ.res (env.info t).resource).1 } t o) t = σ.commit env t o := rfl

theorem fwdPlace_leaf_eq (env : Env) (σ : SS) (t : Uid) (v : Time) (hm : (env.info t).milestone = false)
    (hl : (env.info t).children.isEmpty = true) :
    fwdPlace env σ t v =
      (fwdLeaf env.clock env.bound env.defaultEst (env.info t).minStart (placeCal env σ t) (placeUsed env σ t) v σ.reads (σ.f t)).map (σ.commit env t) := by
  unfold fwdPlace fwdLeaf
  simp only [hm, fwdStart_leaf_eq _ _ _ _ _ _ hl]
  show (do
    let σ1 ← (fwdLeafStart env.clock (env.info t).minStart (placeCal env σ t) (placeUsed env σ t) v σ.reads (σ.f t)).map
      (fun (sk : Time × Nat) => SS.stage env { σ with res := (resLookup σ.res (env.info t).resource).1 } t
        ⟨{ σ.f t with start := some sk.1 }, [], sk.2⟩)
    let σ2 ← fillEst env t σ1
    let σ3 ← fwdEnd env (placeCal env σ t) (placeUsed env σ t) t σ2
    pure (markDone σ3 t)) = _
  cases fwdLeafStart env.clock (env.info t).minStart (placeCal env σ t) (placeUsed env σ t) v σ.reads (σ.f t) with
  | error e => rfl
  | ok sk =>
    simp only [Except.map, bind, Except.bind, fillEst_leaf_eq _ _ _ hl, fwdEnd_leaf_eq _ _ _ _ _ hl, pure, Except.pure,
      SS.stage_stage, SS.stage_f_same, SS.stage_reads, leftOf_eq]
    cases he : (σ.f t).end_ with
    | some e => simp [SS.markDone_stage]
    | none =>
      simp only [Option.getD_some, Nat.add_zero, List.nil_append]
      cases shiftFwd (placeCal env σ t) (placeUsed env σ t) (maxT sk.fst (env.clock (σ.reads + sk.snd)))
          (workLeft ((σ.f t).est.getD env.defaultEst) ((σ.f t).spent.getD 0)) with
      | error e => rfl
      | ok er => simp [SS.markDone_stage]; rfl

theorem bwdEnd_leaf_eq (env : Env) (cal : Cal) (used : Int → Rat) (t : Uid) (m v : Time) (σ : SS)
    (hl : (env.info t).children.isEmpty = true) :
    bwdEnd env cal used t m v σ =
      (bwdLeafEnd cal used v (σ.f t)).map (fun E => σ.stage env t ⟨{ σ.f t with end_ := some E }, [], 0⟩) := by
  unfold bwdEnd bwdLeafEnd
  cases he : (σ.f t).end_ with
  | some e =>
    show pure σ = pure (σ.stage env t ⟨⟨(σ.f t).start, some e, (σ.f t).est, (σ.f t).spent⟩, [], 0⟩)
    rw [← he, SS.stage_self]
  | none =>
    simp only [hl, if_true, bind, Except.bind, Except.map]
    cases nearestBwd cal used v with
    | error e => rfl
    | ok s => simp [setF, SS.stage, pure, Except.pure]

theorem bwdStart_leaf_eq (env : Env) (cal : Cal) (used : Int → Rat) (t : Uid) (m : Time) (σ : SS)
    (hl : (env.info t).children.isEmpty = true) :
    bwdStart env cal used t m σ =
      (shiftBwd cal used (minT ((σ.f t).end_.getD epoch) m) (leftOf σ t)).map (fun sr =>
        σ.stage env t ⟨{ σ.f t with start := some (match (σ.f t).start with | some old => minT old sr.1 | none => sr.1) }, sr.2, 0⟩) := by
  unfold bwdStart
  simp only [hl, if_true, bind, Except.bind, Except.map]
  cases shiftBwd cal used (minT ((σ.f t).end_.getD epoch) m) (leftOf σ t) with
  | error e => rfl
  | ok sr => simp [setF, SS.stage, addRows, pure, Except.pure, mkRow]; rfl

theorem bwdPlace_leaf_eq (env : Env) (σ : SS) (t : Uid) (m v : Time) (hm : (env.info t).milestone = false)
    (hl : (env.info t).children.isEmpty = true) :
    bwdPlace env σ t m v =
      (bwdLeaf env.defaultEst (placeCal env σ t) (placeUsed env σ t) m v (σ.f t)).map (σ.commit env t) := by
  unfold bwdPlace bwdLeaf
  simp only [hm, bwdEnd_leaf_eq _ _ _ _ _ _ _ hl]
  show (do
    let σ1 ← (bwdLeafEnd (placeCal env σ t) (placeUsed env σ t) v (σ.f t)).map
      (fun E => SS.stage env { σ with res := (resLookup σ.res (env.info t).resource).1 } t
        ⟨{ σ.f t with end_ := some E }, [], 0⟩)
    let σ2 ← fillEst env t σ1
    let σ3 ← bwdStart env (placeCal env σ t) (placeUsed env σ t) t m σ2
    pure (markDone σ3 t)) = _
  cases bwdLeafEnd (placeCal env σ t) (placeUsed env σ t) v (σ.f t) with
  | error e => rfl
  | ok E =>
    simp only [Except.map, bind, Except.bind, fillEst_leaf_eq _ _ _ hl, bwdStart_leaf_eq _ _ _ _ _ _ hl, pure, Except.pure,
      SS.stage_stage, SS.stage_f_same, leftOf_eq, Option.getD_some, Nat.add_zero, List.nil_append]
    cases shiftBwd (placeCal env σ t) (placeUsed env σ t) (minT E m)
        (workLeft ((σ.f t).est.getD env.defaultEst) ((σ.f t).spent.getD 0)) with
    | error e => rfl
    | ok sr => simp [SS.markDone_stage]

theorem fwdPlace_milestone_eq (env : Env) (σ : SS) (t : Uid) (v : Time) (hm : (env.info t).milestone = true) :
    fwdPlace env σ t v = pure (σ.commit env t ⟨⟨some v, some v, some 0, some 0⟩, [], 0⟩) := by
  unfold fwdPlace
  simp [hm, markDone, setF, SS.commit]

theorem bwdPlace_milestone_eq (env : Env) (σ : SS) (t : Uid) (m v : Time) (hm : (env.info t).milestone = true) :
    bwdPlace env σ t m v = pure (σ.commit env t ⟨⟨some v, some v, some 0, some 0⟩, [], 0⟩) := by
  unfold bwdPlace
  simp [hm, markDone, setF, SS.commit]

theorem fwdLeafStart_ok {clock : Nat → Time} {ms : Option Time} {cal : Cal} {used : Int → Rat} {v : Time} {r : Nat}
    {g : Fields} {s : Time} {k : Nat} (h : fwdLeafStart clock ms cal used v r g = .ok (s, k)) :
    (g.start = some s ∧ k = 0) ∨ (g.start = none ∧ k = 1 ∧
      nearestFwd cal used (maxT (maxT v (clock r)) (ms.getD epoch)) = .ok s) := by
  unfold fwdLeafStart at h
  split at h
  · rename_i s0 hs; cases h; exact Or.inl ⟨hs, rfl⟩
  · rename_i hs
    obtain ⟨s', hn, h⟩ := Res.map_ok h
    cases h
    exact Or.inr ⟨hs, rfl, hn⟩

theorem fwdLeaf_ok {clock : Nat → Time} {bound : Time} {dflt : Rat} {ms : Option Time} {cal : Cal} {used : Int → Rat}
    {v : Time} {r : Nat} {g : Fields} {o : Outcome} (h : fwdLeaf clock bound dflt ms cal used v r g = .ok o) :
    ∃ s k, fwdLeafStart clock ms cal used v r g = .ok (s, k) ∧
      ((∃ e, g.end_ = some e ∧ o = ⟨⟨some s, some e, some (g.est.getD dflt), some (g.spent.getD 0)⟩, [], k⟩) ∨
       (g.end_ = none ∧ ∃ e rows, shiftFwd cal used (maxT s (clock (r + k)))
            (workLeft (g.est.getD dflt) (g.spent.getD 0)) = .ok (e, rows) ∧
          o = ⟨⟨some s, some (maxT (if bound < clock (r + k + 1) then maxT e (clock (r + k + 1)) else e) s),
            some (g.est.getD dflt), some (g.spent.getD 0)⟩, rows, k + 2⟩)) := by
  obtain ⟨⟨s, k⟩, hs, h⟩ := bind_ok h
  refine ⟨s, k, hs, ?_⟩
  split at h
  · rename_i e he; cases h; exact Or.inl ⟨e, he, rfl⟩
  · rename_i he
    obtain ⟨er, hsh, h⟩ := bind_ok h
    cases h
    exact Or.inr ⟨he, er.1, er.2, hsh, rfl⟩

/-- `max()` / `min()` of the children's dates; of an empty sequence: ValueError -/
def orValueError (x : Option Time) : Res Time :=
  match x with
  | some a => pure a
  | none => throw (.crash .value)

/-- a date the user supplied is kept -/
def keepOr (own : Option Time) (r : Res Time) : Res Time :=
  match own with
  | some e => pure e
  | none => r

/-- `sumOpt` in closed form: the sum when every summand is there, else the TypeError -/
theorem sumOpt_foldlM : ∀ (l : List (Option Rat)) (acc : Rat),
    l.foldlM (fun acc v => match v with | some x => (pure (acc + x) : Res Rat) | none => throw (Err.crash .type)) acc =
      if l.all Option.isSome then .ok (acc + (l.map (fun v => v.getD 0)).sum) else .error (.crash .type)
  | [], acc => by simp [pure, Except.pure, Rat.add_zero]
  | none :: l, acc => rfl
  | some x :: l, acc => by
    rw [List.foldlM_cons]
    show List.foldlM _ (acc + x) l = _
    rw [sumOpt_foldlM l (acc + x)]
    simp [Rat.add_assoc]

theorem sumOpt_eq (l : List (Option Rat)) :
    sumOpt l = if l.all Option.isSome then .ok (l.map (fun v => v.getD 0)).sum else .error (.crash .type) := by
  have := sumOpt_foldlM l 0
  rwa [Rat.zero_add] at this

theorem sumOpt_spec (l : List (Option Rat)) (e : Rat) (h : sumOpt l = .ok e) :
    e = (l.map (fun v => v.getD 0)).sum := by
  rw [sumOpt_eq] at h
  split at h <;> cases h
  rfl

theorem rollSum_none {ch : List (Option Rat)} {x : Rat} (h : rollSum none ch = .ok x) :
    x = (ch.map (fun v => v.getD 0)).sum := sumOpt_spec ch x h

theorem orValueError_ok {x : Option Time} {e : Time} (h : orValueError x = .ok e) : x = some e := by
  cases x with
  | none => cases h
  | some a => cases h; rfl

theorem workLeft_nonneg (es sp : Rat) : 0 ≤ workLeft es sp := by
  unfold workLeft; split <;> grind

theorem leftOf_nonneg (σ : SS) (t : Uid) : 0 ≤ leftOf σ t := workLeft_nonneg _ _

/-- those statements of `__forward_pass` for a task with children: the roll-ups over the fields `f` -/
def fwdSum (env : Env) (t : Uid) (f : Uid → Fields) : Res Outcome := do
  let ch := (env.info t).children
  let s := match (f t).start with
    | some s => s
    | none => (minOpt (ch.filterMap (fun c => (f c).start))).getD epoch
  let es ← rollSum (f t).est (ch.map (fun c => (f c).est))
  let sp ← rollSum (f t).spent (ch.map (fun c => (f c).spent))
  let e ← keepOr (f t).end_ (orValueError (maxOpt (ch.filterMap (fun c => (f c).end_))))
  pure ⟨⟨some s, some e, some es, some sp⟩, [], 0⟩

/-- those of `__backward_pass` for a task with children; the start is always recomputed -/
def bwdSum (env : Env) (t : Uid) (m : Time) (f : Uid → Fields) : Res Outcome := do
  let ch := (env.info t).children
  let e := match (f t).end_ with
    | some e => e
    | none => (maxOpt (ch.filterMap (fun c => (f c).end_))).getD m
  let es ← rollSum (f t).est (ch.map (fun c => (f c).est))
  let sp ← rollSum (f t).spent (ch.map (fun c => (f c).spent))
  let s ← orValueError (minOpt (ch.filterMap (fun c => (f c).start)))
  pure ⟨⟨some s, some e, some es, some sp⟩, [], 0⟩

theorem map_upd_same {β γ : Type} (l : List Uid) (f : Uid → β) (t : Uid) (b : β) (h : β → γ) (hh : h b = h (f t)) :
    l.map (fun c => h (upd f t b c)) = l.map (fun c => h (f c)) :=
  List.map_congr_left (fun c _ => by by_cases hc : c = t <;> simp [upd, hc, hh])

theorem filterMap_upd_same {β γ : Type} (l : List Uid) (f : Uid → β) (t : Uid) (b : β) (h : β → Option γ)
    (hh : h b = h (f t)) : l.filterMap (fun c => h (upd f t b c)) = l.filterMap (fun c => h (f c)) :=
  filterMap_congr' l _ _ (fun c _ => by by_cases hc : c = t <;> simp [upd, hc, hh])

theorem fwdStart_sum_eq (env : Env) (cal : Cal) (used : Int → Rat) (t : Uid) (v : Time) (σ : SS)
    (hl : (env.info t).children.isEmpty = false) :
    fwdStart env cal used t v σ = pure (σ.stage env t ⟨{ σ.f t with start := some (match (σ.f t).start with
      | some s => s
      | none => (minOpt ((env.info t).children.filterMap (fun c => (σ.f c).start))).getD epoch) }, [], 0⟩) := by
  unfold fwdStart
  cases hs : (σ.f t).start with
  | some s =>
    show pure σ = pure (σ.stage env t ⟨⟨some s, (σ.f t).end_, (σ.f t).est, (σ.f t).spent⟩, [], 0⟩)
    rw [← hs, SS.stage_self]
  | none =>
    simp only [hl, Bool.false_eq_true, if_false]
    cases List.filterMap (fun c => (σ.f c).start) (env.info t).children <;>
      simp [setF, SS.stage, pure, Except.pure, minOpt]

theorem fillEst_sum_eq (env : Env) (t : Uid) (σ : SS) (hl : (env.info t).children.isEmpty = false)
    :
    fillEst env t σ = (do
      let es ← rollSum (σ.f t).est ((env.info t).children.map (fun c => (σ.f c).est))
      let sp ← rollSum (σ.f t).spent ((env.info t).children.map (fun c => (σ.f c).spent))
      pure (σ.stage env t ⟨⟨(σ.f t).start, (σ.f t).end_, some es, some sp⟩, [], 0⟩)) := by
  unfold fillEst rollSum
  simp only [hl, Bool.false_eq_true, if_false]
  cases he : (σ.f t).est with
  | some es =>
    simp only [bind, Except.bind, pure, Except.pure]
    cases hsp : (σ.f t).spent with
    | some sp =>
      dsimp only
      rw [← he, ← hsp, SS.stage_self]
    | none =>
      dsimp only
      cases sumOpt ((env.info t).children.map (fun c => (σ.f c).spent)) with
      | error e => rfl
      | ok sp => simp [setF, SS.stage, he]
  | none =>
    simp only [bind, Except.bind, pure, Except.pure]
    cases sumOpt ((env.info t).children.map (fun c => (σ.f c).est)) with
    | error e => rfl
    | ok es =>
      simp only [setF_f_same]
      have hmap : (env.info t).children.map (fun c => ((setF σ t fun g => { g with est := some es }).f c).spent) =
          (env.info t).children.map (fun c => (σ.f c).spent) := map_upd_same _ σ.f t _ (·.spent) rfl
      cases hsp : (σ.f t).spent with
      | some sp => simp [setF, SS.stage, hsp]
      | none =>
        simp only [hmap]
        cases sumOpt ((env.info t).children.map (fun c => (σ.f c).spent)) with
        | error e => rfl
        | ok sp => simp [setF, SS.stage, upd_upd]

theorem fwdEnd_sum_eq (env : Env) (cal : Cal) (used : Int → Rat) (t : Uid) (σ : SS)
    (hl : (env.info t).children.isEmpty = false) :
    fwdEnd env cal used t σ =
      (keepOr (σ.f t).end_ (orValueError (maxOpt ((env.info t).children.filterMap (fun c => (σ.f c).end_))))).map
        (fun e => σ.stage env t ⟨{ σ.f t with end_ := some e }, [], 0⟩) := by
  unfold fwdEnd keepOr
  cases he : (σ.f t).end_ with
  | some e =>
    show pure σ = pure (σ.stage env t ⟨⟨(σ.f t).start, some e, (σ.f t).est, (σ.f t).spent⟩, [], 0⟩)
    rw [← he, SS.stage_self]
  | none =>
    simp only [hl, Bool.false_eq_true, if_false]
    cases List.filterMap (fun c => (σ.f c).end_) (env.info t).children <;>
      simp [setF, SS.stage, pure, Except.pure, maxOpt, orValueError, Except.map] <;> rfl

theorem fwdPlace_sum_eq (env : Env) (σ : SS) (t : Uid) (v : Time) (hm : (env.info t).milestone = false)
    (hl : (env.info t).children.isEmpty = false) :
    fwdPlace env σ t v = (fwdSum env t σ.f).map (σ.commit env t) := by
  unfold fwdPlace fwdSum
  simp only [hm, fwdStart_sum_eq _ _ _ _ _ _ hl, bind, Except.bind, pure, Except.pure, fillEst_sum_eq _ _ _ hl,
    SS.stage_f_same]
  simp only [SS.stage, map_upd_same _ _ _ _ (fun g : Fields => g.est),
    map_upd_same _ _ _ _ (fun g : Fields => g.spent), Bool.false_eq_true, if_false]
  cases rollSum (σ.f t).est ((env.info t).children.map (fun c => (σ.f c).est)) with
  | error e => rfl
  | ok es =>
    cases rollSum (σ.f t).spent ((env.info t).children.map (fun c => (σ.f c).spent)) with
    | error e => rfl
    | ok sp =>
      simp only [fwdEnd_sum_eq _ _ _ _ _ hl, upd_same, filterMap_upd_same _ _ _ _ (fun g : Fields => g.end_)]
      cases keepOr (σ.f t).end_ (orValueError (maxOpt ((env.info t).children.filterMap (fun c => (σ.f c).end_)))) with
      | error e => rfl
      | ok e => simp [Except.map, markDone, SS.stage, SS.commit, upd_upd]

theorem bwdEnd_sum_eq (env : Env) (cal : Cal) (used : Int → Rat) (t : Uid) (m v : Time) (σ : SS)
    (hl : (env.info t).children.isEmpty = false) :
    bwdEnd env cal used t m v σ = pure (σ.stage env t ⟨{ σ.f t with end_ := some (match (σ.f t).end_ with
      | some e => e
      | none => (maxOpt ((env.info t).children.filterMap (fun c => (σ.f c).end_))).getD m) }, [], 0⟩) := by
  unfold bwdEnd
  cases he : (σ.f t).end_ with
  | some e =>
    show pure σ = pure (σ.stage env t ⟨⟨(σ.f t).start, some e, (σ.f t).est, (σ.f t).spent⟩, [], 0⟩)
    rw [← he, SS.stage_self]
  | none =>
    simp only [hl, Bool.false_eq_true, if_false]
    cases List.filterMap (fun c => (σ.f c).end_) (env.info t).children <;>
      simp [setF, SS.stage, pure, Except.pure, maxOpt]

theorem bwdStart_sum_eq (env : Env) (cal : Cal) (used : Int → Rat) (t : Uid) (m : Time) (σ : SS)
    (hl : (env.info t).children.isEmpty = false) :
    bwdStart env cal used t m σ =
      (orValueError (minOpt ((env.info t).children.filterMap (fun c => (σ.f c).start)))).map
        (fun s => σ.stage env t ⟨{ σ.f t with start := some s }, [], 0⟩) := by
  unfold bwdStart
  simp only [hl, Bool.false_eq_true, if_false]
  cases List.filterMap (fun c => (σ.f c).start) (env.info t).children <;>
    simp [setF, SS.stage, pure, Except.pure, minOpt, orValueError, Except.map] <;> rfl

theorem bwdPlace_sum_eq (env : Env) (σ : SS) (t : Uid) (m v : Time) (hm : (env.info t).milestone = false)
    (hl : (env.info t).children.isEmpty = false) :
    bwdPlace env σ t m v = (bwdSum env t m σ.f).map (σ.commit env t) := by
  unfold bwdPlace bwdSum
  simp only [hm, bwdEnd_sum_eq _ _ _ _ _ _ _ hl, bind, Except.bind, pure, Except.pure, fillEst_sum_eq _ _ _ hl,
    SS.stage_f_same]
  simp only [SS.stage, map_upd_same _ _ _ _ (fun g : Fields => g.est),
    map_upd_same _ _ _ _ (fun g : Fields => g.spent), Bool.false_eq_true, if_false]
  cases rollSum (σ.f t).est ((env.info t).children.map (fun c => (σ.f c).est)) with
  | error e => rfl
  | ok es =>
    cases rollSum (σ.f t).spent ((env.info t).children.map (fun c => (σ.f c).spent)) with
    | error e => rfl
    | ok sp =>
      simp only [bwdStart_sum_eq _ _ _ _ _ _ hl, upd_same, filterMap_upd_same _ _ _ _ (fun g : Fields => g.start)]
      cases orValueError (minOpt ((env.info t).children.filterMap (fun c => (σ.f c).start))) with
      | error e => rfl
      | ok e => simp [Except.map, markDone, SS.stage, SS.commit, upd_upd]

/-- what the forward placement of `t` computes from the fields `f`, the calendar, the ledger view and the clock counter -/
def fwdOut (env : Env) (cal : Cal) (used : Int → Rat) (t : Uid) (v : Time) (r : Nat) (f : Uid → Fields) : Res Outcome :=
  if (env.info t).milestone then pure ⟨⟨some v, some v, some 0, some 0⟩, [], 0⟩
  else if (env.info t).children.isEmpty then fwdLeaf env.clock env.bound env.defaultEst (env.info t).minStart cal used v r (f t)
  else fwdSum env t f

def bwdOut (env : Env) (cal : Cal) (used : Int → Rat) (t : Uid) (m v : Time) (f : Uid → Fields) : Res Outcome :=
  if (env.info t).milestone then pure ⟨⟨some v, some v, some 0, some 0⟩, [], 0⟩
  else if (env.info t).children.isEmpty then bwdLeaf env.defaultEst cal used m v (f t)
  else bwdSum env t m f

/-- a successful placement (`fwdOut`, `bwdOut`) is that of a milestone, of a leaf or of a summary -/
theorem kind_ok {env : Env} {t : Uid} {x y z : Res Outcome} {o : Outcome}
    (h : (if (env.info t).milestone then x else if (env.info t).children.isEmpty then y else z) = .ok o) :
    ((env.info t).milestone = true ∧ x = .ok o) ∨
    ((env.info t).milestone = false ∧ (env.info t).children.isEmpty = true ∧ y = .ok o) ∨
    ((env.info t).milestone = false ∧ (env.info t).children.isEmpty = false ∧ z = .ok o) := by
  cases hm : (env.info t).milestone <;> cases hl : (env.info t).children.isEmpty <;> simp_all

/-- one forward placement computes an outcome from the task's own fields (and its children's) and commits it -/
theorem fwdPlace_eq (env : Env) (σ : SS) (t : Uid) (v : Time) :
    fwdPlace env σ t v = (fwdOut env (placeCal env σ t) (placeUsed env σ t) t v σ.reads σ.f).map (σ.commit env t) := by
  unfold fwdOut
  cases hm : (env.info t).milestone with
  | true => exact fwdPlace_milestone_eq env σ t v hm
  | false =>
    cases hl : (env.info t).children.isEmpty with
    | true => exact fwdPlace_leaf_eq env σ t v hm hl
    | false => exact fwdPlace_sum_eq env σ t v hm hl

theorem bwdPlace_eq (env : Env) (σ : SS) (t : Uid) (m v : Time) :
    bwdPlace env σ t m v = (bwdOut env (placeCal env σ t) (placeUsed env σ t) t m v σ.f).map (σ.commit env t) := by
  unfold bwdOut
  cases hm : (env.info t).milestone with
  | true => exact bwdPlace_milestone_eq env σ t m v hm
  | false =>
    cases hl : (env.info t).children.isEmpty with
    | true => exact bwdPlace_leaf_eq env σ t m v hm hl
    | false => exact bwdPlace_sum_eq env σ t m v hm hl

theorem fwdPlace_res (env : Env) (σ σ' : SS) (t : Uid) (m : Time) (h : fwdPlace env σ t m = .ok σ') :
    σ'.res = (resLookup σ.res (env.info t).resource).1 := by
  rw [fwdPlace_eq] at h
  obtain ⟨o, _, rfl⟩ := Res.map_ok h
  rfl

theorem bwdPlace_res (env : Env) (σ σ' : SS) (t : Uid) (m v : Time) (h : bwdPlace env σ t m v = .ok σ') :
    σ'.res = (resLookup σ.res (env.info t).resource).1 := by
  rw [bwdPlace_eq] at h
  obtain ⟨o, _, rfl⟩ := Res.map_ok h
  rfl

theorem fwdStart_ok {env : Env} {cal : Cal} {used : Int → Rat} {t : Uid} {v : Time} {σ σ' : SS}
    (h : fwdStart env cal used t v σ = .ok σ') :
    ∃ s k, σ' = σ.stage env t ⟨{ σ.f t with start := some s }, [], k⟩ := by
  cases hl : (env.info t).children.isEmpty with
  | true =>
    rw [fwdStart_leaf_eq env cal used t v σ hl] at h
    obtain ⟨sk, _, rfl⟩ := Res.map_ok h
    exact ⟨_, _, rfl⟩
  | false =>
    rw [fwdStart_sum_eq env cal used t v σ hl] at h
    cases h
    exact ⟨_, _, rfl⟩

theorem bwdEnd_ok {env : Env} {cal : Cal} {used : Int → Rat} {t : Uid} {m v : Time} {σ σ' : SS}
    (h : bwdEnd env cal used t m v σ = .ok σ') : ∃ e, σ' = σ.stage env t ⟨{ σ.f t with end_ := some e }, [], 0⟩ := by
  cases hl : (env.info t).children.isEmpty with
  | true =>
    rw [bwdEnd_leaf_eq env cal used t m v σ hl] at h
    obtain ⟨E, _, rfl⟩ := Res.map_ok h
    exact ⟨_, rfl⟩
  | false =>
    rw [bwdEnd_sum_eq env cal used t m v σ hl] at h
    cases h
    exact ⟨_, rfl⟩

theorem fillEst_ok {env : Env} {t : Uid} {σ σ' : SS} (h : fillEst env t σ = .ok σ') :
    ∃ es sp, σ' = σ.stage env t ⟨{ σ.f t with est := some es, spent := some sp }, [], 0⟩ ∧
      ((env.info t).children.isEmpty = true →
        es = (σ.f t).est.getD env.defaultEst ∧ sp = (σ.f t).spent.getD 0) ∧
      ((env.info t).children.isEmpty = false →
        ((σ.f t).est = none → es = ((env.info t).children.map (fun c => ((σ.f c).est).getD 0)).sum) ∧
        ((σ.f t).spent = none → sp = ((env.info t).children.map (fun c => ((σ.f c).spent).getD 0)).sum)) := by
  cases hl : (env.info t).children.isEmpty with
  | true =>
    rw [fillEst_leaf_eq env t σ hl] at h
    cases h
    exact ⟨_, _, rfl, fun _ => ⟨rfl, rfl⟩, fun hc => (nomatch hc)⟩
  | false =>
    rw [fillEst_sum_eq env t σ hl] at h
    obtain ⟨es, hes, h⟩ := bind_ok h
    obtain ⟨sp, hsp, h⟩ := bind_ok h
    cases h
    refine ⟨es, sp, rfl, fun hc => (nomatch hc), fun _ => ⟨fun h0 => ?_, fun h0 => ?_⟩⟩
    · rw [h0] at hes; rw [rollSum_none hes, List.map_map]; rfl
    · rw [h0] at hsp; rw [rollSum_none hsp, List.map_map]; rfl

@[simp] theorem SS.commit_f_same (env : Env) (σ : SS) (t : Uid) (o : Outcome) : (σ.commit env t o).f t = o.g := by
  simp [SS.commit]

theorem SS.commit_f_other (env : Env) (σ : SS) (t : Uid) (o : Outcome) (x : Uid) (hx : x ≠ t) :
    (σ.commit env t o).f x = σ.f x := by
  simp [SS.commit, upd, hx]

theorem fwdSum_ok {env : Env} {t : Uid} {f : Uid → Fields} {o : Outcome} (h : fwdSum env t f = .ok o) :
    ∃ s e es sp, o = ⟨⟨some s, some e, some es, some sp⟩, [], 0⟩ ∧
      s = (match (f t).start with
        | some s => s
        | none => (minOpt ((env.info t).children.filterMap (fun c => (f c).start))).getD epoch) ∧
      rollSum (f t).est ((env.info t).children.map (fun c => (f c).est)) = .ok es ∧
      rollSum (f t).spent ((env.info t).children.map (fun c => (f c).spent)) = .ok sp ∧
      keepOr (f t).end_ (orValueError (maxOpt ((env.info t).children.filterMap (fun c => (f c).end_)))) = .ok e := by
  obtain ⟨es, hes, h⟩ := bind_ok h
  obtain ⟨sp, hsp, h⟩ := bind_ok h
  obtain ⟨e, he, h⟩ := bind_ok h
  cases h
  exact ⟨_, e, es, sp, rfl, rfl, hes, hsp, he⟩

theorem bwdLeaf_ok {dflt : Rat} {cal : Cal} {used : Int → Rat} {m v : Time} {g : Fields} {o : Outcome}
    (h : bwdLeaf dflt cal used m v g = .ok o) :
    ∃ E s rows, (g.end_ = some E ∨ (g.end_ = none ∧ ∃ e, nearestBwd cal used v = .ok e ∧ E = e + 1)) ∧
      shiftBwd cal used (minT E m) (workLeft (g.est.getD dflt) (g.spent.getD 0)) = .ok (s, rows) ∧
      o = ⟨⟨some (match g.start with | some old => minT old s | none => s), some E, some (g.est.getD dflt),
        some (g.spent.getD 0)⟩, rows, 0⟩ := by
  obtain ⟨E, hE, h⟩ := bind_ok h
  obtain ⟨sr, hsr, h⟩ := bind_ok h
  cases h
  refine ⟨E, sr.1, sr.2, ?_, hsr, rfl⟩
  unfold bwdLeafEnd at hE
  split at hE
  · rename_i e he; cases hE; exact Or.inl he
  · rename_i he
    obtain ⟨e, hn, rfl⟩ := Res.map_ok hE
    exact Or.inr ⟨he, e, hn, rfl⟩

theorem bwdSum_ok {env : Env} {t : Uid} {m : Time} {f : Uid → Fields} {o : Outcome} (h : bwdSum env t m f = .ok o) :
    ∃ s e es sp, o = ⟨⟨some s, some e, some es, some sp⟩, [], 0⟩ ∧
      e = (match (f t).end_ with
        | some e => e
        | none => (maxOpt ((env.info t).children.filterMap (fun c => (f c).end_))).getD m) ∧
      rollSum (f t).est ((env.info t).children.map (fun c => (f c).est)) = .ok es ∧
      rollSum (f t).spent ((env.info t).children.map (fun c => (f c).spent)) = .ok sp ∧
      minOpt ((env.info t).children.filterMap (fun c => (f c).start)) = some s := by
  obtain ⟨es, hes, h⟩ := bind_ok h
  obtain ⟨sp, hsp, h⟩ := bind_ok h
  obtain ⟨s, hs, h⟩ := bind_ok h
  cases h
  exact ⟨_, _, es, sp, rfl, rfl, hes, hsp, orValueError_ok hs⟩

def AllSome (g : Fields) : Prop := g.start.isSome ∧ g.end_.isSome ∧ g.est.isSome ∧ g.spent.isSome

theorem fwdOut_sound {env : Env} {cal : Cal} {used : Int → Rat} {t : Uid} {v : Time} {r : Nat} {f : Uid → Fields}
    {o : Outcome} (h : fwdOut env cal used t v r f = .ok o) : GoodNew cal used o.new ∧ AllSome o.g := by
  rcases kind_ok h with ⟨_, h⟩ | ⟨_, _, h⟩ | ⟨_, _, h⟩
  · cases h; exact ⟨GoodNew.nil _ _, rfl, rfl, rfl, rfl⟩
  · obtain ⟨s, k, _, ⟨e, _, rfl⟩ | ⟨_, e, rows, hsh, rfl⟩⟩ := fwdLeaf_ok h
    · exact ⟨GoodNew.nil _ _, rfl, rfl, rfl, rfl⟩
    · refine ⟨fun hu => ?_, rfl, rfl, rfl, rfl⟩
      obtain ⟨_, _, hs, _⟩ := shiftFwd_spec _ _ _ _ _ _ (workLeft_nonneg _ _) hu hsh
      exact hs.good hu
  · obtain ⟨s, e, es, sp, rfl, _⟩ := fwdSum_ok h; exact ⟨GoodNew.nil _ _, rfl, rfl, rfl, rfl⟩

theorem bwdOut_sound {env : Env} {cal : Cal} {used : Int → Rat} {t : Uid} {m v : Time} {f : Uid → Fields}
    {o : Outcome} (h : bwdOut env cal used t m v f = .ok o) : GoodNew cal used o.new ∧ AllSome o.g := by
  rcases kind_ok h with ⟨_, h⟩ | ⟨_, _, h⟩ | ⟨_, _, h⟩
  · cases h; exact ⟨GoodNew.nil _ _, rfl, rfl, rfl, rfl⟩
  · obtain ⟨E, s, rows, _, hsh, rfl⟩ := bwdLeaf_ok h
    refine ⟨fun hu => ?_, rfl, rfl, rfl, rfl⟩
    obtain ⟨_, _, hs, _⟩ := shiftBwd_spec _ _ _ _ _ _ (workLeft_nonneg _ _) hu hsh
    exact hs.good hu
  · obtain ⟨s, e, es, sp, rfl, _⟩ := bwdSum_ok h; exact ⟨GoodNew.nil _ _, rfl, rfl, rfl, rfl⟩

end Pj

/-
  Lemmas/CritPathSrcC1.lean — what `__new_node` / `__connect` do to the arcs of a store (`inArcs` / `outArcs`,
  Lemmas/CritPathSrcB.lean), what a run of `__connect`s with zero units adds (`Wires`; the three loops of the source
  that connect are instances of `connects`), and the invariant `Net` of the network under construction: tasks with
  their two nodes and their arc, and the zero-length arrows between them.  See Lemmas/CritPathSrc.lean.
-/
import PjVerif.Lemmas.CritPathSrcB
namespace Pj.CritPathSrc
open Pj.PyLite
set_option linter.unusedSimpArgs false
set_option linter.unusedVariables false

section ops
variable (B : Nat)

def LinkStable (σ σ' : Store) : Prop :=
  ∀ l s e u, getO B σ l = some (.link s e u) → getO B σ' l = some (.link s e u)

theorem LinkStable.resolveIn {σ σ' : Store} (h : LinkStable B σ σ') {l : Nat} {p : Nat × Rat}
    (hp : resolveIn B σ l = some p) : resolveIn B σ' l = some p := by
  obtain ⟨e, hg⟩ := resolveIn_some B hp
  simp only [CritPathSrc.resolveIn, h l _ _ _ hg]

theorem LinkStable.resolveOut {σ σ' : Store} (h : LinkStable B σ σ') {l : Nat} {p : Nat × Rat}
    (hp : resolveOut B σ l = some p) : resolveOut B σ' l = some p := by
  obtain ⟨s, hg⟩ := resolveOut_some B hp
  simp only [CritPathSrc.resolveOut, h l _ _ _ hg]

theorem LinkStable.mapM_in {σ σ' : Store} (h : LinkStable B σ σ') {bw : List Nat} {L : List (Nat × Rat)}
    (hL : bw.mapM (CritPathSrc.resolveIn B σ) = some L) : bw.mapM (CritPathSrc.resolveIn B σ') = some L :=
  mapM_some_congr _ _ _ _ (fun l _ p hp => h.resolveIn B hp) hL

theorem LinkStable.mapM_out {σ σ' : Store} (h : LinkStable B σ σ') {fw : List Nat} {L : List (Nat × Rat)}
    (hL : fw.mapM (CritPathSrc.resolveOut B σ) = some L) : fw.mapM (CritPathSrc.resolveOut B σ') = some L :=
  mapM_some_congr _ _ _ _ (fun l _ p hp => h.resolveOut B hp) hL

theorem inArcs_stable {σ σ' : Store} (h : LinkStable B σ σ') {b : Nat} (hb : getO B σ' b = getO B σ b)
    {L : List (Nat × Rat)} (hL : inArcs B σ b = some L) : inArcs B σ' b = some L := by
  obtain ⟨fw, bw, su, eu, hg, hm⟩ := inArcs_some B hL
  simp only [inArcs, hb, hg]
  exact h.mapM_in B hm

theorem outArcs_stable {σ σ' : Store} (h : LinkStable B σ σ') {b : Nat} (hb : getO B σ' b = getO B σ b)
    {L : List (Nat × Rat)} (hL : outArcs B σ b = some L) : outArcs B σ' b = some L := by
  obtain ⟨fw, bw, su, eu, hg, hm⟩ := outArcs_some B hL
  simp only [outArcs, hb, hg]
  exact h.mapM_out B hm

theorem mapM_append_some {α β : Type} (g : α → Option β) (l1 l2 : List α) (r1 r2 : List β)
    (h1 : l1.mapM g = some r1) (h2 : l2.mapM g = some r2) : (l1 ++ l2).mapM g = some (r1 ++ r2) := by
  simp only [List.mapM_append, h1, h2, bind, Option.bind, pure]

theorem mapM_append_one {α β : Type} (g : α → Option β) (l : List α) (a : α) (L : List β) (b : β)
    (hl : l.mapM g = some L) (ha : g a = some b) : (l ++ [a]).mapM g = some (L ++ [b]) :=
  mapM_append_some g l [a] L [b] hl ((mapM_some_cons g a [] _).mpr ⟨b, [], ha, rfl, rfl⟩)

theorem inArcs_bare {σ : Store} {a : Nat} {fw : List Nat} {su eu : Option Rat}
    (h : getO B σ a = some (.node fw [] su eu)) : inArcs B σ a = some [] := by
  simp only [inArcs, h]; rfl

theorem outArcs_bare {σ : Store} {a : Nat} {bw : List Nat} {su eu : Option Rat}
    (h : getO B σ a = some (.node [] bw su eu)) : outArcs B σ a = some [] := by
  simp only [outArcs, h]; rfl

def MemoEq (σ σ' : Store) : Prop := ∀ b, suOf B σ' b = suOf B σ b ∧ euOf B σ' b = euOf B σ b

theorem MemoEq.trans {σ1 σ2 σ3 : Store} (h : MemoEq B σ1 σ2) (h' : MemoEq B σ2 σ3) : MemoEq B σ1 σ3 :=
  fun b => ⟨(h' b).1.trans (h b).1, (h' b).2.trans (h b).2⟩

theorem MemoEq.fresh {σ σ' : Store} (h : MemoEq B σ σ') (hf : ∀ a, suOf B σ a = none ∧ euOf B σ a = none) (a : Nat) :
    suOf B σ' a = none ∧ euOf B σ' a = none := by
  rw [(h a).1, (h a).2]; exact hf a

/-- `σ'` is `σ` with objects without memo fields put in: an address keeps its object, or it held no node and no link
    and holds no memo field now.  (`_PNode()`, an update of the calculator, `__new_node`.) -/
def Ext (σ σ' : Store) : Prop :=
  ∀ b, getO B σ' b = getO B σ b ∨
    ((∀ o, getO B σ b = some o → ∃ n l t ed m, o = .calc n l t ed m) ∧ suOf B σ' b = none ∧ euOf B σ' b = none)

theorem Ext.old {σ σ' : Store} (h : Ext B σ σ') {b : Nat} {o : Obj} (hg : getO B σ b = some o)
    (hn : ∀ n l t ed m, o ≠ .calc n l t ed m) : getO B σ' b = some o := by
  rcases h b with hb | ⟨hold, _⟩
  · rw [hb, hg]
  · obtain ⟨n, l, t, ed, m, ho⟩ := hold o hg
    exact absurd ho (hn n l t ed m)

theorem Ext.link {σ σ' : Store} (h : Ext B σ σ') : LinkStable B σ σ' :=
  fun _ _ _ _ hl => h.old B hl (by intro _ _ _ _ _ hx; cases hx)

theorem Ext.inArcs {σ σ' : Store} (h : Ext B σ σ') {b : Nat} {L : List (Nat × Rat)} (hL : inArcs B σ b = some L) :
    inArcs B σ' b = some L := by
  obtain ⟨_, _, _, _, hg, _⟩ := inArcs_some B hL
  exact inArcs_stable B (h.link B) (by rw [h.old B hg (by intro _ _ _ _ _ hx; cases hx), hg]) hL

theorem Ext.outArcs {σ σ' : Store} (h : Ext B σ σ') {b : Nat} {L : List (Nat × Rat)} (hL : outArcs B σ b = some L) :
    outArcs B σ' b = some L := by
  obtain ⟨_, _, _, _, hg, _⟩ := outArcs_some B hL
  exact outArcs_stable B (h.link B) (by rw [h.old B hg (by intro _ _ _ _ _ hx; cases hx), hg]) hL

theorem Ext.memo {σ σ' : Store} (h : Ext B σ σ') : MemoEq B σ σ' := by
  intro b
  rcases h b with hb | ⟨hold, hsu, heu⟩
  · simp only [suOf, euOf, hb, and_self]
  · rw [hsu, heu]
    cases hg : getO B σ b with
    | none => simp only [suOf, euOf, hg, and_self]
    | some o =>
      obtain ⟨n, l, t, ed, m, rfl⟩ := hold o hg
      simp only [suOf, euOf, hg, and_self]

theorem ext_newPNode (σ : Store) : Ext B σ (σ ++ [.node [] [] none none]) := by
  intro b
  by_cases hb : b = B + σ.length
  · subst hb
    refine Or.inr ⟨fun o ho => ?_, ?_, ?_⟩
    · rw [getO_ge_none B (Nat.le_refl _)] at ho; cases ho
    · simp only [suOf, getO_append_new]
    · simp only [euOf, getO_append_new]
  · exact Or.inl (getO_append_ne B σ _ hb)

theorem ext_setCalc {σ : Store} {n n' : List Nat} {l t l' t' : List (Atom × Atom)} {ed ed' : Atom} {m m' : List Atom}
    (hc : getO B σ B = some (.calc n l t ed m)) : Ext B σ (setO B σ B (.calc n' l' t' ed' m')) := by
  intro b
  by_cases hb : b = B
  · rw [hb]
    refine Or.inr ⟨fun o ho => ⟨n, l, t, ed, m, by rw [hc] at ho; exact (Option.some.inj ho).symm⟩, ?_, ?_⟩
    · simp only [suOf, getO_setO_same B _ hc]
    · simp only [euOf, getO_setO_same B _ hc]
  · exact Or.inl (getO_setO_ne B _ (Nat.le_refl B) (Ne.symm hb))

/-- what `self.__new_node()` does -/
structure NewNodeSpec (σ σ' : Store) (a : Nat) : Prop where
  addr : a = B + σ.length
  len : σ'.length = σ.length + 1
  isCalc : ∃ nodes links tasks ed mem, getO B σ B = some (.calc nodes links tasks ed mem)
  calcObj : ∀ nodes links tasks ed mem, getO B σ B = some (.calc nodes links tasks ed mem) →
    getO B σ' B = some (.calc (nodes ++ [a]) links tasks ed mem)
  new : getO B σ' a = some (.node [] [] none none)
  old : ∀ b, b ≠ B → b ≠ a → getO B σ' b = getO B σ b
  stable : LinkStable B σ σ'

theorem newNodeA_spec {σ : Store} {nodes : List Nat} {links tasks : List (Atom × Atom)} {ed : Atom} {mem : List Atom}
    (hc : getO B σ B = some (.calc nodes links tasks ed mem)) :
    ∃ σ', newNodeA B σ = some (B + σ.length, σ') ∧ NewNodeSpec B σ σ' (B + σ.length) := by
  have hlen := (getO_some_lt B hc).2
  have hc1 : getO B (σ ++ [Obj.node [] [] none none]) B = some (.calc nodes links tasks ed mem) :=
    getO_append_old B _ hc
  have hneB : B + σ.length ≠ B := by omega
  refine ⟨setO B (σ ++ [Obj.node [] [] none none]) B (.calc (nodes ++ [B + σ.length]) links tasks ed mem),
    by simp only [newNodeA, newPNode, hc1], ⟨rfl, ?_, ⟨_, _, _, _, _, hc⟩, ?_, ?_, ?_, ?_⟩⟩
  · simp [length_setO]
  · intro nodes' links' tasks' ed' mem' hc'
    rw [hc] at hc'
    cases hc'
    exact getO_setO_same B _ hc1
  · rw [getO_setO_ne B _ (Nat.le_refl B) (Ne.symm hneB)]
    exact getO_append_new B σ _
  · intro b hbB hba
    rw [getO_setO_ne B _ (Nat.le_refl B) (Ne.symm hbB)]
    exact getO_append_ne B σ _ hba
  · exact fun l s e u hl => ((ext_setCalc B hc1).link B) l s e u ((ext_newPNode B σ).link B l s e u hl)

theorem NewNodeSpec.ext {σ σ' : Store} {a : Nat} (h : NewNodeSpec B σ σ' a) : Ext B σ σ' := by
  obtain ⟨n, l, t, ed, m, hc⟩ := h.isCalc
  intro b
  by_cases hbB : b = B
  · rw [hbB]
    refine Or.inr ⟨fun o ho => ⟨n, l, t, ed, m, by rw [hc] at ho; exact (Option.some.inj ho).symm⟩, ?_, ?_⟩
    · simp only [suOf, h.calcObj _ _ _ _ _ hc]
    · simp only [euOf, h.calcObj _ _ _ _ _ hc]
  · by_cases hba : b = a
    · rw [hba]
      refine Or.inr ⟨fun o ho => ?_, ?_, ?_⟩
      · rw [getO_ge_none B (by have := h.addr; omega)] at ho; cases ho
      · simp only [suOf, h.new]
      · simp only [euOf, h.new]
    · exact Or.inl (h.old b hbB hba)

/-- what `self.__connect(start, end, units)` does (for two different nodes) -/
structure ConnSpec (σ σ' : Store) (s e : Nat) (u : Rat) (l : Nat) : Prop where
  addr : l = B + σ.length
  len : σ'.length = σ.length + 1
  link : getO B σ' l = some (.link s e u)
  start : ∀ fw bw su eu, getO B σ s = some (.node fw bw su eu) → getO B σ' s = some (.node (fw ++ [l]) bw su eu)
  end_ : ∀ fw bw su eu, getO B σ e = some (.node fw bw su eu) → getO B σ' e = some (.node fw (bw ++ [l]) su eu)
  old : ∀ b, b ≠ s → b ≠ e → b ≠ l → getO B σ' b = getO B σ b
  sNode : ∃ fw bw su eu, getO B σ s = some (.node fw bw su eu)
  eNode : ∃ fw bw su eu, getO B σ e = some (.node fw bw su eu)
  ne : s ≠ e

theorem connectA_spec {σ : Store} {s e : Nat} (u : Rat) {fs bs fe be : List Nat} {sus eus sue eue : Option Rat}
    (hs : getO B σ s = some (.node fs bs sus eus)) (he : getO B σ e = some (.node fe be sue eue)) (hne : s ≠ e) :
    ∃ σ', connectA B σ s e u = some (B + σ.length, σ') ∧ ConnSpec B σ σ' s e u (B + σ.length) := by
  have hsl := getO_some_lt B hs
  have hel := getO_some_lt B he
  have hs1 : getO B (σ ++ [Obj.link s e u]) s = some (.node fs bs sus eus) := getO_append_old B _ hs
  have he1 : getO B (σ ++ [Obj.link s e u]) e = some (.node fe be sue eue) := getO_append_old B _ he
  have he2 : getO B (setO B (σ ++ [Obj.link s e u]) s (.node (fs ++ [B + σ.length]) bs sus eus)) e =
      some (.node fe be sue eue) := by
    rw [getO_setO_ne B _ hsl.1 hne]; exact he1
  have hls : s ≠ B + σ.length := by omega
  have hle : e ≠ B + σ.length := by omega
  refine ⟨setO B (setO B (σ ++ [Obj.link s e u]) s (.node (fs ++ [B + σ.length]) bs sus eus)) e
      (.node fe (be ++ [B + σ.length]) sue eue),
    by simp only [connectA, newPLink, hs1, he2], ⟨rfl, ?_, ?_, ?_, ?_, ?_, ⟨_, _, _, _, hs⟩, ⟨_, _, _, _, he⟩, hne⟩⟩
  · simp [length_setO]
  · rw [getO_setO_ne B _ hel.1 hle, getO_setO_ne B _ hsl.1 hls]
    exact getO_append_new B σ _
  · intro fw bw su eu hs'
    rw [hs] at hs'; cases hs'
    rw [getO_setO_ne B _ hel.1 (Ne.symm hne)]
    exact getO_setO_same B _ hs1
  · intro fw bw su eu he'
    rw [he] at he'; cases he'
    exact getO_setO_same B _ he2
  · intro b hbs hbe hbl
    rw [getO_setO_ne B _ hel.1 (Ne.symm hbe), getO_setO_ne B _ hsl.1 (Ne.symm hbs)]
    exact getO_append_ne B σ _ hbl

theorem ConnSpec.not_old {σ σ' : Store} {s e : Nat} {u : Rat} {l : Nat} (h : ConnSpec B σ σ' s e u l) {b : Nat} {o : Obj}
    (hg : getO B σ b = some o) : b ≠ l := by
  intro hx; subst hx
  have := (getO_some_lt B hg).2
  have := h.addr
  omega

theorem ConnSpec.other {σ σ' : Store} {s e : Nat} {u : Rat} {l : Nat} (h : ConnSpec B σ σ' s e u l) {b : Nat} {o : Obj}
    (hg : getO B σ b = some o) (hn : ∀ fw bw su eu, o ≠ .node fw bw su eu) : getO B σ' b = some o := by
  obtain ⟨_, _, _, _, hs⟩ := h.sNode
  obtain ⟨_, _, _, _, he⟩ := h.eNode
  rw [h.old b ?_ ?_ (h.not_old B hg), hg]
  · intro hx; subst hx; rw [hs] at hg; cases hg; exact hn _ _ _ _ rfl
  · intro hx; subst hx; rw [he] at hg; cases hg; exact hn _ _ _ _ rfl

theorem ConnSpec.stable {σ σ' : Store} {s e : Nat} {u : Rat} {l : Nat} (h : ConnSpec B σ σ' s e u l) :
    LinkStable B σ σ' :=
  fun _ _ _ _ hl => h.other B hl (by intro _ _ _ _ hx; cases hx)

theorem ConnSpec.node {σ σ' : Store} {s e : Nat} {u : Rat} {l : Nat} (h : ConnSpec B σ σ' s e u l) {b : Nat}
    {fw bw : List Nat} {su eu : Option Rat} (hg : getO B σ b = some (.node fw bw su eu)) :
    ∃ fw' bw', getO B σ' b = some (.node fw' bw' su eu) := by
  by_cases hbs : b = s
  · subst hbs; exact ⟨_, _, h.start _ _ _ _ hg⟩
  · by_cases hbe : b = e
    · subst hbe; exact ⟨_, _, h.end_ _ _ _ _ hg⟩
    · exact ⟨fw, bw, by rw [h.old b hbs hbe (h.not_old B hg), hg]⟩

def IsNode (σ : Store) (a : Nat) : Prop := ∃ fw bw su eu, getO B σ a = some (.node fw bw su eu)

theorem isNode_of_inArcs {σ : Store} {a : Nat} {L : List (Nat × Rat)} (h : inArcs B σ a = some L) : IsNode B σ a := by
  obtain ⟨fw, bw, su, eu, hg, _⟩ := inArcs_some B h
  exact ⟨fw, bw, su, eu, hg⟩

theorem IsNode.lt {σ : Store} {a : Nat} (h : IsNode B σ a) : a < B + σ.length := by
  obtain ⟨_, _, _, _, hg⟩ := h
  have := getO_some_lt B hg
  omega

theorem ConnSpec.isNode {σ σ' : Store} {s e : Nat} {u : Rat} {l : Nat} (h : ConnSpec B σ σ' s e u l) {b : Nat}
    (hb : IsNode B σ b) : IsNode B σ' b := by
  obtain ⟨fw, bw, su, eu, hg⟩ := hb
  obtain ⟨fw', bw', hg'⟩ := h.node B hg
  exact ⟨fw', bw', su, eu, hg'⟩

theorem ConnSpec.resolveIn_new {σ σ' : Store} {s e : Nat} {u : Rat} {l : Nat} (h : ConnSpec B σ σ' s e u l) :
    resolveIn B σ' l = some (s, u) := by simp only [resolveIn, h.link]

theorem ConnSpec.resolveOut_new {σ σ' : Store} {s e : Nat} {u : Rat} {l : Nat} (h : ConnSpec B σ σ' s e u l) :
    resolveOut B σ' l = some (e, u) := by simp only [resolveOut, h.link]

theorem ConnSpec.inArcs {σ σ' : Store} {s e : Nat} {u : Rat} {l : Nat} (h : ConnSpec B σ σ' s e u l) {b : Nat}
    {L : List (Nat × Rat)} (hL : inArcs B σ b = some L) :
    inArcs B σ' b = some (if b = e then L ++ [(s, u)] else L) := by
  obtain ⟨fw, bw, su, eu, hg, hm⟩ := inArcs_some B hL
  by_cases hbe : b = e
  · subst hbe
    simp only [CritPathSrc.inArcs, h.end_ _ _ _ _ hg, if_true]
    exact mapM_append_one _ _ _ _ _ (h.stable.mapM_in B hm) h.resolveIn_new
  · rw [if_neg hbe]
    by_cases hbs : b = s
    · subst hbs
      simp only [CritPathSrc.inArcs, h.start _ _ _ _ hg]
      exact h.stable.mapM_in B hm
    · exact inArcs_stable B h.stable (h.old b hbs hbe (h.not_old B hg)) hL

theorem ConnSpec.outArcs {σ σ' : Store} {s e : Nat} {u : Rat} {l : Nat} (h : ConnSpec B σ σ' s e u l) {b : Nat}
    {L : List (Nat × Rat)} (hL : outArcs B σ b = some L) :
    outArcs B σ' b = some (if b = s then L ++ [(e, u)] else L) := by
  obtain ⟨fw, bw, su, eu, hg, hm⟩ := outArcs_some B hL
  by_cases hbs : b = s
  · subst hbs
    simp only [CritPathSrc.outArcs, h.start _ _ _ _ hg, if_true]
    exact mapM_append_one _ _ _ _ _ (h.stable.mapM_out B hm) h.resolveOut_new
  · rw [if_neg hbs]
    by_cases hbe : b = e
    · subst hbe
      simp only [CritPathSrc.outArcs, h.end_ _ _ _ _ hg]
      exact h.stable.mapM_out B hm
    · exact outArcs_stable B h.stable (h.old b hbs hbe (h.not_old B hg)) hL

theorem ConnSpec.memo {σ σ' : Store} {s e : Nat} {u : Rat} {l : Nat} (h : ConnSpec B σ σ' s e u l) : MemoEq B σ σ' := by
  intro b
  cases hg : getO B σ b with
  | none =>
    by_cases hbl : b = l
    · subst hbl; simp only [suOf, euOf, h.link, hg, and_self]
    · obtain ⟨_, _, _, _, hs⟩ := h.sNode
      obtain ⟨_, _, _, _, he⟩ := h.eNode
      have hbs : b ≠ s := by intro hx; subst hx; rw [hs] at hg; cases hg
      have hbe : b ≠ e := by intro hx; subst hx; rw [he] at hg; cases hg
      simp only [suOf, euOf, h.old b hbs hbe hbl, hg, and_self]
  | some o =>
    cases o with
    | node fw bw su eu =>
      obtain ⟨fw', bw', hg'⟩ := h.node B hg
      simp only [suOf, euOf, hg, hg', and_self]
    | link s' e' u' => simp only [suOf, euOf, hg, h.other B hg (by intro _ _ _ _ hx; cases hx), and_self]
    | «calc» n l' t ed m => simp only [suOf, euOf, hg, h.other B hg (by intro _ _ _ _ hx; cases hx), and_self]

theorem ConnSpec.suOf {σ σ' : Store} {s e : Nat} {u : Rat} {l : Nat} (h : ConnSpec B σ σ' s e u l) (b : Nat) :
    suOf B σ' b = suOf B σ b := (h.memo B b).1

theorem ConnSpec.euOf {σ σ' : Store} {s e : Nat} {u : Rat} {l : Nat} (h : ConnSpec B σ σ' s e u l) (b : Nat) :
    euOf B σ' b = euOf B σ b := (h.memo B b).2

/-- `σ'` is `σ` with the zero-length arrows `A` = (start, end) connected, in this order: what `self.__connect(s, e, 0)`
    does for each (allocating a bare node or writing a memo field in between adds no arrow).  The links and the calculator
    stay as they are, nodes stay nodes. -/
structure Wires (σ σ' : Store) (A : List (Nat × Nat)) : Prop where
  inArcs : ∀ {b L}, inArcs B σ b = some L →
    inArcs B σ' b = some (L ++ (A.filter (fun a => decide (a.2 = b))).map (fun a => (a.1, (0 : Rat))))
  outArcs : ∀ {b L}, outArcs B σ b = some L →
    outArcs B σ' b = some (L ++ (A.filter (fun a => decide (a.1 = b))).map (fun a => (a.2, (0 : Rat))))
  link : LinkStable B σ σ'
  calcObj : ∀ {n l t ed m}, getO B σ B = some (.calc n l t ed m) → getO B σ' B = some (.calc n l t ed m)
  node : ∀ {b}, IsNode B σ b → IsNode B σ' b

theorem Wires.refl (σ : Store) : Wires B σ σ [] :=
  ⟨fun h => by simpa using h, fun h => by simpa using h, fun _ _ _ _ h => h, fun h => h, fun h => h⟩

theorem Wires.trans {σ σ1 σ2 : Store} {A A' : List (Nat × Nat)} (h : Wires B σ σ1 A) (h' : Wires B σ1 σ2 A') :
    Wires B σ σ2 (A ++ A') :=
  ⟨fun hL => by rw [h'.inArcs (h.inArcs hL), List.filter_append, List.map_append, List.append_assoc],
    fun hL => by rw [h'.outArcs (h.outArcs hL), List.filter_append, List.map_append, List.append_assoc],
    fun _ _ _ _ hl => h'.link _ _ _ _ (h.link _ _ _ _ hl), fun hc => h'.calcObj (h.calcObj hc), fun hb => h'.node (h.node hb)⟩

theorem ConnSpec.wires {σ σ' : Store} {s e l : Nat} (h : ConnSpec B σ σ' s e 0 l) : Wires B σ σ' [(s, e)] := by
  refine ⟨fun {b L} hL => ?_, fun {b L} hL => ?_, h.stable B, fun hc => h.other B hc (by intro _ _ _ _ hx; cases hx),
    fun hb => h.isNode B hb⟩
  · rw [h.inArcs B hL]
    by_cases hb : b = e
    · simp [hb]
    · simp [hb, Ne.symm hb]
  · rw [h.outArcs B hL]
    by_cases hb : b = s
    · simp [hb]
    · simp [hb, Ne.symm hb]

theorem wires_newPNode (σ : Store) : Wires B σ (σ ++ [.node [] [] none none]) [] :=
  ⟨fun h => by simpa using (ext_newPNode B σ).inArcs B h, fun h => by simpa using (ext_newPNode B σ).outArcs B h,
    fun _ _ _ _ hl => getO_append_old B _ hl, fun hc => getO_append_old B _ hc,
    fun ⟨fw, bw, su, eu, hg⟩ => ⟨fw, bw, su, eu, getO_append_old B _ hg⟩⟩

theorem SameF.wires {σ σ' : Store} (h : SameF B σ σ') : Wires B σ σ' [] :=
  ⟨fun hL => by simpa [← h.inArcs_eq B] using hL, fun hL => by simpa [← h.outArcs_eq B] using hL,
    fun _ _ _ _ hl => (h.link B).1 hl, fun hc => h.calcObj B hc,
    fun ⟨fw, bw, su, eu, hg⟩ => (h.node B hg).elim fun su' hg' => ⟨fw, bw, su', eu, hg'⟩⟩

/-- THE loop of `__connect`s: the round for `x` connects the two different nodes `g x` by a zero-length arrow -/
theorem connects {α : Type} (g : α → Nat × Nat) (f : Store → α → Option Store) (xs : List α) (σ : Store)
    (hf : ∀ σ' A x, x ∈ xs → Wires B σ σ' A → f σ' x = (connectA B σ' (g x).1 (g x).2 0).map (·.2))
    (hg : ∀ x ∈ xs, IsNode B σ (g x).1 ∧ IsNode B σ (g x).2 ∧ (g x).1 ≠ (g x).2) :
    ∃ σ', xs.foldlM f σ = some σ' ∧ Wires B σ σ' (xs.map g) ∧ MemoEq B σ σ' := by
  refine foldlM_prefix f (fun done σ' => Wires B σ σ' (done.map g) ∧ MemoEq B σ σ') xs
    (fun done x rest σ1 e ⟨hw, hm⟩ => ?_) σ ⟨Wires.refl B σ, fun _ => ⟨rfl, rfl⟩⟩
  have hx : x ∈ xs := by rw [e]; simp
  obtain ⟨⟨_, _, _, _, hs⟩, ⟨_, _, _, _, he⟩, hne⟩ := (hg x hx).imp hw.node (And.imp_left hw.node)
  obtain ⟨σ2, hrun, hc⟩ := connectA_spec B 0 hs he hne
  exact ⟨σ2, by rw [hf σ1 _ x hx hw, hrun]; rfl, by simpa using hw.trans B (hc.wires B), hm.trans B (hc.memo B)⟩

end ops

section net
variable (e : CPEnv) (B : Nat)

def upd (f : Uid → Nat) (t : Uid) (v : Nat) : Uid → Nat := fun x => if x = t then v else f x

theorem upd_same (f : Uid → Nat) (t : Uid) (v : Nat) : upd f t v t = v := by simp [upd]
theorem upd_ne (f : Uid → Nat) {t x : Uid} (v : Nat) (h : x ≠ t) : upd f t v x = f x := by simp [upd, h]

/-- the tasks `ts` have their two nodes `S t`, `E t` and their arc `L t`; `arrows` = the pairs (p, s) for which a
    zero-length arrow from the end of `p` to the start of `s` exists, in the order of their creation; nothing else
    touches these nodes; no memo field is set -/
structure Net (σ : Store) (ts : List Uid) (arrows : List (Uid × Uid)) (S E L : Uid → Nat) : Prop where
  link : ∀ t ∈ ts, getO B σ (L t) = some (.link (S t) (E t) (e.dur t))
  inS : ∀ t ∈ ts, inArcs B σ (S t) =
    some ((arrows.filter (fun a => decide (a.2 = t))).map (fun a => (E a.1, (0 : Rat))))
  outS : ∀ t ∈ ts, outArcs B σ (S t) = some [(E t, e.dur t)]
  inE : ∀ t ∈ ts, inArcs B σ (E t) = some [(S t, e.dur t)]
  outE : ∀ t ∈ ts, outArcs B σ (E t) =
    some ((arrows.filter (fun a => decide (a.1 = t))).map (fun a => (S a.2, (0 : Rat))))
  inj : ∀ t ∈ ts, ∀ t' ∈ ts, (S t = S t' → t = t') ∧ (E t = E t' → t = t') ∧ S t ≠ E t'
  arr : ∀ a ∈ arrows, a.1 ∈ ts ∧ a.2 ∈ ts
  fresh : ∀ a, suOf B σ a = none ∧ euOf B σ a = none

variable {σ σ' : Store} {ts : List Uid} {arrows : List (Uid × Uid)} {S E L : Uid → Nat}

theorem Net.ext (h : Net e B σ ts arrows S E L) (hx : Ext B σ σ') : Net e B σ' ts arrows S E L :=
  ⟨fun t ht => hx.link B _ _ _ _ (h.link t ht), fun t ht => hx.inArcs B (h.inS t ht),
    fun t ht => hx.outArcs B (h.outS t ht), fun t ht => hx.inArcs B (h.inE t ht), fun t ht => hx.outArcs B (h.outE t ht),
    h.inj, h.arr, (hx.memo B).fresh B h.fresh⟩

theorem Net.congr (h : Net e B σ ts arrows S E L) {S' E' L' : Uid → Nat} (hS : ∀ x ∈ ts, S' x = S x)
    (hE : ∀ x ∈ ts, E' x = E x) (hL : ∀ x ∈ ts, L' x = L x) : Net e B σ ts arrows S' E' L' := by
  refine ⟨?_, ?_, ?_, ?_, ?_, ?_, h.arr, h.fresh⟩
  · intro x hx; rw [hS x hx, hE x hx, hL x hx]; exact h.link x hx
  · intro x hx
    rw [hS x hx, h.inS x hx]
    congr 1
    exact List.map_congr_left (fun a ha => by rw [hE a.1 (h.arr a (List.mem_filter.mp ha).1).1])
  · intro x hx; rw [hS x hx, hE x hx]; exact h.outS x hx
  · intro x hx; rw [hS x hx, hE x hx]; exact h.inE x hx
  · intro x hx
    rw [hE x hx, h.outE x hx]
    congr 1
    exact List.map_congr_left (fun a ha => by rw [hS a.2 (h.arr a (List.mem_filter.mp ha).1).2])
  · intro x hx y hy; rw [hS x hx, hS y hy, hE x hx, hE y hy]; exact h.inj x hx y hy

/-- zero-length arrows from the end of `a.1` to the start of `a.2`, `a ← ps` (the loop of `__add_work`) -/
theorem Net.wires (h : Net e B σ ts arrows S E L) {ps : List (Uid × Uid)} (hps : ∀ a ∈ ps, a.1 ∈ ts ∧ a.2 ∈ ts)
    (hw : Wires B σ σ' (ps.map (fun a => (E a.1, S a.2)))) (hm : MemoEq B σ σ') :
    Net e B σ' ts (arrows ++ ps) S E L := by
  refine ⟨fun t ht => hw.link _ _ _ _ (h.link t ht), fun t ht => ?_, fun t ht => ?_,
    fun t ht => ?_, fun t ht => ?_, h.inj, ?_, hm.fresh B h.fresh⟩
  · -- the new arrows into `S t` are those of `ps` that end in `t`: `S` is injective on `ts`
    rw [hw.inArcs (h.inS t ht), List.filter_append, List.map_append, List.filter_map, List.map_map]
    congr 2
    rw [List.filter_congr (q := fun a => decide (a.2 = t)) fun a ha => by
      simpa using ⟨(h.inj _ (hps a ha).2 t ht).1, fun hx => hx ▸ rfl⟩]
    rfl
  · rw [hw.outArcs (h.outS t ht), List.filter_eq_nil_iff.mpr, List.map_nil, List.append_nil]
    intro a ha
    obtain ⟨a', ha', rfl⟩ := List.mem_map.mp ha
    simpa using Ne.symm (h.inj t ht _ (hps a' ha').1).2.2
  · rw [hw.inArcs (h.inE t ht), List.filter_eq_nil_iff.mpr, List.map_nil, List.append_nil]
    intro a ha
    obtain ⟨a', ha', rfl⟩ := List.mem_map.mp ha
    simpa using (h.inj _ (hps a' ha').2 t ht).2.2
  · rw [hw.outArcs (h.outE t ht), List.filter_append, List.map_append, List.filter_map, List.map_map]
    congr 2
    rw [List.filter_congr (q := fun a => decide (a.1 = t)) fun a ha => by
      simpa using ⟨(h.inj _ (hps a ha).1 t ht).2.1, fun hx => hx ▸ rfl⟩]
    rfl
  · intro a ha
    exact (List.mem_append.mp ha).elim (h.arr a) (hps a)

/-- one round of the loop of `__add_work`: `self.__connect(link.end, start, 0)` -/
theorem Net.arrow (h : Net e B σ ts arrows S E L) {p s : Uid} (hp : p ∈ ts) (hs : s ∈ ts) :
    ∃ σ', connectA B σ (E p) (S s) 0 = some (B + σ.length, σ') ∧ Net e B σ' ts (arrows ++ [(p, s)]) S E L := by
  obtain ⟨_, _, _, _, hgE, _⟩ := inArcs_some B (h.inE p hp)
  obtain ⟨_, _, _, _, hgS, _⟩ := inArcs_some B (h.inS s hs)
  obtain ⟨σ', hrun, hc⟩ := connectA_spec B 0 hgE hgS (fun hx => (h.inj s hs p hp).2.2 hx.symm)
  exact ⟨σ', hrun, h.wires e B (by simpa using ⟨hp, hs⟩) (hc.wires B) (hc.memo B)⟩

theorem Net.addTask (h : Net e B σ ts arrows S E L) {t : Uid} (ht : t ∉ ts)
    (hc : ConnSpec B σ σ' (S t) (E t) (e.dur t) (L t)) (hS : getO B σ (S t) = some (.node [] [] none none))
    (hE : getO B σ (E t) = some (.node [] [] none none))
    (hnew : ∀ x ∈ ts, S x ≠ S t ∧ S x ≠ E t ∧ E x ≠ S t ∧ E x ≠ E t) : Net e B σ' (ts ++ [t]) arrows S E L := by
  have hfil1 : arrows.filter (fun a => decide (a.2 = t)) = [] :=
    List.filter_eq_nil_iff.mpr (fun a ha hx => ht (of_decide_eq_true hx ▸ (h.arr a ha).2))
  have hfil2 : arrows.filter (fun a => decide (a.1 = t)) = [] :=
    List.filter_eq_nil_iff.mpr (fun a ha hx => ht (of_decide_eq_true hx ▸ (h.arr a ha).1))
  refine ⟨?_, ?_, ?_, ?_, ?_, ?_, ?_, (hc.memo B).fresh B h.fresh⟩
  · exact forall_mem_snoc (fun x hx => hc.other B (h.link x hx) (by intro _ _ _ _ hh; cases hh)) hc.link
  · refine forall_mem_snoc (fun x hx => ?_) ?_
    · rw [hc.inArcs B (h.inS x hx), if_neg (hnew x hx).2.1]
    · rw [hfil1, hc.inArcs B (inArcs_bare B hS), if_neg hc.ne]; rfl
  · refine forall_mem_snoc (fun x hx => ?_) ?_
    · rw [hc.outArcs B (h.outS x hx), if_neg (hnew x hx).1]
    · rw [hc.outArcs B (outArcs_bare B hS), if_pos rfl]; rfl
  · refine forall_mem_snoc (fun x hx => ?_) ?_
    · rw [hc.inArcs B (h.inE x hx), if_neg (hnew x hx).2.2.2]
    · rw [hc.inArcs B (inArcs_bare B hE), if_pos rfl]; rfl
  · refine forall_mem_snoc (fun x hx => ?_) ?_
    · rw [hc.outArcs B (h.outE x hx), if_neg (hnew x hx).2.2.1]
    · rw [hfil2, hc.outArcs B (outArcs_bare B hE), if_neg (Ne.symm hc.ne)]; rfl
  · refine forall_mem_snoc (fun x hx => forall_mem_snoc (h.inj x hx) ?_) (forall_mem_snoc (fun y hy => ?_) ?_)
    · exact ⟨fun hh => absurd hh (hnew x hx).1, fun hh => absurd hh (hnew x hx).2.2.2, (hnew x hx).2.1⟩
    · exact ⟨fun hh => absurd hh.symm (hnew y hy).1, fun hh => absurd hh.symm (hnew y hy).2.2.2,
        Ne.symm (hnew y hy).2.2.1⟩
    · exact ⟨fun _ => rfl, fun _ => rfl, hc.ne⟩
  · exact fun a ha => ⟨List.mem_append_left _ (h.arr a ha).1, List.mem_append_left _ (h.arr a ha).2⟩

/-- the two nodes and the arc of a new task (the first three statements of `__add_work`) -/
theorem Net.newTask (h : Net e B σ ts arrows S E L) {t : Uid} (ht : t ∉ ts)
    {nodes : List Nat} {links tasks : List (Atom × Atom)} {ed : Atom} {mem : List Atom}
    (hcalc : getO B σ B = some (.calc nodes links tasks ed mem)) :
    ∃ σ1 σ2 σ3, newNodeA B σ = some (B + σ.length, σ1) ∧ newNodeA B σ1 = some (B + σ.length + 1, σ2) ∧
      connectA B σ2 (B + σ.length) (B + σ.length + 1) (e.dur t) = some (B + σ.length + 2, σ3) ∧
      Net e B σ3 (ts ++ [t]) arrows (upd S t (B + σ.length)) (upd E t (B + σ.length + 1)) (upd L t (B + σ.length + 2)) ∧
      getO B σ3 B = some (.calc (nodes ++ [B + σ.length] ++ [B + σ.length + 1]) links tasks ed mem) := by
  obtain ⟨σ1, hr1, hn1⟩ := newNodeA_spec B hcalc
  have hc1 := hn1.calcObj _ _ _ _ _ hcalc
  obtain ⟨σ2, hr2, hn2⟩ := newNodeA_spec B hc1
  have hc2 := hn2.calcObj _ _ _ _ _ hc1
  have hl2 : σ2.length = σ.length + 2 := by rw [hn2.len, hn1.len]
  rw [hn1.len, show B + (σ.length + 1) = B + σ.length + 1 by omega] at hr2 hn2 hc2
  have hs2 : getO B σ2 (B + σ.length) = some (.node [] [] none none) :=
    (hn2.ext B).old B hn1.new (by intro _ _ _ _ _ hh; cases hh)
  obtain ⟨σ3, hr3, hc⟩ := connectA_spec B (e.dur t) hs2 hn2.new (by omega)
  rw [hl2, show B + (σ.length + 2) = B + σ.length + 2 by omega] at hr3 hc
  -- the nodes of the old tasks are below the new addresses
  have hlt : ∀ x ∈ ts, S x < B + σ.length ∧ E x < B + σ.length := by
    intro x hx
    obtain ⟨_, _, _, _, hgS, _⟩ := inArcs_some B (h.inS x hx)
    obtain ⟨_, _, _, _, hgE, _⟩ := inArcs_some B (h.inE x hx)
    have := getO_some_lt B hgS
    have := getO_some_lt B hgE
    omega
  have hne : ∀ x ∈ ts, x ≠ t := fun x hx hxt => ht (hxt ▸ hx)
  have hN2 : Net e B σ2 ts arrows (upd S t (B + σ.length)) (upd E t (B + σ.length + 1)) (upd L t (B + σ.length + 2)) :=
    ((h.ext e B (hn1.ext B)).ext e B (hn2.ext B)).congr e B (fun x hx => upd_ne _ _ (hne x hx))
      (fun x hx => upd_ne _ _ (hne x hx)) (fun x hx => upd_ne _ _ (hne x hx))
  refine ⟨σ1, σ2, σ3, hr1, hr2, hr3, ?_, hc.other B hc2 (by intro _ _ _ _ hh; cases hh)⟩
  refine hN2.addTask e B ht ?_ ?_ ?_ ?_
  · rw [upd_same, upd_same, upd_same]; exact hc
  · rw [upd_same]; exact hs2
  · rw [upd_same]; exact hn2.new
  · intro x hx
    rw [upd_ne _ _ (hne x hx), upd_ne _ _ (hne x hx), upd_same, upd_same]
    have := hlt x hx
    omega

end net

end Pj.CritPathSrc

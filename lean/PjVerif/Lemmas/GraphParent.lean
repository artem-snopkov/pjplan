/-
  Lemmas/GraphParent.lean — the parent setter and the children setter preserve well-formedness (C01).
  The validations of the setters are exactly what the proof needs; no other invariant is required.
  On a well-formed state an accepted `t.parent = p` leaves the closed form of Spec/GraphEff.lean; on any state the call
  stays inside every region of uids that is closed under the hierarchy fields and holds its arguments.
-/
import PjVerif.Spec.GraphEff
import PjVerif.Lemmas.Rel
namespace Pj

theorem WF_congr {s s' : G} (hp : s'.parent = s.parent) (hc : s'.children = s.children)
    (hpr : s'.preds = s.preds) (hsu : s'.succs = s.succs) (ht : s'.tid = s.tid) (h : WF s) : WF s' := by
  cases s; cases s'; simp only at hp hc hpr hsu ht; subst hp hc hpr hsu ht
  exact ⟨h.listed, h.once, h.forest, h.rootsTop, h.sym, h.dag, h.noAncDep⟩

def lnk (s : G) (x y : Uid) : Prop := x ∈ s.preds y ∨ y ∈ s.preds x

/-- what the validations of `t.parent = p` say about hierarchy and links, and all that well-formedness needs of them:
    `p` is not `t` and not below it, and no link joins the subtree of `t` with the chain from `p` upwards -/
structure Attach (s : G) (t p : Uid) : Prop where
  ne : p ≠ t
  notBelow : ¬ TC (par s) p t
  nolink : ∀ x y, RTC (par s) x t → RTC (par s) p y → ¬ lnk s x y

theorem Attach.not_RTC {s : G} {t p : Uid} (a : Attach s t p) : ¬ RTC (par s) p t :=
  not_RTC_of_ne a.ne a.notBelow

theorem WF_remove (s s' : G) (h : WF s)
    (hsub : ∀ a b, s'.parent a = some b → s.parent a = some b)
    (hlisted : ∀ a b, s'.parent a = some b ↔ a ∈ s'.children b)
    (hnodup : ∀ b, (s'.children b).Nodup)
    (hroot : ∀ r, s.hidden r = true → s'.parent r = none)
    (hpr : s'.preds = s.preds) (hsu : s'.succs = s.succs) (ht : s'.tid = s.tid) : WF s' := by
  have hm : ∀ a b, par s' a b → par s a b := hsub
  have hdep : dep s' = dep s := by funext a b; simp [dep, hpr]
  refine ⟨hlisted, hnodup, ?_, ?_, ?_, ?_, ?_⟩
  · intro x hx; exact h.forest x (TC.mono hm hx)
  · intro r hr
    have hr' : s.hidden r = true := by simpa [G.hidden, ht] using hr
    rw [hpr, hsu]
    exact ⟨hroot r hr', (h.rootsTop r hr').2⟩
  · intro a b; rw [hpr, hsu]; exact h.sym a b
  · intro x; rw [hdep]; exact h.dag x
  · intro a b hab
    rw [hdep] at hab
    have := h.noAncDep a b hab
    exact ⟨fun hx => this.1 (TC.mono hm hx), fun hx => this.2 (TC.mono hm hx)⟩

theorem WF_reparent (s s' : G) (t p : Uid) (h : WF s) (ht : s.hidden t = false)
    (att : Attach s t p) (hpar : s'.parent = upd s.parent t (some p))
    (hmem : ∀ a b, a ∈ s'.children b ↔ (a ≠ t ∧ a ∈ s.children b) ∨ (a = t ∧ b = p))
    (hnodup : ∀ b, (s'.children b).Nodup)
    (hpr : s'.preds = s.preds) (hsu : s'.succs = s.succs) (htid : s'.tid = s.tid) : WF s' := by
  let R : Uid → Uid → Prop := fun a b => a ≠ t ∧ par s a b
  have hR : ∀ a b, R a b → par s a b := fun _ _ h => h.2
  have hnew : ∀ a b, par s' a b → (R a b ∨ ((fun u => u = t) a ∧ b = p)) := by
    intro a b hab
    simp only [par, hpar, upd] at hab
    by_cases hat : a = t
    · simp [hat] at hab; exact Or.inr ⟨hat, hab.symm⟩
    · simp [hat] at hab; exact Or.inl ⟨hat, hab⟩
  have hdep : dep s' = dep s := by funext a b; simp [dep, hpr]
  refine ⟨?_, hnodup, ?_, ?_, ?_, ?_, ?_⟩
  · intro a b
    rw [hmem, hpar]
    by_cases hat : a = t
    · subst hat; simp [eq_comm]
    · simp [hat, h.listed a b]
  · have hacR : ∀ x, ¬ TC R x x := fun x hx => h.forest x (TC.mono hR hx)
    have hnoR : ∀ v, (fun u => u = t) v → ¬ RTC R p v := by
      intro v hv hr; subst hv
      exact att.not_RTC (RTC.mono hR hr)
    have key := acyclic_add_in_edges R p (fun u => u = t) hacR hnoR
    intro x hx
    exact key x (TC.mono hnew hx)
  · intro r hr
    have hr' : s.hidden r = true := by simpa [G.hidden, htid] using hr
    have hrt : r ≠ t := by intro e; subst e; simp [hr'] at ht
    rw [hpr, hsu, hpar]
    simp only [upd_other _ _ _ _ hrt]
    exact h.rootsTop r hr'
  · intro a b; rw [hpr, hsu]; exact h.sym a b
  · intro x; rw [hdep]; exact h.dag x
  · have key : ∀ x y, lnk s x y → ¬ TC (par s') x y := by
      intro x y hl hx
      rcases TC_add_in_edges_cases R p (fun u => u = t) (TC.mono hnew hx) with h1 | ⟨v, hv, h1, h2⟩
      · have h1' := TC.mono hR h1
        rcases hl with hl | hl
        · exact (h.noAncDep x y hl).1 h1'
        · exact (h.noAncDep y x hl).2 h1'
      · subst hv
        exact att.nolink x y (RTC.mono hR h1) (RTC.mono hR h2) hl
    intro a b hab
    rw [hdep] at hab
    exact ⟨key a b (Or.inl hab), key b a (Or.inr hab)⟩

theorem detachOld_fields (s : G) (t : Uid) :
    (detachOld s t).parent = s.parent ∧ (detachOld s t).preds = s.preds ∧ (detachOld s t).succs = s.succs ∧
    (detachOld s t).tid = s.tid ∧ (detachOld s t).owner = s.owner := by
  unfold detachOld
  split
  · split <;> simp
  · simp

theorem detachOld_n (s : G) (t : Uid) : (detachOld s t).n = s.n := by
  unfold detachOld
  split
  · split <;> rfl
  · rfl

theorem detachOld_children_eq (s : G) (t q : Uid) :
    (detachOld s t).children q = if s.parent t = some q then (s.children q).erase t else s.children q := by
  unfold detachOld
  cases hp : s.parent t with
  | none => simp
  | some q' =>
    simp only [Option.some.injEq]
    by_cases e : q' = q
    · subst e
      rw [if_pos rfl]
      split
      · exact upd_same _ _ _
      · rename_i hc
        exact (List.erase_of_not_mem (by simpa using hc)).symm
    · rw [if_neg e]
      split
      · exact upd_other _ _ _ _ (Ne.symm e)
      · rfl

theorem mem_detachOld (s : G) (t q x : Uid) (h : x ∈ (detachOld s t).children q) : x ∈ s.children q := by
  rw [detachOld_children_eq] at h
  split at h
  · exact List.mem_of_mem_erase h
  · exact h

/-- on a well-formed state `t` is listed under its parent only, so detaching removes it from every list -/
theorem detachOld_children (s : G) (t : Uid) (hw : WF s) (q : Uid) :
    (detachOld s t).children q = (s.children q).filter (fun c => c != t) := by
  rw [detachOld_children_eq, ← (hw.once q).erase_eq_filter t]
  split
  · rfl
  · rename_i hq
    exact (List.erase_of_not_mem (fun hm => hq ((hw.listed t q).mpr hm))).symm

/-- `self.__parent = parent` -/
def parStep (s1 : G) (t p : Uid) : G := { s1 with parent := upd s1.parent t (some p) }

theorem parStep_fields (s1 : G) (t p : Uid) :
    (parStep s1 t p).parent = upd s1.parent t (some p) ∧ (parStep s1 t p).children = s1.children ∧
    (parStep s1 t p).preds = s1.preds ∧ (parStep s1 t p).succs = s1.succs ∧ (parStep s1 t p).tid = s1.tid :=
  ⟨rfl, rfl, rfl, rfl, rfl⟩

/-- `_attach(parent.__wbs)` -/
def ownStep (s2 : G) (sub : List Uid) (p : Uid) : G :=
  match s2.owner p with
  | none => s2
  | some w => setOwners s2 sub (some w)

/-- `if self not in parent.__children: append` -/
def appStep (s3 : G) (t p : Uid) : G :=
  if (s3.children p).contains t then s3 else { s3 with children := upd s3.children p (s3.children p ++ [t]) }

theorem mutParentSome_eq (s : G) (t p : Uid) : mutParentSome s t p =
    match subtreeF s.children s.fuel t with
    | none => (s, some (.crash .recursion))
    | some sub =>
      (appStep (ownStep (parStep (detachOld s t) t p) sub p) t p, none) := rfl

theorem ownStep_fields (s2 : G) (sub : List Uid) (p : Uid) :
    (ownStep s2 sub p).parent = s2.parent ∧ (ownStep s2 sub p).children = s2.children ∧
    (ownStep s2 sub p).preds = s2.preds ∧ (ownStep s2 sub p).succs = s2.succs ∧ (ownStep s2 sub p).tid = s2.tid := by
  unfold ownStep
  split <;> simp [setOwners]

theorem appStep_fields (s3 : G) (t p : Uid) :
    (appStep s3 t p).parent = s3.parent ∧ (appStep s3 t p).preds = s3.preds ∧
    (appStep s3 t p).succs = s3.succs ∧ (appStep s3 t p).tid = s3.tid := by
  unfold appStep
  split <;> simp

theorem ownStep_n (s2 : G) (sub : List Uid) (p : Uid) : (ownStep s2 sub p).n = s2.n := by
  unfold ownStep
  split <;> rfl

theorem appStep_owner_n (s3 : G) (t p : Uid) : (appStep s3 t p).owner = s3.owner ∧ (appStep s3 t p).n = s3.n := by
  unfold appStep
  split <;> exact ⟨rfl, rfl⟩

theorem appStep_children (s3 : G) (t p q : Uid) :
    (appStep s3 t p).children q = if q = p ∧ t ∉ s3.children p then s3.children p ++ [t] else s3.children q := by
  unfold appStep
  split
  · rename_i hc
    rw [if_neg (fun h => h.2 (by simpa using hc))]
  · rename_i hc
    by_cases hq : q = p
    · subst hq; rw [if_pos ⟨rfl, by simpa using hc⟩]; exact upd_same _ _ _
    · rw [if_neg (fun h => hq h.1)]; exact upd_other _ _ _ _ hq

theorem ownStep_owner (s2 : G) (sub : List Uid) (p x : Uid) :
    (ownStep s2 sub p).owner x =
      match s2.owner p with
      | none => s2.owner x
      | some w => if sub.contains x then some w else s2.owner x := by
  unfold ownStep
  split <;> simp_all [setOwners]

theorem mutSteps_fields (s : G) (t p : Uid) (sub : List Uid) :
    let s' := appStep (ownStep (parStep (detachOld s t) t p) sub p) t p
    s'.parent = upd s.parent t (some p) ∧ s'.preds = s.preds ∧ s'.succs = s.succs ∧ s'.tid = s.tid ∧ s'.n = s.n ∧
    (∀ x, s'.owner x =
      match s.owner p with
      | none => s.owner x
      | some w => if sub.contains x then some w else s.owner x) ∧
    ∀ q, s'.children q = if q = p ∧ t ∉ (detachOld s t).children p then (detachOld s t).children p ++ [t]
      else (detachOld s t).children q := by
  intro s'
  obtain ⟨d1, d2, d3, d4, d5⟩ := detachOld_fields s t
  obtain ⟨o1, o2, o3, o4, o5⟩ := ownStep_fields (parStep (detachOld s t) t p) sub p
  obtain ⟨a1, a2, a3, a4⟩ := appStep_fields (ownStep (parStep (detachOld s t) t p) sub p) t p
  obtain ⟨a5, a6⟩ := appStep_owner_n (ownStep (parStep (detachOld s t) t p) sub p) t p
  refine ⟨?_, a2.trans (o3.trans d2), a3.trans (o4.trans d3), a4.trans (o5.trans d4), ?_, ?_, ?_⟩
  · rw [a1, o1]
    show upd (detachOld s t).parent t (some p) = _
    rw [d1]
  · rw [a6, ownStep_n]
    exact detachOld_n s t
  · intro x
    rw [a5, ownStep_owner]
    show (match (detachOld s t).owner p with
      | none => (detachOld s t).owner x
      | some w => if sub.contains x then some w else (detachOld s t).owner x) = _
    rw [d5]
  · intro q
    rw [appStep_children, o2]
    rfl

theorem eq_of_ok (r : G × Option Err) (h : r.2 = none) : r = (r.1, none) := by rw [← h]

/-- the second way to reject, a subtree that cannot be enumerated, needs a cyclic structure -/
theorem setParentSome_result (s : G) (t p : Uid) :
    (∃ e, setParentSome s t p = (s, some e) ∧
      (chkParentSome s t p = some e ∨ subtreeF s.children s.fuel t = none)) ∨
    ∃ sub, chkParentSome s t p = none ∧ subtreeF s.children s.fuel t = some sub ∧
      setParentSome s t p = (appStep (ownStep (parStep (detachOld s t) t p) sub p) t p, none) := by
  unfold setParentSome
  split
  · rename_i e hc; exact Or.inl ⟨e, rfl, Or.inl hc⟩
  · rename_i hc
    rw [mutParentSome_eq]
    split
    · rename_i hsub; exact Or.inl ⟨_, rfl, Or.inr hsub⟩
    · rename_i sub hsub; exact Or.inr ⟨sub, hc, hsub, rfl⟩

theorem G.eq_of_fields {a b : G}
    (h : a.n = b.n ∧ ∀ u, a.tid u = b.tid u ∧ a.parent u = b.parent u ∧ a.children u = b.children u ∧
      a.preds u = b.preds u ∧ a.succs u = b.succs u ∧ a.owner u = b.owner u) : a = b := by
  obtain ⟨n, tid, parent, children, preds, succs, owner⟩ := a
  obtain ⟨n', tid', parent', children', preds', succs', owner'⟩ := b
  obtain ⟨h1, h2⟩ := h
  simp only at h1 h2
  have e1 : tid = tid' := funext fun u => (h2 u).1
  have e2 : parent = parent' := funext fun u => (h2 u).2.1
  have e3 : children = children' := funext fun u => (h2 u).2.2.1
  have e4 : preds = preds' := funext fun u => (h2 u).2.2.2.1
  have e5 : succs = succs' := funext fun u => (h2 u).2.2.2.2.1
  have e6 : owner = owner' := funext fun u => (h2 u).2.2.2.2.2
  subst h1 e1 e2 e3 e4 e5 e6
  rfl

theorem setParentSome_exact (s s' : G) (t p : Uid) (hw : WF s) (h : setParentSome s t p = (s', none)) :
    ∃ sub, subtreeF s.children s.fuel t = some sub ∧
      s'.n = s.n ∧ s'.tid = s.tid ∧ s'.preds = s.preds ∧ s'.succs = s.succs ∧
      s'.parent = upd s.parent t (some p) ∧
      (∀ q, s'.children q = if q = p then (s.children p).filter (fun c => c != t) ++ [t]
                            else (s.children q).filter (fun c => c != t)) ∧
      (∀ x, s'.owner x = match s.owner p with
        | some w => if sub.contains x then some w else s.owner x
        | none => s.owner x) := by
  rcases setParentSome_result s t p with ⟨_, e, _⟩ | ⟨sub, _, hsub, e⟩ <;> rw [e] at h <;> cases h
  obtain ⟨fpar, fpr, fsu, ftid, fn, fown, fch⟩ := mutSteps_fields s t p sub
  refine ⟨sub, hsub, fn, ftid, fpr, fsu, fpar, ?_, ?_⟩
  · intro q
    have hnot : t ∉ (s.children p).filter (fun c => c != t) := by simp
    simp only [fch, detachOld_children s t hw, and_iff_left hnot]
  · intro x
    rw [fown]
    cases s.owner p <;> rfl

theorem below_single (s : G) (t : Uid) (sub : List Uid) (h : subtreeF s.children s.fuel t = some sub) :
    below s [t] = sub := by
  simp [below, h]

theorem setParentSome_ok_eq (s s' : G) (t p : Uid) (hw : WF s) (h : setParentSome s t p = (s', none)) :
    s' = effSetParentSome s t p := by
  obtain ⟨sub, hsub, h1, h2, h3, h4, h5, h6, h7⟩ := setParentSome_exact s s' t p hw h
  apply G.eq_of_fields
  refine ⟨h1, fun u => ⟨by rw [h2]; rfl, by rw [h5]; rfl, ?_, by rw [h3]; rfl, by rw [h4]; rfl, ?_⟩⟩
  · rw [h6]; rfl
  · rw [h7]
    show _ = match s.owner p with
      | some w => if (below s [t]).contains u then some w else s.owner u
      | none => s.owner u
    rw [below_single s t sub hsub]

theorem mem_effSetParentSome (s : G) (t p a b : Uid) :
    a ∈ (effSetParentSome s t p).children b ↔ (a ≠ t ∧ a ∈ s.children b) ∨ (a = t ∧ b = p) := by
  show a ∈ (if b = p then (s.children p).filter (fun c => c != t) ++ [t] else (s.children b).filter (fun c => c != t)) ↔ _
  by_cases hb : b = p
  · subst hb; simp [and_comm]
  · simp [hb, and_comm]

theorem nodup_effSetParentSome (s : G) (t p : Uid) (hn : ∀ b, (s.children b).Nodup) (b : Uid) :
    ((effSetParentSome s t p).children b).Nodup := by
  show (if b = p then (s.children p).filter (fun c => c != t) ++ [t] else (s.children b).filter (fun c => c != t)).Nodup
  split
  · refine List.nodup_append.mpr ⟨(hn p).filter _, (by simp), ?_⟩
    intro a ha c hc
    rw [List.mem_singleton.mp hc]
    simpa using (List.mem_filter.mp ha).2
  · exact (hn b).filter _

theorem chkParentSome_none (s : G) (t p : Uid) (hc : chkParentSome s t p = none) :
    ∃ desc anc, descF s.children s.fuel t = some desc ∧ p ≠ t ∧ desc.contains p = false ∧
      ancF s s.fuel (s.parent p) = some anc ∧ linkedWithAny s (t :: desc) (p :: anc) = false := by
  unfold chkParentSome at hc
  simp only at hc
  split at hc
  · cases hc
  · cases hdesc : descF s.children s.fuel t with
    | none => rw [hdesc] at hc; cases hc
    | some desc =>
      cases hanc : ancF s s.fuel (s.parent p) with
      | none => simp [hdesc, hanc, ite_some_eq_none] at hc
      | some anc =>
        simp only [hdesc, hanc, ite_some_eq_none, not_or] at hc
        exact ⟨desc, anc, rfl, hc.1.1, by simpa using hc.1.2, rfl, by simpa using hc.2⟩

theorem linkedWithAny_false (s : G) (ts os : List Uid) (hl : linkedWithAny s ts os = false)
    (x y : Uid) (hx : x ∈ ts) (hy : y ∈ os) : y ∉ s.preds x ∧ y ∉ s.succs x := by
  simp only [linkedWithAny, List.any_eq_false, List.any_eq_true, not_exists, not_and, List.mem_append,
    List.contains_iff_mem] at hl
  have := hl x hx
  exact ⟨fun h => this y (Or.inl h) hy, fun h => this y (Or.inr h) hy⟩

theorem linkedWithAny_true (s : G) (ts os : List Uid) (hl : linkedWithAny s ts os = true) :
    ∃ x ∈ ts, ∃ y ∈ os, y ∈ s.preds x ∨ y ∈ s.succs x := by
  simp only [linkedWithAny, List.any_eq_true, List.mem_append, List.contains_iff_mem] at hl
  obtain ⟨x, hx, y, hy, hyo⟩ := hl
  exact ⟨x, hx, y, hyo, hy⟩

theorem accepted_no_link (s : G) (t p : Uid) (h : WF s) (desc anc : List Uid)
    (hdesc : descF s.children s.fuel t = some desc) (hanc : ancF s s.fuel (s.parent p) = some anc)
    (hl : linkedWithAny s (t :: desc) (p :: anc) = false)
    (x y : Uid) (hx : RTC (par s) x t) (hy : RTC (par s) p y) : ¬ lnk s x y := by
  intro hxy
  have hy' : y ∈ s.preds x ∨ y ∈ s.succs x := by
    rcases hxy with e | e
    · exact Or.inr ((h.sym x y).mp e)
    · exact Or.inl e
  cases hh : s.hidden y
  · have hxm : x ∈ t :: desc := by
      rcases hx.cases_eq_or_TC with e | e
      · simp [e]
      · exact List.mem_cons_of_mem _ ((descF_mem s h.listed _ t desc hdesc x).mpr e)
    have hym : y ∈ p :: anc := by
      rcases hy.cases_eq_or_TC with e | e
      · simp [e]
      · exact List.mem_cons_of_mem _
          (ancF_complete s (fun r hr => (h.rootsTop r hr).1) s.fuel p anc hanc y e hh)
    have := linkedWithAny_false s _ _ hl x y hxm hym
    rcases hy' with e | e
    · exact this.1 e
    · exact this.2 e
  · obtain ⟨_, h1, h2⟩ := h.rootsTop y hh
    rcases hxy with e | e
    · rw [h1] at e; cases e
    · have := (h.sym y x).mp e
      rw [h2] at this; cases this

theorem no_link_accepted (s : G) (t p : Uid) (h : WF s) (desc anc : List Uid)
    (hdesc : descF s.children s.fuel t = some desc) (hanc : ancF s s.fuel (s.parent p) = some anc)
    (hlink : ∀ x y, RTC (par s) x t → RTC (par s) p y → ¬ lnk s x y) :
    linkedWithAny s (t :: desc) (p :: anc) = false := by
  cases hl : linkedWithAny s (t :: desc) (p :: anc) with
  | false => rfl
  | true =>
    obtain ⟨x, hx, y, hy, hxy⟩ := linkedWithAny_true s _ _ hl
    have hxt : RTC (par s) x t := by
      rcases List.mem_cons.mp hx with rfl | hx
      · exact RTC.refl
      · exact ((descF_mem s h.listed _ t desc hdesc x).mp hx).toRTC
    have hpy : RTC (par s) p y := by
      rcases List.mem_cons.mp hy with rfl | hy
      · exact RTC.refl
      · exact (ancF_sound s _ p anc hanc y hy).1.toRTC
    refine absurd ?_ (hlink x y hxt hpy)
    rcases hxy with e | e
    · exact Or.inr e
    · exact Or.inl ((h.sym x y).mpr e)

theorem attach_iff (s : G) (t p : Uid) (h : WF s) (desc anc : List Uid)
    (hdesc : descF s.children s.fuel t = some desc) (hanc : ancF s s.fuel (s.parent p) = some anc) :
    Attach s t p ↔ ¬ (p = t ∨ desc.contains p = true) ∧ linkedWithAny s (t :: desc) (p :: anc) = false := by
  have hd : desc.contains p = true ↔ TC (par s) p t := by
    rw [List.contains_iff_mem]; exact descF_mem s h.listed _ t desc hdesc p
  constructor
  · intro a
    exact ⟨fun e => e.elim a.ne (fun e => a.notBelow (hd.mp e)), no_link_accepted s t p h desc anc hdesc hanc a.nolink⟩
  · intro ⟨h1, h2⟩
    exact ⟨fun e => h1 (Or.inl e), fun e => h1 (Or.inr (hd.mpr e)), accepted_no_link s t p h desc anc hdesc hanc h2⟩

theorem chkParentSome_attach (s : G) (t p : Uid) (h : WF s) (hc : chkParentSome s t p = none) : Attach s t p := by
  obtain ⟨desc, anc, hdesc, hne, hnc, hanc, hl⟩ := chkParentSome_none s t p hc
  refine (attach_iff s t p h desc anc hdesc hanc).mpr ⟨?_, hl⟩
  rw [hnc]
  simpa using hne

theorem forEach_preserves_mem (P : G → Prop) (f : G → Uid → G × Option Err) :
    ∀ (ts : List Uid) (s : G), (∀ s t, t ∈ ts → P s → P (f s t).1) → P s → P (forEach f s ts).1 := by
  intro ts
  induction ts with
  | nil => intro s _ hs; exact hs
  | cons t ts ih =>
    intro s hf hs
    have h1 := hf s t List.mem_cons_self hs
    simp only [forEach]
    split
    · rename_i s' e heq
      rw [heq] at h1; exact h1
    · rename_i s' heq
      rw [heq] at h1
      exact ih s' (fun s t ht => hf s t (List.mem_cons_of_mem _ ht)) h1

theorem foldSetParent_eq_forEach (h : Uid) (l : List Uid) (s : G) :
    foldSetParent s l h = forEach (fun s v => setParent s v (some h)) s l := by
  induction l generalizing s with
  | nil => rfl
  | cons v vs ih =>
    simp only [foldSetParent, forEach, ih]
    rfl

theorem setChildren_of_rejected {s : G} {h : Uid} {l : List Uid} {e : Err} (hc : chkChildren s h l = some e) :
    setChildren s h l = (s, some e) := by
  unfold setChildren; rw [hc]

theorem setChildren_of_accepted {s s1 : G} {h : Uid} {l : List Uid} (hc : chkChildren s h l = none)
    (he : releaseChildren s h l = (s1, none)) : setChildren s h l = foldSetParent s1 l h := by
  unfold setChildren; rw [hc]; simp only [he]

theorem chkChildren_of_ok {s s' : G} {h : Uid} {l : List Uid} (hs : setChildren s h l = (s', none)) :
    chkChildren s h l = none := by
  cases hc : chkChildren s h l with
  | none => rfl
  | some e => rw [setChildren_of_rejected hc] at hs; cases hs

theorem setChildren_preserves (P : G → Prop) (s : G) (h : Uid) (l : List Uid)
    (hrel : P s → P (releaseChildren s h l).1)
    (hpar : ∀ s' v, v ∈ l → P s' → P (setParent s' v (some h)).1) (hs : P s) : P (setChildren s h l).1 := by
  unfold setChildren
  split
  · exact hs
  · have h1 := hrel hs
    split
    · rename_i s1 e he; rw [he] at h1; exact h1
    · rename_i s1 he
      rw [he] at h1
      rw [foldSetParent_eq_forEach]
      exact forEach_preserves_mem P _ l s1 hpar h1

/-- the release gives up only when a subtree cannot be enumerated, i.e. on a cyclic structure -/
theorem releaseChildren_cases (s : G) (h : Uid) (l : List Uid) :
    (((s.children h).filter (fun v => !l.contains v)).mapM (subtreeF s.children s.fuel) = none ∧
      releaseChildren s h l = (s, some (.crash .recursion))) ∨
    ∃ (sub : List Uid) (s1 : G),
      (∀ x, x ∈ sub ↔ ∃ c ∈ s.children h, c ∉ l ∧ RTC (fun a b => b ∈ s.children a) c x) ∧
      releaseChildren s h l = (s1, none) ∧
      (∀ x, s1.parent x = if x ∈ s.children h then none else s.parent x) ∧ s1.children = upd s.children h [] ∧
      (∀ x, s1.owner x = if x ∈ sub then none else s.owner x) ∧
      s1.tid = s.tid ∧ s1.preds = s.preds ∧ s1.succs = s.succs ∧ s1.n = s.n := by
  cases hm : ((s.children h).filter (fun v => !l.contains v)).mapM (subtreeF s.children s.fuel) with
  | none =>
    refine Or.inl ⟨rfl, ?_⟩
    unfold releaseChildren
    simp only [hm]
  | some subs =>
    refine Or.inr ⟨subs.flatten, ⟨s.n, s.tid, fun x => if (s.children h).contains x then none else s.parent x,
      upd s.children h [], s.preds, s.succs, fun x => if subs.flatten.contains x then none else s.owner x⟩,
      fun x => ?_, ?_, fun x => ?_, rfl, fun x => ?_, rfl, rfl, rfl, rfl⟩
    · rw [subtreeF_flatten_reach s.children s.fuel _ subs hm x]
      simp only [List.mem_filter, Bool.not_eq_true', ← Bool.not_eq_true, List.contains_iff_mem, and_assoc]
    · unfold releaseChildren
      simp only [hm]
      rfl
    · simp only [List.contains_iff_mem]
    · simp only [List.contains_iff_mem]

/-! ### locality: a call with all hierarchy arguments in a closed region stays inside that region

  Read with the fresh uids of a copy (`HFrame`, Lemmas/CloneLemmas.lean), with the universe (`Bounded`,
  Lemmas/GraphBounded.lean) and with everything but a not yet constructed WBS root (`Isolated`, Lemmas/WbsSrcM.lean). -/

/-- the region `A` is closed under the hierarchy fields of `g` -/
structure HClosed (A : Uid → Prop) (g : G) : Prop where
  parent : ∀ u p, A u → g.parent u = some p → A p
  children : ∀ u x, A u → x ∈ g.children u → A x
  owner : ∀ u w, A u → g.owner u = some w → A w

/-- `g'` differs from `g` only in hierarchy cells of `A`; links, ids and the universe are those of `g` -/
structure HLocal (A : Uid → Prop) (g g' : G) : Prop where
  parent : ∀ u, ¬ A u → g'.parent u = g.parent u
  children : ∀ u, ¬ A u → g'.children u = g.children u
  owner : ∀ u, ¬ A u → g'.owner u = g.owner u
  closed : HClosed A g'
  preds : g'.preds = g.preds
  succs : g'.succs = g.succs
  tid : g'.tid = g.tid
  n : g'.n = g.n

theorem ne_of_in_out {A : Uid → Prop} {x u : Uid} (hx : A x) (hu : ¬ A u) : x ≠ u := fun e => hu (e ▸ hx)

theorem HClosed.univ (g : G) : HClosed (fun _ => True) g :=
  ⟨fun _ _ _ _ => trivial, fun _ _ _ _ => trivial, fun _ _ _ _ => trivial⟩

theorem HLocal.refl {A : Uid → Prop} {g : G} (hc : HClosed A g) : HLocal A g g :=
  ⟨fun _ _ => rfl, fun _ _ => rfl, fun _ _ => rfl, hc, rfl, rfl, rfl, rfl⟩

theorem HLocal.trans {A : Uid → Prop} {g g' g'' : G} (h1 : HLocal A g g') (h2 : HLocal A g' g'') : HLocal A g g'' :=
  ⟨fun u hu => (h2.parent u hu).trans (h1.parent u hu), fun u hu => (h2.children u hu).trans (h1.children u hu),
    fun u hu => (h2.owner u hu).trans (h1.owner u hu), h2.closed, h2.preds.trans h1.preds, h2.succs.trans h1.succs,
    h2.tid.trans h1.tid, h2.n.trans h1.n⟩

/-- `t.parent = p` assigns a parent - the given one or, for `None` on a member of a WBS, the hidden root of that WBS - or
    detaches a task that belongs to no WBS: it leaves its parent's list and loses its parent, nothing else changes -/
theorem setParent_cases (s : G) (t : Uid) (p : Option Uid) :
    (∃ q, (p = some q ∨ (p = none ∧ s.owner t = some q)) ∧ setParent s t p = setParentSome s t q) ∨
    (p = none ∧ s.owner t = none ∧ ∃ s', setParent s t p = (s', none) ∧ s'.parent = upd s.parent t none ∧
      s'.children = (detachOld s t).children ∧ s'.preds = s.preds ∧ s'.succs = s.succs ∧ s'.tid = s.tid ∧
      s'.owner = s.owner ∧ s'.n = s.n) := by
  cases p with
  | some q => exact Or.inl ⟨q, Or.inl rfl, rfl⟩
  | none =>
    cases ho : s.owner t with
    | some w => exact Or.inl ⟨w, Or.inr ⟨rfl, rfl⟩, by show setParentNone s t = _; unfold setParentNone; rw [ho]⟩
    | none =>
      obtain ⟨d1, d2, d3, d4, d5⟩ := detachOld_fields s t
      exact Or.inr ⟨rfl, rfl, { detachOld s t with parent := upd (detachOld s t).parent t none },
        by show setParentNone s t = _; unfold setParentNone; simp only [ho],
        congrArg (upd · t none) d1, rfl, d2, d3, d4, d5, detachOld_n s t⟩

theorem setParentSome_hlocal {A : Uid → Prop} {g : G} (hc : HClosed A g) (t p : Uid) (ht : A t) (hp : A p) :
    HLocal A g (setParentSome g t p).1 := by
  rcases setParentSome_result g t p with ⟨_, h, _⟩ | ⟨sub, _, hsub, h⟩ <;> rw [h]
  · exact HLocal.refl hc
  have hsubA : ∀ x ∈ sub, A x := subtreeF_closed g.children A hc.children _ t sub hsub ht
  obtain ⟨hpar, hpr, hsu, htid, hn, hown, hch⟩ := mutSteps_fields g t p sub
  have hout : ∀ u, ¬ A u → sub.contains u = false := fun u hu => contains_eq_false (fun x hx => ne_of_in_out (hsubA x hx) hu)
  refine ⟨?_, ?_, ?_, ⟨?_, ?_, ?_⟩, hpr, hsu, htid, hn⟩
  · intro u hu
    rw [hpar, upd_other _ _ _ _ (ne_of_in_out ht hu).symm]
  · intro u hu
    rw [hch, if_neg (fun h => ne_of_in_out hp hu h.1.symm), detachOld_children_eq,
      if_neg (fun e => hu (hc.parent t u ht e))]
  · intro u hu
    rw [hown, hout u hu]
    cases g.owner p <;> rfl
  · intro u q hu hq
    rw [hpar] at hq
    by_cases e : u = t
    · subst e; rw [upd_same] at hq; cases hq; exact hp
    · rw [upd_other _ _ _ _ e] at hq; exact hc.parent u q hu hq
  · intro u x hu hx
    rw [hch] at hx
    split at hx
    · rcases List.mem_append.mp hx with hx | hx
      · exact hc.children p x hp (mem_detachOld g t p x hx)
      · rw [List.mem_singleton.mp hx]; exact ht
    · exact hc.children u x hu (mem_detachOld g t u x hx)
  · intro u w hu hw
    rw [hown] at hw
    split at hw
    · exact hc.owner u w hu hw
    · rename_i w' hw'
      split at hw
      · cases hw; exact hc.owner p _ hp hw'
      · exact hc.owner u w hu hw

theorem setParent_hlocal {A : Uid → Prop} {g : G} (hc : HClosed A g) (t : Uid) (p : Option Uid) (ht : A t)
    (hp : ∀ q, p = some q → A q) : HLocal A g (setParent g t p).1 := by
  rcases setParent_cases g t p with ⟨q, hq, e⟩ | ⟨_, _, g', e, fp, fc, fpr, fsu, ftid, fo, fn⟩ <;> rw [e]
  · exact setParentSome_hlocal hc t q ht (hq.elim (hp q) (fun h => hc.owner t q ht h.2))
  · refine ⟨?_, ?_, fun u _ => by rw [fo], ⟨?_, ?_, fun u w hu hw => hc.owner u w hu (fo ▸ hw)⟩, fpr, fsu, ftid, fn⟩
    · intro u hu
      rw [fp, upd_other _ _ _ _ (ne_of_in_out ht hu).symm]
    · intro u hu
      rw [fc, detachOld_children_eq, if_neg (fun e => hu (hc.parent t u ht e))]
    · intro u q hu hq
      rw [fp] at hq
      by_cases e : u = t
      · subst e; rw [upd_same] at hq; cases hq
      · rw [upd_other _ _ _ _ e] at hq; exact hc.parent u q hu hq
    · intro u x hu hx
      rw [fc] at hx; exact hc.children u x hu (mem_detachOld g t u x hx)

theorem releaseChildren_hlocal {A : Uid → Prop} {g : G} (hc : HClosed A g) (h : Uid) (l : List Uid) (hh : A h) :
    HLocal A g (releaseChildren g h l).1 := by
  rcases releaseChildren_cases g h l with ⟨_, he⟩ | ⟨sub, g1, hsub, he, fpar, fch, fown, ftid, fpr, fsu, fn⟩ <;> rw [he]
  · exact HLocal.refl hc
  have hsubA : ∀ x ∈ sub, A x := by
    intro x hx
    obtain ⟨c, hcm, _, hcx⟩ := (hsub x).mp hx
    exact RTC_closed g.children A hc.children hcx (hc.children h c hh hcm)
  refine ⟨?_, ?_, ?_, ⟨?_, ?_, ?_⟩, fpr, fsu, ftid, fn⟩
  · intro u hu
    rw [fpar, if_neg (fun hx => hu (hc.children h u hh hx))]
  · intro u hu
    rw [fch, upd_other _ _ _ _ (ne_of_in_out hh hu).symm]
  · intro u hu
    rw [fown, if_neg (fun hx => hu (hsubA u hx))]
  · intro u q hu hq
    rw [fpar] at hq
    split at hq
    · cases hq
    · exact hc.parent u q hu hq
  · intro u x hu hx
    rw [fch] at hx
    by_cases e : u = h
    · subst e; rw [upd_same] at hx; cases hx
    · rw [upd_other _ _ _ _ e] at hx; exact hc.children u x hu hx
  · intro u w hu hw
    rw [fown] at hw
    split at hw
    · cases hw
    · exact hc.owner u w hu hw

theorem setChildren_hlocal {A : Uid → Prop} {g : G} (hc : HClosed A g) (h : Uid) (l : List Uid) (hh : A h)
    (hl : ∀ v ∈ l, A v) : HLocal A g (setChildren g h l).1 :=
  setChildren_preserves (HLocal A g) g h l (fun _ => releaseChildren_hlocal hc h l hh)
    (fun g' v hv h' => h'.trans (setParent_hlocal h'.closed v (some h) (hl v hv) (fun q hq => by cases hq; exact hh)))
    (HLocal.refl hc)

theorem setParentSome_static (s : G) (t p : Uid) : (setParentSome s t p).1.n = s.n ∧ (setParentSome s t p).1.tid = s.tid :=
  have h := setParentSome_hlocal (HClosed.univ s) t p trivial trivial
  ⟨h.n, h.tid⟩

theorem setParent_static (s : G) (t : Uid) (p : Option Uid) : (setParent s t p).1.n = s.n ∧ (setParent s t p).1.tid = s.tid :=
  have h := setParent_hlocal (HClosed.univ s) t p trivial (fun _ _ => trivial)
  ⟨h.n, h.tid⟩

theorem releaseChildren_static (s : G) (h : Uid) (l : List Uid) :
    (releaseChildren s h l).1.n = s.n ∧ (releaseChildren s h l).1.tid = s.tid :=
  have h := releaseChildren_hlocal (HClosed.univ s) h l trivial
  ⟨h.n, h.tid⟩

theorem setChildren_static (s : G) (h : Uid) (l : List Uid) :
    (setChildren s h l).1.n = s.n ∧ (setChildren s h l).1.tid = s.tid :=
  have h := setChildren_hlocal (HClosed.univ s) h l trivial (fun _ _ => trivial)
  ⟨h.n, h.tid⟩

theorem setParent_n (s : G) (t : Uid) (p : Option Uid) : (setParent s t p).1.n = s.n := (setParent_static s t p).1
theorem setParent_tid (s : G) (t : Uid) (p : Option Uid) : (setParent s t p).1.tid = s.tid := (setParent_static s t p).2
theorem releaseChildren_tid (s : G) (h : Uid) (l : List Uid) : (releaseChildren s h l).1.tid = s.tid :=
  (releaseChildren_static s h l).2
theorem setChildren_n (s : G) (h : Uid) (l : List Uid) : (setChildren s h l).1.n = s.n := (setChildren_static s h l).1
theorem setChildren_tid (s : G) (h : Uid) (l : List Uid) : (setChildren s h l).1.tid = s.tid := (setChildren_static s h l).2

theorem hidden_of_tid (s s' : G) (h : s'.tid = s.tid) (u : Uid) : s'.hidden u = s.hidden u := by
  simp [G.hidden, h]

/-- `p` may be a hidden WBS root: that is how `roots.append` re-parents -/
theorem setParentSome_WF (s : G) (t p : Uid) (h : WF s) (ht : s.hidden t = false) : WF (setParentSome s t p).1 := by
  rcases setParentSome_result s t p with ⟨_, e, _⟩ | ⟨sub, hc, _, e⟩
  · rw [e]; exact h
  · rw [setParentSome_ok_eq s _ t p h (eq_of_ok _ (by rw [e]))]
    exact WF_reparent s _ t p h ht (chkParentSome_attach s t p h hc) rfl
      (mem_effSetParentSome s t p) (nodup_effSetParentSome s t p h.once) rfl rfl rfl

/-- for `None` on a member of a WBS the new parent is the owner (`OwnerOK.isRoot` is not needed: whatever it is,
    `setParentSome_WF` applies); detaching only removes an edge -/
theorem setParent_WF (s : G) (t : Uid) (p : Option Uid) (h : WF s) (ht : s.hidden t = false) :
    WF (setParent s t p).1 := by
  rcases setParent_cases s t p with ⟨q, _, e⟩ | ⟨_, _, s', e, fp, fc, fpr, fsu, ftid, _, _⟩ <;> rw [e]
  · exact setParentSome_WF s t q h ht
  · have hsub : ∀ a b, s'.parent a = some b → a ≠ t ∧ s.parent a = some b := by
      intro a b hab
      rw [fp] at hab
      by_cases hat : a = t
      · subst hat; simp at hab
      · rw [upd_other _ _ _ _ hat] at hab; exact ⟨hat, hab⟩
    refine WF_remove s _ h (fun a b hab => (hsub a b hab).2) ?_ ?_ ?_ fpr fsu ftid
    · intro a b
      rw [fc, detachOld_children s t h, List.mem_filter, bne_iff_ne, and_comm, ← h.listed a b]
      refine ⟨hsub a b, fun hab => ?_⟩
      rw [fp, upd_other _ _ _ _ hab.1]; exact hab.2
    · exact fun b => fc ▸ detachOld_children s t h b ▸ (h.once b).filter _
    · intro r hr
      rw [fp]
      by_cases hrt : r = t
      · subst hrt; simp
      · rw [upd_other _ _ _ _ hrt]; exact (h.rootsTop r hr).1

theorem releaseChildren_WF (s : G) (h : Uid) (l : List Uid) (hw : WF s) :
    WF (releaseChildren s h l).1 := by
  rcases releaseChildren_cases s h l with ⟨_, he⟩ | ⟨sub, s1, _, he, fpar, fch, _, ftid, fpr, fsu, _⟩ <;> rw [he]
  · exact hw
  · have hsub : ∀ a b, s1.parent a = some b → a ∉ s.children h ∧ s.parent a = some b := by
      intro a b hab
      rw [fpar] at hab
      split at hab
      · cases hab
      · rename_i hc; exact ⟨hc, hab⟩
    refine WF_remove s _ hw (fun a b hab => (hsub a b hab).2) ?_ ?_ ?_ fpr fsu ftid
    · intro a b
      rw [fch]
      by_cases hbh : b = h
      · subst hbh
        simp only [upd_same, List.not_mem_nil, iff_false]
        intro hab
        obtain ⟨h1, h2⟩ := hsub a b hab
        exact h1 ((hw.listed a b).mp h2)
      · rw [upd_other _ _ _ _ hbh, ← hw.listed a b]
        refine ⟨fun hab => (hsub a b hab).2, fun hab => ?_⟩
        have : a ∉ s.children h := by
          intro hc
          have := (hw.listed a h).mpr hc
          rw [hab] at this
          exact hbh (Option.some.inj this)
        rw [fpar, if_neg this, hab]
    · intro b
      rw [fch]
      by_cases hbh : b = h
      · subst hbh; simp
      · rw [upd_other _ _ _ _ hbh]; exact hw.once b
    · intro r hr
      rw [fpar]
      split
      · rfl
      · exact (hw.rootsTop r hr).1

/-- also `WBS.roots = l`.  An error stops the loop of `v.parent = h`, and the state reached is still well-formed; the
    ids, hence who is hidden, never change -/
theorem setChildren_WF (s : G) (h : Uid) (l : List Uid) (hw : WF s) (hv : ∀ v ∈ l, s.hidden v = false) :
    WF (setChildren s h l).1 := by
  refine (setChildren_preserves (fun s' => WF s' ∧ s'.tid = s.tid) s h l ?_ ?_ ⟨hw, rfl⟩).1
  · intro _
    exact ⟨releaseChildren_WF s h l hw, releaseChildren_tid s h l⟩
  · intro s' v hvl ⟨hw', ht'⟩
    refine ⟨setParent_WF s' v (some h) hw' ?_, (setParent_tid s' v (some h)).trans ht'⟩
    rw [hidden_of_tid s s' ht']
    exact hv v hvl

end Pj

/-
  Lemmas/SchedWbs.lean — the WBS a scheduler is given, before any pass runs: who its members are, and what the walks over it
  (down the children, up the parents, along the links to the leaves a task waits for) find.
-/
import PjVerif.Spec.Sched2
import PjVerif.Lemmas.Rel
namespace Pj

theorem prepare_leaf (env : Env) (f0 : Uid → Fields) (mem : List Uid) (t : Uid)
    (hl : (env.info t).children.isEmpty = true) : prepare env f0 mem t = f0 t := by
  simp [prepare, hl]

theorem prepare_summary (env : Env) (f0 : Uid → Fields) (mem : List Uid) (t : Uid) (ht : t ∈ mem)
    (hl : (env.info t).children.isEmpty = false) : prepare env f0 mem t = ⟨none, none, none, none⟩ := by
  simp [prepare, hl, ht]

theorem members_spec (env : Env) (mem : List Uid) (hm : members env = some mem) :
    (∀ r ∈ env.roots, ∃ l, subtreeF (fun u => (env.info u).children) (env.n + 1) r = some l ∧ ∀ x ∈ l, x ∈ mem) ∧
    (∀ x ∈ mem, ∃ r ∈ env.roots, ∃ l, subtreeF (fun u => (env.info u).children) (env.n + 1) r = some l ∧ x ∈ l) := by
  unfold members at hm
  simp only [Option.map_eq_some_iff] at hm
  obtain ⟨ll, hll, rfl⟩ := hm
  constructor
  · intro r hr
    obtain ⟨l, hl, hs⟩ := mapM_some_mem _ _ _ hll r hr
    exact ⟨l, hs, fun x hx => List.mem_flatten.2 ⟨l, hl, hx⟩⟩
  · intro x hx
    obtain ⟨l, hl, hxl⟩ := List.mem_flatten.1 hx
    obtain ⟨r, hr, hs⟩ := mapM_some_mem_inv _ _ _ hll l hl
    exact ⟨r, hr, l, hs, hxl⟩

theorem members_iff (env : Env) (mem : List Uid) (hm : members env = some mem) (x : Uid) :
    x ∈ mem ↔ ∃ r ∈ env.roots, x = r ∨ TC (fun a b => b ∈ (env.info a).children) r x := by
  constructor
  · intro hx
    obtain ⟨r, hr, l, hl, hxl⟩ := (members_spec env mem hm).2 x hx
    simp only [subtreeF, Option.map_eq_some_iff] at hl
    obtain ⟨d, hd, rfl⟩ := hl
    refine ⟨r, hr, ?_⟩
    rcases List.mem_cons.1 hxl with rfl | hxd
    · exact Or.inl rfl
    · exact Or.inr (descF_sound _ _ _ _ hd x hxd)
  · rintro ⟨r, hr, hx⟩
    obtain ⟨l, hl, hsub⟩ := (members_spec env mem hm).1 r hr
    simp only [subtreeF, Option.map_eq_some_iff] at hl
    obtain ⟨d, hd, rfl⟩ := hl
    apply hsub
    rcases hx with rfl | hx
    · exact List.mem_cons_self
    · exact List.mem_cons_of_mem _ (descF_complete _ _ _ _ hd x hx)

theorem memberList_eq (env : Env) (mem : List Uid) (hm : members env = some mem) : memberList env = mem := by
  unfold memberList; rw [hm]; rfl

theorem members_root (env : Env) (mem : List Uid) (hm : members env = some mem) : ∀ r ∈ env.roots, r ∈ mem :=
  fun r hr => (members_iff env mem hm r).2 ⟨r, hr, Or.inl rfl⟩

theorem members_children (env : Env) (mem : List Uid) (hm : members env = some mem) :
    ∀ x ∈ mem, ∀ c ∈ (env.info x).children, c ∈ mem := by
  intro x hx c hc
  obtain ⟨r, hr, h⟩ := (members_iff env mem hm x).1 hx
  refine (members_iff env mem hm c).2 ⟨r, hr, Or.inr ?_⟩
  rcases h with rfl | h
  · exact TC.single hc
  · exact TC.tail h hc

theorem member_iff (env : Env) (hf : env.flagsOK) (mem : List Uid) (hm : members env = some mem) (t : Uid) :
    (env.info t).member = true ↔ t ∈ mem := by
  rw [← memberList_eq env mem hm]; exact hf t

theorem members_links (env : Env) (hf : env.flagsOK) (mem : List Uid) (hm : members env = some mem) (t p : Uid)
    (ht : t ∈ mem) (he : (env.info p).member = (env.info t).member) : p ∈ mem :=
  (member_iff env hf mem hm p).1 (he.trans ((member_iff env hf mem hm t).2 ht))

theorem nsl_spec (env : Env) (hs : noSummaryLinks env = true) (t : Uid) (ht : t ∈ memberList env)
    (hl : (env.info t).children.isEmpty = false) : (env.info t).preds = [] ∧ (env.info t).succs = [] := by
  have := List.all_eq_true.1 hs t ht
  simpa [isLeaf, hl] using this

theorem ancestors_summary (env : Env) (hp : env.parentsOK) : ∀ (f : Nat) (t : Uid), t ∈ memberList env →
    ∀ x ∈ ancestorsOf env f t, x ∈ memberList env ∧ (env.info x).children.isEmpty = false := by
  intro f
  induction f with
  | zero => intro t _ x hx; simp [ancestorsOf] at hx
  | succ f ih =>
    intro t ht x hx
    unfold ancestorsOf at hx
    cases hpar : (env.info t).parent with
    | none => simp [hpar] at hx
    | some p =>
      simp only [hpar] at hx
      obtain ⟨hpm, hpc⟩ := hp t p ht hpar
      rcases List.mem_cons.1 hx with rfl | hx
      · refine ⟨hpm, ?_⟩
        cases hc : (env.info x).children with
        | nil => rw [hc] at hpc; cases hpc
        | cons a l => rfl
      · exact ih p hpm x hx

theorem mem_waitsFor {env : Env} {a b : Uid} : b ∈ waitsFor env a ↔
    ∃ x ∈ a :: ancestorsOf env (env.n + 1) a, ∃ p ∈ (env.info x).preds, b ∈ (leavesOf env p).getD [] := by
  simp only [waitsFor, List.mem_flatMap]
  exact ⟨fun ⟨p, ⟨x, hx, hp⟩, hb⟩ => ⟨x, hx, p, hp, hb⟩, fun ⟨x, hx, p, hp, hb⟩ => ⟨p, ⟨x, hx, hp⟩, hb⟩⟩

theorem leavesOf_leaf (env : Env) (p : Uid) (h : (env.info p).children.isEmpty = true) :
    leavesOf env p = some [p] := by
  unfold leavesOf; simp [h]

/-- a predecessor of a member is a leaf: inside the WBS because a task with children has no successors, outside
    by `outsideLeaves` -/
theorem pred_leaf (env : Env) (hs : noSummaryLinks env = true) (hl : env.linksSym) (ho : outsideLeaves env = true)
    (t : Uid) (ht : t ∈ memberList env) (p : Uid) (hp : p ∈ (env.info t).preds) :
    (env.info p).children.isEmpty = true := by
  by_cases hpm : p ∈ memberList env
  · cases hle : (env.info p).children.isEmpty with
    | true => rfl
    | false =>
      have hts : t ∈ (env.info p).succs := (hl p t).1 hp
      rw [(nsl_spec env hs p hpm hle).2] at hts; cases hts
  · have := List.all_eq_true.1 (List.all_eq_true.1 ho t ht) p hp
    simpa [List.contains_iff_mem, hpm] using this

/-- the ancestors of a member carry no links and its predecessors are leaves, so the walk over own and inherited
    prerequisites, expanded to leaves, returns the predecessor list itself -/
theorem prereqLeaves_own (env : Env) (hs : noSummaryLinks env = true) (hp : env.parentsOK) (hl : env.linksSym)
    (ho : outsideLeaves env = true) (t : Uid) (ht : t ∈ memberList env) :
    prereqLeaves env t = (env.info t).preds := by
  unfold prereqLeaves waitsFor
  have ha : (ancestorsOf env (env.n + 1) t).flatMap (fun x => (env.info x).preds) = [] := by
    rw [List.flatMap_eq_nil_iff]
    intro x hx
    obtain ⟨hxm, hxl⟩ := ancestors_summary env hp _ t ht x hx
    exact (nsl_spec env hs x hxm hxl).1
  rw [List.flatMap_cons, ha, List.append_nil]
  exact flatMap_singleton _ _ (fun p hpp => by rw [leavesOf_leaf env p (pred_leaf env hs hl ho t ht p hpp)]; rfl)

abbrev kidsF (env : Env) : Uid → List Uid := fun u => (env.info u).children

/-- a path of `k` edges -/
inductive PathLen (next : Uid → List Uid) : Uid → Uid → Nat → Prop
  | refl (a : Uid) : PathLen next a a 0
  | head {a b c : Uid} {k : Nat} : b ∈ next a → PathLen next b c k → PathLen next a c (k + 1)

theorem PathLen.tail {next : Uid → List Uid} {a b c : Uid} {k : Nat} (h : PathLen next a b k) (hc : c ∈ next b) :
    PathLen next a c (k + 1) := by
  induction h with
  | refl a => exact PathLen.head hc (PathLen.refl c)
  | head hab _ ih => exact PathLen.head hab (ih hc)

theorem PathLen.trans {next : Uid → List Uid} {a b c : Uid} {j k : Nat} (h1 : PathLen next a b j)
    (h2 : PathLen next b c k) : PathLen next a c (j + k) := by
  induction h1 with
  | refl a => simpa using h2
  | head hab _ ih =>
    have := PathLen.head hab (ih h2)
    rw [show ∀ (x y : Nat), x + 1 + y = x + y + 1 by omega]
    exact this

theorem pathLen_of_RTC {next : Uid → List Uid} {a c : Uid} (h : RTC (fun x y => y ∈ next x) a c) :
    ∃ k, PathLen next a c k := by
  induction h with
  | refl => exact ⟨0, PathLen.refl _⟩
  | tail _ hr ih =>
    obtain ⟨k, hk⟩ := ih
    exact ⟨k + 1, hk.tail hr⟩

theorem descF_pathLen (next : Uid → List Uid) : ∀ (f : Nat) (a : Uid) (l : List Uid), descF next f a = some l →
    ∀ c k, PathLen next a c k → k < f := by
  intro f
  induction f with
  | zero => intro a l h; simp [descF] at h
  | succ f ih =>
    intro a l h c k hp
    cases hp with
    | refl => omega
    | head hab hbc =>
      simp only [descF, Option.map_eq_some_iff] at h
      obtain ⟨ll, hll, _⟩ := h
      obtain ⟨b', _, hg⟩ := mapM_some_mem _ _ _ hll _ hab
      simp only [Option.map_eq_some_iff] at hg
      obtain ⟨r', hr', _⟩ := hg
      have := ih _ r' hr' _ _ hbc
      omega

theorem ancestorsOf_step (env : Env) : ∀ (f : Nat) (y b u : Uid), b ∈ y :: ancestorsOf env f y →
    (env.info b).parent = some u → u ∈ ancestorsOf env (f + 1) y := by
  intro f
  induction f with
  | zero =>
    intro y b u hb hp
    simp only [ancestorsOf, List.mem_cons, List.not_mem_nil, or_false] at hb
    subst hb
    simp [ancestorsOf, hp]
  | succ f ih =>
    intro y b u hb hp
    rcases List.mem_cons.1 hb with rfl | hb
    · simp [ancestorsOf, hp]
    · cases hpy : (env.info y).parent with
      | none => simp [ancestorsOf, hpy] at hb
      | some p =>
        simp only [ancestorsOf, hpy] at hb
        have := ih p b u hb hp
        rw [ancestorsOf, hpy]
        exact List.mem_cons_of_mem _ this

theorem ancestorsOf_mono (env : Env) : ∀ (f : Nat) (y x : Uid), x ∈ ancestorsOf env f y → x ∈ ancestorsOf env (f + 1) y := by
  intro f
  induction f with
  | zero => intro y x h; simp [ancestorsOf] at h
  | succ f ih =>
    intro y x h
    cases hpy : (env.info y).parent with
    | none => simp [ancestorsOf, hpy] at h
    | some p =>
      simp only [ancestorsOf, hpy] at h
      rw [ancestorsOf, hpy]
      rcases List.mem_cons.1 h with rfl | h
      · exact List.mem_cons_self
      · exact List.mem_cons_of_mem _ (ih p x h)

theorem ancestorsOf_mono_le (env : Env) (y x : Uid) : ∀ (f g : Nat), f ≤ g → x ∈ ancestorsOf env f y →
    x ∈ ancestorsOf env g y := by
  intro f g hfg
  induction hfg with
  | refl => exact id
  | step _ ih => exact fun h => ancestorsOf_mono env _ y x (ih h)

theorem mem_ancestors_of_path (env : Env) (mem : List Uid) (hm : members env = some mem)
    (hch : ∀ t c, t ∈ mem → c ∈ (env.info t).children → (env.info c).parent = some t) :
    ∀ (u y : Uid) (k : Nat), PathLen (kidsF env) u y k → u ∈ mem → u ∈ y :: ancestorsOf env k y := by
  intro u y k h
  induction h with
  | refl a => intro _; exact List.mem_cons_self
  | head hab _ ih =>
    intro hu
    have hb := ih (members_children env mem hm _ hu _ hab)
    exact List.mem_cons_of_mem _ (ancestorsOf_step env _ _ _ _ hb (hch _ _ hu hab))

theorem member_path (env : Env) (mem : List Uid) (hm : members env = some mem) (u : Uid) (hu : u ∈ mem) :
    ∃ r l j, descF (kidsF env) (env.n + 1) r = some l ∧ PathLen (kidsF env) r u j := by
  obtain ⟨r, _, l, hl, hul⟩ := (members_spec env mem hm).2 u hu
  simp only [subtreeF, Option.map_eq_some_iff] at hl
  obtain ⟨d, hd, rfl⟩ := hl
  rcases List.mem_cons.1 hul with rfl | hud
  · exact ⟨u, d, 0, hd, PathLen.refl _⟩
  · obtain ⟨j, hj⟩ := pathLen_of_RTC (descF_sound _ _ _ _ hd u hud).toRTC
    exact ⟨r, d, j, hd, hj⟩

/-- the path from `u` to `y` is shorter than the fuel of the enumeration, and `childrenOK` mirrors it by parent
    pointers -/
theorem mem_ancestorsOf (env : Env) (mem : List Uid) (hm : members env = some mem)
    (hch : ∀ t c, t ∈ mem → c ∈ (env.info t).children → (env.info c).parent = some t)
    (u y : Uid) (hu : u ∈ mem) (h : RTC (fun a b => b ∈ (env.info a).children) u y) :
    u ∈ y :: ancestorsOf env (env.n + 1) y := by
  obtain ⟨k, hk⟩ := pathLen_of_RTC (next := kidsF env) h
  obtain ⟨r, l, j, hd, hj⟩ := member_path env mem hm u hu
  have hlt := descF_pathLen _ _ _ _ hd _ _ (hj.trans hk)
  rcases List.mem_cons.1 (mem_ancestors_of_path env mem hm hch u y k hk hu) with h | h
  · exact h ▸ List.mem_cons_self
  · exact List.mem_cons_of_mem _ (ancestorsOf_mono_le env y u k _ (by omega) h)

end Pj

/-
  Lemmas/PyLiteEqns.lean — the first equations of the three evaluators of PyLite (Model/PyLite.lean: `Expr.eval` /
  `Stmt.exec` / `execBlock`; the scheduler layer `Expr.evalW` / `Stmt.execW` / `execBlockW`; the pass layer
  `Expr.evalP` / `Expr.evalArgsP`, `Stmt.execP` / `execBlockP`).

  Why a module of its own: Lean derives the equation lemmas of a definition (`Expr.evalP.eq_1` …; several seconds for
  the large matches of the evaluators) in the module that first asks for them and saves them with that module, and
  every later proof of that same module that asks for them takes them over anew.  Asked here, in a module of a few
  one-line theorems, they are in place for every module that imports this one.
-/
import PjVerif.Model.PyLite
namespace Pj.TaskSrc
open Pj.PyLite

theorem evalP_bool (H : PHandlers) (self ρ : PyLite.Env) (st : PState) (b : Bool) :
    (Expr.bool b).evalP H self ρ st = .ok (.atom (.bool b), st) := by
  simp only [Expr.evalP, pure, Except.pure]

theorem evalArgsP_nil (H : PHandlers) (self ρ : PyLite.Env) (st : PState) :
    Expr.listNil.evalArgsP H self ρ st = .ok ([], st) := by
  simp only [Expr.evalArgsP, pure, Except.pure]

theorem execP_raise (H : PHandlers) (self : PyLite.Env) (rec : List Atom → PState → Res (Val × PState))
    (ρ : PyLite.Env) (st : PState) : Stmt.raiseRuntime.execP H self rec ρ st = .raise .runtime := by
  simp only [Stmt.execP]

theorem execBlockP_nil (H : PHandlers) (self : PyLite.Env) (rec : List Atom → PState → Res (Val × PState))
    (ρ : PyLite.Env) (st : PState) : execBlockP H self rec [] ρ st = .normal ρ st := by
  rw [execBlockP]

end Pj.TaskSrc

namespace Pj.PyLite

theorem eval_none (sub : Nat → Time → Res (Option Rat)) (self env : Env) :
    Expr.none.eval sub self env = .ok (.atom .none) := by
  simp only [Expr.eval, pure, Except.pure]

theorem exec_raise (sub : Nat → Time → Res (Option Rat)) (self : Env) (fuel : Nat) (env : Env) :
    Stmt.raiseRuntime.exec sub self fuel env = .raise .runtime := by
  simp only [Stmt.exec]

theorem execBlock_nil (sub : Nat → Time → Res (Option Rat)) (self : Env) (fuel : Nat) (env : Env) :
    execBlock sub self fuel [] env = .normal env := by
  rw [execBlock]

theorem evalW_none (H : Handlers) (self : Env) (L : List LRow) (env : Env) :
    Expr.none.evalW H self L env = .ok (.atom .none) := by
  simp only [Expr.evalW, pure, Except.pure]

theorem execW_raise (H : Handlers) (self : Env) (fuel : Nat) (env : Env) (L : List LRow) :
    Stmt.raiseRuntime.execW H self fuel env L = .raise .runtime := by
  simp only [Stmt.execW]

theorem execBlockW_nil (H : Handlers) (self : Env) (fuel : Nat) (env : Env) (L : List LRow) :
    execBlockW H self fuel [] env L = .normal env L := by
  rw [execBlockW]

end Pj.PyLite

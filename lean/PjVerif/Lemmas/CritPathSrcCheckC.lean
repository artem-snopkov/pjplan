/-
  Lemmas/CritPathSrcCheckC.lean — the hypotheses of the general theorems of Lemmas/CritPathSrcD.lean are satisfiable and
  decidable on a concrete WBS description: the theorem `interpCriticalPath_grid` instantiated (kernel-checked
  hypotheses) on three of the WBSs of Lemmas/CritPathSrcCheck*.lean; and the two runs that raise KeyError.  See
  Lemmas/CritPathSrc.lean.
-/
import PjVerif.Lemmas.CritPathSrcCheckB
namespace Pj.CritPathSrc
open Pj.PyLite Pj.CPEnv

theorem lt_of_projectLen (e : CPEnv) (v : Rat) (h : projectLen e = some v) (hv : v < 100000000) :
    ∀ len, projectLen e = some len → len < 100000000 := by
  intro len hl
  rw [h] at hl
  cases hl
  exact hv

namespace Check

/-- the general theorem applies to the WBS `eighths` (fractional lengths, a tie) … -/
example : ∃ (r l : List Uid), interpCriticalPath 40 eighths tidOf = .ok (refs r) ∧ eighths.criticalPath = .ok l ∧ r.Nodup ∧
    ∀ t, t ∈ r ↔ t ∈ l :=
  interpCriticalPath_grid eighths tidOf (by decide +kernel) (by decide +kernel) (by decide +kernel)
    (onGrid_of_B _ (by decide +kernel))
    (lt_of_projectLen _ (9 / 8) (by decide +kernel) (by decide +kernel)) 40 (by decide)

/-- … to `deep` (nested summaries with links) … -/
example : ∃ (r l : List Uid), interpCriticalPath 40 deep tidOf = .ok (refs r) ∧ deep.criticalPath = .ok l ∧ r.Nodup ∧
    ∀ t, t ∈ r ↔ t ∈ l :=
  interpCriticalPath_grid deep tidOf (by decide +kernel) (by decide +kernel) (by decide +kernel)
    (onGrid_of_B _ (by decide +kernel))
    (lt_of_projectLen _ 9 (by decide +kernel) (by decide +kernel)) 40 (by decide)

/-- … and to `sharedid` (a non-member shares the id of a member): the ids of the member leaves are their own -/
example : ∃ (r l : List Uid), interpCriticalPath 40 sharedid sharedidTid = .ok (refs r) ∧ sharedid.criticalPath = .ok l ∧
    r.Nodup ∧ ∀ t, t ∈ r ↔ t ∈ l :=
  interpCriticalPath_grid sharedid sharedidTid (by decide +kernel) (by decide +kernel) (by decide +kernel)
    (onGrid_of_B _ (by decide +kernel))
    (lt_of_projectLen _ 6 (by decide +kernel) (by decide +kernel)) 40 (by decide)

/-! #### the runs of `cycle` and `hcycle2` (CritPathSrcCheckB.lean) raise KeyError: each is evaluated once on the
    interpreter; `agree` follows from it and the model's error (`agree_of_error`) -/

theorem cycle_run : interpCriticalPath FC cycle tidOf = .error (.crash .key) := by decide +kernel
theorem hcycle2_run : interpCriticalPath FC hcycle2 tidOf = .error (.crash .key) := by decide +kernel

example : interpCriticalPath FC cycle tidOf = .error (.crash .key) := cycle_run
example : agree cycle tidOf = true := agree_of_error cycle_run (by decide +kernel)
example : interpCriticalPath FC hcycle2 tidOf = .error (.crash .key) := hcycle2_run
example : agree hcycle2 tidOf = true := agree_of_error hcycle2_run (by decide +kernel)

/-- the hypotheses that fail on the WBSs "outside the hypotheses" of CritPathSrcCheckB.lean -/
example : acyclicB cycle = false := by decide +kernel
example : acyclicB hcycle = false := by decide +kernel
example : acyclicB hcycle2 = false := by decide +kernel
example : onGridB offgrid = false := by decide +kernel
example : ¬ IdInj sharedmembers sharedmembersTid := by decide +kernel

end Check
end Pj.CritPathSrc

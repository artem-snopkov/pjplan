/-
  Lemmas/RenderSrcCheck.lean — stage 1: concrete runs of the translated Mermaid renderers (Extracted/RenderSrc.lean)
  against Model/Render.lean, with the concrete string library `cLib` of Lemmas/PrintSrc.lean: instances of the general
  theorems of RenderSrcA.lean; the exact texts of the model are evaluated by the kernel.
  This file: the network source; RenderSrcCheckB.lean: the Gantt source.  See Lemmas/RenderSrc.lean.
-/
import PjVerif.Lemmas.RenderSrcA
import PjVerif.Lemmas.PrintSrcLib
namespace Pj.RenderSrc
open Pj.PyLite Pj.Render Pj.Extracted.Render
open Pj.PrintSrc (Lib cLib enc dec dec_enc cLib_ok)

deriving instance DecidableEq for Except

namespace Check

def FC : Nat := 10

def S : Lib := cLib

def mk (l : List RTask) : Nat → RTask := fun u => l.getD u default

def i (n : Nat) : Atom := .num ((n : Nat) : Rat)

/-- the clock reads 100.  Tasks 0-6 are the WBS; 7 is a task outside it (a predecessor of 1).
    0 "Plan {draft}"  (nested: the parent) no predecessors, done, section A, a bar style
    1 `Say "hi" {x}`  predecessors 0 and 7 (outside), active, section B
    2 "M: stone"      milestone (and past), predecessors 1, 1 (twice) and 0, no section
    3 "}{"            future, predecessor 2, section "-" (the name of the default section)
    4 ""              no predecessors, ends exactly now (done), section A, a bar style
    5 "a:b:c"         starts exactly now (not active), predecessor 4, no section
    6 `"`             id is a str, section B -/
def w1 : Nat → RTask := mk
  [ { id := i 1, name := "Plan {draft}".toList, milestone := false, start := 10, end_ := 50, preds := [],
      dict := [("gantt_section".toList, cLib.s "A".toList), ("network_bar_style".toList, i 1)] },
    { id := i 2, name := "Say \"hi\" {x}".toList, milestone := false, start := 50, end_ := 150, preds := [0, 7],
      dict := [("other".toList, i 3), ("gantt_section".toList, cLib.s "B".toList)] },
    { id := i 3, name := "M: stone".toList, milestone := true, start := 60, end_ := 60, preds := [1, 1, 0], dict := [] },
    { id := i 4, name := "}{".toList, milestone := false, start := 200, end_ := 300, preds := [2],
      dict := [("gantt_section".toList, cLib.s "-".toList)] },
    { id := i 5, name := [], milestone := false, start := 99, end_ := 100, preds := [],
      dict := [("network_bar_style".toList, i 2), ("gantt_section".toList, cLib.s "A".toList)] },
    { id := i 6, name := "a:b:c".toList, milestone := false, start := 100, end_ := 101, preds := [4], dict := [] },
    { id := cLib.s "x-7".toList, name := "\"".toList, milestone := false, start := 1/2, end_ := 3/2, preds := [5],
      dict := [("gantt_section".toList, cLib.s "B".toList)] },
    { id := i 70, name := "Ext{".toList, milestone := false, start := 0, end_ := 1, preds := [],
      dict := [("network_bar_style".toList, i 1)] } ]

def sty : Atom → Str
  | .num 1 => "fill:#f9f,stroke:#333".toList
  | _ => "fill:red".toList

def V1 : View := { tasks := [0, 1, 2, 3, 4, 5, 6], title := some "My plan".toList, weekends := true,
                   tick := some "1day".toList, now := 100, style := sty }
/-- a sub-plan: one named section only, no title, empty tick interval -/
def V2 : View := { V1 with tasks := [0, 4], title := none, weekends := false, tick := some [] }
/-- no section attribute at all; predecessors outside -/
def V3 : View := { V1 with tasks := [5, 2, 7], title := some [], tick := none }
/-- two sections, unsectioned first -/
def V4 : View := { V1 with tasks := [2, 6, 5, 1], weekends := false }
def V5 : View := { V1 with tasks := [] }
/-- '-' written out and unsectioned tasks: one section -/
def V6 : View := { V1 with tasks := [3, 5, 2] }

def views : List View := [V1, V2, V3, V4, V5, V6]

/-- the text made of the given pieces -/
def txt (l : List String) : Str := (l.map String.toList).flatten

def names : List Str := (List.range 8).map (fun t => (w1 t).name)

/-- the string library round-trips on the texts used -/
example : (names.all (fun f => dec (enc f) == f)) = true := List.all_eq_true.2 fun f _ => beq_iff_eq.2 (dec_enc f)
example : (views.all (fun V => dec (enc (networkSrc (nAll S V w1) V.tasks)) == networkSrc (nAll S V w1) V.tasks)) = true :=
  List.all_eq_true.2 fun _ _ => beq_iff_eq.2 (dec_enc _)

/-! ### `__label` -/

example : (names.all (fun n => decide (interpLabel S V1 w1 FC n = .ok (.atom (S.s (escLabel (n.filter (fun c => c != '"')))))))) = true :=
  List.all_eq_true.2 fun n _ => decide_eq_true (interpLabel_eq V1 w1 cLib_ok FC n (by decide))
example : interpLabel S V1 w1 FC "Say \"hi\" {x}".toList = .ok (.atom (S.s "Say hi #123;x#125;".toList)) :=
  (interpLabel_eq V1 w1 cLib_ok FC _ (by decide)).trans (by decide +kernel)
example : interpLabel S V1 w1 FC "}{".toList = .ok (.atom (S.s "#125;#123;".toList)) :=
  (interpLabel_eq V1 w1 cLib_ok FC _ (by decide)).trans (by decide +kernel)

/-! ### `MermaidNetwork.__src` -/

example : (views.all (fun V => decide (interpNetworkSrc S V w1 FC = .ok (.atom (S.s (networkSrc (nAll S V w1) V.tasks)))))) = true :=
  List.all_eq_true.2 fun V _ => decide_eq_true (interpNetworkSrc_eq V w1 cLib_ok FC (by decide))

/-- the exact text (of the model = of the program, by the example above) -/
example : networkSrc (nAll S V1 w1) V1.tasks = txt
  ["flowchart LR\n",
   "  0((Start)) --> 1{{Plan #123;draft#125;}}\n",
   "  1{{Plan #123;draft#125;}} --> 2{{Say hi #123;x#125;}}\n",
   "  70{{Ext#123;}} --> 2{{Say hi #123;x#125;}}\n",
   "  2{{Say hi #123;x#125;}} --> 3{{M: stone}}\n",
   "  2{{Say hi #123;x#125;}} --> 3{{M: stone}}\n",
   "  1{{Plan #123;draft#125;}} --> 3{{M: stone}}\n",
   "  3{{M: stone}} --> 4{{#125;#123;}}\n",
   "  0((Start)) --> 5{{}}\n",
   "  5{{}} --> 6{{a:b:c}}\n",
   "  6{{a:b:c}} --> x-7{{}}\n",
   "style 1 fill:#f9f,stroke:#333\n",
   "style 5 fill:red\n"] := by
  -- the kernel turns a string literal into its characters in quadratic time: they are taken from the literals first
  unfold txt
  repeat rw [PrintSrc.toList_flatten_cons]
  decide +kernel

/-- too little fuel: the recursion limit -/
example : interpNetworkSrc S V1 w1 1 = .error (.crash .recursion) := by decide +kernel

end Check
end Pj.RenderSrc

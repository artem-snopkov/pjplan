/-
  Lemmas/SchedC06.lean — helper lemmas for Props/C06.lean: two traversals whose placements agree on the states of an
  invariant are equal (`gPass_congr`); the placement of a leaf does not look at the clock under `ClockHyp`
  (`fwdLeaf_clock`, a statement about the function `fwdLeaf` of Lemmas/SchedStep.lean).
-/
import PjVerif.Lemmas.SchedCore
namespace Pj

/-- lets `decide` compare one projection of two runs instead of the whole results -/
theorem map_ne_of_proj {α β γ : Type} [BEq γ] [ReflBEq γ] (a b : Res α) (g : α → β) (p : β → γ)
    (h : (match a, b with | .ok o, .ok o' => (p (g o) != p (g o')) | _, _ => false) = true) :
    a.map g ≠ b.map g := by
  intro he
  cases a with
  | error e => simp at h
  | ok o =>
    cases b with
    | error e => simp at h
    | ok o' =>
      simp only [Except.map] at he
      injection he with he
      simp only [he] at h
      simp [bne] at h

theorem now_f (env : Env) (σ : SS) : (now env σ).2.f = σ.f := rfl

theorem passList_congr (I : SS → Prop) (step step' : SS → Uid → Res SS) :
    ∀ (xs : List Uid),
      (∀ σ x σ', x ∈ xs → I σ → step σ x = .ok σ' → I σ') →
      (∀ σ x, x ∈ xs → I σ → step σ x = step' σ x) →
      ∀ σ, I σ → passList step σ xs = passList step' σ xs := by
  intro xs
  induction xs with
  | nil => intro _ _ σ _; rfl
  | cons x xs ih =>
    intro hinv heq σ hi
    simp only [passList]
    rw [← heq σ x List.mem_cons_self hi]
    cases h1 : step σ x with
    | error e => rfl
    | ok σ1 =>
      simp only [bind, Except.bind]
      exact ih (fun a y b hy => hinv a y b (List.mem_cons_of_mem _ hy))
        (fun a y hy => heq a y (List.mem_cons_of_mem _ hy)) σ1 (hinv σ x σ1 List.mem_cons_self hi h1)

section congr
variable (env env' : Env) (links kids : Uid → List Uid) (agg : SS → List Uid → Time → Time)
  (place place' : SS → Uid → Time → Time → Res SS)
  (hplace_ext : ∀ σ σ' t m v, t ∉ σ.done → place σ t m v = .ok σ' → Ext σ σ' ∧ σ'.done = σ.done ++ [t])
  (hmem : ∀ p, (env.info p).member = (env'.info p).member)
include hplace_ext hmem

/-- two memoised traversals whose placements agree on the states of an invariant `I` (for tasks satisfying `Q`
    and dates satisfying `P`) are equal, errors included -/
theorem gPass_congr (I : SS → Prop) (Q : Uid → Prop) (P : Time → Prop)
    (hplace : ∀ σ σ' t m v, Q t → I σ → t ∉ σ.done → (∀ c ∈ kids t, c ∈ σ.done) → place σ t m v = .ok σ' → I σ')
    (hkids : ∀ t c, Q t → c ∈ kids t → Q c)
    (hlinks : ∀ t p, Q t → p ∈ links t → (env.info p).member = (env.info t).member → Q p)
    (hagg : ∀ σ l m, P m → P (agg σ l m))
    (heq : ∀ σ t m v, Q t → I σ → P m → P v → t ∉ σ.done → place σ t m v = place' σ t m v) :
    ∀ (fuel : Nat) (stk : List Uid) (σ : SS) (t : Uid) (m : Time), Q t → I σ → P m →
      gPass env links kids agg place fuel stk σ t m = gPass env' links kids agg place' fuel stk σ t m := by
  intro fuel
  induction fuel with
  | zero => intros; rfl
  | succ fuel ih =>
    intro stk σ t m hq hi hp
    by_cases hd : t ∈ σ.done
    · have h1 : σ.done.contains t = true := by simpa using hd
      simp only [gPass, h1, if_true]
    by_cases hs : t ∈ stk
    · have h1 : σ.done.contains t = false := by simpa using hd
      have h2 : stk.contains t = true := by simpa using hs
      simp only [gPass, h1, h2, if_true]
    rw [gPass_succ _ _ _ _ _ _ _ _ _ _ hd hs, gPass_succ _ _ _ _ _ _ _ _ _ _ hd hs]
    have hinv := gPass_inv env links kids agg place hplace_ext I Q hplace hkids hlinks fuel (t :: stk)
    have e1 : passList (fun σ p => if (env.info p).member == (env.info t).member
          then gPass env links kids agg place fuel (t :: stk) σ p m else pure σ) σ (links t) =
        passList (fun σ p => if (env'.info p).member == (env'.info t).member
          then gPass env' links kids agg place' fuel (t :: stk) σ p m else pure σ) σ (links t) := by
      refine passList_congr I _ _ _ ?_ ?_ σ hi
      · intro a x b hxl ha hh
        split at hh
        · rename_i hm
          exact hinv _ _ _ _ (hlinks t x hq hxl (by simpa using hm)) ha hh
        · cases hh; exact ha
      · intro a x hxl ha
        rw [← hmem x, ← hmem t]
        split
        · rename_i hm
          exact ih _ _ _ _ (hlinks t x hq hxl (by simpa using hm)) ha hp
        · rfl
    rw [← e1]
    cases h1 : passList (fun σ p => if (env.info p).member == (env.info t).member
          then gPass env links kids agg place fuel (t :: stk) σ p m else pure σ) σ (links t) with
    | error e => rfl
    | ok σ1 =>
      simp only [Except.bind]
      have i1 : I σ1 := passList_inv I _ _ (fun a x b hxl ha hh => by
        split at hh
        · rename_i hm
          exact hinv _ _ _ _ (hlinks t x hq hxl (by simpa using hm)) ha hh
        · cases hh; exact ha) _ _ hi h1
      have pv := hagg σ1 (links t) m hp
      have e2 : passList (fun σ c => gPass env links kids agg place fuel (t :: stk) σ c (agg σ1 (links t) m)) σ1 (kids t) =
          passList (fun σ c => gPass env' links kids agg place' fuel (t :: stk) σ c (agg σ1 (links t) m)) σ1 (kids t) := by
        refine passList_congr I _ _ _ ?_ ?_ σ1 i1
        · intro a x b hxl ha hh
          exact hinv _ _ _ _ (hkids t x hq hxl) ha hh
        · intro a x hxl ha
          exact ih _ _ _ _ (hkids t x hq hxl) ha pv
      rw [← e2]
      cases h2 : passList (fun σ c => gPass env links kids agg place fuel (t :: stk) σ c (agg σ1 (links t) m)) σ1 (kids t) with
      | error e => rfl
      | ok σ2 =>
        simp only []
        have i2 : I σ2 := passList_inv I _ _ (fun a x b hxl ha hh => hinv _ _ _ _ (hkids t x hq hxl) ha hh) _ _ i1 h2
        exact heq σ2 t m _ hq i2 hp pv (gPass_frame env links kids agg place hplace_ext hd h1 h2).2.2.1

end congr

def Env.setClock (env : Env) (clk : Nat → Time) : Env := { env with clock := clk }

@[simp] theorem Env.setClock_n (env : Env) (clk : Nat → Time) : (env.setClock clk).n = env.n := rfl
@[simp] theorem Env.setClock_info (env : Env) (clk : Nat → Time) : (env.setClock clk).info = env.info := rfl
@[simp] theorem Env.setClock_roots (env : Env) (clk : Nat → Time) : (env.setClock clk).roots = env.roots := rfl
@[simp] theorem Env.setClock_balance (env : Env) (clk : Nat → Time) : (env.setClock clk).balance = env.balance := rfl
@[simp] theorem Env.setClock_defaultEst (env : Env) (clk : Nat → Time) : (env.setClock clk).defaultEst = env.defaultEst := rfl
@[simp] theorem Env.setClock_bound (env : Env) (clk : Nat → Time) : (env.setClock clk).bound = env.bound := rfl
@[simp] theorem Env.setClock_clock (env : Env) (clk : Nat → Time) : (env.setClock clk).clock = clk := rfl

theorem maxT_drop {e nw st : Time} (h : nw ≤ st) : maxT (maxT e nw) st = maxT e st := by
  simp only [maxT_eq_max]; grind

theorem shiftFwd_day (cal : Cal) (used : Int → Rat) (a b : Time) (left : Rat) (hl : left ≠ 0)
    (h : dayOf a = dayOf b) : shiftFwd cal used a left = shiftFwd cal used b left := by
  unfold shiftFwd
  rw [if_neg hl, if_neg hl, h]

theorem fillEst_setClock (env : Env) (clk : Nat → Time) (t : Uid) (σ : SS) :
    fillEst (env.setClock clk) t σ = fillEst env t σ := rfl

theorem usedBy_setClock (env : Env) (clk : Nat → Time) (rows : List Row) (r : Option Nat) (t : Uid) :
    usedBy (env.setClock clk) rows r t = usedBy env rows r t := rfl

/-- the placement of a leaf does not look at the clock when no reading is later than the project start (which the lower
    bound `m` is not before), none is later than a start the task already has, and - for a task without work, whose end is
    the date handed to the fill - none is later than the midnight of the project start day -/
theorem fwdLeaf_clock (clk clk' : Nat → Time) (bound : Time) (dflt : Rat) (ms : Option Time) (cal : Cal) (used : Int → Rat)
    (m : Time) (r : Nat) (g : Fields) (hu : ∀ d, 0 ≤ used d)
    (hb1 : ∀ k, clk k ≤ bound) (hb2 : ∀ k, clk' k ≤ bound) (hm : bound ≤ m)
    (hfix : ∀ s, g.start = some s → g.end_ = none → (∀ k, clk k ≤ s) ∧ (∀ k, clk' k ≤ s))
    (hzero : g.start = none → g.end_ = none → workLeft (g.est.getD dflt) (g.spent.getD 0) = 0 →
      (∀ k, clk k ≤ ((dayOf bound : Int) : Rat)) ∧ (∀ k, clk' k ≤ ((dayOf bound : Int) : Rat))) :
    fwdLeaf clk bound dflt ms cal used m r g = fwdLeaf clk' bound dflt ms cal used m r g := by
  have hst : fwdLeafStart clk ms cal used m r g = fwdLeafStart clk' ms cal used m r g := by
    unfold fwdLeafStart
    simp only [maxT_eq_left (Rat.le_trans (hb1 _) hm), maxT_eq_left (Rat.le_trans (hb2 _) hm)]
  unfold fwdLeaf
  rw [hst]
  cases hs : fwdLeafStart clk' ms cal used m r g with
  | error e => rfl
  | ok sk =>
    obtain ⟨s, k⟩ := sk
    cases he : g.end_ with
    | some e => rfl
    | none =>
      -- no reading lies on a later day than the start, and none is later when there is no work
      have hday : (∀ j, dayOf (clk j) ≤ dayOf s) ∧ (∀ j, dayOf (clk' j) ≤ dayOf s) ∧
          (workLeft (g.est.getD dflt) (g.spent.getD 0) = 0 → (∀ j, clk j ≤ s) ∧ (∀ j, clk' j ≤ s)) := by
        rcases fwdLeafStart_ok hs with ⟨h1, _⟩ | ⟨h1, _, hn⟩
        · have hx := hfix s h1 he
          exact ⟨fun j => dayOf_mono (hx.1 j), fun j => dayOf_mono (hx.2 j), fun _ => hx⟩
        · obtain ⟨d, c, g1, _, _, _, g5, _⟩ := nearestFwd_spec cal used _ s hu hn
          have hbm : dayOf bound ≤ dayOf s := by
            rw [g5]
            exact Int.le_trans (dayOf_mono (Rat.le_trans hm (Rat.le_trans (le_maxT_left _ _) (le_maxT_left _ _)))) g1
          have hsge : ((dayOf bound : Int) : Rat) ≤ s := Rat.le_trans (Rat.intCast_le_intCast.mpr hbm) (dayOf_le_self s)
          exact ⟨fun j => Int.le_trans (dayOf_mono (hb1 j)) hbm, fun j => Int.le_trans (dayOf_mono (hb2 j)) hbm,
            fun hz => ⟨fun j => Rat.le_trans ((hzero h1 he hz).1 j) hsge, fun j => Rat.le_trans ((hzero h1 he hz).2 j) hsge⟩⟩
      have key : shiftFwd cal used (maxT s (clk (r + k))) (workLeft (g.est.getD dflt) (g.spent.getD 0)) =
          shiftFwd cal used (maxT s (clk' (r + k))) (workLeft (g.est.getD dflt) (g.spent.getD 0)) := by
        by_cases hz : workLeft (g.est.getD dflt) (g.spent.getD 0) = 0
        · rw [maxT_eq_left ((hday.2.2 hz).1 _), maxT_eq_left ((hday.2.2 hz).2 _)]
        · rw [shiftFwd_day _ _ _ s _ hz (dayOf_maxT_of_le (hday.1 _)), shiftFwd_day _ _ _ s _ hz (dayOf_maxT_of_le (hday.2.1 _))]
      simp only [bind, Except.bind, key, if_neg (Rat.not_lt.2 (hb1 _)), if_neg (Rat.not_lt.2 (hb2 _))]

theorem fwdPlace_clock (env : Env) (clk clk' : Nat → Time) (σ : SS) (t : Uid) (m : Time)
    (hb1 : ∀ k, clk k ≤ env.bound) (hb2 : ∀ k, clk' k ≤ env.bound) (hm : env.bound ≤ m)
    (hpos : ∀ r ∈ σ.rows, 0 < r.units)
    (hfix : ∀ s, (σ.f t).start = some s → (σ.f t).end_ = none → (env.info t).children.isEmpty = true →
      (∀ k, clk k ≤ s) ∧ (∀ k, clk' k ≤ s))
    (hzero : (σ.f t).start = none → (σ.f t).end_ = none → (env.info t).children.isEmpty = true →
      (env.info t).milestone = false → remaining env σ.f t = 0 →
      (∀ k, clk k ≤ ((dayOf env.bound : Int) : Rat)) ∧ (∀ k, clk' k ≤ ((dayOf env.bound : Int) : Rat))) :
    fwdPlace (env.setClock clk) σ t m = fwdPlace (env.setClock clk') σ t m := by
  rw [fwdPlace_eq (env.setClock clk) σ t m, fwdPlace_eq (env.setClock clk') σ t m]
  show (fwdOut (env.setClock clk) (placeCal env σ t) (placeUsed env σ t) t m σ.reads σ.f).map (σ.commit env t) =
    (fwdOut (env.setClock clk') (placeCal env σ t) (placeUsed env σ t) t m σ.reads σ.f).map (σ.commit env t)
  congr 1
  show (if (env.info t).milestone then pure ⟨⟨some m, some m, some 0, some 0⟩, [], 0⟩
      else if (env.info t).children.isEmpty then
        fwdLeaf clk env.bound env.defaultEst (env.info t).minStart (placeCal env σ t) (placeUsed env σ t) m σ.reads (σ.f t)
      else fwdSum env t σ.f) =
    (if (env.info t).milestone then pure ⟨⟨some m, some m, some 0, some 0⟩, [], 0⟩
      else if (env.info t).children.isEmpty then
        fwdLeaf clk' env.bound env.defaultEst (env.info t).minStart (placeCal env σ t) (placeUsed env σ t) m σ.reads (σ.f t)
      else fwdSum env t σ.f)
  split
  · rfl
  · rename_i hms
    split
    · rename_i hl
      exact fwdLeaf_clock clk clk' env.bound env.defaultEst _ _ _ m σ.reads (σ.f t) (fun d => reserved_nonneg _ hpos _ _ _)
        hb1 hb2 hm (fun s h1 h2 => hfix s h1 h2 hl) (fun h1 h2 hz => hzero h1 h2 hl (by simpa using hms) hz)
    · rfl


theorem members_setClock (env : Env) (clk : Nat → Time) : members (env.setClock clk) = members env := rfl

theorem memberList_setClock (env : Env) (clk : Nat → Time) : memberList (env.setClock clk) = memberList env := rfl

theorem isolationOk_setClock (env : Env) (clk : Nat → Time) (f : Uid → Fields) (mem : List Uid) :
    isolationOk (env.setClock clk) f mem = isolationOk env f mem := rfl

theorem ancestorsOf_setClock (env : Env) (clk : Nat → Time) : ∀ (k : Nat) (t : Uid),
    ancestorsOf (env.setClock clk) k t = ancestorsOf env k t := by
  intro k
  induction k with
  | zero => intro t; rfl
  | succ k ih =>
    intro t
    simp only [ancestorsOf, Env.setClock_info, ih]

theorem leavesOf_setClock (env : Env) (clk : Nat → Time) (t : Uid) :
    leavesOf (env.setClock clk) t = leavesOf env t := rfl

theorem waitsFor_setClock (env : Env) (clk : Nat → Time) : waitsFor (env.setClock clk) = waitsFor env := by
  funext t
  simp only [waitsFor, ancestorsOf_setClock, leavesOf_setClock, Env.setClock_info, Env.setClock_n]

theorem checkLoops_setClock (env : Env) (clk : Nat → Time) (mem : List Uid) :
    checkLoops (env.setClock clk) mem = checkLoops env mem := by
  simp only [checkLoops, waitsFor_setClock, Env.setClock_info, Env.setClock_n]

theorem prepare_setClock (env : Env) (clk : Nat → Time) (f : Uid → Fields) (mem : List Uid) :
    prepare (env.setClock clk) f mem = prepare env f mem := rfl

/-- hypotheses of clock independence for one clock: no reading is later than the project start, every reading lies
    on a day before the day of every user-fixed start that has no fixed end, user-fixed ends are not in the future, and
    - when some working leaf with open dates has no work left, so that its end is the later of its start and the clock
    (`__shift_by_resource_usage_and_calendar` returns the date it is given) while its start is the *midnight*-based
    date of the availability search - no reading is later than the midnight of the project start day -/
def ClockHyp (env : Env) (f0 : Uid → Fields) (clk : Nat → Time) : Prop :=
  (∀ k, clk k ≤ env.bound) ∧
  (∀ t ∈ memberList env, ∀ s, (f0 t).start = some s → (f0 t).end_ = none → ∀ k, dayOf (clk k) < dayOf s) ∧
  (∀ t ∈ memberList env, ∀ e, (f0 t).end_ = some e → e ≤ clk 0) ∧
  (∀ t ∈ memberList env, works env f0 t = true → (f0 t).start = none → remaining env f0 t = 0 →
    ∀ k, clk k ≤ ((dayOf env.bound : Int) : Rat))

theorem fwdPrecheck_eq_bwd (env : Env) (f0 : Uid → Fields)
    (h : ∀ t ∈ memberList env, ∀ e, (f0 t).end_ = some e → e ≤ env.clock 0) :
    fwdPrecheck env f0 = bwdPrecheck env f0 := by
  rw [fwdPrecheck_eq_bwd_bind, if_neg]
  · cases bwdPrecheck env f0 <;> rfl
  · intro hc
    obtain ⟨t, ht, hc⟩ := List.any_eq_true.1 hc
    split at hc
    · rename_i e he
      have := h t ht e he
      simp only [decide_eq_true_eq] at hc
      grind
    · cases hc

theorem bwdPrecheck_setClock (env : Env) (clk : Nat → Time) (f0 : Uid → Fields) :
    bwdPrecheck (env.setClock clk) f0 = bwdPrecheck env f0 := by
  unfold bwdPrecheck
  simp only [members_setClock, isolationOk_setClock, checkLoops_setClock]



theorem fwdPass_clock (env : Env) (f0 : Uid → Fields) (clk clk' : Nat → Time) (mem : List Uid)
    (hf : env.flagsOK) (hm : members env = some mem)
    (h1 : ClockHyp env f0 clk) (h2 : ClockHyp env f0 clk')
    (fuel : Nat) (stk : List Uid) (σ : SS) (t : Uid) (m : Time) (hq : t ∈ mem)
    (hi : Core (env.setClock clk) (prepare env f0 mem) σ) (hp : env.bound ≤ m) :
    fwdPass (env.setClock clk) fuel stk σ t m = fwdPass (env.setClock clk') fuel stk σ t m := by
  have hml := memberList_eq env mem hm
  have hmemb : ∀ t, (env.info t).member = true ↔ t ∈ mem := fun t => by rw [← hml]; exact hf t
  rw [fwdPass_eq_gPass, fwdPass_eq_gPass]
  refine gPass_congr (env.setClock clk) (env.setClock clk') (fun u => (env.info u).preds)
    (fun u => (env.info u).children) maxEnds (fun σ t _ v => fwdPlace (env.setClock clk) σ t v)
    (fun σ t _ v => fwdPlace (env.setClock clk') σ t v) ((Sched.fwd _).place_ext (Sched.fwd_ok _)) (fun _ => rfl)
    (Core (env.setClock clk) (prepare env f0 mem)) (fun t => t ∈ mem) (fun m => env.bound ≤ m)
    ?_ ?_ ?_ ?_ ?_ fuel stk σ t m hq hi hp
  · intro a b x _ v hq ha hx _ hh
    exact ha.place (Sched.fwd_ok _) ((hmemb x).2 hq) hx (m := v) hh
  · intro x c hx hc
    exact members_children env mem hm x hx c hc
  · intro x p hx _ he
    exact (hmemb p).1 (he.trans ((hmemb x).2 hx))
  · intro a l v hv
    exact Rat.le_trans hv (maxEnds_ge a l v).1
  · intro a x _ v hx ha _ hv hxd
    refine fwdPlace_clock env clk clk' a x v h1.1 h2.1 hv ha.ledger.pos ?_ ?_
    · intro s hs he hl
      rw [ha.init x hxd, prepare_leaf env f0 mem x hl] at hs he
      exact ⟨fun k => Rat.le_of_lt (lt_of_dayOf_lt (h1.2.1 x (hml ▸ hx) s hs he k)),
        fun k => Rat.le_of_lt (lt_of_dayOf_lt (h2.2.1 x (hml ▸ hx) s hs he k))⟩
    · intro hs he hl hms hrem
      have hfx : a.f x = f0 x := by rw [ha.init x hxd, prepare_leaf env f0 mem x hl]
      have hr : remaining env a.f x = remaining env f0 x := by unfold remaining; rw [hfx]
      rw [hfx] at hs he
      rw [hr] at hrem
      have hw : works env f0 x = true := by simp [works, isLeaf, hl, hms, he]
      exact ⟨h1.2.2.2 x (hml ▸ hx) hw hs hrem, h2.2.2.2 x (hml ▸ hx) hw hs hrem⟩

theorem fwdRun_clock (env : Env) (f0 : Uid → Fields) (res0 : List (Option Nat × Cal)) (clk clk' : Nat → Time)
    (hf : env.flagsOK) (h1 : ClockHyp env f0 clk) (h2 : ClockHyp env f0 clk') :
    fwdRun (env.setClock clk) f0 res0 = fwdRun (env.setClock clk') f0 res0 := by
  unfold fwdRun
  simp only [members_setClock, prepare_setClock, Env.setClock_n, Env.setClock_roots, Env.setClock_bound]
  cases hm : members env with
  | none => simp only [bind, Except.bind, throw, throwThe, MonadExceptOf.throw]
  | some mem =>
    simp only [bind, Except.bind, pure, Except.pure]
    rw [passList_congr (Core (env.setClock clk) (prepare env f0 mem))
      (fun σ r => fwdPass (env.setClock clk) (env.n + 1) [] σ r env.bound)
      (fun σ r => fwdPass (env.setClock clk') (env.n + 1) [] σ r env.bound) env.roots ?_ ?_ _ ?_]
    · intro a x b hx ha hh
      have hml := memberList_eq env mem hm
      have hmemb : ∀ t, (env.info t).member = true ↔ t ∈ mem := fun t => by rw [← hml]; exact hf t
      exact fwdPass_inv (env.setClock clk) (Core (env.setClock clk) (prepare env f0 mem)) (fun t => t ∈ mem)
        (fun s s' t v hq hi ht _ h => hi.place (Sched.fwd_ok _) ((hmemb t).2 hq) ht (m := v) h)
        (fun t c hq hc => members_children env mem hm t hq c hc)
        (fun t p hq _ he => (hmemb p).1 (he.trans ((hmemb t).2 hq))) _ _ _ _ _ _
        (members_root env mem hm x hx) ha hh
    · intro a x hx ha
      exact fwdPass_clock env f0 clk clk' mem hf hm h1 h2 _ _ a x _ (members_root env mem hm x hx) ha Rat.le_refl
    · exact Core.start _ _ res0 _

/-- C06, clock independence: under the clock hypotheses the whole forward result is the same for both clocks -/
theorem forwardCalc_clock (env : Env) (f0 : Uid → Fields) (res0 : List (Option Nat × Cal)) (clk clk' : Nat → Time)
    (hf : env.flagsOK) (h1 : ClockHyp env f0 clk) (h2 : ClockHyp env f0 clk') :
    forwardCalc (env.setClock clk) f0 res0 = forwardCalc (env.setClock clk') f0 res0 := by
  unfold forwardCalc
  rw [fwdRun_clock env f0 res0 clk clk' hf h1 h2,
    fwdPrecheck_eq_bwd (env.setClock clk) f0 h1.2.2.1, fwdPrecheck_eq_bwd (env.setClock clk') f0 h2.2.2.1,
    bwdPrecheck_setClock, bwdPrecheck_setClock]

end Pj

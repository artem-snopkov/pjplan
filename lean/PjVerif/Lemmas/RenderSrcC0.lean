/-
  Lemmas/RenderSrcC0.lean — pure lemmas for the dict-of-boxes idiom (`d.setdefault(k, []).append(x)` / `for k, v in
  d.items()`): first occurrences (`eraseDupsBy` as a left fold), the groups built by the loop (`groupsOf` = `grpSpec`:
  keys in the order of their first occurrence, each group holds its members in order), the dict of box references
  (`dictOf`) and the store.  Used by Lemmas/RenderSrcC.lean.
-/
import PjVerif.Lemmas.PyLiteSteps
namespace Pj.RenderSrc
open Pj.PyLite
open Pj.TaskSrc (pyEq_refl pyEq_symm pyEq_trans)
set_option linter.unusedVariables false

section ded
variable {α β : Type}

def ded (r : α → α → Bool) (l : List α) : List α := l.foldl (fun acc a => if acc.any (r a) then acc else acc ++ [a]) []

theorem loop_eq (r : α → α → Bool) : ∀ as bs : List α,
    List.eraseDupsBy.loop r as bs = as.foldl (fun acc a => if acc.any (r a) then acc else acc ++ [a]) bs.reverse := by
  intro as
  induction as with
  | nil => intro bs; simp [List.eraseDupsBy.loop]
  | cons a as ih =>
    intro bs
    unfold List.eraseDupsBy.loop
    cases h : bs.any (r a) <;>
      simp only [h, ih, List.foldl_cons, List.reverse_cons, List.any_reverse, if_true, Bool.false_eq_true, if_false]

theorem eraseDupsBy_eq_ded (r : α → α → Bool) (l : List α) : l.eraseDupsBy r = ded r l := by
  simp [List.eraseDupsBy, loop_eq, ded]

theorem ded_snoc (r : α → α → Bool) (l : List α) (a : α) :
    ded r (l ++ [a]) = if (ded r l).any (r a) then ded r l else ded r l ++ [a] := by
  simp [ded, List.foldl_append]

theorem snoc_ind {P : List α → Prop} (h0 : P []) (h1 : ∀ l a, P l → P (l ++ [a])) : ∀ l, P l := by
  have : ∀ l : List α, P l.reverse := by
    intro l
    induction l with
    | nil => exact h0
    | cons a l ih => rw [List.reverse_cons]; exact h1 _ _ ih
  intro l
  have := this l.reverse
  rwa [List.reverse_reverse] at this

theorem ded_sub (r : α → α → Bool) : ∀ l : List α, ∀ x ∈ ded r l, x ∈ l := by
  intro l
  induction l using snoc_ind with
  | h0 => intro x h; simp [ded] at h
  | h1 l a ih =>
    intro x h
    rw [ded_snoc] at h
    split at h
    · exact List.mem_append_left _ (ih x h)
    · rcases List.mem_append.1 h with h | h
      · exact List.mem_append_left _ (ih x h)
      · exact List.mem_append_right _ h

theorem ded_pairwise (r : α → α → Bool) : ∀ l : List α, (ded r l).Pairwise (fun x y => r y x = false) := by
  intro l
  induction l using snoc_ind with
  | h0 => simp [ded]
  | h1 l a ih =>
    rw [ded_snoc]
    split
    · exact ih
    · rename_i h
      rw [List.pairwise_append]
      refine ⟨ih, by simp, ?_⟩
      intro x hx y hy
      simp only [List.mem_singleton] at hy
      subst hy
      simp only [Bool.not_eq_true, List.any_eq_false] at h
      simpa using h x hx

theorem ded_map (r : α → α → Bool) (r' : β → β → Bool) (f : α → β) : ∀ l : List α,
    (∀ a ∈ l, ∀ b ∈ l, r a b = r' (f a) (f b)) → (ded r l).map f = ded r' (l.map f) := by
  intro l
  induction l using snoc_ind with
  | h0 => intro _; rfl
  | h1 l a ih =>
    intro h
    have ih' := ih (fun x hx y hy => h x (List.mem_append_left _ hx) y (List.mem_append_left _ hy))
    rw [List.map_append, List.map_singleton, ded_snoc, ded_snoc, ← ih']
    have e : (ded r l).any (r a) = ((ded r l).map f).any (r' (f a)) := by
      rw [List.any_map, Bool.eq_iff_iff]
      simp only [List.any_eq_true, Function.comp]
      constructor
      · rintro ⟨x, hx, hr⟩
        exact ⟨x, hx, by rw [← h a (by simp) x (List.mem_append_left _ (ded_sub r l x hx))]; exact hr⟩
      · rintro ⟨x, hx, hr⟩
        exact ⟨x, hx, by rw [h a (by simp) x (List.mem_append_left _ (ded_sub r l x hx))]; exact hr⟩
    rw [← e]
    split <;> simp

theorem ded_rep (r : α → α → Bool) (hr : ∀ a, r a a = true) : ∀ l : List α, ∀ x ∈ l, ∃ y ∈ ded r l, r x y = true := by
  intro l
  induction l using snoc_ind with
  | h0 => intro x h; simp at h
  | h1 l a ih =>
    intro x hx
    rw [ded_snoc]
    rcases List.mem_append.1 hx with h | h
    · obtain ⟨y, hy, hxy⟩ := ih x h
      split
      · exact ⟨y, hy, hxy⟩
      · exact ⟨y, List.mem_append_left _ hy, hxy⟩
    · simp only [List.mem_singleton] at h
      subst h
      split
      · rename_i h'
        simpa [List.any_eq_true] using h'
      · exact ⟨x, by simp, hr x⟩

end ded

theorem pyDedup_eq (l : List Atom) : pyDedup l = ded (fun a b => a.pyEq b) l := eraseDupsBy_eq_ded _ l

abbrev Grp := List (Atom × List Atom)

def hasKey (G : Grp) (k : Atom) : Bool := G.any (fun p => p.1.pyEq k)
def addAll (G : Grp) (k x : Atom) : Grp := G.map (fun p => if p.1.pyEq k then (p.1, p.2 ++ [x]) else p)
/-- one round of `if k not in d: d[k] = []` / `d[k].append(x)` -/
def gstep (G : Grp) (k x : Atom) : Grp := addAll (if hasKey G k then G else G ++ [(k, [])]) k x
def groupsOf (key : Nat → Atom) (ts : List Nat) : Grp := ts.foldl (fun G t => gstep G (key t) (.ref t)) []
/-- keys in the order of their first occurrence; each group holds its members in order -/
def grpSpec (key : Nat → Atom) (ts : List Nat) : Grp :=
  (pyDedup (ts.map key)).map (fun k => (k, (ts.filter (fun t => k.pyEq (key t))).map Atom.ref))

def KP (G : Grp) : Prop := (G.map (·.1)).Pairwise (fun x y => y.pyEq x = false)

theorem addAll_keys (G : Grp) (k x : Atom) : (addAll G k x).map (·.1) = G.map (·.1) := by
  simp only [addAll, List.map_map]
  apply List.map_congr_left
  intro p _
  simp only [Function.comp]
  split <;> rfl

theorem addAll_none (G : Grp) (k x : Atom) (h : hasKey G k = false) : addAll G k x = G := by
  simp only [hasKey, List.any_eq_false] at h
  simp only [addAll]
  conv => rhs; rw [← List.map_id G]
  apply List.map_congr_left
  intro p hp
  simp [h p hp]

theorem gstep_KP (G : Grp) (k x : Atom) (h : KP G) : KP (gstep G k x) := by
  simp only [KP, gstep, addAll_keys]
  cases hk : hasKey G k
  · simp only [Bool.false_eq_true, if_false, List.map_append, List.map_cons, List.map_nil]
    rw [List.pairwise_append]
    refine ⟨h, by simp, ?_⟩
    intro a ha b hb
    simp only [List.mem_singleton] at hb
    subst hb
    simp only [hasKey, List.any_eq_false] at hk
    obtain ⟨p, hp, rfl⟩ := List.mem_map.1 ha
    rw [pyEq_symm]
    simpa using hk p hp
  · simp only [if_true]; exact h

theorem groupsOf_snoc (key : Nat → Atom) (ts : List Nat) (t : Nat) :
    groupsOf key (ts ++ [t]) = gstep (groupsOf key ts) (key t) (.ref t) := by
  simp [groupsOf, List.foldl_append]

theorem groupsOf_eq (key : Nat → Atom) : ∀ ts, groupsOf key ts = grpSpec key ts := by
  intro ts
  induction ts using snoc_ind with
  | h0 => rfl
  | h1 ts t ih =>
    rw [groupsOf_snoc, ih]
    simp only [grpSpec, gstep, pyDedup_eq, List.map_append, List.map_singleton, ded_snoc]
    have e : hasKey (List.map (fun k => (k, List.map Atom.ref (List.filter (fun t => k.pyEq (key t)) ts)))
        (ded (fun a b => a.pyEq b) (List.map key ts))) (key t) =
        (ded (fun a b => a.pyEq b) (List.map key ts)).any (fun b => (key t).pyEq b) := by
      simp only [hasKey, List.any_map]
      congr 1; funext b; exact pyEq_symm _ _
    rw [e]
    cases hk : (ded (fun a b => a.pyEq b) (List.map key ts)).any (fun b => (key t).pyEq b)
    · simp only [Bool.false_eq_true, if_false, addAll, List.map_append, List.map_map, List.map_cons, List.map_nil,
        pyEq_refl, if_true, List.nil_append, List.filter_append, List.filter_cons, List.filter_nil]
      congr 1
      · apply List.map_congr_left
        intro k hk'
        simp only [Function.comp]
        split <;> simp
      · simp only [List.cons.injEq, Prod.mk.injEq, true_and, and_true]
        have : List.filter (fun t_1 => (key t).pyEq (key t_1)) ts = [] := by
          rw [List.filter_eq_nil_iff]
          intro a ha h
          obtain ⟨y, hy, hay⟩ := ded_rep (fun a b : Atom => a.pyEq b) pyEq_refl (ts.map key) (key a)
            (List.mem_map.2 ⟨a, ha, rfl⟩)
          simp only [List.any_eq_false] at hk
          exact hk y hy (pyEq_trans h hay)
        simp [this]
    · simp only [if_true, addAll, List.map_map, List.filter_append, List.filter_cons, List.filter_nil, List.map_append]
      apply List.map_congr_left
      intro k hk'
      simp only [Function.comp]
      split <;> simp

theorem keys_map (l : List Atom) (f : Atom → List Atom) : (l.map (fun k => (k, f k))).map (·.1) = l := by
  induction l <;> simp [*]

theorem grpSpec_KP (key : Nat → Atom) (ts : List Nat) : KP (grpSpec key ts) := by
  simp only [KP, grpSpec, pyDedup_eq, keys_map]
  exact ded_pairwise (fun a b : Atom => a.pyEq b) (ts.map key)

def dictOf : Nat → Grp → List (Atom × Atom)
  | _, [] => []
  | n, p :: G => (p.1, .box n) :: dictOf (n + 1) G

theorem dictOf_addAll (G : Grp) (k x : Atom) : ∀ n, dictOf n (addAll G k x) = dictOf n G := by
  induction G with
  | nil => intro n; rfl
  | cons p G ih =>
    intro n
    have := ih (n + 1)
    simp only [addAll] at this
    simp only [addAll, List.map_cons, dictOf, this]
    split <;> rfl

theorem dictOf_keys (G : Grp) : ∀ n, (dictOf n G).map (·.1) = G.map (·.1) := by
  induction G with
  | nil => intro n; rfl
  | cons p G ih => intro n; simp [dictOf, ih]

theorem dict_has (G : Grp) (k : Atom) : ∀ n, (Dict.get? (dictOf n G) k).isSome = hasKey G k := by
  induction G with
  | nil => intro n; rfl
  | cons p G ih =>
    intro n
    have := ih (n + 1)
    simp only [Dict.get?, hasKey] at this
    simp only [Dict.get?, dictOf, hasKey, List.find?_cons, List.any_cons]
    cases h : p.1.pyEq k
    · simpa using this
    · simp

theorem dict_insert_new (G : Grp) (k : Atom) : ∀ n, hasKey G k = false →
    Dict.insert (dictOf n G) k (.box (n + G.length)) = dictOf n (G ++ [(k, [])]) := by
  induction G with
  | nil => intro n _; simp [Dict.insert, dictOf]
  | cons p G ih =>
    intro n h
    simp only [hasKey, List.any_cons, Bool.or_eq_false_iff] at h
    have := ih (n + 1) h.2
    simp only [dictOf, Dict.insert, h.1, Bool.false_eq_true, if_false, List.cons_append, List.length_cons]
    rw [← this]
    congr 3
    omega

/-- the entry of a group: its key is bound to a box of the store that holds the group; appending to that box appends to
    the group (and to no other: the keys are pairwise different) -/
theorem dict_lookup (k x : Atom) : ∀ (G : Grp) (b0 : List (List Atom)) (p : Atom × List Atom), KP G → p ∈ G →
    p.1.pyEq k = true →
    ∃ i, Dict.get? (dictOf b0.length G) k = some (.box i) ∧ (b0 ++ G.map (·.2))[i]? = some p.2 ∧
      (b0 ++ G.map (·.2)).set i (p.2 ++ [x]) = b0 ++ (addAll G k x).map (·.2) := by
  intro G
  induction G with
  | nil => intro b0 p _ hp; simp at hp
  | cons q G ih =>
    intro b0 p hkp hp hpk
    simp only [KP, List.map_cons, List.pairwise_cons] at hkp
    cases hq : q.1.pyEq k
    · have hne : p ≠ q := fun e => by rw [e, hq] at hpk; simp at hpk
      have hpG : p ∈ G := by
        rcases List.mem_cons.1 hp with h | h
        · exact absurd h hne
        · exact h
      obtain ⟨i, h1, h2, h3⟩ := ih (b0 ++ [q.2]) p hkp.2 hpG hpk
      refine ⟨i, ?_, ?_, ?_⟩
      · simp only [List.length_append, List.length_cons, List.length_nil] at h1
        simpa [Dict.get?, dictOf, List.find?_cons, hq] using h1
      · simpa [List.append_assoc] using h2
      · simp only [addAll, List.map_cons, hq, Bool.false_eq_true, if_false]
        simpa [List.append_assoc, addAll] using h3
    · have hpq : p = q := by
        rcases List.mem_cons.1 hp with h | h
        · exact h
        · have h1 := hkp.1 p.1 (List.mem_map.2 ⟨p, h, rfl⟩)
          have h2 : p.1.pyEq q.1 = true := pyEq_trans hpk (by rw [pyEq_symm]; exact hq)
          rw [h2] at h1; simp at h1
      subst hpq
      have hno : hasKey G k = false := by
        simp only [hasKey, List.any_eq_false]
        intro r hr
        have h1 := hkp.1 r.1 (List.mem_map.2 ⟨r, hr, rfl⟩)
        intro h2
        have : r.1.pyEq p.1 = true := pyEq_trans h2 (by rw [pyEq_symm]; exact hq)
        rw [this] at h1; simp at h1
      refine ⟨b0.length, ?_, ?_, ?_⟩
      · simp [Dict.get?, dictOf, hq]
      · simp
      · simp only [addAll, List.map_cons, hq, if_true]
        have := addAll_none G k x hno
        simp only [addAll] at this
        rw [this]
        simp

end Pj.RenderSrc

/- Lemmas/Calendar.lean — C17: the calendar object of a definition (`CExpr.cal`) evaluates to the definition's meaning
   (`cal_eval`) and `build` only validates (`build_cal`); the availability search against its specification
   (`search_spec`); `build` in closed form when dict keys are distinct (`build_eq`): what the specification calls invalid
   is rejected with RuntimeError, anything else gives its object. -/
import PjVerif.Spec.Calendar
import PjVerif.Lemmas.Res
namespace Pj

/-- `den` result rendered as an evaluation result -/
def liftDen : Option (Option Rat) → Res (Option Rat)
  | some v => .ok v
  | none => .error (.crash .zeroDivision)

/-- the calendar object a definition stands for (what `build` returns when it accepts the definition): a number is
    the constant calendar it is promoted to -/
def CExpr.cal : CExpr → Cal
  | .weeklyList s e days u =>
    .weekly s e ((List.range 7).map (fun (i : Nat) => if days.contains (Int.ofNat i) then u else 0))
  | .weeklyDict s e d => .weekly s e ((List.range 7).map (fun (i : Nat) => dictGet d (Int.ofNat i)))
  | .direct items => .direct (items.map (fun p => (dayOf p.1, p.2)))
  | .fixed u s e => .fixed u s e
  | .num u => .fixed u none none
  | .op k a b => mkOp k a.cal b.cal

theorem mkFixed_eq (u : Rat) (s e : Option Time) :
    mkFixed u s e = if (CExpr.fixed u s e).invalid then .error .runtime else .ok (.fixed u s e) := by
  unfold mkFixed CExpr.invalid
  by_cases h1 : u < 0 <;> by_cases h2 : startAfterEnd s e = true <;> simp [h1, h2] <;> rfl

theorem mkWeeklyList_eq (s e : Option Time) (days : List Int) (u : Rat) :
    mkWeeklyList s e days u =
      if (CExpr.weeklyList s e days u).invalid then .error .runtime else .ok (CExpr.weeklyList s e days u).cal := by
  unfold mkWeeklyList CExpr.invalid CExpr.cal
  by_cases h1 : (days.any fun v => decide (v < 0) || decide (v > 6)) = true <;>
  by_cases h2 : startAfterEnd s e = true <;> by_cases h3 : u < 0 <;>
    simp [h1, h2, h3, throw, throwThe, MonadExceptOf.throw, pure, Except.pure]

theorem mkDirect_eq (items : List (Time × Rat)) :
    mkDirect items = if (CExpr.direct items).invalid then .error .runtime else .ok (CExpr.direct items).cal := by
  unfold mkDirect CExpr.invalid CExpr.cal
  by_cases h1 : (items.any fun p => decide (p.2 < 0)) = true <;>
    simp [h1, throw, throwThe, MonadExceptOf.throw, pure, Except.pure]

theorem mkFixed_ok {u : Rat} {s e : Option Time} {c : Cal} (h : mkFixed u s e = .ok c) : c = .fixed u s e := by
  rw [mkFixed_eq] at h
  split at h <;> cases h
  rfl

theorem mkWeeklyList_ok {s e : Option Time} {days : List Int} {u : Rat} {c : Cal}
    (h : mkWeeklyList s e days u = .ok c) : c = (CExpr.weeklyList s e days u).cal := by
  rw [mkWeeklyList_eq] at h
  split at h <;> cases h
  rfl

theorem mkDirect_ok {items : List (Time × Rat)} {c : Cal} (h : mkDirect items = .ok c) :
    c = (CExpr.direct items).cal := by
  rw [mkDirect_eq] at h
  split at h <;> cases h
  rfl

/-- holds whether or not the dict repeats a key (`mkWeeklyDict_eq` needs distinct keys) -/
theorem mkWeeklyDict_ok {s e : Option Time} {d : List (Int × Rat)} {c : Cal}
    (h : mkWeeklyDict s e d = .ok c) : c = (CExpr.weeklyDict s e d).cal := by
  unfold mkWeeklyDict at h
  repeat' split at h
  all_goals cases h
  rfl

theorem weekday_lt (t : Time) : weekday t < 7 := by
  unfold weekday
  omega

theorem getD_range_map (f : Nat → Rat) (n i : Nat) (h : i < n) :
    ((List.range n).map f).getD i 0 = f i := by
  simp [List.getD, h]

theorem eval_weekly (s e : Option Time) (h : List Rat) (t : Time) :
    (Cal.weekly s e h).eval t =
      .ok (if before? t s || after? t e then none else some (h.getD (weekday t) 0)) := by
  cases s <;> cases e <;> simp [Cal.eval, before?, after?, pure, Except.pure] <;>
    (repeat' split) <;> simp_all

theorem eval_fixed (u : Rat) (s e : Option Time) (t : Time) :
    (Cal.fixed u s e).eval t =
      .ok (if before? t s || after? t e then some 0 else some u) := by
  cases s <;> cases e <;> simp [Cal.eval, before?, after?, pure, Except.pure] <;>
    (repeat' split) <;> simp_all

theorem eval_direct (items : List (Time × Rat)) (t : Time) :
    (Cal.direct (items.map (fun p => (dayOf p.1, p.2)))).eval t =
      .ok ((items.reverse.find? (fun p => dayOf p.1 == dayOf t)).map (·.2)) := by
  simp [Cal.eval, directLookup, pure, Except.pure, ← List.map_reverse, List.find?_map,
    Function.comp_def]

/-- the spec's combination of the operands' meanings (body of `CExpr.den` for `.op`) -/
def denComb (k : OpKind) (dx dy : Option (Option Rat)) : Option (Option Rat) :=
  match dx with
  | none => none
  | some x =>
    if k == .or && posOpt x then some x
    else match dy with
      | none => none
      | some y => denOp k x y

theorem eval_mkOp (k : OpKind) (ca cb : Cal) (t : Time) (dx dy : Option (Option Rat))
    (ha : ca.eval t = liftDen dx) (hb : cb.eval t = liftDen dy) :
    (mkOp k ca cb).eval t = liftDen (denComb k dx dy) := by
  cases k <;> rcases dx with _ | _ | x <;> rcases dy with _ | _ | y <;>
    simp [mkOp, Cal.eval, ha, hb, liftDen, denComb, denOp, accum, divOp, posOpt, bind, Except.bind,
      pure, Except.pure, throw, throwThe, MonadExceptOf.throw] <;>
    (repeat' split) <;> simp_all

theorem build_op_num (k : OpKind) (a : CExpr) (u : Rat) :
    (CExpr.op k a (.num u)).build =
      (a.build >>= fun ca =>
        if k = .div ∧ u = 0 then throw .runtime
        else mkFixed u none none >>= fun cb => pure (mkOp k ca cb)) := by
  simp [CExpr.build]

theorem build_op_other (k : OpKind) (a b : CExpr) (h : ∀ u, b ≠ .num u) :
    (CExpr.op k a b).build =
      (a.build >>= fun ca => b.build >>= fun cb => pure (mkOp k ca cb)) := by
  cases b <;> first | (exact absurd rfl (h _)) | simp [CExpr.build]

theorem den_op (k : OpKind) (a b : CExpr) (t : Time) :
    (CExpr.op k a b).den t = denComb k (a.den t) (b.den t) := by
  rw [CExpr.den]; rfl

/-- the object of a definition evaluates to the definition's meaning: no hypothesis, validation plays no part -/
theorem cal_eval (e : CExpr) (t : Time) : e.cal.eval t = liftDen (e.den t) := by
  induction e with
  | weeklyList s e days u =>
    rw [CExpr.cal, eval_weekly, getD_range_map _ _ _ (weekday_lt t), CExpr.den]
    split <;> rfl
  | weeklyDict s e d =>
    rw [CExpr.cal, eval_weekly, getD_range_map _ _ _ (weekday_lt t), CExpr.den]
    split <;> rfl
  | direct items => rw [CExpr.cal, eval_direct]; rfl
  | fixed u s e =>
    rw [CExpr.cal, eval_fixed, CExpr.den]
    split <;> rfl
  | num u => rw [CExpr.cal, eval_fixed]; rfl
  | op k a b iha ihb => rw [CExpr.cal, den_op]; exact eval_mkOp k _ _ t _ _ iha ihb

theorem build_cal (e : CExpr) : ∀ c, e.build = .ok c → c = e.cal := by
  induction e with
  | weeklyList s e days u => exact fun c => mkWeeklyList_ok
  | weeklyDict s e d => exact fun c => mkWeeklyDict_ok
  | direct items => exact fun c => mkDirect_ok
  | fixed u s e => exact fun c => mkFixed_ok
  | num u => intro c hb; cases hb
  | op k a b iha ihb =>
    intro c hb
    by_cases hnum : ∃ u, b = .num u
    · obtain ⟨u, rfl⟩ := hnum
      rw [build_op_num] at hb
      obtain ⟨ca, hca, hb⟩ := bind_ok hb
      split at hb
      · cases hb
      · obtain ⟨cb, hcb, hb⟩ := bind_ok hb
        cases hb
        rw [iha ca hca, mkFixed_ok hcb]; rfl
    · rw [build_op_other k a b (fun u h => hnum ⟨u, h⟩)] at hb
      obtain ⟨ca, hca, hb⟩ := bind_ok hb
      obtain ⟨cb, hcb, hb⟩ := bind_ok hb
      cases hb
      rw [iha ca hca, ihb cb hcb]; rfl

theorem eval_den_lift (e : CExpr) (t : Time) (c : Cal) (hb : e.build = .ok c) :
    c.eval t = liftDen (e.den t) := by
  rw [build_cal e c hb, cal_eval]

theorem dayOffset_succ (t : Time) (dir : Int) (k : Nat) :
    t + (dir : Rat) + (k : Rat) * (dir : Rat) = t + ((k + 1 : Nat) : Rat) * (dir : Rat) := by
  grind

theorem dayOffset_zero (t : Time) (dir : Int) : t + ((0 : Nat) : Rat) * (dir : Rat) = t := by
  grind

theorem SearchSpec_shift (cap : Time → Rat) (dir : Int) (H : Nat) (t : Time) (r : Res Time)
    (h0 : ¬ hit cap dir t) (h : SearchSpec cap dir H (t + (dir : Rat)) r) :
    SearchSpec cap dir (H + 1) t r := by
  have hmin : ∀ k : Nat, (∀ j : Nat, j < k → ¬ hit cap dir (t + (dir : Rat) + (j : Rat) * (dir : Rat))) →
      ∀ j : Nat, j < k + 1 → ¬ hit cap dir (t + (j : Rat) * (dir : Rat)) := by
    intro k hk j hj
    cases j with
    | zero => rw [dayOffset_zero]; exact h0
    | succ j => rw [← dayOffset_succ]; exact hk j (by omega)
  match r, h with
  | .ok d, h =>
    obtain ⟨k, hk, hd, hhit, hm⟩ := h
    exact ⟨k + 1, by omega, by rw [hd, dayOffset_succ], hhit, hmin k hm⟩
  | .error .runtime, h => exact hmin H h
  | .error (.crash _), h => exact h.elim

theorem search_succ (c : Cal) (dir : Int) (m : Nat) (t : Time) :
    search c dir (m + 1) t = (do
      let u ← (if dir < 0 then capR c (t - 1) else capR c t)
      if 0 < u then pure t else search c dir m (t + (dir : Rat))) := by
  rw [search]
  split <;> rfl

theorem search_spec (c : Cal) (cap : Time → Rat) (hcap : ∀ x, capR c x = .ok (cap x))
    (dir : Int) : ∀ (H : Nat) (t : Time), SearchSpec cap dir H t (search c dir H t) := by
  intro H
  induction H with
  | zero =>
    intro t k hk
    omega
  | succ H ih =>
    intro t
    have hstep : search c dir (H + 1) t =
        if 0 < (if dir < 0 then cap (t - 1) else cap t) then .ok t
        else search c dir H (t + (dir : Rat)) := by
      rw [search_succ]
      split <;> simp only [bind, Except.bind, hcap] <;> rfl
    rw [hstep]
    by_cases hpos : 0 < (if dir < 0 then cap (t - 1) else cap t)
    · rw [if_pos hpos]
      refine ⟨0, by omega, (dayOffset_zero t dir).symm, ?_, fun j hj => by omega⟩
      unfold hit
      split <;> simp_all
    · rw [if_neg hpos]
      refine SearchSpec_shift cap dir H t _ ?_ (ih _)
      unfold hit
      split <;> simp_all

theorem SearchSpec_unique (cap : Time → Rat) (dir : Int) (H : Nat)
    (t : Time) (r r' : Res Time)
    (h : SearchSpec cap dir H t r) (h' : SearchSpec cap dir H t r') : r = r' := by
  match r, r', h, h' with
  | .error (.crash _), _, h, _ => exact h.elim
  | _, .error (.crash _), _, h' => exact h'.elim
  | .error .runtime, .error .runtime, _, _ => rfl
  | .ok d, .error .runtime, h, h' =>
    obtain ⟨k, hk, hd, hhit, _⟩ := h
    exact absurd (hd ▸ hhit) (h' k hk)
  | .error .runtime, .ok d, h, h' =>
    obtain ⟨k, hk, hd, hhit, _⟩ := h'
    exact absurd (hd ▸ hhit) (h k hk)
  | .ok d, .ok d', h, h' =>
    obtain ⟨k, hk, hd, hhit, hm⟩ := h
    obtain ⟨k', hk', hd', hhit', hm'⟩ := h'
    have : k = k' := by
      rcases Nat.lt_trichotomy k k' with hlt | heq | hgt
      · exact absurd (hd ▸ hhit) (hm' k hlt)
      · exact heq
      · exact absurd (hd' ▸ hhit') (hm k' hgt)
    subst this
    rw [hd, hd']

theorem hit_iff (cap : Time → Rat) (dir : Int) (x : Time) :
    (if dir < 0 then decide (0 < cap (x - 1)) else decide (0 < cap x)) = true ↔ hit cap dir x := by
  unfold hit; split <;> simp

theorem searchSpecB_iff (cap : Time → Rat) (dir : Int) (H : Nat) (t : Time) (r : Res Time) :
    searchSpecB cap dir H t r = true ↔ SearchSpec cap dir H t r := by
  match r with
  | .ok d =>
    simp only [searchSpecB, SearchSpec, List.any_eq_true, List.mem_range, Bool.and_eq_true, beq_iff_eq,
      List.all_eq_true, Bool.not_eq_true', ← Bool.not_eq_true, hit_iff]
    exact ⟨fun ⟨k, hk, ⟨hd, hh⟩, hm⟩ => ⟨k, hk, hd, hh, hm⟩, fun ⟨k, hk, hd, hh, hm⟩ => ⟨k, hk, ⟨hd, hh⟩, hm⟩⟩
  | .error .runtime =>
    simp only [searchSpecB, SearchSpec, List.all_eq_true, List.mem_range, Bool.not_eq_true', ← Bool.not_eq_true,
      hit_iff]
  | .error (.crash _) => simp [searchSpecB, SearchSpec]

/-! ### `build` in closed form (`C17_ctor_rejects`), and why it needs `dictKeysNodup` -/

/-- without `dictKeysNodup` the statement of `C17_ctor_rejects` fails: a `weeklyDict` whose key list repeats a key with
    a negative value in a shadowed position is `invalid` (the spec looks at every pair) but builds
    (the model's `dictGet` only sees the first pair per key). -/
theorem ctor_rejects_counterexample :
    let e : CExpr := .weeklyDict none none [(0, 1), (0, -1)]
    e.wellShaped = true ∧ e.invalid = true ∧ (e.build).isOk = true := by
  decide +kernel

/-- with distinct keys (as in a Python dict; the `List (Int × Rat)` encoding of `weeklyDict` does not enforce it)
    the lookup by key finds every pair of the list -/
theorem find?_key_of_nodup (d : List (Int × Rat)) (hn : (d.map (·.1)).Nodup) (p : Int × Rat)
    (hp : p ∈ d) : d.find? (fun q => q.1 == p.1) = some p := by
  induction d with
  | nil => cases hp
  | cons q d ih =>
    simp only [List.map_cons, List.nodup_cons] at hn
    rcases List.mem_cons.1 hp with rfl | hp
    · simp
    · have : q.1 ≠ p.1 := fun h => hn.1 (h ▸ List.mem_map_of_mem hp)
      simp [this, ih hn.2 hp]

theorem dictGet_neg_mem (d : List (Int × Rat)) (i : Int) (h : dictGet d i < 0) :
    ∃ p ∈ d, p.2 < 0 := by
  unfold dictGet at h
  split at h
  · next p hp => exact ⟨p, List.mem_of_find?_eq_some hp, h⟩
  · exact absurd h (by decide)

theorem mkWeeklyDict_eq (s e : Option Time) (d : List (Int × Rat)) (hn : (d.map (·.1)).Nodup) :
    mkWeeklyDict s e d =
      if (CExpr.weeklyDict s e d).invalid then .error .runtime else .ok (CExpr.weeklyDict s e d).cal := by
  unfold mkWeeklyDict CExpr.invalid CExpr.cal
  by_cases h2 : startAfterEnd s e = true
  · simp [h2, throw, throwThe, MonadExceptOf.throw]
  by_cases h1 : (d.any fun p => decide (p.1 < 0) || decide (p.1 > 6)) = true
  · have : (d.any fun p => decide (p.1 < 0) || decide (p.1 > 6) || decide (p.2 < 0)) = true := by
      simp only [List.any_eq_true] at h1 ⊢
      obtain ⟨p, hp, h⟩ := h1
      exact ⟨p, hp, by simp [h]⟩
    simp [h2, h1, this, throw, throwThe, MonadExceptOf.throw]
  by_cases h3 : ((List.range 7).any fun (i : Nat) => decide (dictGet d (Int.ofNat i) < 0)) = true
  · have : (d.any fun p => decide (p.1 < 0) || decide (p.1 > 6) || decide (p.2 < 0)) = true := by
      simp only [List.any_eq_true, decide_eq_true_eq] at h3 ⊢
      obtain ⟨i, _, hi⟩ := h3
      obtain ⟨p, hp, hneg⟩ := dictGet_neg_mem d _ hi
      exact ⟨p, hp, by simp [hneg]⟩
    rw [if_neg h2, if_neg h1, if_pos h3]
    simp [this, throw, throwThe, MonadExceptOf.throw]
  · have : (d.any fun p => decide (p.1 < 0) || decide (p.1 > 6) || decide (p.2 < 0)) = false := by
      rw [Bool.eq_false_iff]
      intro hany
      simp only [List.any_eq_true] at hany
      obtain ⟨p, hp, h⟩ := hany
      have hr : ¬ (p.1 < 0) ∧ ¬ (p.1 > 6) := by
        have := fun hh => h1 (List.any_eq_true.2 ⟨p, hp, hh⟩)
        simpa using this
      have hneg : p.2 < 0 := by simpa [hr.1, hr.2] using h
      apply h3
      simp only [List.any_eq_true, List.mem_range, decide_eq_true_eq]
      refine ⟨p.1.toNat, by omega, ?_⟩
      have hcast : Int.ofNat p.1.toNat = p.1 := by simp; omega
      rw [hcast]
      unfold dictGet
      rw [find?_key_of_nodup d hn p hp]
      exact hneg
    rw [if_neg h2, if_neg h1, if_neg h3]
    simp [h2, this, pure, Except.pure]

/-- `build` in closed form, when `weeklyDict` key lists are duplicate-free: an invalid definition is rejected with
    RuntimeError, a valid one gives its object -/
theorem build_eq (e : CExpr) : e.wellShaped = true → e.dictKeysNodup = true →
    e.build = if e.invalid then .error .runtime else .ok e.cal := by
  induction e with
  | weeklyList s e days u => intro _ _; exact mkWeeklyList_eq s e days u
  | weeklyDict s e d =>
    intro _ hn
    exact mkWeeklyDict_eq s e d (by simpa [CExpr.dictKeysNodup] using hn)
  | direct items => intro _ _; exact mkDirect_eq items
  | fixed u s e => intro _ _; exact mkFixed_eq u s e
  | num u => intro hs; simp [CExpr.wellShaped] at hs
  | op k a b iha ihb =>
    intro hs hn
    simp only [CExpr.dictKeysNodup, Bool.and_eq_true] at hn
    by_cases hnum : ∃ u, b = .num u
    · obtain ⟨u, rfl⟩ := hnum
      simp only [CExpr.wellShaped, Bool.and_true] at hs
      rw [build_op_num, iha hs hn.1, mkFixed_eq]
      clear iha ihb
      cases hinv : a.invalid with
      | true => simp [CExpr.invalid, hinv, bind, Except.bind]
      | false =>
        by_cases h0 : u = 0 <;> by_cases hk : k = .div <;> by_cases hu : u < 0 <;>
          simp_all [CExpr.invalid, CExpr.cal, startAfterEnd, bind, Except.bind, throw, throwThe, MonadExceptOf.throw, pure,
            Except.pure]
    · have hnum' : ∀ u, b ≠ .num u := fun u h => hnum ⟨u, h⟩
      have hs' : a.wellShaped = true ∧ b.wellShaped = true := by
        cases b <;> first | (exact absurd rfl (hnum' _)) | simpa [CExpr.wellShaped] using hs
      have hinvEq : (CExpr.op k a b).invalid = (a.invalid || b.invalid) := by
        cases b <;> first | (exact absurd rfl (hnum' _)) | simp [CExpr.invalid]
      rw [build_op_other k a b hnum', hinvEq, iha hs'.1 hn.1, ihb hs'.2 hn.2]
      cases a.invalid <;> cases b.invalid <;> simp [CExpr.cal, bind, Except.bind, pure, Except.pure]

/-- the statement of `C17_ctor_rejects` -/
theorem ctor_rejects_of_nodup (e : CExpr) (hs : e.wellShaped = true) (hn : e.dictKeysNodup = true) :
    (e.invalid = true → e.build = .error .runtime) ∧ (e.invalid = false → ∃ c, e.build = .ok c) := by
  rw [build_eq e hs hn]
  cases e.invalid <;> simp

end Pj

/-
  Lemmas/TaskSrcCheckE.lean — the translated tie for task.py on concrete graphs: a few more runs on a graph
  with several objects sharing an id, chosen so that the semantic mutations of the negative check (end of
  Lemmas/TaskSrcD.lean) that compare ids where the source compares identities change the outcome.
-/
import PjVerif.Lemmas.TaskSrcCheckB
import PjVerif.Lemmas.TaskSrcCheckC
import PjVerif.Lemmas.TaskSrcCheckD
namespace Pj.TaskSrc
open Pj.PyLite Pj.Extracted
namespace Check

/-- detached objects: 0 ← 1, 0 ← 2 (1 and 2 share the id 7); 3 → 4, 3 → 5 (4 and 5 share the id 7);
    two trees 6 > 7 and 8 > 9 whose roots share the id 5 and whose leaves share the id 8;
    a tree 10 > (11, 12) whose two leaves share the id 3; 13 isolated -/
def g5 : G := mk [
  { tid := 1, preds := [1, 2] },
  { tid := 7, succs := [0] },
  { tid := 7, succs := [0] },
  { tid := 9, succs := [4, 5] },
  { tid := 7, preds := [3] },
  { tid := 7, preds := [3] },
  { tid := 5, children := [7] },
  { tid := 8, parent := some 6 },
  { tid := 5, children := [9] },
  { tid := 8, parent := some 8 },
  { tid := 2, children := [11, 12] },
  { tid := 3, parent := some 10 },
  { tid := 3, parent := some 10 },
  { tid := 4 }]

example : helpersAgree g5 = true := helpersAgree_of g5 (by decide) (by decide +kernel)
/-- `_unique_objects` removes repeated OBJECTS, not repeated ids: 2 is found among the predecessors of 0 -/
example : (setPreds g5 2 [0]).2 = some .runtime ∧ agreePreds g5 2 [0] :=
  ⟨by decide +kernel, preds_run g5 (by decide) 2 (valueOf_refs _) (by decide +kernel)⟩
/-- the mirror update removes the task itself (`is not self`), not the other successor with the same id -/
example : (setPreds g5 4 []).1.succs 3 = [5] ∧ agreePreds g5 4 [] :=
  ⟨by decide +kernel, preds_run g5 (by decide) 4 (valueOf_refs _) (by decide +kernel)⟩
/-- `id(self.parent) != id(parent)`: the new parent 8 is another object than the old parent 6 although the ids are
    equal, so the id check runs and finds the clash of 7 with 9 -/
example : (setParent g5 7 (some 8)).2 = some .runtime ∧ agreeParent g5 7 (some 8) :=
  ⟨by decide +kernel, parent_run g5 (by decide) 7 8 (by decide +kernel)⟩
/-- two objects with one id inside the incoming subtree -/
example : (setParent g5 10 (some 13)).2 = some .runtime ∧ agreeParent g5 10 (some 13) :=
  ⟨by decide +kernel, parent_run g5 (by decide) 10 13 (by decide +kernel)⟩
/-- an indirect dependency cycle -/
example : (setPreds g2 4 [6]).2 = some .runtime ∧ agreePreds g2 4 [6] :=
  ⟨by decide +kernel, preds_run g2 (by decide) 4 (valueOf_refs _) (by decide +kernel)⟩
example : allU g5 (fun t => decide (agreeParent g5 t none) && decide (agreeChildren g5 t [13]) &&
    decide (agreeSuccs g5 t [13])) = true := by
  -- no such call on `g5` ends in RecursionError, no children list names a task twice (evaluated on the model)
  have hrec : allU g5 (fun t => (onceAt g5 t && noRec (setParent g5 t none)) && noRec (setChildren g5 t [13]) &&
      noRec (setSuccs g5 t [13])) = true := by decide +kernel
  exact allU_imp (fun t => and_imp (and_imp (dec_imp (parent_none_run g5 (by decide) t))
    (dec_imp (children_run g5 (by decide) t (valueOf_refs _)))) (dec_imp (succs_run g5 (by decide) t (valueOf_refs _)))) hrec

end Check
end Pj.TaskSrc

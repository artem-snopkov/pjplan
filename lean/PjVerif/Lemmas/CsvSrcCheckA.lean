/-
  Lemmas/CsvSrcCheckA.lean — STAGE 1, kernel-checked: the cell formatters / parsers of csv_io.py, translated, on concrete
  cells with the library `sampleLib`, against literal values; `__parse_header` against the model's `headerIndex`.
-/
import PjVerif.Lemmas.CsvSrcCheck
namespace Pj.CsvSrc.Check
open Pj.PyLite Pj.Extracted.Csv Pj.Csv Pj.CsvSrc


def cellS (k : Nat) (s : String) : Res Val := interpCell sampleLib FF k (litA s)

/-- `__parse_str`: '' ↦ None (`nonEmpty`) -/
example : cellS fn_parse_str "" = .ok (.atom (optStr (nonEmpty "".toList))) := by decide +kernel
example : cellS fn_parse_str "a b" = .ok (.atom (optStr (nonEmpty "a b".toList))) := by decide +kernel
/-- `__parse_date` -/
example : cellS fn_parse_date "" = .ok (.atom .none) := by decide +kernel
example : cellS fn_parse_date "15.01.24" = .ok (.atom (.time (day 2024 1 15))) := by decide +kernel
example : cellS fn_parse_date "31.12.68" = .ok (.atom (.time (day 2068 12 31))) := by decide +kernel
example : cellS fn_parse_date "01.01.69" = .ok (.atom (.time (day 1969 1 1))) := by decide +kernel
example : cellS fn_parse_date "2024-01-15" = .error (.crash .value) := by decide +kernel
/-- `__parse_float`, `__parse_int` -/
example : cellS fn_parse_float "" = .ok (.atom .none) := by decide +kernel
example : cellS fn_parse_float "2.5" = .ok (.atom (.num (5/2))) := by decide +kernel
example : cellS fn_parse_float "-0.125" = .ok (.atom (.num (-1/8))) := by decide +kernel
example : cellS fn_parse_float "x" = .error (.crash .value) := by decide +kernel
example : cellS fn_parse_int "" = .ok (.atom .none) := by decide +kernel
example : cellS fn_parse_int "-3" = .ok (.atom (.num (-3))) := by decide +kernel
example : cellS fn_parse_int "0" = .ok (.atom (.num 0)) := by decide +kernel
/-- `__parse_bool`: the model's `ms == "True"` -/
example : cellS fn_parse_bool "True" = .ok (.atom (.bool ("True".toList == "True".toList))) := by decide +kernel
example : cellS fn_parse_bool "False" = .ok (.atom (.bool false)) := by decide +kernel
example : cellS fn_parse_bool "" = .ok (.atom (.bool false)) := by decide +kernel
example : cellS fn_parse_bool "true" = .ok (.atom (.bool false)) := by decide +kernel
/-- `__parse_predecessors`: the cell split on ';', every id through `int` -/
example : cellS fn_parse_predecessors "" = .ok (.list []) := by decide +kernel
example : cellS fn_parse_predecessors "-3;5;0" = .ok (.list [.num (-3), .num 5, .num 0]) := by decide +kernel
example : cellS fn_parse_predecessors "1;;2" = .error (.crash .value) := by decide +kernel
/-- `__format_custom`: a datetime is formatted, anything else (falsy values too) is passed on -/
example : interpCell sampleLib FF fn_format_custom (.time (day 2024 3 9)) = .ok (.atom (litA "09.03.24")) := by decide +kernel
example : interpCell sampleLib FF fn_format_custom (.num 0) = .ok (.atom (.num 0)) := by decide +kernel
example : interpCell sampleLib FF fn_format_custom (.bool false) = .ok (.atom (.bool false)) := by decide +kernel
example : interpCell sampleLib FF fn_format_custom .none = .ok (.atom .none) := by decide +kernel
example : interpCell sampleLib FF fn_format_custom (litA "") = .ok (.atom (litA "")) := by decide +kernel

/-- `__parse_header` on a row (a list object): name ↦ index, BOM removed, a repeated name keeps the last = `headerIndex` -/
def headerRun (hdr : List String) : Res Val :=
  (runIO sampleLib csvFuns FF fn_parse_header [.atom (.box 0)]
    { emptySt with boxes := [hdr.map litA] }).map (·.1)

def headerModel (hdr : List String) : Val :=
  let h := hdr.map String.toList
  let clean := (h.map (fun x => x.filter (fun c => c != '﻿'))).eraseDups
  .dict (clean.filterMap (fun n => (headerIndex h n).map (fun i => (strA n, Atom.num ((i : Nat) : Rat)))))

example : headerRun ["﻿id", "name", "x", "name"] = .ok (headerModel ["﻿id", "name", "x", "name"]) := by
  decide +kernel
example : headerRun [] = .ok (headerModel []) := by decide +kernel

/-- round trip of the sample library on the dates / numbers used -/
example : sampleStrptime (sampleStrftime (day 1999 12 31)) = .ok (day 1999 12 31) := by decide +kernel
example : sampleFloat (sampleStrNum (5/2)) = .ok (5/2) := by decide +kernel

end Pj.CsvSrc.Check

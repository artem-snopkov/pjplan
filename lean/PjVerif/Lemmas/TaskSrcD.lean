/-
  Lemmas/TaskSrcD.lean — stage D of the translated tie for task.py: the `children` setter (general theorem).
  See Lemmas/TaskSrc.lean for the setting and the list of results.
-/
import PjVerif.Lemmas.TaskSrcC
namespace Pj.TaskSrc
open Pj.PyLite Pj.Extracted
set_option linter.unusedSimpArgs false
set_option linter.unusedVariables false

variable (P : TaskProg)


def csS3 : Stmt := match src_Task_children_set with | _ :: _ :: s :: _ => s | _ => .pass
def csLA : Stmt := match src_Task_children_set with | _ :: _ :: _ :: l :: _ => l | _ => .pass
def csLB : Stmt := match src_Task_children_set with | _ :: _ :: _ :: _ :: l :: _ => l | _ => .pass
def csLC : Stmt := match src_Task_children_set with | _ :: _ :: _ :: _ :: _ :: _ :: l :: _ => l | _ => .pass
def csBA : List Stmt := match csLA with | .forIn _ _ b => b | _ => []
def csBB : List Stmt := match csLB with | .forIn _ _ b => b | _ => []
def csBC : List Stmt := match csLC with | .forIn _ _ b => b | _ => []

theorem cs_set_shape : src_Task_children_set =
    [.assign "value" (.callFn fn_to_list (.listCons (.var "value") .listNil)),
     .expr (.callFn fn_check_no_nones_in_list (.listCons (.var "value") .listNil)),
     csS3, csLA, csLB, .attrClear (.var "self") "children", csLC] := rfl
theorem csLA_eq : csLA = .forIn "ch" (.var "value") csBA := rfl
theorem csLB_eq : csLB = .forIn "v" (.attr (.var "self") "children") csBB := rfl
theorem csLC_eq : csLC = .forIn "v" (.var "value") csBC := rfl

/-- the local environment of the `children` setter after its first two statements -/
structure ChEnv (ρ : PyLite.Env) (h : Uid) (l : List Uid) : Prop where
  self : ρ.get? "self" = some (.atom (.ref h))
  value : ρ.get? "value" = some (refs l)

theorem ChEnv.set {ρ : PyLite.Env} {h : Uid} {l : List Uid} (hρ : ChEnv ρ h l) (x : String) (v : Val)
    (h1 : x ≠ "self") (h2 : x ≠ "value") : ChEnv (Env.set ρ x v) h l :=
  ⟨by rw [Env.get?_set, if_neg h1]; exact hρ.self, by rw [Env.get?_set, if_neg h2]; exact hρ.value⟩

theorem csBC_eq : csBC =
    [.expr (.callFn fn_Task_parent_set (.listCons (.var "v") (.listCons (.var "self") .listNil)))] := rfl

/-- `for v in value: v.parent = self` = `foldSetParent` -/
theorem cs_lc (s0 : G) (st : PState) (h : Uid) (l : List Uid) (F : Nat) (hF : s0.fuel + 3 ≤ F)
    (ρ : PyLite.Env) (hρ : ChEnv ρ h l) :
    Does (fun ρ => ChEnv ρ h l) st (foldSetParent s0 l h) (csLC.execP (P.H F) [] noRec ρ (withG st s0)) := by
  rw [foldSetParent_eq_forEach, csLC_eq]
  refine Does.forIn (fun s v => setParent s v (some h)) (fun s => s.n = s0.n) (evalP_var _ _ _ _ _ _ hρ.value) hρ rfl ?_
  intro s' c ρ _ hP hn
  have hP' := hP.set "v" (.atom (.ref c)) (by decide) (by decide)
  refine ⟨?_, fun _ => (setParent_n s' c (some h)).trans hn⟩
  rw [csBC_eq, execBlockP_one]
  refine Does.expr (v := .atom .none) hP' fun hne => ?_
  rw [evalP_callFn2 (ha := evalP_var _ _ _ _ _ _ (by rw [Env.get?_set, if_pos rfl]))
    (hb := evalP_var _ _ _ _ _ _ hP'.self),
    parent_set_some P s' (withG st s') rfl c h F (by unfold G.fuel at hF ⊢; omega) hne, setterResult_withG]
  rfl


def chLoop (s : G) (h : Uid) (anc : List Uid) (ch : Uid) : Option Err :=
  match descF s.children s.fuel ch with
  | none => some (.crash .recursion)
  | some desc =>
    if ch = h ∨ desc.contains h then some .runtime
    else if linkedWithAny s (ch :: desc) (h :: anc) then some .runtime
    else none

theorem chkChildren_eq (s : G) (h : Uid) (l : List Uid) :
    chkChildren s h l =
      match Pj.chkC1 s h l with
      | some e => some e
      | none =>
        match hasIdIntersection s h l with
        | none => some (.crash .recursion)
        | some true => some .runtime
        | some false =>
          match ancF s s.fuel (s.parent h) with
          | none => some (.crash .recursion)
          | some anc => l.findSome? (chLoop s h anc) := rfl

/-- the validations of the `children` setter: the third statement / the first loop -/
def chA (s : G) (h : Uid) (l : List Uid) : Option Err :=
  match Pj.chkC1 s h l with
  | some e => some e
  | none =>
    match hasIdIntersection s h l with
    | none => some (.crash .recursion)
    | some true => some .runtime
    | some false => none
def chB (s : G) (h : Uid) (l : List Uid) : Option Err :=
  match ancF s s.fuel (s.parent h) with
  | none => some (.crash .recursion)
  | some anc => l.findSome? (chLoop s h anc)

theorem setChildren_seq (s : G) (h : Uid) (l : List Uid) :
    setChildren s h l =
      andThen (chk s (chA s h l)) fun _ => andThen (chk s (chB s h l)) fun _ =>
        andThen (releaseChildren s h l) fun s1 => foldSetParent s1 l h := by
  unfold setChildren andThen chk chA chB
  rw [chkChildren_eq]
  cases Pj.chkC1 s h l with
  | some e => rfl
  | none =>
    cases hasIdIntersection s h l with
    | none => rfl
    | some b =>
      cases b with
      | true => rfl
      | false =>
        cases ancF s s.fuel (s.parent h) with
        | none => rfl
        | some anc =>
          dsimp only
          cases l.findSome? (chLoop s h anc) <;> rcases releaseChildren s h l with ⟨s1, _ | e⟩ <;> rfl

/-- `len([v for v in value if <cond>]) > 0`, as symbolic execution leaves it, for a test `p` of the tasks -/
theorem len_filter_pos (p : Uid → Bool) (l : List Uid) :
    decide ((0 : Rat) < ((l.filter p).length : Nat)) = l.any p := by
  rw [Bool.eq_iff_iff]
  simp only [decide_eq_true_eq, Rat.natCast_pos, List.length_pos_iff_exists_mem, List.mem_filter, List.any_eq_true]

/-- the third statement of the `children` setter: the WBS check and the id check -/
theorem cs_s3 (s : G) (st0 : PState) (h : Uid) (l : List Uid) (F : Nat) (hF : s.fuel + 2 ≤ F)
    (hne : chA s h l ≠ some (.crash .recursion)) (ρ : PyLite.Env) (hρ : ChEnv ρ h l) :
    csS3.execP (P.H F) [] noRec ρ (withG st0 s) =
      match chA s h l with
      | none => .normal ρ (withG st0 s)
      | some e => .raise e := by
  generalize hst : withG st0 s = st
  have hh : st.heap = encHeap s := by rw [← hst]; rfl
  have hse := fun c : Uid => (hρ.set "v" (.atom (.ref c)) (by decide) (by decide)).self
  -- `[v for v in value if <cond>]` for a test `p` of the tasks; `_has_id_intersection(self, value)`
  have hcomp := fun (cond : Expr) (p : Uid → Bool) hc =>
    evalP_filter_refs (P.H F) [] ρ st st cond (.var "value") "v" l p (evalP_var _ _ _ _ _ _ hρ.value) hc
  have hhas := fun b (hb : hasIdIntersection s h l = some b) => has_id_intersection_spec P s st hh h l b hb F hF
  have hval := hρ.value
  simp only [refs] at hcomp hhas hval
  unfold chA Pj.chkC1 at hne ⊢
  unfold csS3
  simp only [src_Task_children_set]
  cases how : s.owner h with
  | none =>
    have e1 := hcomp (.isNotNone (.attr (.var "v") "wbs")) (fun v => (s.owner v).isSome)
      (by intro c _; cases hoc : s.owner c <;> simp [pylite_step, hh, hoc])
    simp only [how] at hne ⊢
    cases hany : l.any (fun v => (s.owner v).isSome)
    · simp only [hany, Bool.false_eq_true, if_false] at hne ⊢
      cases hid : hasIdIntersection s h l with
      | none => simp [hid] at hne
      | some b =>
        have := hhas b hid
        cases b <;> simp [pylite_step, hρ.self, hval, hh, how, ↓e1, len_filter_pos, hany, this]
    · simp [pylite_step, hρ.self, hh, how, ↓e1, len_filter_pos, hany]
  | some w =>
    have e1 := hcomp (.and (.isNotNone (.attr (.var "v") "wbs")) (.cmp .ne (.attr (.var "v") "wbs") (.attr (.var "self") "wbs")))
      (fun v => (s.owner v).isSome && s.owner v != some w)
      (by
        intro c _
        cases hoc : s.owner c with
        | none => simp [pylite_step, hh, hoc, hse, how]
        | some w' =>
          by_cases hw : w' = w
          · subst hw; simp [pylite_step, hh, hoc, hse, how, pyEq_ref]
          · simp [pylite_step, hh, hoc, hse, how, pyEq_ref, hw])
    simp only [how] at hne ⊢
    cases hany : l.any (fun v => (s.owner v).isSome && s.owner v != some w)
    · simp only [hany, Bool.false_eq_true, if_false] at hne ⊢
      cases hid : hasIdIntersection s h l with
      | none => simp [hid] at hne
      | some b =>
        have := hhas b hid
        cases b <;> simp [pylite_step, hρ.self, hval, hh, how, ↓e1, len_filter_pos, hany, this]
    · simp [pylite_step, hρ.self, hh, how, ↓e1, len_filter_pos, hany]

/-- the validations of one new child are those of the `parent` setter -/
theorem chLoop_eq (s : G) (h : Uid) (anc : List Uid) (ha : ancF s s.fuel (s.parent h) = some anc) (c : Uid) :
    chLoop s h anc c = chkC2 s c h := by
  unfold chLoop chkC2
  cases descF s.children s.fuel c with
  | none => rfl
  | some desc => simp only [ha, @eq_comm _ c h]

/-- `for ch in value:` the two validations of every new child -/
theorem cs_la (s : G) (st : PState) (h : Uid) (l : List Uid) (F : Nat) (hF : s.fuel + 3 ≤ F)
    (ρ : PyLite.Env) (hρ : ChEnv ρ h l) :
    Does (ChEnv · h l) st (chk s (chB s h l)) (csLA.execP (P.H F) [] noRec ρ (withG st s)) := by
  unfold chB
  cases ha : ancF s s.fuel (s.parent h) with
  | none => exact fun hne => absurd rfl hne
  | some anc =>
    show Does _ st (chk s (l.findSome? (chLoop s h anc))) _
    rw [csLA_eq]
    refine Does.forIn_check _ (evalP_var _ _ _ _ _ _ hρ.value) hρ fun ρ c _ hP => ?_
    have hP' := hP.set "ch" (.atom (.ref c)) (by decide) (by decide)
    have hcv : (Env.set ρ "ch" (.atom (.ref c))).get? "ch" = some (.atom (.ref c)) := by rw [Env.get?_set, if_pos rfl]
    rw [chLoop_eq s h anc ha]
    exact Does.check hP' fun hne => pair_checks P s (withG st s) rfl c h F (by omega) hne "ch" "self"
      (.isSame (.var "ch") (.var "self")) _ hcv hP'.self (by simp [pylite_step, hcv, hP'.self, pyEq_ref, @eq_comm _ c h])

theorem G.ext' {a b : G} (h1 : a.n = b.n) (h2 : a.tid = b.tid) (h3 : a.parent = b.parent)
    (h4 : a.children = b.children) (h5 : a.preds = b.preds) (h6 : a.succs = b.succs) (h7 : a.owner = b.owner) :
    a = b := by
  cases a; cases b; simp_all

/-- one iteration of `for v in self.__children: v.__parent = None; if v not in value: v._detach()` -/
def relStep (next : Uid → List Uid) (f : Nat) (l : List Uid) (s' : G) (v : Uid) : G :=
  if l.contains v then { s' with parent := upd s'.parent v none }
  else setOwners { s' with parent := upd s'.parent v none } (v :: dsc next f v) none

theorem foldl_relStep (next : Uid → List Uid) (f : Nat) (l old : List Uid) (s0 : G) :
    old.foldl (relStep next f l) s0 =
      setOwners { s0 with parent := fun x => if old.contains x then none else s0.parent x }
        (((old.filter (fun v => !l.contains v)).map (fun v => v :: dsc next f v)).flatten) none := by
  induction old generalizing s0 with
  | nil => unfold setOwners; simp
  | cons a old ih =>
    simp only [List.foldl_cons, ih]
    unfold relStep
    cases hc : l.contains a with
    | true =>
      simp only [if_true, List.filter_cons, hc, Bool.not_true, Bool.false_eq_true, if_false]
      unfold setOwners
      apply G.ext' <;> try rfl
      funext x
      simp only [List.contains_cons]
      by_cases hx : x = a
      · subst hx; simp [upd]
      · have hb : (x == a) = false := by simpa using hx
        simp [upd, hx, hb]
    | false =>
      simp only [Bool.false_eq_true, if_false, List.filter_cons, hc, Bool.not_false, if_true, List.map_cons,
        List.flatten_cons]
      unfold setOwners
      apply G.ext' <;> try rfl
      · funext x
        simp only [List.contains_cons]
        by_cases hx : x = a
        · subst hx; simp [upd]
        · have hb : (x == a) = false := by simpa using hx
          simp [upd, hx, hb]
      · funext x
        simp only [List.contains_append]
        cases h1 : (a :: dsc next f a).contains x <;>
          cases h2 : ((List.map (fun v => v :: dsc next f v) (List.filter (fun v => !l.contains v) old)).flatten).contains x <;>
          simp [h1, h2]

theorem releaseChildren_eq (s : G) (h : Uid) (l : List Uid)
    (hsub : ∀ c ∈ (s.children h).filter (fun v => !l.contains v),
      descF s.children s.fuel c = some (dsc s.children s.fuel c)) :
    releaseChildren s h l =
      (let s2 := (s.children h).foldl (relStep s.children s.fuel l) s
       ({ s2 with children := upd s2.children h [] }, none)) := by
  unfold releaseChildren
  have hm : ((s.children h).filter (fun v => !l.contains v)).mapM (subtreeF s.children s.fuel) =
      some (((s.children h).filter (fun v => !l.contains v)).map (fun v => v :: dsc s.children s.fuel v)) := by
    apply mapM_eq_some_map
    intro c hc
    simp only [subtreeF, hsub c hc, Option.map_some]
  simp only [hm, foldl_relStep]

theorem releaseChildren_sub (s : G) (h : Uid) (l : List Uid) (hne : (releaseChildren s h l).2 ≠ some (.crash .recursion)) :
    ∀ c ∈ (s.children h).filter (fun v => !l.contains v),
      descF s.children s.fuel c = some (dsc s.children s.fuel c) := by
  intro c hc
  unfold releaseChildren at hne
  cases hm : ((s.children h).filter (fun v => !l.contains v)).mapM (subtreeF s.children s.fuel) with
  | none =>
    simp only [hm] at hne
    exact absurd rfl hne
  | some subs =>
    obtain ⟨b, _, hb⟩ := mapM_some_mem _ _ _ hm c hc
    simp only [subtreeF, Option.map_eq_some_iff] at hb
    obtain ⟨d, hd, _⟩ := hb
    simp [dsc, hd]

def csBBdef : List Stmt := csBB

theorem cs_lb (s : G) (st : PState) (hh : st.heap = encHeap s) (h : Uid) (l : List Uid) (F : Nat)
    (hF : s.fuel + 1 ≤ F)
    (hsub : ∀ c ∈ (s.children h).filter (fun v => !l.contains v),
      descF s.children s.fuel c = some (dsc s.children s.fuel c))
    (ρ : PyLite.Env) (hρ : ChEnv ρ h l) :
    ∃ ρ', ChEnv ρ' h l ∧ csLB.execP (P.H F) [] noRec ρ st =
      .normal ρ' (withG st ((s.children h).foldl (relStep s.children s.fuel l) s)) := by
  obtain ⟨F, rfl, hF⟩ := fuel_split 1 hF
  rw [csLB_eq, execP_forIn (vs := (s.children h).map Atom.ref) (st' := st) (hit := by simp [pylite_step, hρ.self, hh, refs])]
  obtain ⟨ρ', st', hl, rfl, -, hP'⟩ := forLoopP_foldl "v" (fun ρ st => execBlockP (P.H (F + 1)) [] noRec csBB ρ st) Atom.ref
    (fun (s' : G) ρ st' => st' = withG st s' ∧ s'.children = s.children ∧ ChEnv ρ h l)
    (relStep s.children s.fuel l) (s.children h)
    (by
      intro s' c ρ st' hc hR
      obtain ⟨rfl, hc', hP⟩ := hR
      have hP' := hP.set "v" (.atom (.ref c)) (by decide) (by decide)
      have hcv : (Env.set ρ "v" (.atom (.ref c))).get? "v" = some (.atom (.ref c)) := by rw [Env.get?_set, if_pos rfl]
      have hset := heapSet_parent s' c none
      simp only [optRef_none] at hset
      generalize hs2 : ({ s' with parent := upd s'.parent c none } : G) = s2 at hset
      have hc2 : s2.children = s.children := by rw [← hs2]; exact hc'
      have hany := any_ref_pyEq l c
      have hval := hP'.value
      simp only [refs] at hval
      generalize l.map Atom.ref = L at hany hval
      simp only [relStep, hs2]
      cases hlc : l.contains c with
      | true =>
        rw [hlc] at hany
        simp only [if_true]
        refine ⟨Env.set ρ "v" (.atom (.ref c)), withG st s2, ?_, rfl, hc2, hP'⟩
        simp [pylite_step, csBB, csLB, src_Task_children_set, hcv, hval, hany, hset, mk_withG]
      | false =>
        rw [hlc] at hany
        simp only [Bool.false_eq_true, if_false]
        have hmem : c ∈ (s.children h).filter (fun v => !l.contains v) := by
          simp only [List.mem_filter, hlc, Bool.not_false, and_true]; exact hc
        have hdet := detach_spec P s.fuel s2 (withG st s2) rfl c _ (by rw [hc2]; exact hsub c hmem) (F + 1) (by omega)
        refine ⟨Env.set ρ "v" (.atom (.ref c)), withG st (setOwners s2 (c :: dsc s.children s.fuel c) none),
          ?_, rfl, by rw [setOwners_children]; exact hc2, hP'⟩
        simp [pylite_step, csBB, csLB, src_Task_children_set, hcv, hval, hany, hset, mk_withG, hdet, withG_withG])
    s ρ st ⟨(withG_self st s hh).symm, rfl, hρ⟩
  exact ⟨ρ', hP', hl⟩

/-- `for v in self.__children: …` and `self.__children.clear()` = `releaseChildren` -/
theorem cs_rel (s : G) (st : PState) (h : Uid) (l : List Uid) (F : Nat) (hF : s.fuel + 1 ≤ F)
    (ρ : PyLite.Env) (hρ : ChEnv ρ h l) :
    Does (ChEnv · h l) st (releaseChildren s h l)
      (execBlockP (P.H F) [] noRec [csLB, .attrClear (.var "self") "children"] ρ (withG st s)) := by
  refine Does.of_ne_recursion fun hne => ?_
  have hsub := releaseChildren_sub s h l hne
  obtain ⟨ρ4, hρ4, hlb⟩ := cs_lb P s (withG st s) rfl h l F hF hsub ρ hρ
  rw [releaseChildren_eq s h l hsub]
  refine Sim.ok ?_ ⟨hρ4, rfl⟩
  rw [execBlockP_cons, hlb]
  dsimp only
  generalize (s.children h).foldl (relStep s.children s.fuel l) s = s2
  have hset := heapSet_children s2 h []
  simp only [refs, List.map_nil] at hset
  simp [pylite_step, hρ4.self, refs, hset, mk_withG]

/-- STAGE D.  `h.children = l` = `setChildren`, for EVERY state `s` -/
theorem children_set_spec (s : G) (st : PState) (hh : st.heap = encHeap s) (h : Uid) (l : List Uid) (F : Nat)
    (v : Val) (hv : ValueOf v l) (hF : s.fuel + 5 ≤ F) (hrec : (setChildren s h l).2 ≠ some (.crash .recursion)) :
    (P.H F).fnV fn_Task_children_set [.atom (.ref h), v] st = setterResult st (setChildren s h l) := by
  obtain ⟨st, rfl⟩ := exists_withG hh
  obtain ⟨F, rfl, hF⟩ := fuel_split 2 hF
  rw [P.call _ fn_Task_children_set _ _ rfl]
  rw [setterResult_withG]
  refine Does.callPV (Q := fun _ => True) rfl ?_ hrec
  rw [cs_set_shape, execBlockP_cons, execP_assign (he := by
    rw [evalP_callFn1 (ha := evalP_var _ _ _ _ _ _ rfl)]; exact hv.run P _ F)]
  dsimp only
  rw [execBlockP_cons, execP_expr (he := by
    rw [evalP_callFn1 (ha := evalP_var _ _ _ _ _ _ (by rw [Env.get?_set, if_pos rfl]))]
    exact check_no_nones_spec P _ F l)]
  dsimp only
  have hρ2 : ChEnv (Env.set [("self", Val.atom (Atom.ref h)), ("value", v)] "value" (refs l)) h l :=
    ⟨by simp [Env.get?_set, Env.get?_cons], by simp [Env.get?_set, Env.get?_cons]⟩
  generalize Env.set [("self", Val.atom (Atom.ref h)), ("value", v)] "value" (refs l) = ρ2 at hρ2
  rw [setChildren_seq]
  refine Does.chkCons (fun hne => cs_s3 P s st h l (F + 1) (by omega) hne ρ2 hρ2) fun _ => ?_
  refine Does.cons (cs_la P s st h l (F + 1) (by omega) ρ2 hρ2) fun ρ3 _ hρ3 => ?_
  refine Does.append (p := [csLB, .attrClear (.var "self") "children"]) (cs_rel P s st h l (F + 1) (by omega) ρ3 hρ3)
    fun ρ4 _ hρ4 => ?_
  rw [execBlockP_one]
  exact (cs_lc P _ st h l (F + 1) (by unfold G.fuel at hF ⊢; rw [(releaseChildren_static s h l).1]; omega) ρ4 hρ4).mono
    fun _ _ => trivial

/-- STAGE D.  As `interpSetParent_eq`, for the translated `children` setter and every admissible `v` (it also raises the model's error when one of the
    assignments `v.parent = h` of the last loop is rejected); no well-formedness is needed -/
theorem interpSetChildren_eq (s : G) (st : PState) (hh : st.heap = encHeap s) (h : Uid) (v : Val) (l : List Uid)
    (hv : ValueOf v l) (F : Nat) (hF : s.n + 6 ≤ F) (hrec : (setChildren s h l).2 ≠ some (.crash .recursion)) :
    interpSetChildren F h v st = setterResult st (setChildren s h l) :=
  children_set_spec progHd s st hh h l F v hv (by unfold G.fuel; omega) hrec

section axioms
#print axioms interpSetParent_eq
#print axioms interpSetParent_eq_wf
#print axioms interpSetPreds_eq
#print axioms interpSetSuccs_eq
#print axioms interpSetChildren_eq
#print axioms has_id_intersection_spec
#print axioms linked_with_any_spec
end axioms

/-
  NEGATIVE SANITY CHECK (not compiled: one textual edit of a
  scratch copy of the snapshot task.py, the translator run on the mutated text; unless it answers Miss its output is
  written to Extracted/TaskSrc.lean of a scratch copy of the Lean project and Lemmas/TaskSrcA … TaskSrcD plus a reduced
  set of the examples - the ones listed one by one in TaskSrcCheck*.lean, `helpersAgree`, `parentAgree g2
  / g3`, `linksAgree g3`, `childrenAgree g3`, the graphs `g4` (TaskSrcCheckB), `g5` (TaskSrcCheckE) - are built).
  First failing lemma(s) per file; `Check:` = failing examples.  The text of the
  two link setters is first compared with `lkBody` (`pd_body` / `sd_body`, TaskSrcC); the lemma in brackets is the one
  that breaks when `lkBody` is changed to follow the mutation.
  Every semantic mutation is a Miss of the translator or breaks a lemma (and, where the outcome of a run on the example
  graphs changes, an example):

    `id(self.parent) != id(parent)` -> `self.parent.id != parent.id`     MISS (receiver)
       the same through a local `cur = self.parent; … cur.id != parent.id`   ps_s1 FAILS; Check: g5 `7.parent = 8`
    `_find_root` through the public `parent` (stops below the hidden root)   find_root_spec FAILS; Check: helpersAgree g1 g2, `3.children = [5]`
    `_unique_objects` de-duplicates by `t.id`                            unique_objects_spec FAILS; Check: helpersAgree g5, `2.predecessors = [0]`
    descendant check on `self.children` instead of `self.all_children`   ps_s2 FAILS; Check: parentAgree g2 g3, g4
    `_linked_with_any([self], …)` instead of the whole subtree           ps_s2 FAILS; Check: parentAgree g2
    `[parent] + parent.__get_all_parents()` without `[parent]`           ps_s2 FAILS; Check: parentAgree g2, `2.parent = 3`
    the unlink loop of the `predecessors` setter moved before the validations   pd_shape, pd_body FAIL (links_set_spec)
       (no example can fail: a rejected call has no state in PyLite - limitation (1) of Lemmas/TaskSrc.lean)
    `_detach` two levels only (`ch.__wbs = None` instead of `ch._detach()`)   detach_spec FAILS; Check: `_detach` on g3
    `is not self` -> `.id != self.id` in the mirror update               pd_body FAILS (lk_l3); Check: g5 `4.predecessors = []`
    `if parent and self not in parent.__children` -> `if parent` (always append)   ps_s4_some FAILS; Check: g4
    `self.__parent.__children.remove(self)` without the membership guard  ps_s3 FAILS; Check: parentAgree g2, `2.parent = None`, g4
    `self.__wbs._root().children.append(self)` -> `self.__parent = self.__wbs._root()`   ps_s4_none_member FAILS; Check: parentAgree g2, …
    `self.__parent = parent` after `self._attach(…)`                     ps_s4_some FAILS (same final state: the proof fixes the order)
    `parent.__wbs != self.__wbs` check dropped                            ps_s1 FAILS; Check: `9.parent = 1`
    `len(… .intersection(…)) > 0` -> `>= 0`                               hiTail_ok FAILS; Check: `10.parent = 3`, `1.children = [2, 10, 11]`, …
    the duplicate-id test of `_has_id_intersection` dropped              hiTail_ok FAILS; Check: g5 `10.parent = 13`
    `_collect_subtree` without the task itself                           cs_shape FAILS; Check: helpersAgree, parentAgree g2, …
    `get_parent` without the `t.id != EMPTY_TASK_ID` test                 get_parent_spec FAILS; Check: helpersAgree g1 g2, `1.predecessors = [0]`
    the `parent` getter with `!= EMPTY_TASK_ID`                          parent_get_spec FAILS; Check: helpersAgree
    `_attach` without `if wbs is None: return`                           at_shape, attach_spec FAIL
    `v in parents or v in children` -> `v in parents`                    pd_body FAILS (lk_l1); Check: `1.predecessors = [2]`
    `self in v.all_predecessors` -> `self in v.predecessors`             pd_body FAILS (lk_l2); Check: g2 `4.predecessors = [6]`
    `if self not in v.__predecessors` dropped (successors setter)        sd_body FAILS (lk_l4); Check: linksAgree g3, `2.successors = [6, 6]`
    the mirror loop `v.__successors.append(self)` removed                pd_shape, pd_body FAIL (links_set_spec); Check: `10.predecessors = [11, 6]`, …
    children setter: `v.__wbs != self.__wbs` -> `==`                     cs_s3 FAILS; Check: `1.children = [3]`, …
    children setter: `if v not in value: v._detach()` -> always          cs_lb FAILS (on well-formed states the re-attachment restores the owner)
    children setter: `v.__parent = None` dropped                         cs_lb FAILS; Check: `1.children = [3]`, `1.children = None`
    children setter: `self.__children.clear()` removed                   cs_set_shape FAILS (cs_rel); Check: `1.children = [3]`, …
    `_to_list` returns its argument for a list (aliasing)                MISS (a parameter is returned)
    `self.__predecessors = value` (a shared list object)                 MISS
    `for v in self.__children: self.__children.remove(v) …`              MISS (for over an attribute its body may change)
    `parent.__wbs is not self.__wbs`                                     MISS (`is` on a WBS)
    `return list(get_children(self))`                                    MISS (generator consumed by something else)
    `Task.__eq__` defined                                                MISS
    `EMPTY_TASK_ID = -1`                                                 MISS

  Harmless rewrites that give the same term (everything still builds): comments, docstrings, the text of the error
  messages, `return None` for `return`, `not (self in l)` for `self not in l`, changed / removed type annotations
  (except `task: 'Task'` of `_find_root`, which licenses `return task`: Miss without it).  Harmless rewrites that break
  a proof (the proofs fix the shape of the term and the names of the locals): `if … if … if` for `if … elif … elif` in
  `_to_list` (to_list_list), `0 == len(new_tasks)` (hiTail_ok), the local `res` of `_collect_subtree` renamed
  (cs_shape), `self is parent` for `parent is self` (ps_s2).
-/

end Pj.TaskSrc

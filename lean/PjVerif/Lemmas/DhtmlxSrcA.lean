/-
  Lemmas/DhtmlxSrcA.lean — the translated tie for the DHTMLX renderer's data: the GENERAL theorem
  `interpOut_eq`: for every string library that is OK, every view, every description of the tasks whose `__dict__`s have
  distinct names and every fuel ≥ 2, the interpretation of the current source of `DhtmlxGantt.__data`, read back by
  `readOut`, is the model's `expData` / `expLinks`.  See Lemmas/DhtmlxSrc.lean for the setting.
-/
import PjVerif.Lemmas.DhtmlxSrc
import PjVerif.Lemmas.StrLibLemmas
namespace Pj.DhtmlxSrc
open Pj.PyLite Pj.Render Pj.Extracted.Dhtmlx
open Pj.PrintSrc (Lib lookupA refsA optRefA one oneTask oneStr pyEq_s any_dict)
open Pj.TaskSrc (callPV_eq execBlockP_cons execBlockP_nil execP_forIn forLoopP_foldl noRec Env.set_set)

variable (S : Lib) (V : View) (w : Nat → RTask)

theorem dfnV_succ (F k : Nat) (params : List String) (body : List Stmt) (h : dhtmlxFuns k = some (params, body))
    (args : List Val) (st : PState) :
    (Hd S V w (F + 1)).fnV k args st = callPV (Hd S V w F) params body args st :=
  Pj.TaskSrc.progH_fnV_succ _ _ F k params body h args st

theorem Hd_prim (F : Nat) : (Hd S V w F).prim = dhtmlxPrim S V w := Pj.TaskSrc.progH_prim _ _ F

section prims

variable (st : PState) (t : Nat)

/-- used by `simp`, which decides the hypothesis on a literal name and writes the text as a literal -/
theorem prim_lit (name : String) (h : "lit:".toList.isPrefixOf name.toList = true) :
    dhtmlxPrim S V w name [] st = .ok (.atom (k S (String.ofList (name.toList.drop 4)))) := by
  simp only [dhtmlxPrim, Pj.PrintSrc.litName name h, if_true, k, String.toList_ofList]; rfl

theorem prim_wbs (a : Atom) : dhtmlxPrim S V w "self.wbs" [a] st = .ok (.atom (.ref 0)) := by prim_of dhtmlxPrim
theorem prim_roots (a : Atom) : dhtmlxPrim S V w "roots" [a] st = .ok (refsA V.roots) := by prim_of dhtmlxPrim
theorem prim_tasks (a : Atom) : dhtmlxPrim S V w "tasks" [a] st = .ok (refsA V.tasks) := by prim_of dhtmlxPrim
theorem prim_now : dhtmlxPrim S V w "datetime.now" [] st = .ok (.atom (.time V.now)) := by prim_of dhtmlxPrim
theorem prim_name : dhtmlxPrim S V w "name" [.ref t] st = .ok (.atom (S.s (w t).name)) := by prim_of dhtmlxPrim
theorem prim_id : dhtmlxPrim S V w "id" [.ref t] st = .ok (.atom (.num ((w t).id : Rat))) := by
  prim_of dhtmlxPrim
theorem prim_milestone :
    dhtmlxPrim S V w "milestone" [.ref t] st = .ok (.atom (.bool (w t).milestone)) := by prim_of dhtmlxPrim
theorem prim_start : dhtmlxPrim S V w "start" [.ref t] st = .ok (.atom (.time (w t).start)) := by
  prim_of dhtmlxPrim
theorem prim_end : dhtmlxPrim S V w "end" [.ref t] st = .ok (.atom (.time (w t).end_)) := by prim_of dhtmlxPrim
theorem prim_resource :
    dhtmlxPrim S V w "resource" [.ref t] st = .ok (.atom (S.os (w t).resource)) := by prim_of dhtmlxPrim
theorem prim_estimate :
    dhtmlxPrim S V w "estimate" [.ref t] st = .ok (.atom (.num (w t).estimate)) := by prim_of dhtmlxPrim
theorem prim_spent :
    dhtmlxPrim S V w "spent" [.ref t] st = .ok (.atom (optNumA (w t).spent)) := by prim_of dhtmlxPrim
theorem prim_parent :
    dhtmlxPrim S V w "parent" [.ref t] st = .ok (.atom (optRefA (w t).parent)) := by prim_of dhtmlxPrim
theorem prim_preds :
    dhtmlxPrim S V w "predecessors" [.ref t] st = .ok (refsA (w t).preds) := by prim_of dhtmlxPrim
theorem prim_all_children :
    dhtmlxPrim S V w "all_children" [.ref t] st = .ok (refsA (postList (dAll V w) (V.n + 1) t)) := by prim_of dhtmlxPrim
theorem prim_dict :
    dhtmlxPrim S V w "__dict__" [.ref t] st = .ok (.list ((w t).dict.map (fun p => S.s p.1))) := by prim_of dhtmlxPrim
theorem prim_str (a : Atom) : dhtmlxPrim S V w "str" [a] st = .ok (.atom (S.s (S.text a))) := by prim_of dhtmlxPrim
theorem prim_strftime (t : Time) :
    dhtmlxPrim S V w "strftime:%d-%m-%Y %H:%M" [.time t] st = .ok (.atom (S.s (V.fmt t))) := by prim_of dhtmlxPrim

variable {S}

theorem prim_getattr (hS : S.OK) (x : Str) :
    dhtmlxPrim S V w "__getattribute__" [.ref t, S.s x] st =
      (match lookupA (w t).dict x with
       | some v => .ok (.atom v)
       | none => .error (.crash .attribute)) := by
  unfold Lib.s
  prim_of dhtmlxPrim
  rw [hS x]
  cases lookupA (w t).dict x <;> rfl

theorem prim_startswith (hS : S.OK) (x : Str) :
    dhtmlxPrim S V w "startswith:_Task" [S.s x] st = .ok (.atom (.bool (kTask.isPrefixOf x))) := by
  unfold Lib.s
  prim_of dhtmlxPrim
  rw [hS x]

end prims

/-- the state after `cell(v)`: the next object holds `v` -/
def push (st : PState) (v : Val) : PState :=
  { st with heap := heapSet (fun j => if j = st.reads then [] else st.heap j) st.reads "v" v, reads := st.reads + 1 }

theorem pf_cell : dhtmlxFuns fn_cell_init = some (src_cell_init_params, src_cell_init) := rfl

/-- `cell(y)`: the synthetic object that holds the value of the local `y` -/
def cellE (y : String) : Expr := .construct fn_cell_init (.listCons (.var y) .listNil)

theorem cellE_eval (F : Nat) (ρ : PyLite.Env) (st : PState) (y : String) :
    (cellE y).evalP (Hd S V w (F + 1)) [] ρ st =
      match ρ.get? y with
      | some v => .ok (.atom (.ref st.reads), push st v)
      | none => .error stuck := by
  cases hy : ρ.get? y <;>
    simp [cellE, push, Expr.evalP, Expr.evalArgsP, hy, dfnV_succ S V w F _ _ _ pf_cell, callPV_eq, bindParamsV,
      src_cell_init_params, src_cell_init, execBlockP, Stmt.execP, Pj.TaskSrc.Env.get?_cons, bind,
      Except.bind, pure, Except.pure, throw, throwThe, MonadExceptOf.throw]

def appS (x y : String) : Stmt := .assign x (.bin .add (.var x) (.listCons (cellE y) .listNil))

/-- there is no object beyond the allocation counter, so that a new object is no old one -/
def Fresh (st : PState) : Prop := ∀ j, st.reads ≤ j → st.heap j = []

theorem fresh_push {st : PState} (hf : Fresh st) (v : Val) : Fresh (push st v) := by
  intro j hj
  have h1 : st.reads < j := hj
  simp [push, heapSet, Nat.ne_of_gt h1, hf j (Nat.le_of_lt h1)]

theorem heap_new (st : PState) (v : Val) : ((push st v).heap st.reads).get? "v" = some v := by
  simp [push, heapSet, Env.set, Env.get?]

theorem heap_push {st : PState} (hf : Fresh st) {j : Nat} {u : Val} (h : (st.heap j).get? "v" = some u) (v : Val) :
    ((push st v).heap j).get? "v" = some u := by
  have hj : j ≠ st.reads := fun e => by simp [e, hf _ (Nat.le_refl _), Env.get?] at h
  simpa [push, heapSet, hj] using h

inductive AtL (st : PState) : List Atom → List PDict → Prop
  | nil : AtL st [] []
  | cons {j as d ds} : (st.heap j).get? "v" = some (.dict d) → AtL st as ds → AtL st (.ref j :: as) (d :: ds)

theorem AtL.mono {st : PState} {as : List Atom} {ds : List PDict} (h : AtL st as ds) (hf : Fresh st) (v : Val) :
    AtL (push st v) as ds := by
  induction h with
  | nil => exact .nil
  | cons hj _ ih => exact .cons (heap_push hf hj v) ih

theorem AtL.push {st : PState} {as : List Atom} {ds : List PDict} (h : AtL st as ds) (hf : Fresh st) (d : PDict) :
    AtL (push st (.dict d)) (as ++ [.ref st.reads]) (ds ++ [d]) := by
  induction h with
  | nil => exact .cons (heap_new st _) .nil
  | cons hj _ ih => exact .cons (heap_push hf hj _) ih

theorem dictsOf_AtL {st : PState} {j : Nat} {as : List Atom} {ds : List PDict}
    (hj : (st.heap j).get? "v" = some (.list as)) (h : AtL st as ds) : dictsOf st (.ref j) = some ds := by
  simp only [dictsOf, cellOf, hj]
  clear hj
  induction h with
  | nil => rfl
  | cons hb _ ih => rw [List.mapM_cons, ih]; simp only [hb]; rfl

def encS (l : List (Str × Atom)) : PDict := l.map (fun p => (S.s p.1, p.2))

variable {S}

theorem has_encS (hS : S.OK) (l : List (Str × Atom)) (x : Str) :
    (Dict.get? (encS S l) (S.s x)).isSome = (l.map (·.1)).contains x := by
  induction l with
  | nil => rfl
  | cons p l ih =>
    simp only [Dict.get?, encS, List.map_cons, List.find?_cons, pyEq_s hS, List.contains_cons] at ih ⊢
    by_cases h : p.1 = x
    · simp [h]
    · have h' : (x == p.1) = false := by simpa using fun e : x = p.1 => h e.symm
      simp only [h, decide_false, h', Bool.false_or]; exact ih

theorem insert_encS (hS : S.OK) (l : List (Str × Atom)) (x : Str) (v : Atom) (h : x ∉ l.map (·.1)) :
    Dict.insert (encS S l) (S.s x) v = encS S (l ++ [(x, v)]) := by
  induction l with
  | nil => rfl
  | cons p l ih =>
    simp only [List.map_cons, List.mem_cons, not_or] at h
    simp only [encS, List.map_cons, List.cons_append, Dict.insert, pyEq_s hS, Ne.symm h.1, decide_false] at ih ⊢
    rw [← ih h.2]; rfl

theorem foldl_insert_encS (hS : S.OK) : ∀ (kvs l : List (Str × Atom)), ((l ++ kvs).map (·.1)).Nodup →
    kvs.foldl (fun d p => Dict.insert d (S.s p.1) p.2) (encS S l) = encS S (l ++ kvs)
  | [], l, _ => by simp
  | p :: kvs, l, h => by
    have hp : p.1 ∉ l.map (·.1) := by
      simp only [List.map_append, List.map_cons, List.nodup_append, List.nodup_cons] at h
      intro hm; exact h.2.2 _ hm _ List.mem_cons_self rfl
    rw [List.foldl_cons, insert_encS hS l p.1 p.2 hp, foldl_insert_encS hS kvs (l ++ [p])
      (by simpa [List.append_assoc] using h)]
    simp [List.append_assoc]

theorem lookupA_mem {l : List (Str × Atom)} (hnd : (l.map (·.1)).Nodup) {p : Str × Atom} (hp : p ∈ l) :
    lookupA l p.1 = some p.2 := by
  induction l with
  | nil => cases hp
  | cons q l ih =>
    simp only [List.map_cons, List.nodup_cons] at hnd
    rcases List.mem_cons.1 hp with rfl | hm
    · simp [lookupA]
    · have hq : ¬ q.1 = p.1 := fun e => hnd.1 (e ▸ List.mem_map.2 ⟨p, hm, rfl⟩)
      have h' : (q.1 == p.1) = false := by simpa using hq
      simpa [lookupA, List.find?_cons, h'] using ih hnd.2 hm

variable (S)

def loopR : Stmt := src_data.getD 3 .pass
def loopT : Stmt := match loopR with | .forIn _ _ [l] => l | _ => .pass
def itT : Expr := match src_data.getD 3 .pass with | .forIn _ _ [.forIn _ e _] => e | _ => .none
def bodyT : List Stmt := match src_data.getD 3 .pass with | .forIn _ _ [.forIn _ _ b] => b | _ => []
def loopK : Stmt := bodyT.getD 15 .pass
def bodyK : List Stmt := match bodyT.getD 15 .pass with | .forIn _ _ b => b | _ => []
def loopP : Stmt := bodyT.getD 17 .pass
def bodyP : List Stmt := match bodyT.getD 17 .pass with | .forIn _ _ b => b | _ => []

theorem src_shape : src_data =
    [.assign "data" .listNil, .assign "links" .listNil, .assign "link_id" (.num 0), loopR, .assign "json_arg" .dictNil,
     .assign "json_arg" (.dictSet (.var "json_arg") (.prim "lit:data" .listNil) (cellE "data")),
     .assign "json_arg" (.dictSet (.var "json_arg") (.prim "lit:links" .listNil) (cellE "links")),
     .ret (.var "json_arg")] := rfl
theorem loopR_eq : loopR =
    .forIn "_root" (.prim "roots" (.listCons (.prim "self.wbs" (.listCons (.var "self") .listNil)) .listNil)) [loopT] := rfl
theorem loopT_eq : loopT = .forIn "t" itT bodyT := rfl
theorem bodyT_eq : bodyT =
    bodyT.take 2 ++ ((bodyT.drop 2).take 13 ++ [loopK, appS "data" "data_val", loopP]) := rfl
theorem loopK_eq : loopK = .forIn "k" (.prim "__dict__" (.listCons (.var "t") .listNil)) bodyK := rfl
theorem loopP_eq : loopP = .forIn "p" (.prim "predecessors" (.listCons (.var "t") .listNil)) bodyP := rfl
theorem bodyP_eq : bodyP = bodyP.take 6 ++ [appS "links" "links_item"] := rfl

attribute [pylite_step] Hd_prim prim_lit prim_wbs prim_roots prim_tasks prim_now prim_name prim_id prim_milestone prim_start
  prim_end prim_resource prim_estimate prim_spent prim_parent prim_preds prim_all_children prim_dict prim_str prim_strftime

attribute [pylite_step] src_data bodyT bodyK bodyP itT pyMax Env.set_set refsA

theorem progress_exec (F t : Nat) (ρ : PyLite.Env) (st : PState) (rest : List Stmt)
    (ht : ρ.get? "t" = some (.atom (.ref t))) :
    execBlockP (Hd S V w F) [] noRec (bodyT.take 2 ++ rest) ρ st =
      execBlockP (Hd S V w F) [] noRec rest (ρ.set "progress" (.atom (.num (progressOf (toDTask V (w t)))))) st := by
  by_cases h1 : (w t).end_ < V.now
  · simp [pylite_step, ht, h1, progressOf, toDTask]
  · by_cases h2 : 0 < (w t).estimate
    · have h3 : ¬ (w t).estimate = 0 := fun e => by rw [e] at h2; exact absurd h2 (by decide)
      cases h4 : (w t).spent with
      | none => simp [pylite_step, ht, h1, h2, h4, progressOf, toDTask, optNumA]
      | some x => by_cases h5 : (w t).estimate - x < 0 <;> simp [pylite_step, ht, h1, h2, h3, h4, h5, progressOf, toDTask, optNumA]
    · simp [pylite_step, ht, h1, h2, progressOf, toDTask]

def dset (kn : String) (e : Expr) : Stmt := .assign "data_val" (.dictSet (.var "data_val") (.prim kn .listNil) e)
def fv (i : Nat) : Expr := match bodyT.getD (3 + i) .pass with | .assign _ (.dictSet _ _ e) => e | _ => .none
def openE : Expr := fv 8
def parentE : Expr := fv 9
def cssE : Expr := fv 11

theorem fields_shape : (bodyT.drop 2).take 13 =
    [.assign "data_val" .dictNil, dset "lit:id" (fv 0), dset "lit:text" (fv 1), dset "lit:type" (fv 2),
     dset "lit:start_date" (fv 3), dset "lit:end_date" (fv 4), dset "lit:resource" (fv 5), dset "lit:estimate" (fv 6),
     dset "lit:spent" (fv 7), dset "lit:open" openE, dset "lit:parent" parentE, dset "lit:progress" (fv 10),
     dset "lit:css_class" cssE] := rfl

/-- the id written as `parent`: that of `t.parent` when it is a task of the WBS, else 0 -/
def parentId (t : Nat) : Int :=
  match (dAll V w t).parent with
  | some q => (w q).id
  | none => 0

def baseL (tc : PDict) (t : Nat) : List (Str × Atom) :=
  [("id".toList, .num ((w t).id : Rat)), ("text".toList, S.s (w t).name),
   ("type".toList, if (w t).milestone then k S "milestone" else k S "task"),
   ("start_date".toList, S.s (V.fmt (w t).start)), ("end_date".toList, S.s (V.fmt (w t).end_)),
   ("resource".toList, S.os (w t).resource), ("estimate".toList, .num (w t).estimate),
   ("spent".toList, optNumA (w t).spent), ("open".toList, (lookupA (w t).dict kOpen).getD (k S "true")),
   ("parent".toList, .num (parentId V w t : Rat)), ("progress".toList, .num (progressOf (toDTask V (w t)))),
   ("css_class".toList, (Dict.get? tc (.num ((w t).id : Rat))).getD .none)]

theorem baseL_keys (tc : PDict) (t : Nat) : (baseL S V w tc t).map (·.1) = computedKeys := rfl
theorem computedKeys_nodup : computedKeys.Nodup := by decide +kernel

variable {S} {tc : PDict} {ρ : PyLite.Env} {st : PState}

theorem openE_eval (hS : S.OK) (F t : Nat) (st : PState) (ht : ρ.get? "t" = some (.atom (.ref t))) :
    openE.evalP (Hd S V w F) [] ρ st = .ok (.atom ((lookupA (w t).dict kOpen).getD (k S "true")), st) := by
  have hd := any_dict hS (w t).dict kOpen
  have hg := prim_getattr V w st t hS kOpen
  have hk : k S "gantt_open" = S.s kOpen := rfl
  cases hv : lookupA (w t).dict kOpen <;> rw [hv] at hd hg <;> simp [pylite_step, openE, fv, ht, hk, hd, hg]

theorem parentE_eval (F t : Nat) (st : PState) (ht : ρ.get? "t" = some (.atom (.ref t)))
    (hs : ρ.get? "self" = some (.atom (.ref 0))) :
    parentE.evalP (Hd S V w F) [] ρ st = .ok (.atom (.num (parentId V w t : Rat)), st) := by
  cases hp : (w t).parent with
  | none => simp [pylite_step, parentE, fv, ht, hp, optRefA, parentId, dAll, toDTask]
  | some q => by_cases hc : q ∈ V.tasks <;> simp [pylite_step, parentE, fv, ht, hs, hp, optRefA, parentId, dAll, toDTask, Atom.pyEq, Atom.norm, hc]

theorem cssE_eval (F t : Nat) (st : PState) (ht : ρ.get? "t" = some (.atom (.ref t)))
    (htc : ρ.get? "task_classes" = some (.dict tc)) :
    cssE.evalP (Hd S V w F) [] ρ st = .ok (.atom ((Dict.get? tc (.num ((w t).id : Rat))).getD .none), st) := by
  cases hv : Dict.get? tc (.num ((w t).id : Rat)) <;> simp [pylite_step, cssE, fv, ht, htc, hv]

theorem ite_ok (c : Prop) [Decidable c] (x y : Atom) (st : PState) :
    (if c then (Except.ok (Val.atom x, st) : Res (Val × PState)) else .ok (.atom y, st)) =
      .ok (.atom (if c then x else y), st) := by
  by_cases h : c <;> simp [h]

theorem fields_exec (hS : S.OK) (F t : Nat) (rest : List Stmt)
    (ht : ρ.get? "t" = some (.atom (.ref t))) (hs : ρ.get? "self" = some (.atom (.ref 0)))
    (htc : ρ.get? "task_classes" = some (.dict tc))
    (hp : ρ.get? "progress" = some (.atom (.num (progressOf (toDTask V (w t)))))) :
    execBlockP (Hd S V w F) [] noRec ((bodyT.drop 2).take 13 ++ rest) ρ st =
      execBlockP (Hd S V w F) [] noRec rest (ρ.set "data_val" (.dict (encS S (baseL S V w tc t)))) st := by
  have hdict : _ = encS S (baseL S V w tc t) := foldl_insert_encS hS (baseL S V w tc t) [] computedKeys_nodup
  rw [← hdict, fields_shape]
  simp [pylite_step, dset, fv, ht, hs, htc, hp, openE_eval V w hS F t st, parentE_eval (S := S) V w F t st,
    cssE_eval (S := S) (tc := tc) V w F t st, ite_ok]
  simp only [baseL, List.foldl_cons, List.foldl_nil, encS, List.map_nil, k]

variable (S)

def linksOf (ps : List (Int × Int)) : List PDict :=
  (List.range ps.length).map (fun j =>
    linkDict S { id := j + 1, source := (ps.getD j (0, 0)).1, target := (ps.getD j (0, 0)).2 })

theorem linksOf_snoc (ps : List (Int × Int)) (p : Int × Int) :
    linksOf S (ps ++ [p]) = linksOf S ps ++ [linkDict S { id := ps.length + 1, source := p.1, target := p.2 }] := by
  simp only [linksOf, List.length_append, List.length_singleton, List.range_succ, List.map_append, List.map_singleton]
  congr 1
  · refine List.map_congr_left (fun j hj => ?_)
    simp [List.getD_eq_getElem?_getD, List.getElem?_append_left (List.mem_range.1 hj)]
  · simp [List.getD_eq_getElem?_getD]

def pairsOf (t : Nat) : List (Int × Int) := (w t).preds.map (fun p => ((w p).id, (w t).id))

theorem expLinks_eq : expLinks S V w = linksOf S ((dhtmlxOrder (dAll V w) V.n V.roots).flatMap (pairsOf w)) := by
  rw [expLinks, dhtmlxLinks, List.map_map]
  rfl

/-- the locals and the store between two statements of the loops -/
def Inv (tc : PDict) (ρ : PyLite.Env) (st : PState) (D : List PDict) (ps : List (Int × Int)) : Prop :=
  Fresh st ∧ ∃ asD asL, AtL st asD D ∧ AtL st asL (linksOf S ps) ∧
    ρ.get? "self" = some (.atom (.ref 0)) ∧ ρ.get? "task_classes" = some (.dict tc) ∧
    ρ.get? "data" = some (.list asD) ∧ ρ.get? "links" = some (.list asL) ∧
    ρ.get? "link_id" = some (.atom (.num ((ps.length : Nat) : Rat)))

variable {S} {D : List PDict} {ps : List (Int × Int)}

theorem Inv.set (h : Inv S tc ρ st D ps) (x : String) (v : Val)
    (hx : x ∉ ["self", "task_classes", "data", "links", "link_id"]) : Inv S tc (ρ.set x v) st D ps := by
  obtain ⟨hf, asD, asL, a1, a2, h⟩ := h
  simp only [List.mem_cons, List.not_mem_nil, or_false, not_or] at hx
  exact ⟨hf, asD, asL, a1, a2, by simpa [Pj.TaskSrc.Env.get?_set, hx] using h⟩

theorem data_step (F : Nat) {y : String} {d : PDict} (h : Inv S tc ρ st D ps) (hy : ρ.get? y = some (.dict d)) :
    ∃ as, (appS "data" y).execP (Hd S V w (F + 1)) [] noRec ρ st = .normal (ρ.set "data" (.list as)) (push st (.dict d)) ∧
      Inv S tc (ρ.set "data" (.list as)) (push st (.dict d)) (D ++ [d]) ps := by
  obtain ⟨hf, asD, asL, a1, a2, h2, h3, h4, h5, h6⟩ := h
  exact ⟨asD ++ [.ref st.reads], by simp [pylite_step, appS, cellE_eval, h4, hy], fresh_push hf _, _, asL, a1.push hf d, a2.mono hf _,
    by simp [Pj.TaskSrc.Env.get?_set, h2, h3, h5, h6]⟩

def good (kv : Str × Atom) : Bool := !computedKeys.contains kv.1 && !kTask.isPrefixOf kv.1

variable (S)

def userL (l : List (Str × Atom)) : List (Str × Atom) := (l.filter good).map (fun kv => (kv.1, S.s (S.text kv.2)))

theorem userL_snoc (l : List (Str × Atom)) (kv : Str × Atom) :
    userL S (l ++ [kv]) = userL S l ++ (if good kv then [(kv.1, S.s (S.text kv.2))] else []) := by
  by_cases h : good kv <;> simp [userL, List.filter_append, h]

/-- one round of the loop over `__dict__`: the attribute is carried as text unless its name is taken or private -/
def stepK (d : List (Str × Atom)) (kv : Str × Atom) : List (Str × Atom) :=
  if (d.map (·.1)).contains kv.1 || kTask.isPrefixOf kv.1 then d else d ++ [(kv.1, S.s (S.text kv.2))]

/-- as the names of a `__dict__` are distinct, the only names that can be taken are the computed ones -/
theorem foldl_stepK {base : List (Str × Atom)} (hbase : base.map (·.1) = computedKeys) :
    ∀ (rest done : List (Str × Atom)), ((done ++ rest).map (·.1)).Nodup →
      rest.foldl (stepK S) (base ++ userL S done) = base ++ userL S (done ++ rest)
  | [], done, _ => by simp
  | kv :: rest, done, hnd => by
    have hnew : ((userL S done).map (·.1)).contains kv.1 = false := by
      simp only [List.map_append, List.map_cons, List.nodup_append, List.nodup_cons] at hnd
      simp only [List.contains_eq_mem, decide_eq_false_iff_not]
      intro hm
      obtain ⟨p, hp, e⟩ := List.mem_map.1 hm
      obtain ⟨q, hq, rfl⟩ := List.mem_map.1 hp
      exact hnd.2.2 q.1 (List.mem_map.2 ⟨q, (List.mem_filter.1 hq).1, rfl⟩) kv.1 List.mem_cons_self e
    have hstep : stepK S (base ++ userL S done) kv = base ++ userL S (done ++ [kv]) := by
      rw [userL_snoc, stepK, List.map_append, hbase, List.contains_append, hnew, Bool.or_false, good]
      cases computedKeys.contains kv.1 <;> cases kTask.isPrefixOf kv.1 <;> simp
    rw [List.foldl_cons, hstep, foldl_stepK hbase rest (done ++ [kv]) (by simpa using hnd)]
    simp

variable {S}

theorem userK_step (hS : S.OK) (F t : Nat) (st : PState) (d : List (Str × Atom)) (kv : Str × Atom)
    (hkv : lookupA (w t).dict kv.1 = some kv.2) (ht : ρ.get? "t" = some (.atom (.ref t)))
    (hv : ρ.get? "data_val" = some (.dict (encS S d))) :
    execBlockP (Hd S V w F) [] noRec bodyK (ρ.set "k" (.atom (S.s kv.1))) st =
      .normal (if (d.map (·.1)).contains kv.1 || kTask.isPrefixOf kv.1 then (ρ.set "k" (.atom (S.s kv.1))).set "v" (.atom kv.2)
        else ((ρ.set "k" (.atom (S.s kv.1))).set "v" (.atom kv.2)).set "data_val"
          (.dict (encS S (d ++ [(kv.1, S.s (S.text kv.2))])))) st := by
  have hg := prim_getattr V w st t hS kv.1
  rw [hkv] at hg
  have hsw := prim_startswith V w st hS kv.1
  have hhas := has_encS hS d kv.1
  cases h1 : (d.map (·.1)).contains kv.1 <;> rw [h1] at hhas
  · have hins := insert_encS hS d kv.1 (S.s (S.text kv.2)) (by simpa using h1)
    cases h2 : kTask.isPrefixOf kv.1 <;> simp [pylite_step, ht, hv, hg, hsw, hhas, h2, hins]
  · simp [pylite_step, ht, hv, hg, hhas]

theorem userK_loop (hS : S.OK) (F t : Nat) (l d : List (Str × Atom)) {ρ : PyLite.Env}
    (hl : ∀ kv ∈ l, lookupA (w t).dict kv.1 = some kv.2) (hI : Inv S tc ρ st D ps)
    (ht : ρ.get? "t" = some (.atom (.ref t))) (hv : ρ.get? "data_val" = some (.dict (encS S d))) :
    ∃ ρ', forLoopP "k" (fun ρ st => execBlockP (Hd S V w F) [] noRec bodyK ρ st) (l.map (fun p => S.s p.1)) ρ st =
        .normal ρ' st ∧
      Inv S tc ρ' st D ps ∧ ρ'.get? "t" = some (.atom (.ref t)) ∧
      ρ'.get? "data_val" = some (.dict (encS S (l.foldl (stepK S) d))) := by
  obtain ⟨ρ', _, e, rfl, r⟩ := Pj.TaskSrc.forLoopP_foldl "k"
    (fun ρ st => execBlockP (Hd S V w F) [] noRec bodyK ρ st) (fun p : Str × Atom => S.s p.1)
    (fun d ρ st' => st' = st ∧ Inv S tc ρ st D ps ∧ ρ.get? "t" = some (.atom (.ref t)) ∧
      ρ.get? "data_val" = some (.dict (encS S d))) (stepK S) l
    (fun d kv ρ _ hkv ⟨e, hI, ht, hv⟩ => by
      subst e
      have hI' := (hI.set "k" (.atom (S.s kv.1)) (by decide)).set "v" (.atom kv.2) (by decide)
      refine ⟨_, _, userK_step V w hS F t _ d kv (hl kv hkv) ht hv, rfl, ?_⟩
      simp only [stepK]
      by_cases hc : ((d.map (·.1)).contains kv.1 || kTask.isPrefixOf kv.1) = true <;> simp only [hc, ↓reduceIte]
      · exact ⟨hI', by simp [Pj.TaskSrc.Env.get?_set, ht], by simp [Pj.TaskSrc.Env.get?_set, hv]⟩
      · exact ⟨hI'.set "data_val" _ (by decide), by simp [Pj.TaskSrc.Env.get?_set, ht], by simp [Pj.TaskSrc.Env.get?_set]⟩)
    d ρ st ⟨rfl, hI, ht, hv⟩
  exact ⟨ρ', e, r⟩

theorem linkKeys_nodup : (["id", "source", "target", "type"].map String.toList).Nodup := by decide +kernel

theorem pred_step (hS : S.OK) (F t p : Nat) (hI : Inv S tc ρ st D ps) (ht : ρ.get? "t" = some (.atom (.ref t))) :
    ∃ ρ' st', execBlockP (Hd S V w (F + 1)) [] noRec bodyP (ρ.set "p" (.atom (.ref p))) st = .normal ρ' st' ∧
      Inv S tc ρ' st' D (ps ++ [((w p).id, (w t).id)]) ∧ ρ'.get? "t" = some (.atom (.ref t)) := by
  obtain ⟨hf, asD, asL, a1, a2, h2, h3, h4, h5, h6⟩ := hI
  have hdict := foldl_insert_encS hS [("id".toList, Atom.num ((ps.length + 1 : Nat) : Rat)), ("source".toList, .num ((w p).id : Rat)),
    ("target".toList, .num ((w t).id : Rat)), ("type".toList, k S "0")] [] linkKeys_nodup
  simp [encS, k] at hdict
  have e : execBlockP (Hd S V w (F + 1)) [] noRec bodyP (ρ.set "p" (.atom (.ref p))) st =
      .normal ((((ρ.set "p" (.atom (.ref p))).set "link_id" (.atom (.num ((ps.length + 1 : Nat) : Rat)))).set "links_item"
          (.dict (linkDict S { id := ps.length + 1, source := (w p).id, target := (w t).id }))).set "links"
          (.list (asL ++ [.ref st.reads])))
        (push st (.dict (linkDict S { id := ps.length + 1, source := (w p).id, target := (w t).id }))) := by
    rw [bodyP_eq]
    simp [pylite_step, appS, cellE_eval, ht, h5, h6, linkDict, k, hdict]
  refine ⟨_, _, e, ⟨fresh_push hf _, asD, asL ++ [.ref st.reads], a1.mono hf _, ?_, ?_⟩, ?_⟩
  · rw [linksOf_snoc]; exact a2.push hf _
  · simp [Pj.TaskSrc.Env.get?_set, h2, h3, h4]
  · simp [Pj.TaskSrc.Env.get?_set, ht]

theorem preds_loop (hS : S.OK) (F t : Nat) (hI : Inv S tc ρ st D ps) (ht : ρ.get? "t" = some (.atom (.ref t))) :
    ∃ ρ' st', loopP.execP (Hd S V w (F + 1)) [] noRec ρ st = .normal ρ' st' ∧ Inv S tc ρ' st' D (ps ++ pairsOf w t) := by
  rw [loopP_eq, execP_forIn (vs := (w t).preds.map Atom.ref) (st' := st) (hit := by simp [pylite_step, ht]),
    show ps ++ pairsOf w t = (w t).preds.foldl (fun a p => a ++ [((w p).id, (w t).id)]) ps by
      rw [foldl_snoc, ← List.map_eq_flatMap]; rfl]
  obtain ⟨ρ', st', hl, hI', _⟩ := forLoopP_foldl "p" _ Atom.ref
    (fun ps ρ st => Inv S tc ρ st D ps ∧ ρ.get? "t" = some (.atom (.ref t))) _ (w t).preds
    (fun ps p ρ st _ h => pred_step V w hS F t p h.1 h.2) ps ρ st ⟨hI, ht⟩
  exact ⟨ρ', st', hl, hI'⟩

variable (S)

def entryL (tc : PDict) (t : Nat) : PDict := encS S (baseL S V w tc t ++ userL S (w t).dict)

def stepT (tc : PDict) (a : List PDict × List (Int × Int)) (t : Nat) : List PDict × List (Int × Int) :=
  (a.1 ++ [entryL S V w tc t], a.2 ++ pairsOf w t)

theorem foldl_stepT (tc : PDict) (l : List Nat) (a : List PDict × List (Int × Int)) :
    l.foldl (stepT S V w tc) a = (a.1 ++ l.map (entryL S V w tc), a.2 ++ l.flatMap (pairsOf w)) := by
  induction l generalizing a with
  | nil => simp
  | cons t l ih => simp [ih, stepT, List.append_assoc]

variable {S}

theorem task_step (hS : S.OK) (F t : Nat) (hnd : ((w t).dict.map (·.1)).Nodup) (a : List PDict × List (Int × Int))
    (hI : Inv S tc ρ st a.1 a.2) :
    ∃ ρ' st', execBlockP (Hd S V w (F + 1)) [] noRec bodyT (ρ.set "t" (.atom (.ref t))) st = .normal ρ' st' ∧
      Inv S tc ρ' st' (stepT S V w tc a t).1 (stepT S V w tc a t).2 := by
  have ⟨_, _, _, _, _, h2, h3, _⟩ := hI
  rw [bodyT_eq, progress_exec S V w (F + 1) t _ _ _ (by simp [Pj.TaskSrc.Env.get?_set]),
    fields_exec (tc := tc) V w hS (F + 1) t _ (by simp [Pj.TaskSrc.Env.get?_set]) (by simp [Pj.TaskSrc.Env.get?_set, h2])
      (by simp [Pj.TaskSrc.Env.get?_set, h3]) (by simp [Pj.TaskSrc.Env.get?_set])]
  obtain ⟨ρ3, e3, i3, t3, v3⟩ := userK_loop V w hS (F + 1) t (w t).dict (baseL S V w tc t ++ userL S [])
    (fun kv h => lookupA_mem hnd h)
    (((hI.set "t" (.atom (.ref t)) (by decide)).set "progress" (.atom (.num (progressOf (toDTask V (w t)))))
      (by decide)).set "data_val" (.dict (encS S (baseL S V w tc t))) (by decide))
    (by simp [Pj.TaskSrc.Env.get?_set]) (by simp [Pj.TaskSrc.Env.get?_set, userL])
  rw [foldl_stepK S (baseL_keys S V w tc t) (w t).dict [] (by simpa using hnd)] at v3
  rw [execBlockP_cons, loopK_eq, execP_forIn (vs := (w t).dict.map (fun p => S.s p.1)) (st' := st) (hit := by simp [pylite_step]), e3]
  -- the entry goes into a new object
  obtain ⟨as4, e4, i4⟩ := data_step V w F (d := entryL S V w tc t) i3 v3
  dsimp only  -- the `match` on the outcome just rewritten reduces
  rw [execBlockP_cons, e4]
  obtain ⟨ρ5, st5, e5, i5⟩ := preds_loop V w hS F t i4 (by simp [Pj.TaskSrc.Env.get?_set, t3])
  dsimp only
  rw [execBlockP_cons, e5]
  exact ⟨ρ5, st5, execBlockP_nil .., i5⟩

theorem roots_loop (hS : S.OK) (F : Nat) (hnd : ∀ t ∈ dhtmlxOrder (dAll V w) V.n V.roots, ((w t).dict.map (·.1)).Nodup)
    (hI : Inv S tc ρ st [] []) (a : List PDict × List (Int × Int))
    (ha : a = (dhtmlxOrder (dAll V w) V.n V.roots).foldl (stepT S V w tc) ([], [])) :
    ∃ ρ' st', loopR.execP (Hd S V w (F + 1)) [] noRec ρ st = .normal ρ' st' ∧ Inv S tc ρ' st' a.1 a.2 := by
  have ⟨_, _, _, _, _, h2, _⟩ := hI
  rw [ha, dhtmlxOrder, List.foldl_flatten, List.foldl_map, loopR_eq,
    execP_forIn (vs := V.roots.map Atom.ref) (st' := st) (hit := by simp [pylite_step, h2])]
  refine forLoopP_foldl "_root" _ Atom.ref (fun a ρ st => Inv S tc ρ st a.1 a.2) _ V.roots (fun a r ρ st hr h => ?_) ([], []) ρ st hI
  obtain ⟨ρ2, st2, e2, i2⟩ := forLoopP_foldl "t" _ Atom.ref (fun a ρ st => Inv S tc ρ st a.1 a.2) (stepT S V w tc)
    (postList (dAll V w) (V.n + 1) r ++ [r])
    (fun a t ρ st ht h => task_step V w hS F t (hnd t (List.mem_flatten.2 ⟨_, List.mem_map.2 ⟨r, hr, rfl⟩, ht⟩)) a h)
    a (ρ.set "_root" (.atom (.ref r))) st (h.set "_root" _ (by decide))
  refine ⟨ρ2, st2, ?_, i2⟩
  rw [execBlockP_cons, loopT_eq, execP_forIn (vs := (postList (dAll V w) (V.n + 1) r ++ [r]).map Atom.ref) (st' := st)
    (hit := by simp [pylite_step]), e2]
  exact execBlockP_nil ..

variable (S)

theorem expData_eq (tc : PDict) :
    expData S V w tc = (dhtmlxOrder (dAll V w) V.n V.roots).map (entryL S V w tc) := by
  simp only [expData, dhtmlxData, List.zip_eq_zipWith, List.zipWith_map_right, List.zipWith_self, List.map_map]
  refine List.map_congr_left (fun i _ => ?_)
  simp only [Function.comp, entryL, encS, userL, List.map_append, List.map_map]
  rfl

variable {S}

theorem pf_data : dhtmlxFuns fn_data = some (src_data_params, src_data) := rfl

theorem interpOut_eq (hS : S.OK) (hnd : ∀ t ∈ dhtmlxOrder (dAll V w) V.n V.roots, ((w t).dict.map (·.1)).Nodup)
    (F : Nat) (hF : 2 ≤ F) (tc : PDict) :
    interpOut S V w F tc = .ok (some (expData S V w tc, expLinks S V w)) := by
  obtain ⟨F, rfl⟩ : ∃ F', F = F' + 2 := ⟨F - 2, by omega⟩
  let ρ0 : PyLite.Env := ((Env.set [("self", .atom (.ref 0)), ("task_classes", .dict tc)] "data" (.list [])).set "links"
    (.list [])).set "link_id" (.atom (.num 0))
  have hI0 : Inv S tc ρ0 (st0 V) [] [] :=
    ⟨fun _ _ => rfl, [], [], .nil, .nil, by simp [ρ0, Pj.TaskSrc.Env.get?_set, Pj.TaskSrc.Env.get?_cons]⟩
  obtain ⟨ρ1, st1, hl, hf, asD, asL, a1, a2, _, _, h4, h5, _⟩ :=
    roots_loop V w hS F hnd hI0 (_, _) (foldl_stepT S V w tc _ ([], [])).symm
  -- the two lists go into new objects, the result holds these
  have hd : (k S "data").pyEq (k S "links") = false := by rw [k, k, pyEq_s hS]; decide
  have hrun : interpData S V w (F + 2) tc = .ok (.dict [(k S "data", .ref st1.reads),
      (k S "links", .ref (push st1 (.list asD)).reads)], push (push st1 (.list asD)) (.list asL)) := by
    rw [interpData, runProg, dfnV_succ S V w (F + 1) _ _ _ pf_data, callPV_eq, src_shape]
    simp [pylite_step, src_data_params, bindParamsV, ρ0, hl, cellE_eval, h4, h5, Dict.insert, hd]
  rw [interpOut, hrun, expData_eq, expLinks_eq]
  have hf' := fresh_push hf (.list asD)
  simp only [Except.map, readOut, k, and_self, if_true, List.nil_append,
    dictsOf_AtL (heap_push hf' (heap_new st1 _) _) ((a1.mono hf _).mono hf' _),
    dictsOf_AtL (heap_new _ _) ((a2.mono hf _).mono hf' _)]

#print axioms interpOut_eq

end Pj.DhtmlxSrc

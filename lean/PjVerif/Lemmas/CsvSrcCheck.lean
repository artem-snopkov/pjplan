/-
  Lemmas/CsvSrcCheck.lean — the WBS descriptions `w0`, `w1`, `w2` of the concrete runs of the CSV tie (CsvSrcCheckB.lean writes them,
  CsvSrcCheckC.lean reads the files back) and the fuel `FF`.
-/
import PjVerif.Lemmas.CsvSrc

deriving instance DecidableEq for Except
namespace Pj.CsvSrc.Check
open Pj.PyLite Pj.Extracted.Csv Pj.Csv Pj.CsvSrc

def FF : Nat := 8

def day (y : Int) (m d : Nat) : Time := ((daysFromCivil y m d : Int) : Rat)

/-- nested tasks, ids 0 and negative, None name / resource, an empty name, predecessor lists, a milestone, dates,
    min_start, fractional estimate / spent, sparse custom attributes with the falsy values 0 / False and a text that needs
    quoting -/
def w1 : WbsD :=
  { roots := [1, 5]
    tasks := [
      { id := 0, name := some "Root A".toList, children := [2, 3], start := some (day 2024 1 15), end_ := some (day 2024 2 1),
        custom := [("prio", .num 0)] },
      { id := -3, resource := some "bob".toList, parent := some 1, estimate := some (5/2), spent := some (1/2),
        minStart := some (day 1999 12 31), custom := [("flag", .bool false), ("note", strA "a;b \"q\"\nz".toList)] },
      { id := 7, name := some "M".toList, milestone := true, parent := some 1, preds := [2], children := [4],
        start := some (day 2068 12 31), custom := [("ratio", .num 0), ("when", .time (day 2024 3 9))] },
      { id := 12, name := some [], parent := some 3, preds := [2, 5], custom := [("prio", .num 3), ("opt", .none)] },
      { id := 5, estimate := some 8, spent := some 0 } ] }

/-- no task -/
def w0 : WbsD := { roots := [], tasks := [] }

/-- a single task without anything -/
def w2 : WbsD := { roots := [1], tasks := [{ id := 1 }] }

end Pj.CsvSrc.Check

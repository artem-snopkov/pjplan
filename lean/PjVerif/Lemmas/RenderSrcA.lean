/-
  Lemmas/RenderSrcA.lean — the translated tie for the Mermaid renderers (general theorems): the network source.
  `MermaidNetwork.__label` = `escLabel ∘ filter (≠ '"')`, `MermaidNetwork.__src` = `networkSrc`, for every WBS, task
  description and string library.  See Lemmas/RenderSrc.lean for the setting.
-/
import PjVerif.Lemmas.RenderSrc
import PjVerif.Lemmas.StrLibLemmas
import PjVerif.Lemmas.PyUpd
import PjVerif.Lemmas.RenderLemmas
namespace Pj.RenderSrc
open Pj.PyLite Pj.Render Pj.Extracted.Render
open Pj.PrintSrc (Lib lookupA refsA one oneStr D_s text_s pyEq_s any_dict s_ne_none litName)
open Pj.TaskSrc (noRec pyEq_natCast)
set_option linter.unusedVariables false

variable (S : Lib) (V : View) (pts : Nat → RTask)

theorem rfnV_succ (F k : Nat) (params : List String) (body : List Stmt) (h : renderFuns k = some (params, body))
    (args : List Val) (st : PState) :
    (Hr S V pts (F + 1)).fnV k args st = callPV (Hr S V pts F) params body args st :=
  Pj.TaskSrc.progH_fnV_succ _ _ F k params body h args st

theorem Hr_prim (F : Nat) : (Hr S V pts F).prim = renderPrim S V pts := Pj.TaskSrc.progH_prim _ _ F

theorem replF_single (a : Char) (new : Str) :
    ∀ (f : Nat) (s : Str), s.length ≤ f → replF [a] new f s = s.flatMap (fun c => if c == a then new else [c]) := by
  intro f
  induction f with
  | zero => intro s h; cases s with
    | nil => rfl
    | cons c cs => simp at h
  | succ f ih =>
    intro s h
    cases s with
    | nil => rfl
    | cons c cs =>
      have hl : cs.length ≤ f := by simpa using h
      by_cases hc : c = a
      · subst hc; simp [replF, List.isPrefixOf, ih cs hl]
      · have hc' : (a == c) = false := by simpa using fun e : a = c => hc e.symm
        simp [replF, List.isPrefixOf, ih cs hl, hc, hc']

theorem pyReplace_single (s : Str) (a : Char) (new : Str) :
    pyReplace s [a] new = s.flatMap (fun c => if c == a then new else [c]) := replF_single a new _ s (Nat.le_refl _)

theorem flatMap_del (s : Str) (a : Char) :
    s.flatMap (fun c => if c == a then [] else [c]) = s.filter (fun c => c != a) := by
  induction s with
  | nil => rfl
  | cons c cs ih =>
    rw [List.flatMap_cons, ih]
    by_cases hc : c = a
    · simp [hc]
    · simp [hc]

theorem flatMap_esc (s : Str) :
    (s.flatMap (fun c => if c == '{' then lit "#123;" else [c])).flatMap (fun c => if c == '}' then lit "#125;" else [c]) =
      escLabel s := by
  induction s with
  | nil => rfl
  | cons c cs ih =>
    simp only [List.flatMap_cons, List.flatMap_append, ih, escLabel]
    congr 1
    by_cases h1 : c = '{'
    · subst h1; decide
    · by_cases h2 : c = '}'
      · subst h2; decide
      · simp [h1, h2]

theorem replace_label (name : Str) :
    pyReplace (pyReplace (pyReplace name ['"'] []) ['{'] (lit "#123;")) ['}'] (lit "#125;") = qname name := by
  rw [pyReplace_single, pyReplace_single, pyReplace_single, flatMap_del, flatMap_esc, qname]

/-- `simp` decides the hypothesis on a literal name and writes the text as `lit "<text>"`.  Low priority: the literals
    whose text the proofs spell in another way (single characters, keys, a text that continues a node label) have lemmas
    of their own, tried first. -/
@[pylite_step low] theorem prim_lit (name : String) (st : PState) (h : "lit:".toList.isPrefixOf name.toList = true) :
    renderPrim S V pts name [] st = .ok (.atom (S.s (lit (String.ofList (name.toList.drop 4))))) := by
  simp only [renderPrim, litName name h, if_true, lit, String.toList_ofList]; rfl

theorem lit_empty (st : PState) : renderPrim S V pts "lit:" [] st = .ok (.atom (S.s [])) := by
  simp [prim_lit, lit]
theorem lit_quote (st : PState) : renderPrim S V pts "lit:\"" [] st = .ok (.atom (S.s ['"'])) := by
  simp [prim_lit, lit]
theorem lit_lbrace (st : PState) : renderPrim S V pts "lit:{" [] st = .ok (.atom (S.s ['{'])) := by
  simp [prim_lit, lit]
theorem lit_rbrace (st : PState) : renderPrim S V pts "lit:}" [] st = .ok (.atom (S.s ['}'])) := by
  simp [prim_lit, lit]
theorem lit_rrn (st : PState) : renderPrim S V pts "lit:}}\n" [] st = .ok (.atom (S.s (lit "}}" ++ ['\n']))) := by
  simp [prim_lit, lit]
theorem lit_arrow (st : PState) : renderPrim S V pts "lit:}} --> " [] st = .ok (.atom (S.s (lit "}}" ++ lit " --> "))) := by
  simp [prim_lit, lit]
theorem lit_blank (st : PState) : renderPrim S V pts "lit: " [] st = .ok (.atom (S.s [' '])) := by
  simp [prim_lit, lit]
theorem lit_nl (st : PState) : renderPrim S V pts "lit:\n" [] st = .ok (.atom (S.s ['\n'])) := by
  simp [prim_lit, lit]
theorem lit_kstyle (st : PState) : renderPrim S V pts "lit:network_bar_style" [] st = .ok (.atom (S.s kStyle)) := by
  rw [prim_lit S V pts _ st (by simp)]; rfl

theorem prim_wbs (a : Atom) (st : PState) : renderPrim S V pts "self.wbs" [a] st = .ok (.atom (.ref 0)) := by prim_of renderPrim
theorem prim_tasks (a : Atom) (st : PState) : renderPrim S V pts "tasks" [a] st = .ok (refsA V.tasks) := by prim_of renderPrim
theorem prim_name (t : Nat) (st : PState) : renderPrim S V pts "name" [.ref t] st = .ok (.atom (S.s (pts t).name)) := by prim_of renderPrim
theorem prim_id (t : Nat) (st : PState) : renderPrim S V pts "id" [.ref t] st = .ok (.atom (pts t).id) := by prim_of renderPrim
theorem prim_preds (t : Nat) (st : PState) : renderPrim S V pts "predecessors" [.ref t] st = .ok (refsA (pts t).preds) := by prim_of renderPrim
theorem prim_dict (t : Nat) (st : PState) :
    renderPrim S V pts "__dict__" [.ref t] st = .ok (.list ((pts t).dict.map (fun p => S.s p.1))) := by prim_of renderPrim
theorem prim_getattr (t k : Nat) (st : PState) :
    renderPrim S V pts "__getattribute__" [.ref t, .str k] st =
      (match lookupA (pts t).dict (S.D k) with
       | some v => .ok (.atom v)
       | none => .error (.crash .attribute)) := by
  prim_of renderPrim
  cases lookupA (pts t).dict (S.D k) <;> rfl
theorem prim_dstyle (a : Atom) (st : PState) : renderPrim S V pts "dict_to_style" [a] st = .ok (.atom (S.s (V.style a))) := by prim_of renderPrim
theorem prim_str (a : Atom) (st : PState) : renderPrim S V pts "str" [a] st = .ok (.atom (S.s (S.text a))) := by prim_of renderPrim
attribute [pylite_step] Hr_prim lit_empty lit_quote lit_lbrace lit_rbrace lit_rrn lit_arrow lit_blank lit_nl
  lit_kstyle prim_wbs prim_tasks prim_name prim_id prim_preds prim_dict prim_dstyle prim_str

theorem prim_concat (a b : Nat) (st : PState) :
    renderPrim S V pts "concat" [.str a, .str b] st = .ok (.atom (S.s (S.D a ++ S.D b))) := by prim_of renderPrim
theorem prim_replace (s a b : Nat) (st : PState) :
    renderPrim S V pts "replace" [.str s, .str a, .str b] st =
      if (S.D a).isEmpty then .error stuck else .ok (.atom (S.s (pyReplace (S.D s) (S.D a) (S.D b)))) := by
  prim_of renderPrim
  by_cases h : (S.D a) = [] <;> simp [h] <;> rfl

variable {S}

theorem prim_concat' (hS : S.OK) (x y : Str) (st : PState) :
    renderPrim S V pts "concat" [S.s x, S.s y] st = .ok (.atom (S.s (x ++ y))) := by
  simp only [Lib.s, prim_concat, hS x, hS y]

theorem prim_replace' (hS : S.OK) (x a b : Str) (ha : a.isEmpty = false) (st : PState) :
    renderPrim S V pts "replace" [S.s x, S.s a, S.s b] st = .ok (.atom (S.s (pyReplace x a b))) := by
  simp only [Lib.s, prim_replace, hS x, hS a, hS b, ha]; rfl

theorem prim_getattr' (hS : S.OK) (t : Nat) (x : Str) (st : PState) :
    renderPrim S V pts "__getattribute__" [.ref t, S.s x] st =
      (match lookupA (pts t).dict x with
       | some v => .ok (.atom v)
       | none => .error (.crash .attribute)) := by
  simp only [Lib.s, prim_getattr, hS x]

theorem str_s (hS : S.OK) (x : Str) (st : PState) : renderPrim S V pts "str" [S.s x] st = .ok (.atom (S.s x)) := by
  rw [prim_str, text_s hS]

/-! ### `__label` -/

theorem pf_label : renderFuns fn_label = some (src_label_params, src_label) := rfl

theorem label_spec (hS : S.OK) (F : Nat) (name : Str) (st : PState) :
    (Hr S V pts (F + 1)).fnV fn_label [.atom (S.s name)] st = .ok (.atom (S.s (qname name)), st) := by
  rw [rfnV_succ _ _ _ _ _ _ _ pf_label]
  have h1 := prim_replace' V pts hS name ['"'] [] rfl st
  have h2 := prim_replace' V pts hS (pyReplace name ['"'] []) ['{'] (lit "#123;") rfl st
  have h3 := prim_replace' V pts hS (pyReplace (pyReplace name ['"'] []) ['{'] (lit "#123;")) ['}'] (lit "#125;") rfl st
  rw [replace_label] at h3
  simp [pylite_step, src_label_params, src_label, h1, h2, h3]

theorem forLoopP_str (S : Lib) (x acc : String) (body : PyLite.Env → PState → OutcomeP) (P : PyLite.Env → Prop)
    (g : Atom → Str) (st : PState) (vs : List Atom)
    (hb : ∀ ρ a v, v ∈ vs → P ρ → ρ.get? acc = some (.atom (S.s a)) →
      ∃ ρ', P ρ' ∧ ρ'.get? acc = some (.atom (S.s (a ++ g v))) ∧ body (ρ.set x v) st = .normal ρ' st)
    (ρ : PyLite.Env) (a : Str) (hP : P ρ) (ha : ρ.get? acc = some (.atom (S.s a))) :
    ∃ ρ', P ρ' ∧ ρ'.get? acc = some (.atom (S.s (a ++ vs.flatMap g))) ∧ forLoopP x body vs ρ st = .normal ρ' st := by
  simpa only [foldl_snoc, List.map_id] using
    Pj.TaskSrc.forLoopP_local id (fun a => .atom (S.s a)) (fun a v => a ++ g v) x acc body P st vs hb ρ a hP ha

theorem flatMap_refs' (l : List Nat) (g : Atom → Str) : (l.map Atom.ref).flatMap g = (l.map (fun t => g (.ref t))).flatten := by
  induction l with
  | nil => rfl
  | cons a l ih => simp [ih]

/-- from `P` to `Q` the block appends `x` to the text held by the local `res` and leaves the store alone -/
abbrev Adds (S : Lib) (H : PHandlers) (P Q : PyLite.Env → Prop) (ss : List Stmt) (x : Str) : Prop :=
  Upd H (inLocal "res" (fun a : Str => .atom (S.s a))) P Q ss (· ++ x)

theorem pyEq_len {α : Type} (l : List α) : (Atom.num ((l.length : Nat) : Rat)).pyEq (.num 0) = l.isEmpty :=
  (pyEq_natCast l.length 0).trans (by cases l <;> rfl)

/-! ### `MermaidNetwork.__src`: the texts -/

variable (S)

/-- `<id>{{<label>}}` of a task -/
def nodeOf (t : Nat) : Str := nodeLabel (S.text (pts t).id) (pts t).name

def edgeLine (t p : Nat) : Str := lit "  " ++ nodeOf S pts p ++ lit " --> " ++ nodeOf S pts t ++ ['\n']

def taskEdges (t : Nat) : Str :=
  if (pts t).preds.isEmpty then lit "  0((Start)) --> " ++ nodeOf S pts t ++ ['\n']
  else ((pts t).preds.map (edgeLine S pts t)).flatten

def styleLine (t : Nat) : Str :=
  match lookupA (pts t).dict kStyle with
  | some a => lit "style " ++ S.text (pts t).id ++ [' '] ++ V.style a ++ ['\n']
  | none => []

theorem netTxt_eq :
    lit "flowchart LR\n" ++ (V.tasks.map (taskEdges S pts)).flatten ++ (V.tasks.map (styleLine S V pts)).flatten =
      networkSrc (nAll S V pts) V.tasks := by
  simp only [networkSrc, nAll, toNTask]
  -- the edges agree by unfolding; in a style line the model applies `V.style` before, the program after the case split
  congr
  funext t
  simp only [styleLine]
  cases lookupA (pts t).dict kStyle <;> rfl

def tasksE : Expr := .prim "tasks" (.listCons (.prim "self.wbs" (.listCons (.var "self") .listNil)) .listNil)
def nsLoop1 : Stmt := match src_network_src with | [_, l, _, _] => l | _ => .pass
def nsLoop2 : Stmt := match src_network_src with | [_, _, l, _] => l | _ => .pass
def nsBody1 : List Stmt := match nsLoop1 with | .forIn _ _ b => b | _ => []
def nsBody2 : List Stmt := match nsLoop2 with | .forIn _ _ b => b | _ => []
def nsName : Stmt := match nsBody1 with | [a, _] => a | _ => .pass
def nsIf : Stmt := match nsBody1 with | [_, a] => a | _ => .pass
def nsCond : Expr := match nsIf with | .ifElse c _ _ => c | _ => .none
def nsThen : List Stmt := match nsIf with | .ifElse _ a _ => a | _ => []
def nsInner : Stmt := match nsIf with | .ifElse _ _ [l] => l | _ => .pass
def nsInnerBody : List Stmt := match nsInner with | .forIn _ _ b => b | _ => []

theorem ns_shape : src_network_src =
    [.assign "res" (.prim "lit:flowchart LR\n" .listNil), nsLoop1, nsLoop2, .ret (.var "res")] := rfl
theorem nsIf_eq : nsIf = .ifElse nsCond nsThen [nsInner] := rfl
theorem nsInner_eq : nsInner = .forIn "p" (.prim "predecessors" (.listCons (.var "t") .listNil)) nsInnerBody := rfl

variable {S}

/-- `self` is the renderer object (the locals of both `__src`s); in a round of a loop of `MermaidNetwork.__src` there is `t`
    in front, in its first loop, after the first statement, `t_name` -/
abbrev nsS : PyLite.Env := [("self", .atom (.ref 0))]
abbrev nsT (t : Nat) : PyLite.Env := ("t", .atom (.ref t)) :: nsS
abbrev nsN (S : Lib) (pts : Nat → RTask) (t : Nat) : PyLite.Env := ("t_name", .atom (S.s (qname (pts t).name))) :: nsT t

theorem inner_adds (hS : S.OK) (F t c : Nat) :
    Adds S (Hr S V pts (F + 1)) (Env.le (("p", .atom (.ref c)) :: nsN S pts t)) (Env.le (("p", .atom (.ref c)) :: nsN S pts t))
      nsInnerBody (edgeLine S pts t c) := by
  refine Upd.of_local fun ρ a st hρ ha => ?_
  have hcall := label_spec V pts hS F (pts c).name st
  exact ⟨Env.set (Env.set ρ "p_name" (.atom (S.s (qname (pts c).name)))) "res" (.atom (S.s (a ++ edgeLine S pts t c))),
    by simp [pylite_step, nsInnerBody, nsInner, nsIf, nsBody1, nsLoop1, src_network_src, ha, hρ.get "t", hρ.get "t_name", hρ.get "p",
      hcall, prim_concat' V pts hS, text_s hS, edgeLine, nodeOf, nodeLabel, qname, List.append_assoc],
    (hρ.set_ne "p_name" _).set_ne "res" _, by simp [Pj.TaskSrc.Env.get?_set]⟩

theorem loop1_adds (hS : S.OK) (F t : Nat) :
    Adds S (Hr S V pts (F + 1)) (Env.le (nsT t)) (Env.le (nsT t)) nsBody1 (taskEdges S pts t) := by
  have hname : Adds S (Hr S V pts (F + 1)) (Env.le (nsT t)) (Env.le (nsN S pts t)) [nsName] [] := by
    refine Upd.of_local fun ρ a st hρ ha => ?_
    have hcall := label_spec V pts hS F (pts t).name st
    exact ⟨ρ.set "t_name" (.atom (S.s (qname (pts t).name))),
      by simp [pylite_step, nsName, nsBody1, nsLoop1, src_network_src, hρ.get "t", hcall],
      (hρ.set_ne "t_name" _).cons (by simp [Pj.TaskSrc.Env.get?_set]), by simpa [Pj.TaskSrc.Env.get?_set] using ha⟩
  have hif : Adds S (Hr S V pts (F + 1)) (Env.le (nsN S pts t)) (Env.le (nsN S pts t)) [nsIf] (taskEdges S pts t) := by
    rw [nsIf_eq]
    refine Upd.ifElse (pts t).preds.isEmpty (fun ρ st hρ => by
      simp [pylite_step, nsCond, nsIf, nsBody1, nsLoop1, src_network_src, hρ.get "t", refsA, pyEq_len]) ?_
    unfold taskEdges
    cases hp : (pts t).preds.isEmpty
    · rw [nsInner_eq]
      exact (Upd.forIn_le Atom.ref (fun c a => a ++ edgeLine S pts t c) (pts t).preds "p" _ nsInnerBody
        (inLocal_set (by decide)) (fun ρ st hρ => by simp [pylite_step, refsA, hρ.get "t"])
        fun c _ => inner_adds V pts hS F t c).congr fun a => by simp
    · exact Upd.of_set (fun ρ v h => h.set_ne "res" v) fun ρ a st hρ ha => by
        simp [pylite_step, nsThen, nsIf, nsBody1, nsLoop1, src_network_src, ha, hρ.get "t", hρ.get "t_name", prim_concat' V pts hS,
          text_s hS, nodeOf, nodeLabel, qname, List.append_assoc]
  exact ((hname.append hif).mono fun ρ h => h.tail).congr fun a => by simp

theorem loop2_adds (hS : S.OK) (F t : Nat) :
    Adds S (Hr S V pts (F + 1)) (Env.le (nsT t)) (Env.le (nsT t)) nsBody2 (styleLine S V pts t) := by
  refine Upd.of_local fun ρ a st hρ ha => ?_
  have ht := hρ.get "t"
  have hd := any_dict hS (pts t).dict kStyle
  have hg := prim_getattr' V pts hS t kStyle st
  cases hv : lookupA (pts t).dict kStyle with
  | none =>
    rw [hv] at hd
    exact ⟨ρ, by simp [pylite_step, nsBody2, nsLoop2, src_network_src, ht, hd], hρ, by simpa [styleLine, hv] using ha⟩
  | some x =>
    rw [hv] at hd hg
    exact ⟨ρ.set "res" (.atom (S.s (a ++ (lit "style " ++ S.text (pts t).id ++ [' '] ++ V.style x ++ ['\n'])))),
      by simp [pylite_step, nsBody2, nsLoop2, src_network_src, ht, hd, hg, ha, prim_concat' V pts hS, text_s hS, List.append_assoc],
      hρ.set_ne "res" _, by simp [Pj.TaskSrc.Env.get?_set, styleLine, hv]⟩

theorem pf_network : renderFuns fn_network_src = some (src_network_src_params, src_network_src) := rfl

theorem network_src_spec (hS : S.OK) (F : Nat) (st : PState) :
    (Hr S V pts (F + 2)).fnV fn_network_src [.atom (.ref 0)] st =
      .ok (.atom (S.s (networkSrc (nAll S V pts) V.tasks)), st) := by
  have loop : ∀ (body : List Stmt) (g : Nat → Str), (∀ t, Adds S (Hr S V pts (F + 1)) (Env.le (nsT t)) (Env.le (nsT t)) body (g t)) →
      Adds S (Hr S V pts (F + 1)) (Env.le nsS) (Env.le nsS) [.forIn "t" tasksE body] (V.tasks.map g).flatten := fun body g h =>
    (Upd.forIn_le Atom.ref (fun t a => a ++ g t) V.tasks "t" tasksE body (inLocal_set (by decide))
      (fun ρ st hρ => by simp [pylite_step, tasksE, hρ.get "self", refsA]) fun t _ => h t).congr fun a => by simp
  rw [rfnV_succ _ _ _ _ _ _ _ pf_network]
  exact ((loop _ _ (loop1_adds V pts hS F)).append (loop _ _ (loop2_adds V pts hS F))).returns
    (pre := [.assign "res" (.prim "lit:flowchart LR\n" .listNil)]) (a := lit "flowchart LR\n")
    (ρ1 := Env.set nsS "res" (.atom (S.s (lit "flowchart LR\n")))) rfl (by simp [pylite_step])
    ((Env.le.refl _).set_ne "res" _) (by simp [Pj.TaskSrc.Env.get?_set]) fun ρ _ ha => by simp [pylite_step, ha, ← netTxt_eq]

theorem interp_eq {n F k : Nat} {args : List Val} {v : Val} {st : PState} (hF : n ≤ F)
    (h : ∀ F', (Hr S V pts (F' + n)).fnV k args st0 = .ok (v, st)) : interp S V pts F k args = .ok v := by
  rw [interp, Pj.TaskSrc.runProg_of_le hF h]; rfl

theorem interpNetworkSrc_eq (hS : S.OK) (F : Nat) (hF : 2 ≤ F) :
    interpNetworkSrc S V pts F = .ok (.atom (S.s (networkSrc (nAll S V pts) V.tasks))) :=
  interp_eq V pts hF fun F => network_src_spec V pts hS F st0

theorem interpLabel_eq (hS : S.OK) (F : Nat) (name : Str) (hF : 1 ≤ F) :
    interpLabel S V pts F name = .ok (.atom (S.s (escLabel (name.filter (fun c => c != '"'))))) :=
  interp_eq V pts hF fun F => label_spec V pts hS F name st0

end Pj.RenderSrc

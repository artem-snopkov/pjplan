/-
  Lemmas/CalendarSrc.lean — the hand-written calendar model (Model/Calendar.lean) equals the interpretation of the
  CURRENT SOURCE of the `get_available_units` methods and of the availability search (Extracted/CalendarSrc.lean,
  regenerated from /repo/src/pjplan/calendar.py and resource.py by tools/extract_calendar.py on every check).

  `interp c t` runs the translated body of the class of the object `c` on the object's fields; calls on
  sub-calendars go recursively through `interp`.  The ties need no well-formedness hypotheses.
-/
import PjVerif.Lemmas.PyLiteSteps
import PjVerif.Extracted.CalendarSrc
import PjVerif.Model.Calendar
import PjVerif.Lemmas.Calendar
namespace Pj.CalSrc
open Pj.PyLite Pj.Extracted

/-! ### objects as field environments -/

def optTime : Option Time → Val
  | none => .atom .none
  | some t => .atom (.time t)

/-- `self.__day_hours`: the constructor always fills the keys 0..6 (calendar.py `WeeklyCalendar.__init__`) -/
def weekDict (h : List Rat) : List (Atom × Atom) :=
  (List.range 7).map (fun i => (Atom.num ((i : Nat) : Rat), Atom.num (h.getD i 0)))

/-- `self.__units = {_day_start(k): v for ...}`: keys are midnights, inserted in order -/
def directDict (m : List (Int × Rat)) : List (Atom × Atom) :=
  Dict.ofList (m.map (fun p => (Atom.time ((p.1 : Int) : Rat), Atom.num p.2)))

/-- operator calendars: `self.__calendars` = the two operand objects (`ref 0` is the object itself) -/
def opFields : Env := [("calendars", .list [.ref 1, .ref 2])]

def weeklyFields (s e : Option Time) (h : List Rat) : Env :=
  [("start", optTime s), ("end", optTime e), ("day_hours", .dict (weekDict h))]

def directFields (m : List (Int × Rat)) : Env := [("units", .dict (directDict m))]

def fixedFields (u : Rat) (s e : Option Time) : Env :=
  [("units", .atom (.num u)), ("start", optTime s), ("end", optTime e)]

def resourceFields : Env := [("calendar", .atom (.ref 1))]

/-- leaf calendars call no other object -/
def noSub : Nat → Time → Res (Option Rat) := fun _ _ => throw stuck

def twoSubs (x y : Time → Res (Option Rat)) : Nat → Time → Res (Option Rat)
  | 1 => x
  | 2 => y
  | _ => fun _ => throw stuck

def oneSub (x : Time → Res (Option Rat)) : Nat → Time → Res (Option Rat)
  | 1 => x
  | _ => fun _ => throw stuck

/-- evaluate a calendar object by running the extracted source of its class -/
def interp : Cal → Time → Res (Option Rat)
  | .weekly s e h, t => run noSub src_WeeklyCalendar (weeklyFields s e h) t
  | .direct m, t => run noSub src_DirectCalendar (directFields m) t
  | .fixed u s e, t => run noSub src_FixedCalendar (fixedFields u s e) t
  | .sum a b, t => run (twoSubs (interp a) (interp b)) src_WorkCalendarSum opFields t
  | .sub a b, t => run (twoSubs (interp a) (interp b)) src_WorkCalendarSub opFields t
  | .mul a b, t => run (twoSubs (interp a) (interp b)) src_WorkCalendarsMul opFields t
  | .div a b, t => run (twoSubs (interp a) (interp b)) src_WorkCalendarDiv opFields t
  | .or a b, t => run (twoSubs (interp a) (interp b)) src_WorkCalendarDisjunction opFields t

/-- `Resource(name, calendar=c).get_available_units(t)` -/
def interpResource (c : Cal) (t : Time) : Res (Option Rat) :=
  run (oneSub (interp c)) src_Resource resourceFields t

/-- unfold the interpreter on a concrete program (extra simp lemmas: the program, the fields; the hypotheses - what
    `sub` returns, how the comparisons turn out - are used too);
    `a ≤ b` on numbers is normalised to `¬ b < a`, the form the model uses -/
syntax "pylite_exec" (" [" Lean.Parser.Tactic.simpLemma,* "]")? : tactic
macro_rules
  | `(tactic| pylite_exec) => `(tactic| pylite_exec [])
  | `(tactic| pylite_exec [$ls,*]) => `(tactic| simp [← Rat.not_lt, *, $ls,*])

section Exec
-- the equations of the interpreter, taken into the simp set once for all runs of `pylite_exec`
attribute [local simp] run runBody execBlock Stmt.exec Expr.eval forLoop iterOf TaskSrc.Env.get?_cons Env.set truth arith arithTime
  PyLite.compare cmpRat Atom.asNum? pure Except.pure bind Except.bind throw throwThe MonadExceptOf.throw

theorem directDict_get? (m : List (Int × Rat)) (d : Int) :
    Dict.get? (directDict m) (.time ((d : Int) : Rat)) = (directLookup m d).map Atom.num := by
  unfold directDict directLookup
  rw [Dict.get?_ofList, ← List.map_reverse, List.find?_map]
  have : ((fun p : Atom × Atom => p.1.pyEq (.time ((d : Int) : Rat))) ∘
      fun p : Int × Rat => (Atom.time ((p.1 : Int) : Rat), Atom.num p.2)) = fun p => p.1 == d := by
    funext p
    simp [Atom.pyEq, Atom.norm, Rat.intCast_inj, BEq.beq]
  rw [this]
  cases List.find? (fun p => p.1 == d) m.reverse <;> simp

theorem weekDict_get? (h : List Rat) (n : Nat) (hn : n < 7) :
    Dict.get? (weekDict h) (.num ((n : Nat) : Rat)) = some (.num (h.getD n 0)) := by
  have hp : ((fun p : Atom × Atom => p.1.pyEq (.num ((n : Nat) : Rat))) ∘
      fun i : Nat => (Atom.num ((i : Nat) : Rat), Atom.num (h.getD i 0))) = fun i => i == n := by
    funext i
    simp [Atom.pyEq, Atom.norm, Rat.natCast_inj, BEq.beq]
  -- `n` is the first (and only) number below 7 that equals `n`
  have hf : (List.range 7).find? (fun i => i == n) = some n :=
    List.find?_range_eq_some.2 ⟨by simp, by simpa using hn, fun j hj => by simp; omega⟩
  unfold weekDict Dict.get?
  rw [List.find?_map, hp, hf]
  rfl

/-! ### one lemma per class; the operator classes for an arbitrary behaviour `sub` of the two operands -/

/-- the method body shared by `WorkCalendarSum`, `WorkCalendarsMul`, `WorkCalendarDiv`: `units = None`, the loop over
    `self.__calendars` that skips operands without information and accumulates with `op`, `return units` -/
def accumBody (op : BinOp) : List Stmt :=
  [.assign "units" .none,
   .forIn "c" (.field "calendars")
     [.assign "c_units" (.units (.var "c") (.var "date")),
      .ifElse (.isNone (.var "c_units")) [.continue] [],
      .ifElse (.isNone (.var "units")) [.assign "units" (.var "c_units")] [.aug "units" op (.var "c_units")]],
   .ret (.var "units")]

theorem run_accum (op : BinOp) (f : Rat → Rat → Res Rat)
    (hop : ∀ u v, arith op (.atom (.num u)) (.atom (.num v)) = (f u v).map (fun q => Val.atom (.num q)))
    (sub : Nat → Time → Res (Option Rat)) (t : Time) :
    run sub (accumBody op) opFields t = (do
      let x ← sub 1 t
      let acc ← accum f none x
      let y ← sub 2 t
      accum f acc y) := by
  -- an error of the first operand ends the run before the second operand is looked at
  rcases hx : sub 1 t with _ | _ | u
  · pylite_exec [accumBody, opFields]
  all_goals rcases hy : sub 2 t with _ | _ | v
  -- two numbers: what `f` gives is looked at before the run
  case ok.some.ok.some => cases hf : f u v <;> pylite_exec [↓hop, accumBody, opFields, accum, Except.map]
  all_goals pylite_exec [↓hop, accumBody, opFields, accum, Except.map]

theorem run_Sum (sub : Nat → Time → Res (Option Rat)) (t : Time) :
    run sub src_WorkCalendarSum opFields t = (do
      let x ← sub 1 t
      let acc ← accum (fun u v => pure (u + v)) none x
      let y ← sub 2 t
      accum (fun u v => pure (u + v)) acc y) :=
  run_accum .add _ (fun _ _ => rfl) sub t

theorem run_Mul (sub : Nat → Time → Res (Option Rat)) (t : Time) :
    run sub src_WorkCalendarsMul opFields t = (do
      let x ← sub 1 t
      let acc ← accum (fun u v => pure (u * v)) none x
      let y ← sub 2 t
      accum (fun u v => pure (u * v)) acc y) :=
  run_accum .mul _ (fun _ _ => rfl) sub t

theorem run_Div (sub : Nat → Time → Res (Option Rat)) (t : Time) :
    run sub src_WorkCalendarDiv opFields t = (do
      let x ← sub 1 t
      let acc ← accum divOp none x
      let y ← sub 2 t
      accum divOp acc y) :=
  run_accum .div _ (fun u v => by
    by_cases hv : v = 0 <;>
      simp [arith, arithTime, Atom.asNum?, divOp, hv, Except.map, pure, Except.pure, throw, throwThe, MonadExceptOf.throw]) sub t

theorem run_Sub (sub : Nat → Time → Res (Option Rat)) (t : Time) :
    run sub src_WorkCalendarSub opFields t = (do
      let x ← sub 1 t
      let acc ← accum (fun u v => pure (u - v)) none x
      let y ← sub 2 t
      let r ← accum (fun u v => pure (u - v)) acc y
      match r with
      | none => pure none
      | some u => if u < 0 then pure none else pure (some u)) := by
  rcases hx : sub 1 t with e | _ | u
  · pylite_exec [src_WorkCalendarSub, opFields]
  -- the comparisons of the model are decided first: each run of the source then goes straight through
  all_goals
    rcases hy : sub 2 t with _ | _ | v <;> simp only [accum, bind, Except.bind, pure, Except.pure]
    all_goals repeat' split
    all_goals pylite_exec [src_WorkCalendarSub, opFields]

theorem run_Or (sub : Nat → Time → Res (Option Rat)) (t : Time) :
    run sub src_WorkCalendarDisjunction opFields t = (do
      let x ← sub 1 t
      match x with
      | some u => if 0 < u then pure (some u) else
          (do let y ← sub 2 t
              match y with
              | some v => if 0 < v then pure (some v) else pure none
              | none => pure none)
      | none =>
          (do let y ← sub 2 t
              match y with
              | some v => if 0 < v then pure (some v) else pure none
              | none => pure none)) := by
  -- the cases of the model are split off first: each run of the source then goes straight through
  simp only [bind, Except.bind]
  repeat' split
  all_goals pylite_exec [src_WorkCalendarDisjunction, opFields]

theorem run_Fixed (sub : Nat → Time → Res (Option Rat)) (u : Rat) (s e : Option Time) (t : Time) :
    run sub src_FixedCalendar (fixedFields u s e) t = (Cal.fixed u s e).eval t := by
  cases s <;> cases e <;> simp only [Cal.eval, Bool.false_eq_true, if_false]
  all_goals repeat' split
  all_goals pylite_exec [src_FixedCalendar, fixedFields, optTime]

theorem run_Weekly (sub : Nat → Time → Res (Option Rat)) (s e : Option Time) (h : List Rat) (t : Time) :
    run sub src_WeeklyCalendar (weeklyFields s e h) t = (Cal.weekly s e h).eval t := by
  cases s <;> cases e <;> simp only [Cal.eval, Bool.false_eq_true, if_false]
  all_goals repeat' split
  all_goals pylite_exec [src_WeeklyCalendar, weeklyFields, optTime, weekDict_get? h _ (weekday_lt t)]

theorem run_Direct (sub : Nat → Time → Res (Option Rat)) (m : List (Int × Rat)) (t : Time) :
    run sub src_DirectCalendar (directFields m) t = (Cal.direct m).eval t := by
  cases hl : directLookup m (dayOf t) <;>
    pylite_exec [src_DirectCalendar, directFields, Cal.eval, midnight, directDict_get?]

theorem run_Resource (sub : Nat → Time → Res (Option Rat)) (t : Time) :
    run sub src_Resource resourceFields t = (do let v ← sub 1 t; pure (some (v.getD 0))) := by
  rcases hx : sub 1 t with _ | _ | u <;> pylite_exec [src_Resource, resourceFields]

theorem interp_eq_eval (c : Cal) (t : Time) : interp c t = c.eval t := by
  induction c generalizing t with
  | weekly s e h => exact run_Weekly _ s e h t
  | direct m => exact run_Direct _ m t
  | fixed u s e => exact run_Fixed _ u s e t
  | sum a b iha ihb => simp only [interp, run_Sum, twoSubs, iha, ihb, Cal.eval] <;> rfl
  | sub a b iha ihb => simp only [interp, run_Sub, twoSubs, iha, ihb, Cal.eval] <;> rfl
  | mul a b iha ihb => simp only [interp, run_Mul, twoSubs, iha, ihb, Cal.eval] <;> rfl
  | div a b iha ihb => simp only [interp, run_Div, twoSubs, iha, ihb, Cal.eval] <;> rfl
  | or a b iha ihb => simp only [interp, run_Or, twoSubs, iha, ihb, Cal.eval] <;> rfl

/-- `Resource.get_available_units` (resource.py) = `capR`: the result is always a number -/
theorem interpResource_eq_capR (c : Cal) (t : Time) : interpResource c t = (capR c t).map some := by
  unfold interpResource capR
  rw [run_Resource]
  simp only [oneSub, interp_eq_eval]
  cases c.eval t <;> rfl

/-! ### `IResource.get_nearest_availability_date` -/

/-- `self.get_available_units` of the resource the search runs on -/
def selfSub (x : Time → Res (Option Rat)) : Nat → Time → Res (Option Rat)
  | 0 => x
  | _ => fun _ => throw stuck

def searchEnv (dir : Int) (n k : Nat) (t : Time) : Env :=
  [("start_date", .atom (.time t)), ("direction", .atom (.num ((dir : Int) : Rat))),
   ("max_days", .atom (.num ((n : Nat) : Rat))), ("step", .atom (.num ((k : Nat) : Rat)))]

/-- `Resource(calendar=c).get_nearest_availability_date(t, dir, n)`; `fuel` bounds the `while` loop -/
def interpSearch (fuel : Nat) (c : Cal) (dir : Int) (n : Nat) (t : Time) : Res Time :=
  match runBody (selfSub (interpResource c)) [] fuel src_IResource ((searchEnv dir n 0 t).take 3) with
  | .ok (.atom (.time r)) => pure r
  | .ok _ => throw stuck
  | .error e => throw e

def searchLoop : Expr × List Stmt :=
  match src_IResource with
  | [_, .while c b, _] => (c, b)
  | _ => (.none, [])

theorem src_IResource_shape :
    src_IResource = [.assign "step" (.num 0), .while searchLoop.1 searchLoop.2, .raiseRuntime] := rfl

theorem selfSub_resource (c : Cal) (t : Time) : selfSub (interpResource c) 0 t = (capR c t).map some := by
  simp only [selfSub, interpResource_eq_capR]

theorem search_cond (sub : Nat → Time → Res (Option Rat)) (dir : Int) (n k : Nat) (t : Time) :
    (do truth (← searchLoop.1.eval sub [] (searchEnv dir n k t))) = .ok (decide (k < n)) := by
  pylite_exec [searchLoop, src_IResource, searchEnv, Rat.natCast_lt_natCast]

theorem search_body (c : Cal) (F : Nat) (dir : Int) (n k : Nat) (t : Time) :
    execBlock (selfSub (interpResource c)) [] F searchLoop.2 (searchEnv dir n k t) =
      match (if dir < 0 then capR c (t - 1) else capR c t) with
      | .error e => .raise e
      | .ok u => if 0 < u then .ret (.atom (.time t)) else .normal (searchEnv dir n (k + 1) (t + (dir : Rat))) := by
  by_cases hd : dir < 0 <;> simp only [hd, if_true, if_false]
  all_goals repeat' split
  all_goals pylite_exec [searchLoop, src_IResource, searchEnv, selfSub_resource, Except.map, Rat.intCast_neg_iff]

end Exec

def outcomeOf : Res Time → Outcome
  | .ok r => .ret (.atom (.time r))
  | .error e => .raise e

theorem search_loop (c : Cal) (F : Nat) (dir : Int) (n : Nat) (m : Nat) :
    ∀ (k : Nat) (t : Time) (f : Nat), k + m = n → m < f →
    (match whileLoop (fun env' => do truth (← searchLoop.1.eval (selfSub (interpResource c)) [] env'))
        (fun env' => execBlock (selfSub (interpResource c)) [] F searchLoop.2 env') f (searchEnv dir n k t) with
      | .normal _ => .raise .runtime
      | r => r) = outcomeOf (search c dir m t) := by
  induction m with
  | zero =>
    intro k t f hk hf
    obtain ⟨f, rfl⟩ : ∃ f', f = f' + 1 := ⟨f - 1, by omega⟩
    have : ¬ k < n := by omega
    simp [whileLoop, search_cond, this, search, outcomeOf, throw, throwThe, MonadExceptOf.throw]
  | succ m ih =>
    intro k t f hk hf
    obtain ⟨f, rfl⟩ : ∃ f', f = f' + 1 := ⟨f - 1, by omega⟩
    have hlt : k < n := by omega
    have ih' := ih (k + 1) (t + (dir : Rat)) f (by omega) (by omega)
    simp only [whileLoop, search_cond, hlt, decide_true, search_body, search_succ]
    generalize (if dir < 0 then capR c (t - 1) else capR c t) = r
    rcases r with e | u
    · rfl
    · by_cases hu : 0 < u
      · simp [hu, outcomeOf, bind, Except.bind, pure, Except.pure]
      · simp only [hu, if_false, bind, Except.bind]
        exact ih'

theorem interpSearch_eq_search (fuel : Nat) (c : Cal) (dir : Int) (n : Nat) (t : Time) (hf : n < fuel) :
    interpSearch fuel c dir n t = search c dir n t := by
  have h := search_loop c fuel dir n n 0 t fuel (by omega) hf
  have henv : Env.set ((searchEnv dir n 0 t).take 3) "step" (.atom (.num 0)) = searchEnv dir n 0 t := by
    simp [searchEnv, Env.set]
  unfold interpSearch runBody
  rw [src_IResource_shape]
  simp only [execBlock, Stmt.exec, Expr.eval, pure, Except.pure, henv]
  generalize whileLoop _ _ fuel (searchEnv dir n 0 t) = w at h ⊢
  cases w <;> cases hs : search c dir n t <;>
    simp_all [outcomeOf, throw, throwThe, MonadExceptOf.throw]

/-
  NEGATIVE SANITY CHECK (not compiled; performed with scratch copies of calendar.py / resource.py: the translator run on the mutated text, output written to Extracted/CalendarSrc.lean, then
  `lake build PjVerif.Lemmas.CalendarSrc`; afterwards the file was regenerated from the real source and the build
  succeeded again).  Every semantic mutation broke exactly the lemma of the mutated method:

    WorkCalendarSub          `units < 0` -> `units <= 0`                  run_Sub       FAILS (unsolved goals)
    WorkCalendarDisjunction  `units > 0` -> `units >= 0`                  run_Or        FAILS
    WorkCalendarSum          `units += c_units` -> `units -= c_units`     run_Sum       FAILS
    WorkCalendarsMul         `continue` -> `pass`                         run_Mul       FAILS
    WorkCalendarDiv          `units /= c_units` -> `units *= c_units`     run_Div       FAILS
    FixedCalendar            first `return 0` -> `return None`            run_Fixed     FAILS
    WeeklyCalendar           `date > self.__end` -> `date >= self.__end`  run_Weekly    FAILS
    DirectCalendar           `key = _day_start(date)` -> `key = date`     run_Direct    FAILS
    Resource                 `0 if units is None else units` -> `units`   run_Resource  FAILS
    IResource search         `> 0.0` -> `>= 0.0` (forward branch)         search_body   FAILS
                             `start_date - timedelta(days=1)` -> `start_date`  search_body   FAILS
                             `while step < max_days` -> `<=`              search_cond   FAILS
                             `step += 1` -> `step += 2`                   search_body   FAILS
                             final `raise RuntimeError(..)` -> `return None`   src_IResource_shape FAILS

  Harmless rewrites that still build: `units > 0` -> `0 < units`; `return d[k] if k in d else None`; the positive form
  `if units is not None and units >= 0: return units` / `return None` in WorkCalendarSub; `not (x is None)`, `elif`/
  `else`, a docstring; a local variable for `date.weekday()`; Resource with an `if` statement instead of the
  conditional expression; in the search `0 > direction`, `0 < self.get_available_units(start_date)`,
  `step = step + 1`.  Harmless rewrites that break a proof: a further local variable in the loop of the search (the
  loop invariant `searchEnv` fixes the exact list of variables); any rewrite of WorkCalendarSum / WorkCalendarsMul /
  WorkCalendarDiv that changes the term - renamed locals, a nested `if c_units is not None:` instead of `continue`,
  `units = units + c_units` - (`run_Sum`, `run_Mul`, `run_Div` compare the body with the shared `accumBody`).
-/

end Pj.CalSrc

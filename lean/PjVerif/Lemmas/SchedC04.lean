/-
  Lemmas/SchedC04.lean — C04 on the model: what one placement establishes about the rows it reserves and the final
  fields of its task (`PlacedF`, `PlacedB`) is a fact kept through the run of either scheduler (`InvP`); the executable
  predicates are read off the final state.
-/
import PjVerif.Lemmas.SchedCore
namespace Pj
namespace C04

theorem cast_le_cast {a b : Int} (h : a ≤ b) : (a : Rat) ≤ (b : Rat) := Rat.intCast_le_intCast.mpr h

theorem minT_le_right (a b : Time) : minT a b ≤ b := Pj.minT_le_right a b

theorem fwd_leaf_rows (env : Env) (hc : env.clockOK) (cal : Cal) (used : Int → Rat) (hu : ∀ d, 0 ≤ used d)
    (st : Time) (k : Nat) (left : Rat) (hl : 0 ≤ left) (e : Time) (rows : List (Int × Rat))
    (h : shiftFwd cal used (maxT st (env.clock k)) left = .ok (e, rows)) :
    (rows.map (·.2)).sum = left ∧ (rows.map (·.1)).Pairwise (· ≠ ·) ∧
    (∀ p ∈ rows, dayOf st ≤ p.1 ∧ (p.1 : Rat) < maxT (if env.bound < env.clock (k + 1) then maxT e (env.clock (k + 1)) else e) st ∧ dayOf (env.clock 0) ≤ p.1) ∧
    (rows ≠ [] → ∃ d : Int, (∃ p ∈ rows, p.1 = d) ∧ (∀ p ∈ rows, p.1 ≤ d) ∧
      (d : Rat) < maxT (if env.bound < env.clock (k + 1) then maxT e (env.clock (k + 1)) else e) st ∧ maxT (if env.bound < env.clock (k + 1) then maxT e (env.clock (k + 1)) else e) st ≤ (d : Rat) + 1) := by
  obtain ⟨dayL, dauL, hs, _, hd⟩ := shiftFwd_spec cal used _ left e rows hl hu h
  · have hE1 : e ≤ maxT (if env.bound < env.clock (k + 1) then maxT e (env.clock (k + 1)) else e) st := by
      simp only [maxT_eq_max]; grind
    have hlow : ∀ p ∈ rows, dayOf (maxT st (env.clock k)) ≤ p.1 := fun p hp => by
      have := (hs.range p hp).1; omega
    have hd1 : dayOf st ≤ dayOf (maxT st (env.clock k)) := dayOf_mono (le_maxT_left _ _)
    have hd2 : dayOf (env.clock 0) ≤ dayOf (maxT st (env.clock k)) := by
      rw [← hc.2 k]; exact dayOf_mono (le_maxT_right _ _)
    refine ⟨hs.total, hs.nodup, ?_, ?_⟩
    · intro p hp
      have := hlow p hp
      have h3 : p.1 ≤ dayL := by have := (hs.range p hp).2; omega
      have h4 := cast_le_cast h3
      refine ⟨by omega, by grind, by omega⟩
    · intro hne
      obtain ⟨he1, he2, _⟩ := hd hne
      obtain ⟨u, hmem⟩ := hs.last_mem hne
      refine ⟨dayL, ⟨_, hmem, rfl⟩, fun p hp => by have := (hs.range p hp).2; omega, by grind, ?_⟩
      have hL : dayOf (maxT st (env.clock k)) ≤ dayL := hlow _ hmem
      have b1 : st < (dayL : Rat) + 1 := by
        have := lt_dayOf_succ st
        have := cast_le_cast (show dayOf st ≤ dayL by omega)
        grind
      have b2 : env.clock (k + 1) < (dayL : Rat) + 1 := by
        have := lt_dayOf_succ (env.clock (k + 1))
        have := cast_le_cast (show dayOf (env.clock (k + 1)) ≤ dayL by rw [hc.2 (k + 1)]; omega)
        grind
      simp only [maxT_eq_max]; grind

theorem fwd_leaf_start (env : Env) (hc : env.clockOK) (cal : Cal) (used : Int → Rat) (hu : ∀ d, 0 ≤ used d)
    (s0 st : Time) (k1 k : Nat) (hk : env.clock k1 ≤ s0) (hn : nearestFwd cal used s0 = .ok st)
    (left : Rat) (hl : 0 ≤ left) (e : Time) (rows : List (Int × Rat))
    (h : shiftFwd cal used (maxT st (env.clock k)) left = .ok (e, rows)) (hne : rows ≠ []) :
    ∃ p ∈ rows, p.1 = dayOf st := by
  obtain ⟨d, c, g1, g2, g3, g4, g5, _⟩ := nearestFwd_spec cal used s0 st hu hn
  obtain ⟨dayL, dauL, hs, _⟩ := shiftFwd_spec cal used _ left e rows hl hu h
  · have hday : dayOf (maxT st (env.clock k)) = d :=
      (nearestFwd_day_maxT hu hn (by rw [hc.2 k, ← hc.2 k1]; exact dayOf_mono hk)).trans g5
    rw [g5]
    rw [hday] at hs
    obtain ⟨_, u', hu'⟩ := hs.first_mem (Or.inl rfl) hne g2 g3
    exact ⟨_, hu', rfl⟩


theorem bwd_leaf_rows (cal : Cal) (used : Int → Rat) (hu : ∀ d, 0 ≤ used d)
    (en E : Time) (hE : en ≤ E) (left : Rat) (hl : 0 ≤ left) (s : Time) (rows : List (Int × Rat))
    (h : shiftBwd cal used en left = .ok (s, rows)) :
    (rows.map (·.2)).sum = left ∧ (rows.map (·.1)).Pairwise (· ≠ ·) ∧
    (∀ p ∈ rows, dayOf s ≤ p.1 ∧ (p.1 : Rat) < E) ∧
    (rows ≠ [] → ∃ d : Int, (∃ p ∈ rows, p.1 = d) ∧ (∀ p ∈ rows, d ≤ p.1) ∧ (d : Rat) ≤ s ∧ s < (d : Rat) + 1) := by
  obtain ⟨dayL, dauL, hs, _, hd⟩ := shiftBwd_spec cal used en left s rows hl hu h
  refine ⟨hs.total, hs.nodup, ?_, ?_⟩
  · intro p hp
    obtain ⟨he1, he2, _⟩ := hd (List.ne_nil_of_mem hp)
    have hds : dayOf s = dayL := dayOf_eq_of_bounds dayL s he1 he2
    have hr := hs.range p hp
    have := int_succ_le_cast (show p.1 < dayOf en by omega)
    have := dayOf_le_self en
    refine ⟨by omega, by grind⟩
  · intro hne
    obtain ⟨he1, he2, _⟩ := hd hne
    obtain ⟨u, hlast⟩ := hs.last_mem hne
    exact ⟨dayL, ⟨_, hlast, rfl⟩, fun p hp => by have := (hs.range p hp).2; omega, he1, he2⟩

/-- the per-task facts common to both directions, about the rows `new` a placement reserved -/
structure PlacedCore (env : Env) (f0 : Uid → Fields) (t : Uid) (new : List (Int × Rat)) : Prop where
  none : works env f0 t = false → new = []
  amount : works env f0 t = true → (new.map (·.2)).sum = remaining env f0 t
  once : (new.map (·.1)).Pairwise (· ≠ ·)

/-- what a forward placement establishes about the final fields `g` of its task and the rows it reserved -/
structure PlacedF (env : Env) (f0 : Uid → Fields) (t : Uid) (g : Fields) (new : List (Int × Rat)) : Prop where
  core : PlacedCore env f0 t new
  window : ∀ p ∈ new, ∃ s e, g.start = some s ∧ g.end_ = some e ∧ dayOf s ≤ p.1 ∧ (p.1 : Rat) < e ∧
    dayOf (env.clock 0) ≤ p.1
  startFirst : (f0 t).start = none → new ≠ [] → ∃ s, g.start = some s ∧ ∃ p ∈ new, p.1 = dayOf s
  endLast : new ≠ [] → ∃ e, ∃ d : Int, g.end_ = some e ∧ (∃ p ∈ new, p.1 = d) ∧ (∀ p ∈ new, p.1 ≤ d) ∧
    (d : Rat) < e ∧ e ≤ (d : Rat) + 1
  fixed : isLeaf env t = true → (env.info t).milestone = false →
    (∀ s, (f0 t).start = some s → g.start = some s) ∧ (∀ e, (f0 t).end_ = some e → g.end_ = some e)

theorem PlacedF.nil {env : Env} {f0 : Uid → Fields} {t : Uid} {g : Fields} (hw : works env f0 t = false)
    (hfix : isLeaf env t = true → (env.info t).milestone = false →
      (∀ s, (f0 t).start = some s → g.start = some s) ∧ (∀ e, (f0 t).end_ = some e → g.end_ = some e)) :
    PlacedF env f0 t g [] :=
  ⟨⟨fun _ => rfl, fun h => (by rw [hw] at h; cases h), (by simp)⟩, (by simp), (by simp), (by simp), hfix⟩

theorem remaining_eq (env : Env) (f0 : Uid → Fields) (t : Uid) :
    remaining env f0 t = workLeft ((f0 t).est.getD env.defaultEst) ((f0 t).spent.getD 0) := rfl

theorem works_leaf (env : Env) (f0 : Uid → Fields) (t : Uid) (hl : (env.info t).children.isEmpty = true)
    (hm : (env.info t).milestone = false) : works env f0 t = (f0 t).end_.isNone := by
  simp [works, isLeaf, hl, hm]

theorem fwdLeaf_placedF (env : Env) (f0 : Uid → Fields) (cal : Cal) (used : Int → Rat) (t : Uid) (v : Time) (r : Nat)
    (o : Outcome) (hc : env.clockOK) (hu : ∀ d, 0 ≤ used d) (hl : (env.info t).children.isEmpty = true)
    (hm : (env.info t).milestone = false) (h : fwdLeaf env.clock env.bound env.defaultEst (env.info t).minStart cal used v r (f0 t) = .ok o) :
    PlacedF env f0 t o.g o.new := by
  obtain ⟨s, k, hs, hend⟩ := fwdLeaf_ok h
  have hw := works_leaf env f0 t hl hm
  have hkeep : ∀ s0, (f0 t).start = some s0 → s = s0 := fun s0 h0 => by
    rcases fwdLeafStart_ok hs with ⟨h1, _⟩ | ⟨h1, _⟩
    · exact Option.some.inj (h1.symm.trans h0)
    · exact nomatch h1.symm.trans h0
  rcases hend with ⟨e, he, rfl⟩ | ⟨he, e, rows, hsh, rfl⟩
  · exact PlacedF.nil (by simp [hw, he]) (fun _ _ => ⟨fun s0 h0 => by rw [hkeep s0 h0], fun e0 h0 => by rw [← he, h0]⟩)
  · have hw' : works env f0 t = true := by simp [hw, he]
    obtain ⟨q1, q2, q3, q4⟩ := fwd_leaf_rows env hc cal used hu s (r + k) _ (workLeft_nonneg _ _) e rows hsh
    refine ⟨⟨fun h => (by rw [hw'] at h; cases h), fun _ => (by rw [q1, remaining_eq]), q2⟩, ?_, ?_, ?_, ?_⟩
    · intro p hp
      exact ⟨s, _, rfl, rfl, q3 p hp⟩
    · intro hn hne
      rcases fwdLeafStart_ok hs with ⟨h1, _⟩ | ⟨_, _, h2⟩
      · exact nomatch hn.symm.trans h1
      · exact ⟨s, rfl, fwd_leaf_start env hc cal used hu _ s r _
          (Rat.le_trans (le_maxT_right v _) (le_maxT_left _ _)) h2 _ (workLeft_nonneg _ _) e rows hsh hne⟩
    · intro hne
      obtain ⟨d, hd⟩ := q4 hne
      exact ⟨_, d, rfl, hd⟩
    · intro _ _
      exact ⟨fun s0 h0 => by rw [hkeep s0 h0], fun e' h0 => nomatch he.symm.trans h0⟩

theorem fwdPlace_placed (env : Env) (f0 : Uid → Fields) (mem : List Uid) (σ σ' : SS) (t : Uid) (v : Time)
    (hc : env.clockOK) (hu : ∀ d, 0 ≤ usedBy env σ.rows (env.info t).resource t d)
    (hpre : σ.f t = prepare env f0 mem t) (h : fwdPlace env σ t v = .ok σ') :
    ∃ new, σ'.rows = σ.rows ++ new.map (mkRow (env.info t).resource t) ∧ PlacedF env f0 t (σ'.f t) new := by
  rw [fwdPlace_eq env σ t v] at h
  obtain ⟨o, ho, rfl⟩ := Res.map_ok h
  refine ⟨o.new, rfl, ?_⟩
  rw [SS.commit_f_same]
  rcases kind_ok ho with ⟨hm, ho⟩ | ⟨hm, hl, ho⟩ | ⟨hm, hl, ho⟩
  · cases ho
    exact PlacedF.nil (by simp [works, hm]) (fun _ hm' => nomatch hm.symm.trans hm')
  · rw [hpre, prepare_leaf env f0 mem t hl] at ho
    exact fwdLeaf_placedF env f0 _ _ t v σ.reads o hc hu hl hm ho
  · obtain ⟨s, e, es, sp, rfl, _⟩ := fwdSum_ok ho
    exact PlacedF.nil (by simp [works, isLeaf, hl]) (fun hl' => by rw [isLeaf, hl] at hl'; cases hl')

/-- what a backward placement establishes -/
structure PlacedB (env : Env) (f0 : Uid → Fields) (t : Uid) (g : Fields) (new : List (Int × Rat)) : Prop where
  core : PlacedCore env f0 t new
  window : ∀ p ∈ new, ∃ s e, g.start = some s ∧ g.end_ = some e ∧ dayOf s ≤ p.1 ∧ (p.1 : Rat) < e
  startFirst : new ≠ [] → ∃ s, ∃ d : Int, g.start = some s ∧ (∃ p ∈ new, p.1 = d) ∧ (∀ p ∈ new, d ≤ p.1) ∧
    (d : Rat) ≤ s ∧ s < (d : Rat) + 1

theorem PlacedB.nil {env : Env} {f0 : Uid → Fields} {t : Uid} {g : Fields} (hw : works env f0 t = false) :
    PlacedB env f0 t g [] :=
  ⟨⟨fun _ => rfl, fun h => (by rw [hw] at h; cases h), (by simp)⟩, (by simp), (by simp)⟩

theorem bwdLeaf_placedB (env : Env) (f0 : Uid → Fields) (cal : Cal) (used : Int → Rat) (t : Uid) (m v : Time)
    (o : Outcome) (hu : ∀ d, 0 ≤ used d) (hl : (env.info t).children.isEmpty = true)
    (hm : (env.info t).milestone = false) (hs0 : (f0 t).start = none) (he0 : (f0 t).end_ = none)
    (h : bwdLeaf env.defaultEst cal used m v (f0 t) = .ok o) : PlacedB env f0 t o.g o.new := by
  obtain ⟨E, s, rows, _, hsh, rfl⟩ := bwdLeaf_ok h
  have hw : works env f0 t = true := by simp [works_leaf env f0 t hl hm, he0]
  obtain ⟨q1, q2, q3, q4⟩ := bwd_leaf_rows cal used hu _ E (minT_le_left _ _) _ (workLeft_nonneg _ _) s rows hsh
  refine ⟨⟨fun h => (by rw [hw] at h; cases h), fun _ => (by rw [q1, remaining_eq]), q2⟩, ?_, ?_⟩
  · intro p hp
    exact ⟨s, E, by simp only [hs0], rfl, q3 p hp⟩
  · intro hne
    obtain ⟨d, hd⟩ := q4 hne
    exact ⟨s, d, by simp only [hs0], hd⟩

theorem bwdPlace_placed (env : Env) (f0 : Uid → Fields) (mem : List Uid) (σ σ' : SS) (t : Uid) (m v : Time)
    (hu : ∀ d, 0 ≤ usedBy env σ.rows (env.info t).resource t d)
    (hpre : σ.f t = prepare env f0 mem t)
    (hnf : (env.info t).children.isEmpty = true → (f0 t).start = none ∧ (f0 t).end_ = none)
    (h : bwdPlace env σ t m v = .ok σ') :
    ∃ new, σ'.rows = σ.rows ++ new.map (mkRow (env.info t).resource t) ∧ PlacedB env f0 t (σ'.f t) new := by
  rw [bwdPlace_eq env σ t m v] at h
  obtain ⟨o, ho, rfl⟩ := Res.map_ok h
  refine ⟨o.new, rfl, ?_⟩
  rw [SS.commit_f_same]
  rcases kind_ok ho with ⟨hm, ho⟩ | ⟨hm, hl, ho⟩ | ⟨hm, hl, ho⟩
  · cases ho
    exact PlacedB.nil (by simp [works, hm])
  · rw [hpre, prepare_leaf env f0 mem t hl] at ho
    exact bwdLeaf_placedB env f0 _ _ t m v o hu hl hm (hnf hl).1 (hnf hl).2 ho
  · obtain ⟨_, _, _, _, rfl, _⟩ := bwdSum_ok ho
    exact PlacedB.nil (by simp [works, isLeaf, hl])

theorem rowsOf_mk_other (r : Option Nat) (t x : Uid) (new : List (Int × Rat)) (hx : x ≠ t) :
    rowsOf (new.map (mkRow r t)) x = [] := by
  apply rowsOf_none
  intro y hy
  obtain ⟨p, _, rfl⟩ := List.mem_map.1 hy
  simpa [mkRow] using hx.symm

theorem sumUnits_mk (r : Option Nat) (t : Uid) (new : List (Int × Rat)) :
    sumUnits (new.map (mkRow r t)) = (new.map (·.2)).sum := by
  simp [sumUnits, List.map_map, mkRow, Function.comp_def]

theorem once_length : ∀ (l : List (Int × Rat)) (p : Int × Rat), (l.map (·.1)).Pairwise (· ≠ ·) → p ∈ l →
    (l.filter (fun q => q.1 == p.1)).length = 1
  | [], _, _, h => by cases h
  | q :: l, p, hp, h => by
    simp only [List.map_cons, List.pairwise_cons] at hp
    rcases List.mem_cons.1 h with rfl | h
    · have : l.filter (fun q => q.1 == p.1) = [] := by
        rw [List.filter_eq_nil_iff]
        intro x hx
        have := hp.1 x.1 (List.mem_map_of_mem hx)
        simpa using fun hc => this hc.symm
      simp [this]
    · have hne : q.1 ≠ p.1 := hp.1 p.1 (List.mem_map_of_mem h)
      rw [List.filter_cons_of_neg (by simpa using hne)]
      exact once_length l p hp.2 h

/-- `Core`, and for every done task: the rows it owns in the ledger are those of its placement, and `P` holds of
    them and of its fields -/
structure InvP (env : Env) (f0 : Uid → Fields) (mem : List Uid)
    (P : Uid → Fields → List (Int × Rat) → Prop) (σ : SS) : Prop where
  ledger : LedgerOK env σ
  pre : ∀ x, x ∉ σ.done → σ.f x = prepare env f0 mem x
  rowsDone : ∀ r ∈ σ.rows, r.task ∈ σ.done
  placed : ∀ t ∈ σ.done, ∃ new, rowsOf σ.rows t = new.map (mkRow (env.info t).resource t) ∧ P t (σ.f t) new
  doneMem : ∀ t ∈ σ.done, t ∈ mem

theorem run_invP {env : Env} {f0 : Uid → Fields} {res0 : List (Option Nat × Cal)} {o : Output}
    {P : Uid → Fields → List (Int × Rat) → Prop} (d : Sched env) (hd : d.OK) (hf : env.flagsOK)
    (hplace : ∀ σ σ' t m v, Core env (prepare env f0 (memberList env)) σ → t ∈ memberList env → t ∉ σ.done →
      d.place σ t m v = .ok σ' → ∃ new, σ'.rows = σ.rows ++ new.map (mkRow (env.info t).resource t) ∧ P t (σ'.f t) new)
    (h : d.run f0 res0 = .ok o) :
    ∃ σ, o = { f := σ.f, rows := σ.rows, res := σ.res } ∧ InvP env f0 (memberList env) P σ ∧
      ∀ t ∈ memberList env, t ∈ σ.done := by
  obtain ⟨σ, ho, hc, hall⟩ := d.run_tasks hd hf
    (fun σ t => ∃ new, rowsOf σ.rows t = new.map (mkRow (env.info t).resource t) ∧ P t (σ.f t) new) (fun _ _ => True)
    ⟨fun σ σ' t _ _ he ht ⟨new, h1, h2⟩ => by
        obtain ⟨hf, hro, _⟩ := he.view env ht
        exact ⟨new, hro.trans h1, hf ▸ h2⟩,
      fun _ σ σ' t m h _ _ => by
        obtain ⟨new, hr, hp⟩ := hplace σ σ' t m _ h.core ((hf t).1 h.mem) h.fresh h.run
        exact ⟨new, by rw [hr, rowsOf_placed _ _ _ _ (h.core.noRows h.fresh)], hp⟩⟩
    (fun _ _ => trivial) (fun _ _ _ _ _ _ _ => trivial) (fun _ _ _ _ _ _ _ => trivial) h
  have hdm : ∀ t ∈ σ.done, t ∈ memberList env := fun t ht => (hf t).1 (hc.doneMem t ht)
  exact ⟨σ, ho, ⟨hc.ledger, hc.init, hc.rowsDone, fun t ht => (hall t (hdm t ht)).2, hdm⟩, fun t ht => (hall t ht).1⟩

section final
variable {env : Env} {f0 : Uid → Fields} {mem : List Uid} {P : Uid → Fields → List (Int × Rat) → Prop} {σ : SS}

theorem InvP.row_mem (hi : InvP env f0 mem P σ) (r : Row) (hr : r ∈ σ.rows) :
    r.task ∈ σ.done ∧ ∃ new, rowsOf σ.rows r.task = new.map (mkRow (env.info r.task).resource r.task) ∧
      P r.task (σ.f r.task) new ∧ ∃ p ∈ new, r = mkRow (env.info r.task).resource r.task p := by
  have hd := hi.rowsDone r hr
  obtain ⟨new, hn, hp⟩ := hi.placed r.task hd
  refine ⟨hd, new, hn, hp, ?_⟩
  have : r ∈ rowsOf σ.rows r.task := by simp [rowsOf, hr]
  rw [hn] at this
  obtain ⟨p, hp, he⟩ := List.mem_map.1 this
  exact ⟨p, hp, he.symm⟩

theorem c04Amount_of (hi : InvP env f0 mem P σ) (hm : memberList env = mem) (hall : ∀ t ∈ mem, t ∈ σ.done)
    (hcore : ∀ t g new, P t g new → PlacedCore env f0 t new) :
    c04Amount env f0 { f := σ.f, rows := σ.rows, res := σ.res } = true := by
  simp only [c04Amount, hm, List.all_eq_true, Bool.or_eq_true, Bool.not_eq_true', beq_iff_eq]
  intro t ht
  cases hw : works env f0 t with
  | false => exact Or.inl rfl
  | true =>
    right
    obtain ⟨new, hn, hp⟩ := hi.placed t (hall t ht)
    rw [hn, sumUnits_mk]
    exact (hcore _ _ _ hp).amount hw

theorem c04OncePerDay_of (hi : InvP env f0 mem P σ)
    (hcore : ∀ t g new, P t g new → PlacedCore env f0 t new) :
    c04OncePerDay { f := σ.f, rows := σ.rows, res := σ.res } = true := by
  simp only [c04OncePerDay, List.all_eq_true, beq_iff_eq]
  intro r hr
  obtain ⟨_, new, hn, hp, p, hpn, hrp⟩ := hi.row_mem r hr
  have : σ.rows.filter (fun x => x.task == r.task && x.day == r.day) =
      (rowsOf σ.rows r.task).filter (fun x => x.day == r.day) := by
    unfold rowsOf
    rw [List.filter_filter]
    congr 1
    funext x
    exact Bool.and_comm _ _
  rw [this, hn, List.filter_map, List.length_map]
  have hday : r.day = p.1 := by rw [hrp]; rfl
  rw [hday]
  exact once_length new p (hcore _ _ _ hp).once hpn

theorem c04None_of (hi : InvP env f0 mem P σ) (hm : memberList env = mem)
    (hcore : ∀ t g new, P t g new → PlacedCore env f0 t new) :
    c04None env f0 { f := σ.f, rows := σ.rows, res := σ.res } = true := by
  simp only [c04None, hm, List.all_eq_true, Bool.and_eq_true, List.contains_iff_mem]
  intro r hr
  obtain ⟨hd, new, hn, hp, p, hpn, hrp⟩ := hi.row_mem r hr
  refine ⟨?_, hi.doneMem _ hd⟩
  cases hw : works env f0 r.task with
  | true => rfl
  | false =>
    have := (hcore _ _ _ hp).none hw
    rw [this] at hpn; cases hpn

theorem c04Window_fwd_of (hi : InvP env f0 mem (PlacedF env f0) σ) :
    c04Window env true { f := σ.f, rows := σ.rows, res := σ.res } = true := by
  simp only [c04Window, List.all_eq_true]
  intro r hr
  obtain ⟨_, new, hn, hp, p, hpn, hrp⟩ := hi.row_mem r hr
  obtain ⟨s, e, hs, he, h1, h2, h3⟩ := hp.window p hpn
  have hday : r.day = p.1 := by rw [hrp]; rfl
  simp only [hs, he, hday]
  simp [h1, h2, h3]

theorem c04Window_bwd_of (hi : InvP env f0 mem (PlacedB env f0) σ) :
    c04Window env false { f := σ.f, rows := σ.rows, res := σ.res } = true := by
  simp only [c04Window, List.all_eq_true]
  intro r hr
  obtain ⟨_, new, hn, hp, p, hpn, hrp⟩ := hi.row_mem r hr
  obtain ⟨s, e, hs, he, h1, h2⟩ := hp.window p hpn
  have hday : r.day = p.1 := by rw [hrp]; rfl
  simp only [hs, he, hday]
  simp [h1, h2]

theorem c04StartFirstDay_of (hi : InvP env f0 mem (PlacedF env f0) σ) (hm : memberList env = mem)
    (hall : ∀ t ∈ mem, t ∈ σ.done) :
    c04StartFirstDay env f0 { f := σ.f, rows := σ.rows, res := σ.res } = true := by
  simp only [c04StartFirstDay, hm, List.all_eq_true]
  intro t ht
  cases hw : works env f0 t with
  | false => simp
  | true =>
    cases hs0 : (f0 t).start with
    | some s => simp
    | none =>
      simp only [Bool.not_true, Option.isSome_none, Bool.or_self, Bool.false_or]
      obtain ⟨new, hn, hp⟩ := hi.placed t (hall t ht)
      rw [hn]
      by_cases hne : new = []
      · subst hne; simp [firstDay]
      · obtain ⟨s, hs, p, hpn, hpd⟩ := hp.startFirst hs0 hne
        have hlow : ∀ q ∈ new, dayOf s ≤ q.1 := by
          intro q hq
          obtain ⟨s', _, hs', _, h1, _⟩ := hp.window q hq
          rw [hs] at hs'; cases hs'; exact h1
        rw [firstDay_mk _ _ new (dayOf s) ⟨p, hpn, hpd⟩ hlow, hs]
        simp

theorem c04EndLastDay_of (hi : InvP env f0 mem (PlacedF env f0) σ) (hm : memberList env = mem)
    (hall : ∀ t ∈ mem, t ∈ σ.done) :
    c04EndLastDay env f0 { f := σ.f, rows := σ.rows, res := σ.res } = true := by
  simp only [c04EndLastDay, hm, List.all_eq_true]
  intro t ht
  cases hw : works env f0 t with
  | false => simp
  | true =>
    simp only [Bool.not_true, Bool.false_or]
    obtain ⟨new, hn, hp⟩ := hi.placed t (hall t ht)
    rw [hn]
    by_cases hne : new = []
    · subst hne; simp [lastDay]
    · obtain ⟨e, d, he, h1, h2, h3, h4⟩ := hp.endLast hne
      rw [lastDay_mk _ _ new d h1 h2, he]
      simp [h3, h4]

theorem c04FixedKept_of (hi : InvP env f0 mem (PlacedF env f0) σ) (hm : memberList env = mem)
    (hall : ∀ t ∈ mem, t ∈ σ.done) :
    c04FixedKept env f0 { f := σ.f, rows := σ.rows, res := σ.res } = true := by
  simp only [c04FixedKept, hm, List.all_eq_true]
  intro t ht
  cases hl : isLeaf env t with
  | false => simp
  | true =>
    cases hms : (env.info t).milestone with
    | true => simp
    | false =>
      obtain ⟨new, _, hp⟩ := hi.placed t (hall t ht)
      obtain ⟨h1, h2⟩ := hp.fixed hl hms
      simp only [Bool.not_true, Bool.false_or, Bool.and_eq_true]
      constructor
      · cases hs : (f0 t).start with
        | none => rfl
        | some s => simp [h1 s hs]
      · cases he : (f0 t).end_ with
        | none => rfl
        | some e => simp [h2 e he]

theorem c04BwdStartFirstDay_of (hi : InvP env f0 mem (PlacedB env f0) σ) (hm : memberList env = mem)
    (hall : ∀ t ∈ mem, t ∈ σ.done) :
    c04BwdStartFirstDay env f0 { f := σ.f, rows := σ.rows, res := σ.res } = true := by
  simp only [c04BwdStartFirstDay, hm, List.all_eq_true]
  intro t ht
  cases hw : works env f0 t with
  | false => simp
  | true =>
    simp only [Bool.not_true, Bool.false_or]
    obtain ⟨new, hn, hp⟩ := hi.placed t (hall t ht)
    rw [hn]
    by_cases hne : new = []
    · subst hne; simp [firstDay]
    · obtain ⟨s, d, hs, h1, h2, h3, h4⟩ := hp.startFirst hne
      rw [firstDay_mk _ _ new d h1 h2, hs]
      simp [h3, h4]

end final

theorem forwardCalc_c04 (env : Env) (f0 : Uid → Fields) (res0 : List (Option Nat × Cal)) (o : Output)
    (hf : env.flagsOK) (hc : env.clockOK) (h : forwardCalc env f0 res0 = .ok o) :
    c04Amount env f0 o = true ∧ c04OncePerDay o = true ∧ c04Window env true o = true ∧ c04None env f0 o = true ∧
    c04StartFirstDay env f0 o = true ∧ c04EndLastDay env f0 o = true ∧ c04FixedKept env f0 o = true := by
  obtain ⟨σ, rfl, hi, hall⟩ := run_invP (P := PlacedF env f0) (Sched.fwd env) (Sched.fwd_ok env) hf
    (fun s s' t _ v hi _ ht h => fwdPlace_placed env f0 _ s s' t v hc (hi.used_nonneg t) (hi.init t ht) h)
    (fwdRun_eq env ▸ forwardCalc_run env f0 res0 o h)
  have hcore : ∀ t g new, PlacedF env f0 t g new → PlacedCore env f0 t new := fun _ _ _ hp => hp.core
  exact ⟨c04Amount_of hi rfl hall hcore, c04OncePerDay_of hi hcore, c04Window_fwd_of hi, c04None_of hi rfl hcore,
    c04StartFirstDay_of hi rfl hall, c04EndLastDay_of hi rfl hall, c04FixedKept_of hi rfl hall⟩

theorem backwardCalc_c04 (env : Env) (f0 : Uid → Fields) (res0 : List (Option Nat × Cal)) (o : Output)
    (hf : env.flagsOK) (hn : noFixedDates env f0 = true) (h : backwardCalc env f0 res0 = .ok o) :
    c04Amount env f0 o = true ∧ c04OncePerDay o = true ∧ c04Window env false o = true ∧ c04None env f0 o = true ∧
    c04BwdStartFirstDay env f0 o = true := by
  have hnf : ∀ t ∈ memberList env, (env.info t).children.isEmpty = true → (f0 t).start = none ∧ (f0 t).end_ = none := by
    intro t ht hl
    have := List.all_eq_true.1 hn t ht
    simpa [isLeaf, hl] using this
  obtain ⟨σ, rfl, hi, hall⟩ := run_invP (P := PlacedB env f0) (Sched.bwd env) (Sched.bwd_ok env) hf
    (fun s s' t m v hi hq ht h =>
      bwdPlace_placed env f0 _ s s' t m v (hi.used_nonneg t) (hi.init t ht) (hnf t hq) h)
    (bwdRun_eq env ▸ backwardCalc_run env f0 res0 o h)
  have hcore : ∀ t g new, PlacedB env f0 t g new → PlacedCore env f0 t new := fun _ _ _ hp => hp.core
  exact ⟨c04Amount_of hi rfl hall hcore, c04OncePerDay_of hi hcore, c04Window_bwd_of hi, c04None_of hi rfl hcore,
    c04BwdStartFirstDay_of hi rfl hall⟩

end C04
end Pj

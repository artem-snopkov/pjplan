/-
  Lemmas/RenderSrcCheckB.lean — stage 1, continued: concrete runs of the translated Gantt source
  (`MermaidGantt.__mermaid_task_state`, `__mermaid_task`, `__src`) against Model/Render.lean: instances of the general
  theorems of RenderSrcB.lean / RenderSrcC.lean; the exact texts of the model are evaluated by the kernel.  See
  Lemmas/RenderSrc.lean and RenderSrcCheck.lean (the WBS `w1`, the views `V1` … `V6`, the clock reads 100).
-/
import PjVerif.Lemmas.RenderSrcRuns
namespace Pj.RenderSrc
open Pj.PyLite Pj.Render Pj.Extracted.Render
open Pj.PrintSrc (Lib cLib enc dec dec_enc cLib_ok)
namespace Check

def gSrc (V : View) : Str := ganttSrc V.title V.weekends V.tick (gTasks S V w1)

example : (views.all (fun V => dec (enc (gSrc V)) == gSrc V)) = true := List.all_eq_true.2 fun _ _ => beq_iff_eq.2 (dec_enc _)

/-! ### `__mermaid_task_state`, `__mermaid_task` -/

example : ((List.range 8).all (fun t => decide (interpTaskState S V1 w1 FC t = .ok (.atom (S.s (stateOf (toGTask S V1 (w1 t)))))))) = true :=
  List.all_eq_true.2 fun t _ => decide_eq_true (interpTaskState_eq V1 w1 FC t (by decide))
example : ((List.range 8).map (fun t => stateOf (toGTask S V1 (w1 t)))) =
    ["done,", "active,", "milestone,", "", "done,", "", "done,", "done,"].map String.toList := by decide +kernel

example : ((List.range 8).all (fun t => decide (interpGanttLine S V1 w1 FC t = .ok (.atom (S.s (ganttLine (toGTask S V1 (w1 t)))))))) = true :=
  List.all_eq_true.2 fun t _ => decide_eq_true (interpGanttLine_eq V1 w1 cLib_ok FC t (by decide))

/-! ### `MermaidGantt.__src` -/

example : (views.all (fun V => decide (interpGanttSrc S V w1 FC = .ok (.atom (S.s (gSrc V)))))) = true :=
  List.all_eq_true.2 fun V hV => decide_eq_true (interpGanttSrc_eq V w1 cLib_ok (secOK_views V hV) FC (by decide))

/-- the exact texts (of the model = of the program, by the example above; `@n` stands for the formatted date) -/
example : gSrc V1 = txt
  ["gantt\n", "  dateFormat DD.MM.YYYY HH:mm\n", "  title My plan\n", "  excludes weekends\n", "  tickInterval 1day\n",
   "  section A\n",
   "    Plan {draft}: done, id_1, @10, @50\n",
   "    : done, id_5, @99, @100\n",
   "  section B\n",
   "    Say \"hi\" {x}: active, id_2, @50, @150\n",
   "    \": done, id_x-7, @0, @1\n",
   "  section -\n",
   "    M stone: milestone, id_3, @60, @60\n",
   "    }{:  id_4, @200, @300\n",
   "    abc:  id_6, @100, @101\n"] := by
  -- the kernel turns a string literal into its characters in quadratic time: they are taken from the literals first
  unfold txt
  repeat rw [PrintSrc.toList_flatten_cons]
  decide +kernel

/-- one named section only: no section line; no title; an empty tick interval is not written -/
example : gSrc V2 = txt
  ["gantt\n", "  dateFormat DD.MM.YYYY HH:mm\n",
   "    Plan {draft}: done, id_1, @10, @50\n",
   "    : done, id_5, @99, @100\n"] := by
  unfold txt
  repeat rw [PrintSrc.toList_flatten_cons]
  decide +kernel

/-- no section attribute at all; an empty title is written (the constructor turns '' into None: `self.title` is never '') -/
example : gSrc V3 = txt
  ["gantt\n", "  dateFormat DD.MM.YYYY HH:mm\n", "  title \n", "  excludes weekends\n",
   "    abc:  id_6, @100, @101\n",
   "    M stone: milestone, id_3, @60, @60\n",
   "    Ext{: done, id_70, @0, @1\n"] := by
  unfold txt
  repeat rw [PrintSrc.toList_flatten_cons]
  decide +kernel

/-- sections in the order of their first task -/
example : gSrc V4 = txt
  ["gantt\n", "  dateFormat DD.MM.YYYY HH:mm\n", "  title My plan\n", "  tickInterval 1day\n",
   "  section -\n",
   "    M stone: milestone, id_3, @60, @60\n",
   "    abc:  id_6, @100, @101\n",
   "  section B\n",
   "    \": done, id_x-7, @0, @1\n",
   "    Say \"hi\" {x}: active, id_2, @50, @150\n"] := by
  unfold txt
  repeat rw [PrintSrc.toList_flatten_cons]
  decide +kernel

example : gSrc V5 = txt
  ["gantt\n", "  dateFormat DD.MM.YYYY HH:mm\n", "  title My plan\n", "  excludes weekends\n", "  tickInterval 1day\n"] := by
  decide +kernel

/-- the section '-' written out and unsectioned tasks are one section: no section line -/
example : gSrc V6 = txt
  ["gantt\n", "  dateFormat DD.MM.YYYY HH:mm\n", "  title My plan\n", "  excludes weekends\n", "  tickInterval 1day\n",
   "    }{:  id_4, @200, @300\n",
   "    abc:  id_6, @100, @101\n",
   "    M stone: milestone, id_3, @60, @60\n"] := by
  unfold txt
  repeat rw [PrintSrc.toList_flatten_cons]
  decide +kernel

end Check
end Pj.RenderSrc

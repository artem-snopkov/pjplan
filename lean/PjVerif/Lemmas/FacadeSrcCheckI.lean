/-
  Lemmas/FacadeSrcCheckI.lean — stage 1 of the translated tie for the list facades of task.py, continued: concrete
  runs of `_ChildrenList.insert` (Extracted/FacadeSrc.lean) against `chInsert` / `pyInsert` (Model/GraphOps.lean).
  See Lemmas/FacadeSrcCheck.lean / Lemmas/FacadeSrc.lean.
-/
import PjVerif.Lemmas.FacadeSrcCheck
import PjVerif.Lemmas.FacadeSrcRuns
namespace Pj.FacadeSrc
open Pj.PyLite Pj.Extracted Pj.Extracted.Facade Pj.TaskSrc Pj.TaskSrc.Check
namespace Check

/-! #### `_ChildrenList.insert(i, t)` = `chInsert` (`pyInsert`): every owner, every task, indexes inside, at the ends,
    negative and out of range -/

def agreeChInsert (s : G) (h : Uid) (i : Int) (t : Uid) : Prop :=
  runE s (interpChInsert FF h i t) = expectR s.n noneV (chInsert s h i t)
instance (s h i t) : Decidable (agreeChInsert s h i t) := by unfold agreeChInsert; infer_instance

def insertAgree (s : G) (is : List Int) : Bool :=
  allU s (fun h => allU s (fun t => is.all (fun i => decide (agreeChInsert s h i t))))

-- on `g1`, `g2` no call ends in RecursionError (evaluated on the model), so every run is `interpChInsert_eq`
example : insertAgree g2 [0, 1, 2, 5, -1, -2, -7] = true := by
  have hrec : allU g2 (fun h => allU g2 (fun t => [0, 1, 2, 5, -1, -2, -7].all (fun i => noRec (chInsert g2 h i t)))) = true := by
    decide +kernel
  exact allU_imp (fun h => allU_imp fun t => all_imp fun i => dec_imp (chInsert_run g2 (by decide) h i t)) hrec
example : insertAgree g3 [0, 1, -1] = true := by decide +kernel
example : allU g1 (fun h => [1, 2, 5, 9, 10, 12].all (fun t => [0, -1].all (fun i => decide (agreeChInsert g1 h i t)))) = true := by
  have hrec : allU g1 (fun h => [1, 2, 5, 9, 10, 12].all (fun t => [0, -1].all (fun i => noRec (chInsert g1 h i t)))) = true := by
    decide +kernel
  exact allU_imp (fun h => all_imp fun t => all_imp fun i => dec_imp (chInsert_run g1 (by decide) h i t)) hrec
-- a detached task between the roots
example : (chInsert g1 0 1 10).2 = none ∧ (chInsert g1 0 1 10).1.children 0 = [1, 10, 3] ∧ agreeChInsert g1 0 1 10 :=
  ⟨by decide +kernel, by decide +kernel, chInsert_run g1 (by decide) 0 1 10 (by decide +kernel)⟩
-- an existing child moves to the front
example : (chInsert g1 0 0 3).2 = none ∧ (chInsert g1 0 0 3).1.children 0 = [3, 1] ∧ agreeChInsert g1 0 0 3 :=
  ⟨by decide +kernel, by decide +kernel, chInsert_run g1 (by decide) 0 0 3 (by decide +kernel)⟩
example : (chInsert g1 0 (-1) 2).2 = none ∧ (chInsert g1 0 (-1) 2).1.children 0 = [1, 2, 3] ∧
    (chInsert g1 0 (-1) 2).1.children 1 = [] ∧ agreeChInsert g1 0 (-1) 2 :=  -- from another parent
  ⟨by decide +kernel, by decide +kernel, by decide +kernel, chInsert_run g1 (by decide) 0 (-1) 2 (by decide +kernel)⟩
example : (chInsert g1 1 7 9).2 = some .runtime ∧ agreeChInsert g1 1 7 9 :=  -- another WBS
  ⟨by decide +kernel, chInsert_run g1 (by decide) 1 7 9 (by decide +kernel)⟩
example : (chInsert g1 2 0 1).2 = some .runtime ∧ agreeChInsert g1 2 0 1 :=  -- an ancestor
  ⟨by decide +kernel, chInsert_run g1 (by decide) 2 0 1 (by decide +kernel)⟩
/-- an index that is not an `int` is outside the encoding: the run is stuck -/
example : runE g1 (interpF noLib FF fn_ChildrenList_insert [refV 0, noneV, refV 10]) = .error stuck := by decide +kernel
/-- `None` as the task: RuntimeError (`_check_not_none`) -/
example : runE g1 (interpF noLib FF fn_ChildrenList_insert [refV 0, intV 0, noneV]) = .error .runtime := by decide +kernel
example : runE g1 (interpF noLib FF fn_ChildrenList_remove [refV 0, noneV]) = .error .runtime := by decide +kernel

end Check
end Pj.FacadeSrc

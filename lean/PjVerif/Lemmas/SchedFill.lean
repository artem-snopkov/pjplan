/-
  Lemmas/SchedFill.lean — times and days (`dayOf` is monotone; `minT` and `maxT` are `min` and `max`), the day-by-day
  reservation loops (`fillFwd`, `fillBwd`: one loop `fillDir` in a direction) and the date derivations around them
  (`shiftFwd`, `shiftBwd`; `nearestFwd`, `nearestBwd`, whose day searches are one loop `scanDir`): conservation, capacity,
  monotone days, tightness.
-/
import PjVerif.Model.Sched
import PjVerif.Lemmas.Calendar
import PjVerif.Lemmas.ListFacts
namespace Pj

theorem sum_units_pos : ∀ (l : List (Int × Rat)), (∀ p ∈ l, 0 < p.2) → l ≠ [] → 0 < (l.map (·.2)).sum
  | [], _, h => absurd rfl h
  | [p], hp, _ => by
    have := hp p (by simp)
    simp only [List.map_cons, List.map_nil, List.sum_cons, List.sum_nil]
    grind
  | p :: q :: l, hp, _ => by
    have h1 := hp p (by simp)
    have h2 := sum_units_pos (q :: l) (fun x hx => hp x (List.mem_cons_of_mem _ hx)) (by simp)
    simp only [List.map_cons, List.sum_cons] at h2 ⊢
    grind


theorem div_pos_le_one {r c : Rat} (h0 : 0 < r) (h1 : r ≤ c) : 0 < r / c ∧ r / c ≤ 1 := by
  have hc : 0 < c := by grind
  have hi : 0 < c⁻¹ := Rat.inv_pos.2 hc
  have h2 := Rat.mul_pos h0 hi
  have h3 := Rat.mul_le_mul_of_nonneg_right h1 (Rat.le_of_lt hi)
  have h4 : c * c⁻¹ = 1 := Rat.mul_inv_cancel c (by grind)
  rw [Rat.div_def]
  grind

theorem div_nonneg_lt_one {u c : Rat} (h0 : 0 ≤ u) (h1 : u < c) : 0 ≤ u / c ∧ u / c < 1 := by
  have hc : 0 < c := by grind
  have hi : 0 < c⁻¹ := Rat.inv_pos.2 hc
  have h2 := Rat.mul_nonneg h0 (Rat.le_of_lt hi)
  have h3 := Rat.mul_lt_mul_of_pos_right h1 hi
  have h4 : c * c⁻¹ = 1 := Rat.mul_inv_cancel c (by grind)
  rw [Rat.div_def]
  grind

theorem dayOf_intCast (d : Int) : dayOf (d : Rat) = d := Rat.floor_intCast d

theorem midnight_intCast (d : Int) : midnight (d : Rat) = (d : Rat) := by
  unfold midnight; rw [dayOf_intCast]

theorem dayOf_add_frac (d : Int) (x : Rat) (h0 : 0 ≤ x) (h1 : x < 1) : dayOf ((d : Rat) + x) = d := by
  unfold dayOf
  have h2 : d ≤ ((d : Rat) + x).floor := Rat.le_floor_iff.2 (by grind)
  have h3 : ((d : Rat) + x).floor < d + 1 := Rat.floor_lt_iff.2 (by rw [Rat.intCast_add]; grind)
  omega

theorem dayOf_le_self (x : Time) : ((dayOf x : Int) : Rat) ≤ x := Rat.floor_le x

theorem lt_dayOf_succ (x : Time) : x < ((dayOf x : Int) : Rat) + 1 := by
  have := Rat.lt_floor_add_one x
  rw [Rat.intCast_add] at this
  exact this

theorem dayOf_mono {a b : Time} (h : a ≤ b) : dayOf a ≤ dayOf b :=
  Rat.le_floor_iff.2 (Rat.le_trans (Rat.floor_le a) h)

theorem lt_of_dayOf_lt {a b : Time} (h : dayOf a < dayOf b) : a < b := by
  apply Rat.not_le.1
  intro hc
  have := dayOf_mono hc
  omega

theorem dayOf_eq_of_bounds (d : Int) (x : Time) (h0 : (d : Rat) ≤ x) (h1 : x < (d : Rat) + 1) : dayOf x = d := by
  have : x = (d : Rat) + (x - d) := by grind
  rw [this]
  exact dayOf_add_frac d _ (by grind) (by grind)

theorem int_succ_le_cast {a b : Int} (h : a < b) : (a : Rat) + 1 ≤ (b : Rat) := by
  have : ((a + 1 : Int) : Rat) ≤ (b : Rat) := Rat.intCast_le_intCast.2 (by omega)
  rwa [Rat.intCast_add] at this

/-! ### `minT` and `maxT`

The two selectors of the model are `min` and `max` on the rationals, so their folds are the `Selects` folds of
Lemmas/ListFacts.lean. -/

theorem minT_eq_min : minT = min := by funext a b; unfold minT; grind
theorem maxT_eq_max : maxT = max := by funext a b; unfold maxT; grind

theorem le_maxT_left (a b : Time) : a ≤ maxT a b := by rw [maxT_eq_max]; grind
theorem le_maxT_right (a b : Time) : b ≤ maxT a b := by rw [maxT_eq_max]; grind
theorem maxT_cases (a b : Time) : (maxT a b = a ∧ b ≤ a) ∨ (maxT a b = b ∧ a < b) := by rw [maxT_eq_max]; grind
theorem maxT_eq_left {a b : Time} (h : b ≤ a) : maxT a b = a := by rw [maxT_eq_max]; grind
theorem minT_le_left (a b : Time) : minT a b ≤ a := by rw [minT_eq_min]; grind
theorem minT_le_right (a b : Time) : minT a b ≤ b := by rw [minT_eq_min]; grind

theorem dayOf_maxT_of_le {a b : Time} (h : dayOf b ≤ dayOf a) : dayOf (maxT a b) = dayOf a := by
  rcases maxT_cases a b with ⟨h', _⟩ | ⟨h', hab⟩
  · rw [h']
  · rw [h']
    have := dayOf_mono (Rat.le_of_lt hab)
    omega

theorem minT_selects : Selects minT (· ≤ ·) := minT_eq_min ▸ ratMin_selects
theorem maxT_selects : Selects maxT (· ≥ ·) := maxT_eq_max ▸ ratMax_selects

theorem foldl_minT_le (l : List Time) (a : Time) : l.foldl minT a ≤ a ∧ ∀ x ∈ l, l.foldl minT a ≤ x :=
  (minT_selects.foldl l a).2

theorem foldl_maxT_mem (l : List Time) (a : Time) : l.foldl maxT a = a ∨ l.foldl maxT a ∈ l :=
  (maxT_selects.foldl l a).1

theorem le_foldl_minT_of_le (l : List Time) (b x : Time) (h : x ≤ b) (hl : ∀ y ∈ l, x ≤ y) : x ≤ l.foldl minT b :=
  minT_selects.fold_of l b h hl

theorem foldl_maxT_le_of_le (l : List Time) (b x : Time) (h : b ≤ x) (hl : ∀ y ∈ l, y ≤ x) : l.foldl maxT b ≤ x :=
  maxT_selects.fold_of l b h hl

/-- units a list of `(day, units)` pairs puts on one day -/
def daySum (new : List (Int × Rat)) (d : Int) : Rat := ((new.filter (fun p => p.1 == d)).map (·.2)).sum

theorem daySum_not_mem (new : List (Int × Rat)) (d : Int) (h : ∀ p ∈ new, p.1 ≠ d) : daySum new d = 0 := by
  unfold daySum
  rw [List.filter_eq_nil_iff.2 (fun p hp => by simpa using h p hp)]
  simp

theorem daySum_mem : ∀ (new : List (Int × Rat)) (d : Int) (u : Rat),
    (new.map (·.1)).Pairwise (· ≠ ·) → (d, u) ∈ new → daySum new d = u
  | [], _, _, _, h => by cases h
  | p :: l, d, u, hp, h => by
    simp only [List.map_cons, List.pairwise_cons] at hp
    rcases List.mem_cons.1 h with rfl | h
    · have : daySum l d = 0 := daySum_not_mem l d (fun q hq hc =>
        hp.1 q.1 (List.mem_map_of_mem hq) hc.symm)
      unfold daySum at this ⊢
      simp only [List.filter_cons, beq_self_eq_true, if_true, List.map_cons, List.sum_cons, this]
      grind
    · have hne : p.1 ≠ d := hp.1 d (by simpa using List.mem_map_of_mem (f := (·.1)) h)
      have ih := daySum_mem l d u hp.2 h
      unfold daySum at ih ⊢
      rw [List.filter_cons_of_neg (by simpa using hne)]
      exact ih

/-! ### the fill loops

`fillFwd` and `fillBwd` are one loop walking in a direction `s` (`1` or `-1`): `fillDir`.  Its specification
`FillSpec` orders days by `s * ·`, so that one induction serves both and what is read off it is said once; `FillFwdSpec`
and `FillBwdSpec` spell the two readings out with `<` and `>`. -/

def fillDir (s : Int) (cal : Cal) (used : Int → Rat) (maxSteps : Nat) :
    Nat → Nat → Int → Rat → Rat → List (Int × Rat) → Res (List (Int × Rat) × Int × Rat)
  | 0, _, _, _, _, _ => throw .runtime
  | fuel + 1, days, day, left, dau, acc =>
    if left ≤ 0 then pure (acc, day, dau)
    else capR cal ((day + s : Int) : Rat) >>= fun c =>
      if days + 1 > maxSteps then throw .runtime
      else fillDir s cal used maxSteps fuel (days + 1) (day + s)
        (if 0 < c - used (day + s) then left - min left (c - used (day + s)) else left) c
        (if 0 < c - used (day + s) then acc ++ [(day + s, min left (c - used (day + s)))] else acc)

theorem fillFwd_succ (cal : Cal) (used : Int → Rat) (maxSteps fuel days : Nat) (day : Int) (left dau : Rat)
    (acc : List (Int × Rat)) (hl : ¬ left ≤ 0) :
    fillFwd cal used maxSteps (fuel + 1) days day left dau acc =
      (capR cal ((day + 1 : Int) : Rat) >>= fun c =>
        if days + 1 > maxSteps then throw .runtime
        else fillFwd cal used maxSteps fuel (days + 1) (day + 1)
          (if 0 < c - used (day + 1) then left - min left (c - used (day + 1)) else left) c
          (if 0 < c - used (day + 1) then acc ++ [(day + 1, min left (c - used (day + 1)))] else acc)) := by
  simp only [fillFwd, if_neg hl]
  congr 1
  funext c
  split
  · rfl
  · split <;> rfl

theorem fillBwd_succ (cal : Cal) (used : Int → Rat) (maxSteps fuel days : Nat) (day : Int) (left : Rat)
    (acc : List (Int × Rat)) (hl : ¬ left ≤ 0) :
    fillBwd cal used maxSteps (fuel + 1) days day left acc =
      (capR cal ((day - 1 : Int) : Rat) >>= fun c =>
        if days + 1 > maxSteps then throw .runtime
        else fillBwd cal used maxSteps fuel (days + 1) (day - 1)
          (if 0 < c - used (day - 1) then left - min left (c - used (day - 1)) else left)
          (if 0 < c - used (day - 1) then acc ++ [(day - 1, min left (c - used (day - 1)))] else acc)) := by
  simp only [fillBwd, if_neg hl]
  congr 1
  funext c
  split
  · rfl
  · split <;> rfl

theorem fillFwd_eq_fillDir (cal : Cal) (used : Int → Rat) (maxSteps : Nat) :
    ∀ (fuel days : Nat) (day : Int) (left dau : Rat) (acc : List (Int × Rat)),
      fillFwd cal used maxSteps fuel days day left dau acc = fillDir 1 cal used maxSteps fuel days day left dau acc
  | 0, _, _, _, _, _ => rfl
  | fuel + 1, days, day, left, dau, acc => by
    by_cases hl : left ≤ 0
    · simp only [fillFwd, fillDir, if_pos hl]
    · rw [fillFwd_succ _ _ _ _ _ _ _ _ _ hl]
      simp only [fillDir, if_neg hl, fillFwd_eq_fillDir cal used maxSteps fuel]

/-- the backward loop does not carry the capacity of the last visited day -/
theorem fillBwd_eq_fillDir (cal : Cal) (used : Int → Rat) (maxSteps : Nat) :
    ∀ (fuel days : Nat) (day : Int) (left dau : Rat) (acc : List (Int × Rat)),
      fillBwd cal used maxSteps fuel days day left acc =
        (fillDir (-1) cal used maxSteps fuel days day left dau acc).map (fun r => (r.1, r.2.1))
  | 0, _, _, _, _, _ => rfl
  | fuel + 1, days, day, left, dau, acc => by
    by_cases hl : left ≤ 0
    · simp only [fillBwd, fillDir, if_pos hl]; rfl
    · rw [fillBwd_succ _ _ _ _ _ _ _ _ hl]
      simp only [fillDir, if_neg hl, ← Int.sub_eq_add_neg]
      cases capR cal ((day - 1 : Int) : Rat) with
      | error e => rfl
      | ok c =>
        simp only [bind, Except.bind]
        split
        · rfl
        · exact fillBwd_eq_fillDir cal used maxSteps fuel _ _ _ _ _

/-- the resource has nothing left on day `d`: its capacity is defined and booked out -/
abbrev DayFull (cal : Cal) (used : Int → Rat) (d : Int) : Prop := ∃ c, capR cal (d : Rat) = .ok c ∧ c - used d ≤ 0

theorem dir_step {s : Int} (hd : s = 1 ∨ s = -1) (a : Int) :
    s * a < s * (a + s) ∧ ∀ d, s * a < s * d → d ≠ a + s → s * (a + s) < s * d := by
  rcases hd with rfl | rfl <;> exact ⟨by omega, fun d h1 h2 => by omega⟩

/-- what one run of the fill loop in direction `s` produced, starting next to day `day0` with `left` units to place:
    `new` = the reservations it appended, `dayL` = the last day it visited, `dauL` = that day's capacity; `a` comes
    before `b` when `s * a < s * b`.  Every reservation fits (`fits`); days are visited in order, each once (`mono`,
    `range`); exactly `left` is placed (`total`); a visited day without reservation was full (`skipped`) and every reserved
    day but the last is filled up (`full`) -/
structure FillSpec (s : Int) (cal : Cal) (used : Int → Rat) (day0 : Int) (left : Rat)
    (new : List (Int × Rat)) (dayL : Int) (dauL : Rat) : Prop where
  fits : ∀ p ∈ new, ∃ c, capR cal (p.1 : Rat) = .ok c ∧ 0 < p.2 ∧ p.2 ≤ c - used p.1
  mono : (new.map (·.1)).Pairwise (fun a b => s * a < s * b)
  range : ∀ p ∈ new, s * day0 < s * p.1 ∧ s * p.1 ≤ s * dayL
  total : (new.map (·.2)).sum = left
  last : new ≠ [] → (∃ u, new.getLast? = some (dayL, u)) ∧ capR cal (dayL : Rat) = .ok dauL
  skipped : ∀ d, s * day0 < s * d → s * d ≤ s * dayL → (∀ p ∈ new, p.1 ≠ d) → DayFull cal used d
  full : ∀ p ∈ new, p.1 ≠ dayL → ∃ c, capR cal (p.1 : Rat) = .ok c ∧ p.2 = c - used p.1

section
variable {s : Int} {cal : Cal} {used : Int → Rat} {day0 day dayL : Int} {left c m dauL : Rat}
  {new new' : List (Int × Rat)}

theorem FillSpec.nil (s : Int) (cal : Cal) (used : Int → Rat) (day : Int) (dau : Rat) :
    FillSpec s cal used day 0 [] day dau where
  fits := by simp
  mono := by simp
  range := by simp
  total := by simp
  last := by simp
  skipped := by intro d h1 h2; omega
  full := by simp

theorem FillSpec.le (hs : FillSpec s cal used day0 left new dayL dauL) (hnil : new = [] → dayL = day0) :
    s * day0 ≤ s * dayL := by
  cases new with
  | nil => rw [hnil rfl]; exact Int.le_refl _
  | cons p l => have := hs.range p (by simp); omega

theorem FillSpec.left_pos (hs : FillSpec s cal used day0 left new dayL dauL) (hne : new ≠ []) : 0 < left := by
  rw [← hs.total]
  exact sum_units_pos new (fun p hp => (hs.fits p hp).choose_spec.2.1) hne

/-- the loop reserved `m` on the next day and went on -/
theorem FillSpec.cons (hd : s = 1 ∨ s = -1) (hc : capR cal ((day + s : Int) : Rat) = .ok c)
    (hm0 : 0 < m) (hm1 : m ≤ c - used (day + s)) (hfull : m < left → m = c - used (day + s))
    (hs : FillSpec s cal used (day + s) (left - m) new' dayL dauL)
    (hnil : new' = [] → dayL = day + s ∧ dauL = c) :
    FillSpec s cal used day left ((day + s, m) :: new') dayL dauL := by
  have hle := hs.le (fun h => (hnil h).1)
  obtain ⟨hstep, hnext⟩ := dir_step hd day
  refine ⟨?_, ?_, ?_, ?_, ?_, ?_, ?_⟩
  · intro p hp
    rcases List.mem_cons.1 hp with rfl | hp
    · exact ⟨c, hc, hm0, hm1⟩
    · exact hs.fits p hp
  · simp only [List.map_cons, List.pairwise_cons]
    refine ⟨?_, hs.mono⟩
    intro a ha
    obtain ⟨p, hp, rfl⟩ := List.mem_map.1 ha
    exact (hs.range p hp).1
  · intro p hp
    rcases List.mem_cons.1 hp with rfl | hp
    · exact ⟨hstep, hle⟩
    · have := hs.range p hp; omega
  · simp only [List.map_cons, List.sum_cons, hs.total]
    grind
  · intro _
    cases new' with
    | nil =>
      obtain ⟨h1, h2⟩ := hnil rfl
      subst h1 h2
      exact ⟨⟨m, rfl⟩, hc⟩
    | cons q l =>
      obtain ⟨⟨u, hu'⟩, h2⟩ := hs.last (by simp)
      exact ⟨⟨u, by rw [List.getLast?_cons_cons]; exact hu'⟩, h2⟩
  · intro d h1 h2 h3
    have hd' : d ≠ day + s := fun hd' => h3 (day + s, m) (by simp) hd'.symm
    exact hs.skipped d (hnext d h1 hd') h2 (fun p hp => h3 p (List.mem_cons_of_mem _ hp))
  · intro p hp hne
    rcases List.mem_cons.1 hp with rfl | hp
    · refine ⟨c, hc, hfull ?_⟩
      have := hs.left_pos (fun h => hne (hnil h).1.symm)
      grind
    · exact hs.full p hp hne

/-- the loop found the next day full and went on -/
theorem FillSpec.skip (hd : s = 1 ∨ s = -1) (hc : capR cal ((day + s : Int) : Rat) = .ok c)
    (hav : c - used (day + s) ≤ 0) (hs : FillSpec s cal used (day + s) left new dayL dauL)
    (hnil : new = [] → dayL = day + s) : FillSpec s cal used day left new dayL dauL := by
  have hle := hs.le hnil
  obtain ⟨hstep, hnext⟩ := dir_step hd day
  refine ⟨hs.fits, hs.mono, ?_, hs.total, hs.last, ?_, hs.full⟩
  · intro p hp
    have := hs.range p hp; omega
  · intro d h1 h2 h3
    by_cases hd' : d = day + s
    · subst hd'; exact ⟨c, hc, hav⟩
    · exact hs.skipped d (hnext d h1 hd') h2 h3

theorem fillDir_spec (hd : s = 1 ∨ s = -1) (cal : Cal) (used : Int → Rat) (maxSteps : Nat) :
    ∀ (fuel days : Nat) (day : Int) (left dau : Rat) (acc rows : List (Int × Rat)) (dayL : Int) (dauL : Rat),
      0 ≤ left →
      fillDir s cal used maxSteps fuel days day left dau acc = .ok (rows, dayL, dauL) →
      ∃ new, rows = acc ++ new ∧ FillSpec s cal used day left new dayL dauL ∧ (new = [] → dayL = day ∧ dauL = dau) := by
  intro fuel
  induction fuel with
  | zero => intro days day left dau acc rows dayL dauL _ h; cases h
  | succ fuel ih =>
    intro days day left dau acc rows dayL dauL hl h
    by_cases hle : left ≤ 0
    · simp only [fillDir, if_pos hle] at h
      cases h
      have h0 : left = 0 := by grind
      subst h0
      exact ⟨[], by simp, FillSpec.nil s cal used day dau, fun _ => ⟨rfl, rfl⟩⟩
    · simp only [fillDir, if_neg hle] at h
      cases hc : capR cal ((day + s : Int) : Rat) with
      | error e => rw [hc] at h; cases h
      | ok c =>
        rw [hc] at h
        simp only [bind, Except.bind] at h
        split at h
        · cases h
        · by_cases hav : 0 < c - used (day + s)
          · simp only [if_pos hav] at h
            obtain ⟨new', hrows, hspec, hnil⟩ := ih _ _ _ _ _ _ _ _ (by grind) h
            refine ⟨(day + s, min left (c - used (day + s))) :: new', by simp [hrows], ?_, by simp⟩
            exact FillSpec.cons hd hc (by grind) (by grind) (by grind) hspec hnil
          · simp only [if_neg hav] at h
            obtain ⟨new', hrows, hspec, hnil⟩ := ih _ _ _ _ _ _ _ _ hl h
            refine ⟨new', hrows, FillSpec.skip hd hc (by grind) hspec (fun h => (hnil h).1), ?_⟩
            intro hn
            subst hn
            have := hspec.total
            simp at this
            grind

theorem FillSpec.nodup (hs : FillSpec s cal used day0 left new dayL dauL) : (new.map (·.1)).Pairwise (· ≠ ·) :=
  hs.mono.imp (fun h e => by subst e; omega)

theorem FillSpec.last_mem (hs : FillSpec s cal used day0 left new dayL dauL) (hne : new ≠ []) : ∃ u, (dayL, u) ∈ new :=
  (hs.last hne).1.imp fun _ h => List.mem_of_getLast? h

theorem FillSpec.mem_of_avail (hs : FillSpec s cal used day0 left new dayL dauL) {d : Int}
    (h1 : s * day0 < s * d) (h2 : s * d ≤ s * dayL) (hc : capR cal (d : Rat) = .ok c) (hav : 0 < c - used d) :
    ∃ u, (d, u) ∈ new := by
  refine Classical.byContradiction fun hcon => ?_
  obtain ⟨c', hc', hfull⟩ := hs.skipped d h1 h2 (fun p hp hpd => hcon ⟨p.2, by rw [← hpd]; exact hp⟩)
  rw [hc] at hc'
  cases hc'
  exact absurd hav (by grind)

theorem FillSpec.first_mem (hd : s = 1 ∨ s = -1) {d : Int} (hs : FillSpec s cal used (d - s) left new dayL dauL)
    (hne : new ≠ []) (hc : capR cal (d : Rat) = .ok c) (hav : 0 < c - used d) :
    s * d ≤ s * dayL ∧ ∃ u, (d, u) ∈ new := by
  obtain ⟨u, hlast⟩ := hs.last_mem hne
  have hr : s * (d - s) < s * dayL := (hs.range _ hlast).1
  have h1 : s * (d - s) < s * d ∧ s * d ≤ s * dayL := by rcases hd with rfl | rfl <;> omega
  exact ⟨h1.2, hs.mem_of_avail h1.1 h1.2 hc hav⟩

theorem FillSpec.day_full (hs : FillSpec s cal used day0 left new dayL dauL) {d : Int}
    (h1 : s * day0 < s * d) (h2 : s * d < s * dayL) :
    ∃ c, capR cal (d : Rat) = .ok c ∧ c ≤ used d + daySum new d := by
  by_cases hex : ∃ p ∈ new, p.1 = d
  · obtain ⟨p, hp, rfl⟩ := hex
    obtain ⟨c, hc, hfull⟩ := hs.full p hp (fun h => by rw [h] at h2; omega)
    exact ⟨c, hc, by rw [daySum_mem new p.1 p.2 hs.nodup hp, hfull]; grind⟩
  · obtain ⟨c, hc, hsk⟩ := hs.skipped d h1 (by omega) (fun p hp hpd => hex ⟨p, hp, hpd⟩)
    exact ⟨c, hc, by rw [daySum_not_mem new d (fun p hp hpd => hex ⟨p, hp, hpd⟩)]; grind⟩

/-- the share of the last day's capacity that is booked after the fill (what `shiftFwd` / `shiftBwd` encode in the time of
    day) lies in (0, 1] -/
theorem FillSpec.last_share (hs : FillSpec s cal used day0 left new dayL dauL) (hl : 0 < left)
    (hu : ∀ d, 0 ≤ used d) :
    new ≠ [] ∧ capR cal (dayL : Rat) = .ok dauL ∧ 0 < dauL ∧
      0 < (used dayL + daySum new dayL) / dauL ∧ (used dayL + daySum new dayL) / dauL ≤ 1 := by
  have hne : new ≠ [] := by
    intro hn
    subst hn
    have := hs.total
    simp at this
    grind
  obtain ⟨⟨u, hlast⟩, hcap⟩ := hs.last hne
  have hsum : daySum new dayL = u := daySum_mem new dayL u hs.nodup (List.mem_of_getLast? hlast)
  obtain ⟨c, hc, hu0, hu1⟩ := hs.fits (dayL, u) (List.mem_of_getLast? hlast)
  simp only at hc hu0 hu1
  rw [hcap] at hc
  cases hc
  have := hu dayL
  rw [hsum]
  exact ⟨hne, hcap, by grind, div_pos_le_one (by grind) (by grind)⟩

end

/-- the rows of one reservation: each fits into what its day still offers, at most one per day
    (given that the ledger the loop saw had no negative totals) -/
def GoodNew (cal : Cal) (used : Int → Rat) (new : List (Int × Rat)) : Prop :=
  (∀ d, 0 ≤ used d) →
    (∀ p ∈ new, ∃ c, capR cal (p.1 : Rat) = .ok c ∧ 0 < p.2 ∧ p.2 ≤ c - used p.1) ∧
    (new.map (·.1)).Pairwise (· ≠ ·)

theorem GoodNew.nil (cal : Cal) (used : Int → Rat) : GoodNew cal used [] := by
  intro _; simp

theorem FillSpec.good {s : Int} {cal : Cal} {used : Int → Rat} {day0 dayL : Int} {left dauL : Rat}
    {new : List (Int × Rat)} (hs : FillSpec s cal used day0 left new dayL dauL) : GoodNew cal used new :=
  fun _ => ⟨hs.fits, hs.nodup⟩

/-- `FillSpec 1` with `<` spelt out, and the capacity of the last day positive -/
structure FillFwdSpec (cal : Cal) (used : Int → Rat) (day0 : Int) (left : Rat)
    (new : List (Int × Rat)) (dayL : Int) (dauL : Rat) : Prop where
  fits : ∀ p ∈ new, ∃ c, capR cal (p.1 : Rat) = .ok c ∧ 0 < p.2 ∧ p.2 ≤ c - used p.1
  incr : (new.map (·.1)).Pairwise (· < ·)
  range : ∀ p ∈ new, day0 < p.1 ∧ p.1 ≤ dayL
  total : (new.map (·.2)).sum = left
  last : new ≠ [] → (∃ u, new.getLast? = some (dayL, u)) ∧ capR cal (dayL : Rat) = .ok dauL ∧ 0 < dauL
  skipped : ∀ d, day0 < d → d ≤ dayL → (∀ p ∈ new, p.1 ≠ d) → ∃ c, capR cal (d : Rat) = .ok c ∧ c - used d ≤ 0
  full : ∀ p ∈ new, p.1 ≠ dayL → ∃ c, capR cal (p.1 : Rat) = .ok c ∧ p.2 = c - used p.1

/-- `FillSpec (-1)` with `>` spelt out; the capacity of the last day is not recorded -/
structure FillBwdSpec (cal : Cal) (used : Int → Rat) (day0 : Int) (left : Rat)
    (new : List (Int × Rat)) (dayL : Int) : Prop where
  fits : ∀ p ∈ new, ∃ c, capR cal (p.1 : Rat) = .ok c ∧ 0 < p.2 ∧ p.2 ≤ c - used p.1
  decr : (new.map (·.1)).Pairwise (· > ·)
  range : ∀ p ∈ new, p.1 < day0 ∧ dayL ≤ p.1
  total : (new.map (·.2)).sum = left
  last : new ≠ [] → ∃ u, new.getLast? = some (dayL, u)
  skipped : ∀ d, d < day0 → dayL ≤ d → (∀ p ∈ new, p.1 ≠ d) → ∃ c, capR cal (d : Rat) = .ok c ∧ c - used d ≤ 0
  full : ∀ p ∈ new, p.1 ≠ dayL → ∃ c, capR cal (p.1 : Rat) = .ok c ∧ p.2 = c - used p.1

section
variable {cal : Cal} {used : Int → Rat} {day0 dayL : Int} {left dauL : Rat} {new : List (Int × Rat)}

/-- the capacity of the last day is positive because its reservation fits and the ledger has no negative totals -/
theorem FillSpec.fwd (hs : FillSpec 1 cal used day0 left new dayL dauL) (hu : ∀ d, 0 ≤ used d) :
    FillFwdSpec cal used day0 left new dayL dauL where
  fits := hs.fits
  incr := hs.mono.imp (by omega)
  range := fun p hp => by have := hs.range p hp; omega
  total := hs.total
  last := fun hne => by
    obtain ⟨⟨u, hlast⟩, hcap⟩ := hs.last hne
    obtain ⟨c, hc, h0, h1⟩ := hs.fits _ (List.mem_of_getLast? hlast)
    rw [hcap] at hc
    cases hc
    exact ⟨⟨u, hlast⟩, hcap, by have := hu dayL; grind⟩
  skipped := fun d h1 h2 => hs.skipped d (by omega) (by omega)
  full := hs.full

theorem FillSpec.bwd (hs : FillSpec (-1) cal used day0 left new dayL dauL) :
    FillBwdSpec cal used day0 left new dayL where
  fits := hs.fits
  decr := hs.mono.imp (by omega)
  range := fun p hp => by have := hs.range p hp; omega
  total := hs.total
  last := fun hne => (hs.last hne).1
  skipped := fun d h1 h2 => hs.skipped d (by omega) (by omega)
  full := hs.full

end

theorem fillFwd_spec (cal : Cal) (used : Int → Rat) (maxSteps : Nat) (hu : ∀ d, 0 ≤ used d) :
    ∀ (fuel days : Nat) (day : Int) (left dau : Rat) (acc rows : List (Int × Rat)) (dayL : Int) (dauL : Rat),
      0 ≤ left →
      fillFwd cal used maxSteps fuel days day left dau acc = .ok (rows, dayL, dauL) →
      ∃ new, rows = acc ++ new ∧ FillFwdSpec cal used day left new dayL dauL ∧ (new = [] → dayL = day ∧ dauL = dau) := by
  intro fuel days day left dau acc rows dayL dauL hl h
  rw [fillFwd_eq_fillDir] at h
  obtain ⟨new, hrows, hspec, hnil⟩ := fillDir_spec (Or.inl rfl) cal used _ _ _ _ _ _ _ _ _ _ hl h
  exact ⟨new, hrows, hspec.fwd hu, hnil⟩

/-- without the hypothesis `0 ≤ used d` the `last` field (`0 < dauL`) fails: a negative ledger entry makes a
    day of capacity 0 look available -/
example :
    (match fillFwd (.fixed 0 none none) (fun _ => -5) 5 2 0 0 1 0 [] with
     | .ok (rows, dayL, dauL) => decide (rows = [(1, 1)] ∧ dayL = 1 ∧ dauL = 0)
     | .error _ => false) = true := by
  decide +kernel

theorem fillBwd_ok {cal : Cal} {used : Int → Rat} {maxSteps fuel days : Nat} {day : Int} {left : Rat}
    {acc rows : List (Int × Rat)} {dayL : Int} (h : fillBwd cal used maxSteps fuel days day left acc = .ok (rows, dayL)) :
    ∃ dauL, fillDir (-1) cal used maxSteps fuel days day left 0 acc = .ok (rows, dayL, dauL) := by
  rw [fillBwd_eq_fillDir cal used maxSteps _ _ _ _ 0] at h
  cases hf : fillDir (-1) cal used maxSteps fuel days day left 0 acc with
  | error e => rw [hf] at h; cases h
  | ok r =>
    rw [hf] at h
    cases h
    exact ⟨r.2.2, rfl⟩

theorem fillBwd_spec (cal : Cal) (used : Int → Rat) (maxSteps : Nat) :
    ∀ (fuel days : Nat) (day : Int) (left : Rat) (acc rows : List (Int × Rat)) (dayL : Int),
      0 ≤ left →
      fillBwd cal used maxSteps fuel days day left acc = .ok (rows, dayL) →
      ∃ new, rows = acc ++ new ∧ FillBwdSpec cal used day left new dayL ∧ (new = [] → dayL = day) := by
  intro fuel days day left acc rows dayL hl h
  obtain ⟨dauL, hf⟩ := fillBwd_ok h
  obtain ⟨new, hrows, hspec, hnil⟩ := fillDir_spec (Or.inr rfl) cal used _ _ _ _ _ _ _ _ _ _ hl hf
  exact ⟨new, hrows, hspec.bwd, fun h => (hnil h).1⟩

/-- with nothing to place the date comes back unchanged; otherwise the end date lies in
    (last reserved day, last reserved day + 1] -/
theorem shiftFwd_spec (cal : Cal) (used : Int → Rat) (start : Time) (left : Rat) (e : Time)
    (rows : List (Int × Rat)) (hl : 0 ≤ left) (hu : ∀ d, 0 ≤ used d)
    (h : shiftFwd cal used start left = .ok (e, rows)) :
    ∃ dayL dauL, FillSpec 1 cal used (dayOf start - 1) left rows dayL dauL ∧ (rows = [] → e = start) ∧
      (rows ≠ [] → (dayL : Rat) < e ∧ e ≤ (dayL : Rat) + 1 ∧ e = (dayL : Rat) + (used dayL + daySum rows dayL) / dauL) := by
  unfold shiftFwd at h
  by_cases h0 : left = 0
  · simp only [if_pos h0] at h
    cases h
    subst h0
    exact ⟨_, 0, FillSpec.nil 1 cal used _ 0, fun _ => rfl, fun hne => absurd rfl hne⟩
  · simp only [if_neg h0] at h
    obtain ⟨⟨rows', dayL, dauL⟩, hf, h⟩ := bind_ok h
    simp only at h
    split at h
    · cases h
    · cases h
      rw [fillFwd_eq_fillDir] at hf
      obtain ⟨new, hrows, hspec, _⟩ := fillDir_spec (Or.inl rfl) cal used _ _ _ _ _ _ _ _ _ _ hl hf
      simp only [List.nil_append] at hrows
      subst hrows
      obtain ⟨hne, _, _, hd0, hd1⟩ := hspec.last_share (by grind) hu
      unfold daySum at hd0 hd1
      exact ⟨dayL, dauL, hspec, fun hn => absurd hn hne, fun _ => ⟨by grind, by grind, rfl⟩⟩

theorem shiftBwd_spec (cal : Cal) (used : Int → Rat) (end_ : Time) (left : Rat) (s : Time)
    (rows : List (Int × Rat)) (hl : 0 ≤ left) (hu : ∀ d, 0 ≤ used d)
    (h : shiftBwd cal used end_ left = .ok (s, rows)) :
    ∃ dayL dauL, FillSpec (-1) cal used (dayOf end_) left rows dayL dauL ∧ (rows = [] → s = end_) ∧
      (rows ≠ [] → (dayL : Rat) ≤ s ∧ s < (dayL : Rat) + 1 ∧
        s = (dayL : Rat) + 1 - (used dayL + daySum rows dayL) / dauL) := by
  unfold shiftBwd at h
  by_cases h0 : left = 0
  · simp only [if_pos h0] at h
    cases h
    subst h0
    exact ⟨_, 0, FillSpec.nil (-1) cal used _ 0, fun _ => rfl, fun hne => absurd rfl hne⟩
  · simp only [if_neg h0] at h
    obtain ⟨⟨rows', dayL⟩, hf, h⟩ := bind_ok h
    obtain ⟨dauL, hf'⟩ := fillBwd_ok hf
    obtain ⟨new, hrows, hspec, _⟩ := fillDir_spec (Or.inr rfl) cal used _ _ _ _ _ _ _ _ _ _ hl hf'
    simp only [List.nil_append] at hrows
    subst hrows
    obtain ⟨hne, hcap, hdau, hd0, hd1⟩ := hspec.last_share (by grind) hu
    unfold daySum at hd0 hd1
    simp only [bind, Except.bind, hcap] at h
    split at h
    · cases h
    · cases h
      exact ⟨dayL, dauL, hspec, fun hn => absurd hn hne, fun _ => ⟨by grind, by grind, rfl⟩⟩

/-! ### the day searches

`nearestFwdLoop`, `nearestBwdLoop` and the calendar's `search` in either direction are one loop over the days: ask for the
capacity of a day, stop at the first day that is a hit, else step on in direction `s`.  What is said of the loop is said
once, of `scanDir`. -/

def scanDir (s : Int) (cap : Int → Res Rat) (hit : Int → Rat → Prop) [∀ d c, Decidable (hit d c)]
    (val : Int → Rat → Res Time) : Nat → Int → Res Time
  | 0, _ => throw .runtime
  | k + 1, d => cap d >>= fun c => if hit d c then val d c else scanDir s cap hit val k (d + s)

section
variable {s : Int} {cap : Int → Res Rat} {hit : Int → Rat → Prop} [∀ d c, Decidable (hit d c)] {val : Int → Rat → Res Time}

/-- a successful scan stopped on a hit, and every day it passed on the way answered and was none -/
theorem scanDir_spec (hd : s = 1 ∨ s = -1) : ∀ (k : Nat) (d0 : Int) (r : Time), scanDir s cap hit val k d0 = .ok r →
    ∃ d c, s * d0 ≤ s * d ∧ cap d = .ok c ∧ hit d c ∧ val d c = .ok r ∧
      ∀ d', s * d0 ≤ s * d' → s * d' < s * d → ∃ c', cap d' = .ok c' ∧ ¬ hit d' c' := by
  intro k
  induction k with
  | zero => intro d0 r h; cases h
  | succ k ih =>
    intro d0 r h
    obtain ⟨c, hc, h⟩ := bind_ok h
    have hstep := (dir_step hd d0).1
    split at h
    · rename_i hh
      exact ⟨d0, c, Int.le_refl _, hc, hh, h, fun d' h1 h2 => by omega⟩
    · rename_i hh
      obtain ⟨d, c2, h1, h2, h3, h4, h5⟩ := ih _ _ h
      refine ⟨d, c2, by omega, h2, h3, h4, fun d' hd1 hd2 => ?_⟩
      by_cases he : d' = d0
      · subst he; exact ⟨c, hc, hh⟩
      · exact h5 d' (by rcases hd with rfl | rfl <;> omega) hd2

theorem scanDir_dead : ∀ (k : Nat) (d0 : Int), (∀ j : Nat, j < k → ∃ c, cap (d0 + j * s) = .ok c ∧ ¬ hit (d0 + j * s) c) →
    scanDir s cap hit val k d0 = .error .runtime
  | 0, _, _ => rfl
  | k + 1, d0, h => by
    obtain ⟨c, hc, hh⟩ := h 0 (Nat.succ_pos _)
    simp only [Int.natCast_zero, Int.zero_mul, Int.add_zero] at hc hh
    simp only [scanDir, hc, bind, Except.bind, if_neg hh]
    refine scanDir_dead k (d0 + s) fun j hj => ?_
    have := h (j + 1) (Nat.succ_lt_succ hj)
    rwa [show d0 + ((j + 1 : Nat) : Int) * s = d0 + s + j * s by rw [Int.natCast_succ, Int.add_mul]; omega] at this

end

theorem nearestFwdLoop_eq (cal : Cal) (used : Int → Rat) : ∀ (k : Nat) (d0 : Int),
    nearestFwdLoop cal used k (d0 : Rat) =
      scanDir 1 (fun d => capR cal (d : Rat)) (fun d c => 0 < c - used d)
        (fun d c => if c = 0 then throw (.crash .zeroDivision) else pure ((d : Rat) + (1 - (c - used d) / c))) k d0
  | 0, _ => rfl
  | k + 1, d0 => by
    have hcast : (d0 : Rat) + 1 = ((d0 + 1 : Int) : Rat) := by rw [Rat.intCast_add]; rfl
    simp only [nearestFwdLoop, scanDir, dayOf_intCast, midnight_intCast, hcast, nearestFwdLoop_eq cal used k]

theorem nearestBwdLoop_eq (cal : Cal) (used : Int → Rat) : ∀ (k : Nat) (d0 : Int),
    nearestBwdLoop cal used k (d0 : Rat) =
      scanDir (-1) (fun d => capR cal (d : Rat)) (fun d c => 0 < c - used d)
        (fun d c => if c = 0 then throw (.crash .zeroDivision) else pure ((d : Rat) - (1 - (c - used d) / c))) k d0
  | 0, _ => rfl
  | k + 1, d0 => by
    have hcast : (d0 : Rat) - 1 = ((d0 + -1 : Int) : Rat) := by rw [← Int.sub_eq_add_neg, Rat.intCast_sub]; rfl
    simp only [nearestBwdLoop, scanDir, dayOf_intCast, midnight_intCast, hcast, nearestBwdLoop_eq cal used k]

theorem search_fwd_eq (cal : Cal) : ∀ (H : Nat) (d0 : Int),
    search cal 1 H (d0 : Rat) =
      scanDir 1 (fun d => capR cal (d : Rat)) (fun _ c => 0 < c) (fun d _ => pure (d : Rat)) H d0
  | 0, _ => rfl
  | H + 1, d0 => by
    have hcast : (d0 : Rat) + ((1 : Int) : Rat) = ((d0 + 1 : Int) : Rat) := by rw [Rat.intCast_add]
    simp only [search, scanDir, show ¬ ((1 : Int) < 0) by decide, if_false, hcast, search_fwd_eq cal H]

/-- the backward search asks for the capacity of the day before the one it stands on -/
theorem search_bwd_eq (cal : Cal) : ∀ (H : Nat) (d0 : Int),
    search cal (-1) H (d0 : Rat) =
      scanDir (-1) (fun d => capR cal ((d - 1 : Int) : Rat)) (fun _ c => 0 < c) (fun d _ => pure (d : Rat)) H d0
  | 0, _ => rfl
  | H + 1, d0 => by
    have hcast : (d0 : Rat) - 1 = ((d0 - 1 : Int) : Rat) := by rw [Rat.intCast_sub]; rfl
    have hcast' : (d0 : Rat) + ((-1 : Int) : Rat) = ((d0 + -1 : Int) : Rat) := by rw [Rat.intCast_add]
    simp only [search, scanDir, show ((-1 : Int) < 0) by decide, if_true, hcast, hcast', search_bwd_eq cal H]

/-- `nearestFwd`: the result lies on the first day `d ≥ day(start)` that has capacity left, every day in between
    has none, and the time of day encodes the share of that day's capacity already used -/
theorem nearestFwd_spec (cal : Cal) (used : Int → Rat) (start r : Time) (hu : ∀ d, 0 ≤ used d)
    (h : nearestFwd cal used start = .ok r) :
    ∃ (d : Int) (c : Rat), dayOf start ≤ d ∧ capR cal (d : Rat) = .ok c ∧ 0 < c - used d ∧
      r = (d : Rat) + used d / c ∧ dayOf r = d ∧
      (∀ d', dayOf start ≤ d' → d' < d → DayFull cal used d') := by
  obtain ⟨t, hs, h⟩ := bind_ok h
  rw [show midnight start = ((dayOf start : Int) : Rat) from rfl, search_fwd_eq] at hs
  obtain ⟨d1, _, h1, _, _, ht, h3⟩ := scanDir_spec (Or.inl rfl) _ _ _ hs
  cases ht
  rw [nearestFwdLoop_eq] at h
  obtain ⟨d, c, g1, g2, g3, g4, g5⟩ := scanDir_spec (Or.inl rfl) _ _ _ h
  split at g4 <;> cases g4
  have hfrac := div_nonneg_lt_one (u := used d) (c := c) (hu d) (by grind)
  have g4 : (d : Rat) + (1 - (c - used d) / c) = (d : Rat) + used d / c := by grind
  refine ⟨d, c, by omega, g2, g3, g4, ?_, fun d' hd1 hd2 => ?_⟩
  · rw [g4]; exact dayOf_add_frac d _ hfrac.1 hfrac.2
  · by_cases hd : d' < d1
    · obtain ⟨c', hc1, hc2⟩ := h3 d' (by omega) (by omega)
      exact ⟨c', hc1, by have := hu d'; grind⟩
    · obtain ⟨c', hc1, hc2⟩ := g5 d' (by omega) (by omega)
      exact ⟨c', hc1, by grind⟩

/-- the fill of a leaf starts on the day the availability search found (`b`: the clock reading taken in between) -/
theorem nearestFwd_day_maxT {cal : Cal} {used : Int → Rat} {s0 st b : Time} (hu : ∀ d, 0 ≤ used d)
    (hn : nearestFwd cal used s0 = .ok st) (hb : dayOf b ≤ dayOf s0) : dayOf (maxT st b) = dayOf st := by
  obtain ⟨d, c, hd, _, _, _, hds, _⟩ := nearestFwd_spec cal used s0 st hu hn
  exact dayOf_maxT_of_le (by omega)

/-- `nearestBwd`: the result (before the caller adds one day) is the midnight of the last day `d < day(start)`
    that has capacity left, minus the share of that day already used -/
theorem nearestBwd_spec (cal : Cal) (used : Int → Rat) (start r : Time) (hu : ∀ d, 0 ≤ used d)
    (h : nearestBwd cal used start = .ok r) :
    ∃ (d : Int) (c : Rat), d < dayOf start ∧ capR cal (d : Rat) = .ok c ∧ 0 < c - used d ∧
      r = (d : Rat) - used d / c ∧
      (∀ d', d < d' → d' < dayOf start → DayFull cal used d') := by
  obtain ⟨t, hs, h⟩ := bind_ok h
  rw [show midnight start = ((dayOf start : Int) : Rat) from rfl, search_bwd_eq] at hs
  obtain ⟨d1, _, h1, _, _, ht, h3⟩ := scanDir_spec (Or.inr rfl) _ _ _ hs
  cases ht
  rw [show (d1 : Rat) - 1 = ((d1 - 1 : Int) : Rat) by rw [Rat.intCast_sub]; rfl, nearestBwdLoop_eq] at h
  obtain ⟨d, c, g1, g2, g3, g4, g5⟩ := scanDir_spec (Or.inr rfl) _ _ _ h
  split at g4 <;> cases g4
  refine ⟨d, c, by omega, g2, g3, by grind, fun d' hd1 hd2 => ?_⟩
  by_cases hd : d1 ≤ d'
  · obtain ⟨c', hc1, hc2⟩ := h3 (d' + 1) (by omega) (by omega)
    rw [show d' + 1 - 1 = d' by omega] at hc1
    exact ⟨c', hc1, by have := hu d'; grind⟩
  · obtain ⟨c', hc1, hc2⟩ := g5 d' (by omega) (by omega)
    exact ⟨c', hc1, by grind⟩

end Pj

/-
  Lemmas/WbsSrcC1.lean — stage 3 of the translated tie for wbs.py, part 1: the dicts `all_tasks` / `cloned_tasks`
  (keyed by task id) against the model's identity-based `dedupFirst` / `cloneOf`; the constructor `Task.clone()`
  (`WBS()`: `alloc_root`, WbsSrcC.lean); `link_target`; the shape of `__clone_tasks` and its first loop, which collects
  the selection.  See Lemmas/WbsSrc.lean.
-/
import PjVerif.Lemmas.WbsSrcB
import PjVerif.Lemmas.CloneLemmas
import PjVerif.Lemmas.PyLogic
namespace Pj.WbsSrc
open Pj.PyLite Pj.Extracted Pj.TaskSrc
set_option linter.unusedSimpArgs false
set_option linter.unusedVariables false

/-- the id of `x` is carried by no other task of `l` -/
def IdInjOn (s : G) (l : List Uid) (x : Uid) : Prop := ∀ a ∈ l, s.tid a = s.tid x → a = x

/-- `{task.id: task for task in l}` when the ids are distinct -/
def allDict (s : G) (l : List Uid) : List (Atom × Atom) := l.map (fun t => (idA (s.tid t), Atom.ref t))

/-- `{task.id: <clone of task> for task in l}`, the clones being the objects `m, m + 1, …` -/
def cloneDict (s : G) : Nat → List Uid → List (Atom × Atom)
  | _, [] => []
  | m, t :: l => (idA (s.tid t), Atom.ref m) :: cloneDict s (m + 1) l

/-- among tasks whose ids are their own, comparing the keys is comparing the tasks -/
theorem IdInjOn.pyEq {s : G} {l : List Uid} {x : Uid} (h : IdInjOn s l x) {a : Uid} (ha : a ∈ l) :
    (idA (s.tid a)).pyEq (idA (s.tid x)) = decide (a = x) := by
  rw [pyEq_idA]
  exact decide_eq_decide.2 ⟨h a ha, fun e => e ▸ rfl⟩

theorem IdInjOn.tail {s : G} {h : Uid} {l : List Uid} {x : Uid} (hi : IdInjOn s (h :: l) x) : IdInjOn s l x :=
  fun a ha => hi a (List.mem_cons_of_mem _ ha)

section comprehension
variable {α : Type} [DecidableEq α] (f : α → Atom × Atom)

/-- on `S` two keys of `f` are equal exactly when the elements are -/
def KeyId (S : List α) : Prop := ∀ a ∈ S, ∀ b ∈ S, (f a).1.pyEq (f b).1 = decide (a = b)

theorem KeyId.mono {S T : List α} (h : KeyId f S) (hsub : ∀ x ∈ T, x ∈ S) : KeyId f T :=
  fun a ha b hb => h a (hsub a ha) b (hsub b hb)

theorem insert_map (a : α) : ∀ (l : List α), (∀ b ∈ l, (f b).1.pyEq (f a).1 = decide (b = a)) →
    Dict.insert (l.map f) (f a).1 (f a).2 = if a ∈ l then l.map f else (l ++ [a]).map f := by
  intro l
  induction l with
  | nil => intro _; rfl
  | cons h l ih =>
    intro hk
    simp only [List.map_cons, Dict.insert, hk h List.mem_cons_self]
    by_cases e : h = a
    · simp [e]
    · have := ih (fun b hb => hk b (List.mem_cons_of_mem _ hb))
      simp only [e, decide_false, Bool.false_eq_true, if_false, this, List.mem_cons, Ne.symm e, false_or]
      split <;> rfl

theorem foldl_insert_map : ∀ (L pre : List α), KeyId f (pre ++ L) →
    (L.map f).foldl (fun d p => Dict.insert d p.1 p.2) (pre.map f) =
      (pre ++ (L.filter (fun x => !pre.contains x)).eraseDups).map f := by
  intro L
  induction L with
  | nil => intro pre _; simp
  | cons a L ih =>
    intro pre hk
    have ha : a ∈ pre ++ a :: L := List.mem_append_right _ List.mem_cons_self
    rw [List.map_cons, List.foldl_cons, insert_map f a pre (fun b hb => hk b (List.mem_append_left _ hb) a ha)]
    by_cases hm : a ∈ pre
    · rw [if_pos hm, ih pre (hk.mono f fun x hx => (List.mem_append.1 hx).elim (List.mem_append_left _)
        fun h => List.mem_append_right _ (List.mem_cons_of_mem _ h))]
      simp [hm]
    · rw [if_neg hm, ih (pre ++ [a]) (by rw [List.append_assoc]; exact hk)]
      simp only [List.filter_cons, List.contains_eq_mem, hm, decide_false, Bool.not_false, if_true, List.eraseDups_cons,
        List.filter_filter, List.append_assoc, List.singleton_append, List.mem_append, List.mem_singleton, Bool.decide_or,
        Bool.not_or, Bool.and_comm]
      rfl

/-- `{k: v for x in L}` when key equality is identity on `L`: one entry per element, in the order of the first
    occurrences -/
theorem ofList_map (L : List α) (hk : KeyId f L) : Dict.ofList (L.map f) = L.eraseDups.map f := by
  have := foldl_insert_map f L [] hk
  simpa [Dict.ofList, filter_const_true] using this

end comprehension

/-- `all_tasks`, built from a list with repetitions, is the model's `dedupFirst` -/
theorem ofList_allDict (s : G) (L : List Uid) (hinj : ∀ x ∈ L, IdInjOn s L x) :
    Dict.ofList (L.map (fun t => (idA (s.tid t), Atom.ref t))) = allDict s L.eraseDups :=
  ofList_map _ L fun a ha b hb => (hinj b hb).pyEq ha

theorem allDict_get (s : G) (x : Uid) : ∀ (l : List Uid), x ∈ l → IdInjOn s l x →
    Dict.get? (allDict s l) (idA (s.tid x)) = some (Atom.ref x) := by
  intro l
  induction l with
  | nil => intro h; cases h
  | cons h l ih =>
    intro hx hinj
    simp only [allDict, List.map_cons, Dict.get?, List.find?_cons, hinj.pyEq List.mem_cons_self]
    by_cases e : h = x
    · simp [e]
    · simp only [e, decide_false]
      exact ih ((List.mem_cons.1 hx).resolve_left (Ne.symm e)) hinj.tail

theorem allDict_values (s : G) (l : List Uid) : (allDict s l).map (·.2) = l.map Atom.ref := by
  simp [allDict]

/-- looking the id of `x` up in `cloned_tasks` = the model's `cloneOf`, provided no other selected task has that id -/
theorem cloneDict_get (s : G) (x : Uid) : ∀ (l : List Uid) (m : Nat), IdInjOn s l x →
    Dict.get? (cloneDict s m l) (idA (s.tid x)) = (cloneOf m l x).map Atom.ref := by
  intro l
  induction l with
  | nil => intro m _; rfl
  | cons h l ih =>
    intro m hinj
    simp only [cloneDict, Dict.get?, List.find?_cons, hinj.pyEq List.mem_cons_self, cloneOf_cons]
    by_cases e : h = x
    · simp [e]
    · simp only [e, decide_false, if_false]
      exact ih (m + 1) hinj.tail

/-- the pairs of `cloned_tasks` have distinct keys: the dict is the list of the pairs -/
theorem ofList_cloneDict (s : G) : ∀ (l : List Uid) (m : Nat), l.Nodup → (∀ x ∈ l, IdInjOn s l x) →
    ∀ (pre : List (Atom × Atom)), (∀ p ∈ pre, ∀ x ∈ l, p.1.pyEq (idA (s.tid x)) = false) →
      (cloneDict s m l).foldl (fun d p => Dict.insert d p.1 p.2) pre = pre ++ cloneDict s m l := by
  intro l
  induction l with
  | nil => intro m _ _ pre _; simp [cloneDict]
  | cons h l ih =>
    intro m hnd hinj pre hpre
    simp only [cloneDict, List.foldl_cons]
    have hins : Dict.insert pre (idA (s.tid h)) (Atom.ref m) = pre ++ [(idA (s.tid h), Atom.ref m)] := by
      clear ih
      induction pre with
      | nil => rfl
      | cons p pre ihp =>
        have := hpre p List.mem_cons_self h List.mem_cons_self
        simp only [Dict.insert, this, Bool.false_eq_true, if_false, List.cons_append]
        congr 1
        exact ihp (fun q hq => hpre q (List.mem_cons_of_mem _ hq))
    rw [hins, ih (m + 1) (List.nodup_cons.1 hnd).2
      (fun x hx a ha => hinj x (List.mem_cons_of_mem _ hx) a (List.mem_cons_of_mem _ ha))]
    · simp
    · intro p hp x hx
      rcases List.mem_append.1 hp with hp | hp
      · exact hpre p hp x (List.mem_cons_of_mem _ hx)
      · simp only [List.mem_singleton] at hp
        subst hp
        rw [(hinj x (List.mem_cons_of_mem _ hx)).pyEq List.mem_cons_self]
        exact decide_eq_false fun e => (List.nodup_cons.1 hnd).1 (e ▸ hx)

theorem ofList_cloneDict' (s : G) (l : List Uid) (m : Nat) (hnd : l.Nodup) (hinj : ∀ x ∈ l, IdInjOn s l x) :
    Dict.ofList (cloneDict s m l) = cloneDict s m l := by
  unfold Dict.ofList
  rw [ofList_cloneDict s l m hnd hinj [] (fun p hp => by cases hp)]
  rfl

def setHR (st : PState) (h : Nat → PyLite.Env) (r : Nat) : PState := { st with heap := h, reads := r }

@[simp] theorem setHR_heap (st : PState) (h : Nat → PyLite.Env) (r : Nat) : (setHR st h r).heap = h := rfl
@[simp] theorem setHR_reads (st : PState) (h : Nat → PyLite.Env) (r : Nat) : (setHR st h r).reads = r := rfl
theorem setHR_setHR (st : PState) (h h' : Nat → PyLite.Env) (r r' : Nat) :
    setHR (setHR st h r) h' r' = setHR st h' r' := rfl
theorem withG_setHR (st : PState) (h : Nat → PyLite.Env) (r : Nat) (s : G) :
    withG (setHR st h r) s = setHR st (encHeap s) r := rfl
theorem setHR_self (st : PState) : setHR st st.heap st.reads = st := rfl
theorem alloc_eq (st : PState) (obj : PyLite.Env) :
    alloc st obj = setHR st (fun j => if j = st.reads then obj else st.heap j) (st.reads + 1) := rfl

/-- the store after `Task.clone()` of the tasks `l`, in order, starting at the object `m` -/
def cloneHeap (s : G) (h : Nat → PyLite.Env) (m : Nat) (l : List Uid) : Nat → PyLite.Env :=
  fun u => if m ≤ u ∧ u < m + l.length then newTask (.atom (idA (s.tid (l.getD (u - m) 0)))) .none else h u

theorem cloneHeap_nil (s : G) (h : Nat → PyLite.Env) (m : Nat) : cloneHeap s h m [] = h := by
  funext u
  simp only [cloneHeap, List.length_nil, Nat.add_zero]
  rw [if_neg (by omega)]

theorem cloneHeap_cons (s : G) (h : Nat → PyLite.Env) (m : Nat) (t : Uid) (l : List Uid) :
    cloneHeap s (fun j => if j = m then newTask (.atom (idA (s.tid t))) .none else h j) (m + 1) l =
      cloneHeap s h m (t :: l) := by
  funext u
  simp only [cloneHeap, List.length_cons]
  by_cases h1 : m + 1 ≤ u ∧ u < m + 1 + l.length
  · rw [if_pos h1, if_pos (by omega)]
    have : u - m = (u - (m + 1)) + 1 := by omega
    rw [this, List.getD_cons_succ]
  · rw [if_neg h1]
    by_cases h2 : u = m
    · subst h2
      rw [if_pos rfl, if_pos (by omega)]
      simp
    · rw [if_neg h2, if_neg (by omega)]

/-- `{task.id: task.clone() for task in l}`: the clones are the objects `reads, reads + 1, …`; `f` = one step of the
    comprehension -/
theorem pairLoopP_clone (s : G) (f : Atom → PState → Res (Option (Atom × Atom) × PState))
    (hf : ∀ t st, (st.heap t).get? "id" = some (.atom (idA (s.tid t))) →
      f (.ref t) st = .ok (some (idA (s.tid t), .ref st.reads), alloc st (newTask (.atom (idA (s.tid t))) .none))) :
    ∀ (l : List Uid) (st : PState),
      (∀ t ∈ l, t < st.reads ∧ (st.heap t).get? "id" = some (.atom (idA (s.tid t)))) →
      pairLoopP f (l.map Atom.ref) st =
        .ok (cloneDict s st.reads l, setHR st (cloneHeap s st.heap st.reads l) (st.reads + l.length)) := by
  intro l
  induction l with
  | nil =>
    intro st _
    simp only [List.map_nil, pairLoopP, cloneDict, pure, Except.pure, cloneHeap_nil, List.length_nil, Nat.add_zero]
    rfl
  | cons t l ih =>
    intro st hl
    obtain ⟨ht, hid⟩ := hl t List.mem_cons_self
    have hstep : ∀ u ∈ l, u < (alloc st (newTask (.atom (idA (s.tid t))) .none)).reads ∧
        ((alloc st (newTask (.atom (idA (s.tid t))) .none)).heap u).get? "id" = some (.atom (idA (s.tid u))) := by
      intro u hu
      obtain ⟨hu1, hu2⟩ := hl u (List.mem_cons_of_mem _ hu)
      refine ⟨Nat.lt_succ_of_lt hu1, ?_⟩
      simp only [alloc]
      rw [if_neg (Nat.ne_of_lt hu1)]
      exact hu2
    have := ih _ hstep
    simp only [List.map_cons, pairLoopP, hf t st hid, this, bind, Except.bind, pure, Except.pure]
    simp only [cloneDict, alloc_eq, setHR_heap, setHR_reads, setHR_setHR, cloneHeap_cons, List.length_cons]
    have e : st.reads + 1 + l.length = st.reads + (l.length + 1) := by omega
    rw [e]

variable (filt : List Atom → PState → List Uid)

theorem wf_link_target : wbsFuns fn_WBS_clone_tasks_link_target =
    some (src_WBS_clone_tasks_link_target_params, src_WBS_clone_tasks_link_target) := rfl

/-- the closure `link_target(task)` of `__clone_tasks`: a task of another WBS / a detached task is returned as it is,
    a member of this WBS is looked up by its id in `cloned_tasks` -/
theorem link_target_spec (g : G) (st : PState) (hh : st.heap = encHeap g) (w x : Uid) (D : List (Atom × Atom))
    (F : Nat) :
    (Hw filt (F + 1)).fnV fn_WBS_clone_tasks_link_target [.atom (.ref w), .dict D, .atom (.ref x)] st =
      .ok (.atom (if g.owner x = some w then (match Dict.get? D (idA (g.tid x)) with | some v => v | none => .none)
        else .ref x), st) := by
  rw [fnW_top _ _ _ _ _ wf_link_target]
  cases ho : g.owner x with
  | none =>
    simp [pylite_step, src_WBS_clone_tasks_link_target_params, src_WBS_clone_tasks_link_target, hh, ho, pyEq_none_ref]
  | some w' =>
    by_cases e : w' = w
    · subst e
      cases hd : Dict.get? D (idA (g.tid x)) <;>
        simp [pylite_step, src_WBS_clone_tasks_link_target_params, src_WBS_clone_tasks_link_target, hh, ho, pyEq_ref, hd]
    · have e' : ¬ (some w' = some w) := fun h => e (Option.some.inj h)
      simp [pylite_step, src_WBS_clone_tasks_link_target_params, src_WBS_clone_tasks_link_target, hh, ho, pyEq_ref, e, e']

theorem wf_clone_tasks : wbsFuns fn_WBS_clone_tasks = some (src_WBS_clone_tasks_params, src_WBS_clone_tasks) := rfl

def ctCollect : Stmt := match src_WBS_clone_tasks with | _ :: l :: _ => l | _ => .pass
def ctCollectBody : List Stmt := match ctCollect with | .forIn _ _ b => b | _ => []
def ctLoop : Stmt := match src_WBS_clone_tasks with | [_, _, _, _, l, _] => l | _ => .pass
def ctBody : List Stmt := match ctLoop with | .forIn _ _ b => b | _ => []

theorem ct_shape : src_WBS_clone_tasks =
    [.assign "all_tasks_list" .listNil, ctCollect,
     .assign "all_tasks" (.dictComp (.attr (.var "task") "id") (.var "task") "task" (.var "all_tasks_list") (.bool true)),
     .assign "cloned_tasks" (.dictComp (.attr (.var "task") "id")
       (.callVal (.fnRef pf_Task_clone) (.listCons (.var "task") .listNil)) "task" (.dictValues (.var "all_tasks"))
       (.bool true)),
     ctLoop, .ret (.var "cloned_tasks")] := rfl
theorem ctCollect_eq : ctCollect = .forIn "r" (.var "roots") ctCollectBody := rfl
theorem ctCollectBody_eq : ctCollectBody =
    [.aug "all_tasks_list" .add (.listCons (.var "r") .listNil),
     .aug "all_tasks_list" .add (.listComp (.var "t") "t"
       (.callFn fn_Task_get_all_children (.listCons (.var "r") .listNil)) (.bool true))] := rfl
theorem ctLoop_eq : ctLoop = .forIn "t" (.dictValues (.var "all_tasks")) ctBody := rfl

/-- `for r in roots: all_tasks_list.append(r); all_tasks_list += [t for t in r.all_children]`; `bs`: locals the loop
    does not assign -/
theorem ct_collect (s : G) (st : PState) (hh : st.heap = encHeap s) (roots : List Uid) (subs : List (List Uid))
    (hsubs : roots.mapM (fun r => subtreeF s.children s.fuel r) = some subs) (F : Nat) (hF : s.n + 2 ≤ F)
    (bs ρ : PyLite.Env) (hbs : Env.le bs ρ) (hroots : ρ.get? "roots" = some (refs roots))
    (hacc : ρ.get? "all_tasks_list" = some (.list []))
    (hr : bs.get? "r" = none := by rfl) (ha : bs.get? "all_tasks_list" = none := by rfl) :
    ∃ ρ', ctCollect.execP (Hw filt F) [] noRec ρ st = .normal ρ' st ∧
      ρ'.get? "all_tasks_list" = some (refs subs.flatten) ∧ Env.le bs ρ' := by
  obtain ⟨hsub, hdesc⟩ := subs_eq s roots subs hsubs
  obtain ⟨F, rfl, hF⟩ := fuel_split 1 hF
  rw [ctCollect_eq, execP_forIn (vs := roots.map Atom.ref) (st' := st) (hit := evalP_var _ _ _ _ _ _ hroots)]
  obtain ⟨ρ', hP', hacc', hloop⟩ := forLoopP_local Atom.ref Val.list
    (fun a r => a ++ (r :: dsc s.children s.fuel r).map Atom.ref) "r" "all_tasks_list"
    (fun ρ st => execBlockP (Hw filt (F + 1)) [] noRec ctCollectBody ρ st) (Env.le bs) st roots
    (by
      intro ρ1 a r hr' hP ha'
      have hg : (Hd (F + 1)).fnV _ _ _ = _ :=
        get_all_children_spec progHd s st hh s.fuel r _ (hdesc r hr') (F + 1) (by unfold G.fuel; omega)
      refine ⟨?ρ, ?le, ?acc, ?run⟩
      case run =>
        rw [ctCollectBody_eq, execBlockP_cons, execP_aug_list (a := a) (b := [.ref r]) (st' := st)
          (by rw [Env.get?_set, if_neg (by decide)]; exact ha')
          (by simp only [Expr.evalP, Env.get?_set, if_true, bind, Except.bind, pure, Except.pure])]
        simp only []
        rw [execBlockP_cons, execP_aug_list (by rw [Env.get?_set, if_pos rfl])
          (evalP_listComp_id _ _ _ _ _ _ "t" ((dsc s.children s.fuel r).map Atom.ref) (by
            rw [evalP_callFn1 (ha := evalP_var _ _ _ _ _ _
              (by rw [Env.get?_set, if_neg (by decide), Env.get?_set, if_pos rfl])),
              fnW_base _ _ _ wf_base_get_all_children, hg]
            rfl))]
        rfl
      case le => exact ((hP.set_ne "r" _ hr).set_ne "all_tasks_list" _ ha).set_ne "all_tasks_list" _ ha
      case acc => rw [Env.get?_set, if_pos rfl, List.map_cons, List.append_assoc]; rfl)
    ρ [] hbs hacc
  refine ⟨ρ', hloop, ?_, hP'⟩
  rw [hacc', foldl_snoc, hsub, List.nil_append, refs, List.map_flatten, List.map_map, List.flatMap_def]
  rfl

end Pj.WbsSrc

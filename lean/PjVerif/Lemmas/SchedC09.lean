/-
  Lemmas/SchedC09.lean — C09 on the model: each clause is a fact about each placed task, kept through the backward
  run on top of "both dates are set and the end respects the deadline" (`c09_tasks`); the encoding and late-packing
  clauses read what a leaf's placement computed (`BwdLeafPlaced`) against what the ledger shows of it (`Seen`).
  The counterexamples at the end (`C09CE`) show which clause fails without each extra hypothesis of `C09_partial`.
-/
import PjVerif.Lemmas.SchedCore
namespace Pj

theorem minStarts_le (σ : SS) (l : List Uid) (m : Time) : minStarts σ l m ≤ m :=
  (foldl_minT_le _ _).1

theorem minStarts_le_start (σ : SS) (l : List Uid) (m : Time) (s : Uid) (st : Time) (hs : s ∈ l)
    (h : (σ.f s).start = some st) : minStarts σ l m ≤ st :=
  (foldl_minT_le _ _).2 _ (List.mem_filterMap.2 ⟨s, hs, h⟩)

theorem minStarts_congr (σ σ' : SS) (l : List Uid) (m : Time) (h : ∀ s ∈ l, σ'.f s = σ.f s) :
    minStarts σ' l m = minStarts σ l m := by
  unfold minStarts
  rw [filterMap_congr' l _ _ (fun s hs => by rw [h s hs])]

/-- the day `c09Encode` recovers from a computed end `d + 1 − x`, `0 ≤ x < 1` -/
theorem endDay_spec (d : Int) (x : Rat) (h0 : 0 ≤ x) (h1 : x < 1) :
    (if ((d : Rat) + 1 - x) == ((dayOf ((d : Rat) + 1 - x) : Int) : Rat) then dayOf ((d : Rat) + 1 - x) - 1
      else dayOf ((d : Rat) + 1 - x)) = d := by
  by_cases hx : x = 0
  · subst hx
    have he : (d : Rat) + 1 - 0 = ((d + 1 : Int) : Rat) := by rw [Rat.intCast_add]; grind
    rw [he, dayOf_intCast]
    simp
  · have he : (d : Rat) + 1 - x = (d : Rat) + (1 - x) := by grind
    have hd : dayOf ((d : Rat) + 1 - x) = d := by
      rw [he]; exact dayOf_add_frac d _ (by grind) (by grind)
    rw [hd]
    have hne : ¬ ((d : Rat) + 1 - x = (d : Rat)) := by grind
    simp [hne]

/-- what the placement of a leaf without fixed dates computed, from the calendar `cal` and the ledger view `used`: `d` =
    the day the end is measured from, `c` its capacity, `s` the start -/
structure BwdLeafPlaced (cal : Cal) (used : Int → Rat) (m v : Time) (d : Int) (c : Rat) (s : Time) (o : Outcome) :
    Prop where
  dlt : d < dayOf v
  cap : capR cal (d : Rat) = .ok c
  avail : 0 < c - used d
  fullAfter : ∀ d', d < d' → d' < dayOf v → DayFull cal used d'
  end_ : o.g.end_ = some ((d : Rat) + 1 - used d / c)
  start : o.g.start = some s
  fill : o.new = [] ∨ ∃ dayL c' left,
    FillSpec (-1) cal used (dayOf (minT ((d : Rat) + 1 - used d / c) m)) left o.new dayL c' ∧ o.new ≠ [] ∧
    s = (dayL : Rat) + 1 - (used dayL + daySum o.new dayL) / c'

theorem bwdLeaf_placed {dflt : Rat} {cal : Cal} {used : Int → Rat} {m v : Time} {g : Fields} {o : Outcome}
    (hu : ∀ d, 0 ≤ used d) (hs : g.start = none) (he : g.end_ = none) (h : bwdLeaf dflt cal used m v g = .ok o) :
    ∃ d c s, BwdLeafPlaced cal used m v d c s o := by
  obtain ⟨E, s, rows, hE, hsh, rfl⟩ := bwdLeaf_ok h
  rcases hE with hx | ⟨_, e0, hn, rfl⟩
  · exact nomatch he.symm.trans hx
  · obtain ⟨d, c, hd, hc, hav, he0, hfull⟩ := nearestBwd_spec _ _ v e0 hu hn
    have hend : e0 + 1 = (d : Rat) + 1 - used d / c := by rw [he0]; grind
    refine ⟨d, c, s, hd, hc, hav, hfull, by simp [hend], by simp [hs], ?_⟩
    rw [hend] at hsh
    obtain ⟨dayL, c', hsp, _, hp⟩ := shiftBwd_spec _ _ _ _ _ _ (workLeft_nonneg _ _) hu hsh
    by_cases hne : rows = []
    · exact Or.inl hne
    · exact Or.inr ⟨dayL, c', _, hsp, hne, (hp hne).2.2⟩

theorem bwdPlace_leaf (env : Env) (σ σ' : SS) (t : Uid) (m v : Time) (hl : LedgerOK env σ)
    (hleaf : (env.info t).children.isEmpty = true) (hm : (env.info t).milestone = false)
    (hs : (σ.f t).start = none) (he : (σ.f t).end_ = none) (h : bwdPlace env σ t m v = .ok σ') :
    ∃ d c s o, σ' = σ.commit env t o ∧ BwdLeafPlaced (placeCal env σ t) (placeUsed env σ t) m v d c s o := by
  rw [bwdPlace_leaf_eq env σ t m v hm hleaf] at h
  obtain ⟨o, ho, rfl⟩ := Res.map_ok h
  obtain ⟨d, c, s, hp⟩ := bwdLeaf_placed (placeUsed_nonneg env σ t hl) hs he ho
  exact ⟨d, c, s, o, rfl, hp⟩

/-! ### the base invariant of a backward run without fixed dates (carries the deadline clause) -/

/-- both dates are set and the end respects the deadline (`Base.dates` says it of every done task) -/
def Dated (env : Env) (σ : SS) (t : Uid) : Prop :=
  ∃ s e, (σ.f t).start = some s ∧ (σ.f t).end_ = some e ∧ e ≤ env.bound

structure Base (env : Env) (σ : SS) : Prop where
  ledger : LedgerOK env σ
  rowsDone : ∀ r ∈ σ.rows, r.task ∈ σ.done
  fresh : ∀ t, (env.info t).member = true → t ∉ σ.done → (σ.f t).start = none ∧ (σ.f t).end_ = none
  doneMem : ∀ t ∈ σ.done, (env.info t).member = true
  hasRes : ∀ t ∈ σ.done, (σ.res.map (·.1)).contains (env.info t).resource = true
  dates : ∀ t ∈ σ.done, ∃ s e, (σ.f t).start = some s ∧ (σ.f t).end_ = some e ∧ e ≤ env.bound

theorem BwdLeafPlaced.end_le {cal : Cal} {used : Int → Rat} {m v : Time} {d : Int} {c : Rat} {s : Time} {o : Outcome}
    (hp : BwdLeafPlaced cal used m v d c s o) (hu : 0 ≤ used d) : (d : Rat) + 1 - used d / c ≤ v := by
  have hfr := div_nonneg_lt_one (u := used d) (c := c) hu (by have := hp.avail; grind)
  have h1 := int_succ_le_cast hp.dlt
  have h2 := dayOf_le_self v
  grind

theorem bwdPlace_dates_c09 (env : Env) (σ σ' : SS) (t : Uid) (m v : Time) (hb : Base env σ)
    (hmem : (env.info t).member = true) (ht : t ∉ σ.done) (hk : ∀ c ∈ (env.info t).children, c ∈ σ.done)
    (hmb : m ≤ env.bound) (hvm : v ≤ m) (h : bwdPlace env σ t m v = .ok σ') :
    ∃ s e, (σ'.f t).start = some s ∧ (σ'.f t).end_ = some e ∧ e ≤ env.bound ∧
      ((env.info t).children.isEmpty = true ∨ (env.info t).milestone = true → e ≤ v) := by
  obtain ⟨hs0, he0⟩ := hb.fresh t hmem ht
  rw [bwdPlace_eq env σ t m v] at h
  obtain ⟨o, ho, rfl⟩ := Res.map_ok h
  rw [SS.commit_f_same]
  rcases kind_ok ho with ⟨_, ho⟩ | ⟨_, _, ho⟩ | ⟨hm, hleaf, ho⟩
  · cases ho
    exact ⟨v, v, rfl, rfl, by grind, fun _ => Rat.le_refl⟩
  · obtain ⟨d, c, s, hp⟩ := bwdLeaf_placed (placeUsed_nonneg env σ t hb.ledger) hs0 he0 ho
    have := hp.end_le (placeUsed_nonneg env σ t hb.ledger d)
    exact ⟨s, _, hp.start, hp.end_, by grind, fun _ => this⟩
  · obtain ⟨s, e, es, sp, rfl, rfl, _⟩ := bwdSum_ok ho
    refine ⟨s, _, rfl, rfl, ?_, fun hh => by simp [hm, hleaf] at hh⟩
    rw [he0]
    cases hc : (env.info t).children.filterMap (fun c => (σ.f c).end_) with
    | nil => exact hmb
    | cons c rest =>
      have hall : ∀ y ∈ c :: rest, y ≤ env.bound := by
        intro y hy
        rw [← hc] at hy
        obtain ⟨ch, hch, hy⟩ := List.mem_filterMap.1 hy
        obtain ⟨_, e, _, he, hle⟩ := hb.dates ch (hk ch hch)
        rw [he] at hy
        cases hy
        exact hle
      exact foldl_maxT_le_of_le rest c _ (hall c (by simp)) (fun y hy => hall y (List.mem_cons_of_mem _ hy))

theorem prepare_fresh (env : Env) (f0 : Uid → Fields) (hn : noFixedDates env f0 = true) (t : Uid)
    (ht : t ∈ memberList env) :
    (prepare env f0 (memberList env) t).start = none ∧ (prepare env f0 (memberList env) t).end_ = none := by
  unfold prepare
  cases hleaf : (env.info t).children.isEmpty with
  | true =>
    simp only [Bool.not_true, Bool.and_false, Bool.false_eq_true, if_false]
    have := List.all_eq_true.1 hn t ht
    simp only [isLeaf, hleaf, Bool.not_true, Bool.false_or, Bool.and_eq_true, Option.isNone_iff_eq_none] at this
    exact this
  | false => simp [ht]

/-- `Base` is `Core` (of a run without fixed dates) together with the dates of the done tasks -/
theorem Base.of_core {env : Env} {f0 : Uid → Fields} {σ : SS} (hf : env.flagsOK) (hn : noFixedDates env f0 = true)
    (hc : Core env (prepare env f0 (memberList env)) σ) (hd : ∀ t ∈ σ.done, Dated env σ t) : Base env σ :=
  ⟨hc.ledger, hc.rowsDone, fun t hm ht => by rw [hc.init t ht]; exact prepare_fresh env f0 hn t ((hf t).1 hm),
    hc.doneMem, hc.hasRes, hd⟩

/-- a fact `X` about each done task of a backward run without fixed dates, on top of its dates; the placement of `t`
    may use `Base` of the state before -/
theorem c09_tasks {env : Env} {f0 : Uid → Fields} (hf : env.flagsOK) (hn : noFixedDates env f0 = true)
    {X : SS → Uid → Prop} {Q : Uid → Time → Prop} (hQ : ∀ t m, Q t m → m ≤ env.bound)
    (keep : ∀ σ σ' t, Core env (prepare env f0 (memberList env)) σ → Core env (prepare env f0 (memberList env)) σ' →
      Ext σ σ' → t ∈ σ.done → X σ t → X σ' t)
    (new : ∀ σ1 σ σ' t m, Placing env (prepare env f0 (memberList env)) (Sched.bwd env) σ1 σ σ' t m → Q t m →
      Base env σ → (∀ x ∈ σ.done, X σ x) → X σ' t) :
    Tasks env (prepare env f0 (memberList env)) (Sched.bwd env) (fun σ t => Dated env σ t ∧ X σ t) Q where
  keep := fun σ σ' t hc hc' he ht h => ⟨by unfold Dated; rw [he.frozen t ht]; exact h.1, keep σ σ' t hc hc' he ht h.2⟩
  new := fun σ1 σ σ' t m h hq hall => by
    have hb := Base.of_core hf hn h.core (fun x hx => (hall x hx).1)
    obtain ⟨s, e, h1, h2, h3, _⟩ :=
      bwdPlace_dates_c09 env σ σ' t m _ hb h.mem h.fresh h.kids (hQ t m hq) (minStarts_le _ _ _) h.run
    exact ⟨⟨s, e, h1, h2, h3⟩, new σ1 σ σ' t m h hq hb (fun x hx => (hall x hx).2)⟩

theorem backwardCalc_c09Deadline (env : Env) (f0 : Uid → Fields) (res0 : List (Option Nat × Cal)) (o : Output)
    (hf : env.flagsOK) (hn : noFixedDates env f0 = true) (h : backwardCalc env f0 res0 = .ok o) :
    c09Deadline env o = true := by
  obtain ⟨σ, rfl, _, hall⟩ := (Sched.bwd env).run_tasks (Sched.bwd_ok env) hf _ (fun _ m => m ≤ env.bound)
    (c09_tasks hf hn (X := fun _ _ => True) (fun _ _ h => h) (fun _ _ _ _ _ _ _ _ => trivial)
      (fun _ _ _ _ _ _ _ _ _ => trivial))
    (fun _ _ => Rat.le_refl) (fun _ _ _ _ _ hq _ => Rat.le_trans (minStarts_le _ _ _) hq) (fun _ _ _ _ hq _ _ => hq)
    (bwdRun_eq env ▸ backwardCalc_run env f0 res0 o h)
  unfold c09Deadline
  rw [List.all_eq_true]
  intro t ht
  obtain ⟨s, e, _, he, hle⟩ := (hall t ht).2.1
  show (match (σ.f t).end_ with | some e => decide (e ≤ env.bound) | none => false) = true
  rw [he]
  simpa using hle

/-- the first (earliest) day of a backward fill is the last day the loop visited -/
theorem firstDay_fill {cal : Cal} {used : Int → Rat} {day0 : Int} {left : Rat} {new : List (Int × Rat)}
    {dayL : Int} {dauL : Rat} (hs : FillSpec (-1) cal used day0 left new dayL dauL) (hne : new ≠ []) (k : Option Nat)
    (t : Uid) : firstDay (new.map (mkRow k t)) = some dayL := by
  obtain ⟨u, hlast⟩ := hs.last_mem hne
  exact firstDay_mk k t new dayL ⟨_, hlast, rfl⟩ (fun p hp => by have := (hs.range p hp).2; omega)

/-- the body of `c09Encode` for one task -/
def c09EncodeAt (env : Env) (o : Output) (t : Uid) : Bool :=
  !isLeaf env t || (env.info t).milestone ||
  let k := (env.info t).resource
  match firstDay (rowsOf o.rows t), (o.f t).start, (o.f t).end_ with
  | some d1, some s, some e =>
    let c1 := capMid o.res k d1
    let d0 : Int := if e == (dayOf e : Rat) then dayOf e - 1 else dayOf e
    let c0 := capMid o.res k d0
    decide (0 < c1) && s == (d1 : Rat) + 1 - bookedUpTo env o k d1 t / c1 &&
    decide (0 < c0) && e == (d0 : Rat) + 1 - bookedBefore env o k d0 t / c0
  | none, _, _ => true
  | _, _, _ => false

theorem c09Encode_eq (env : Env) (o : Output) : c09Encode env o = (memberList env).all (c09EncodeAt env o) := rfl

theorem c09EncodeAt_norows (env : Env) (o : Output) (t : Uid) (h : rowsOf o.rows t = []) :
    c09EncodeAt env o t = true := by
  unfold c09EncodeAt
  simp [h, firstDay]

theorem c09EncodeAt_intro (env : Env) (o : Output) (t : Uid) (d1 d : Int)
    (hfd : firstDay (rowsOf o.rows t) = some d1)
    (hc1 : 0 < capMid o.res (env.info t).resource d1)
    (hs : (o.f t).start = some ((d1 : Rat) + 1 - bookedUpTo env o (env.info t).resource d1 t /
      capMid o.res (env.info t).resource d1))
    (h0 : 0 ≤ bookedBefore env o (env.info t).resource d t)
    (h1 : bookedBefore env o (env.info t).resource d t < capMid o.res (env.info t).resource d)
    (he : (o.f t).end_ = some ((d : Rat) + 1 - bookedBefore env o (env.info t).resource d t /
      capMid o.res (env.info t).resource d)) :
    c09EncodeAt env o t = true := by
  have hfr := div_nonneg_lt_one h0 h1
  have hd0 := endDay_spec d _ hfr.1 hfr.2
  unfold c09EncodeAt
  simp only [hfd, hs, he, hd0]
  have hc0 : 0 < capMid o.res (env.info t).resource d := by grind
  simp [hc1, hc0]

theorem c09EncodeAt_of_seen {env : Env} {σ : SS} {t : Uid} {cal : Cal} {used : Int → Rat} {o : Outcome} {m v : Time} {d : Int}
    {c : Rat} {s : Time} (hS : Seen env σ t cal used o) (hp : BwdLeafPlaced cal used m v d c s o) :
    c09EncodeAt env (outOf σ) t = true := by
  have hu := hS.nonneg
  rcases hp.fill with hnil | ⟨dayL, c', left, hsp, hne, hs'⟩
  · exact c09EncodeAt_norows env (outOf σ) t (by rw [show (outOf σ).rows = σ.rows from rfl, hS.rows, hnil]; rfl)
  · have hbb := hS.before hne
    have hbu : bookedUpTo env (outOf σ) (env.info t).resource dayL t = used dayL + daySum o.new dayL := by
      unfold bookedUpTo
      rw [hbb]
      show _ + reserved σ.rows _ _ _ = _
      rw [hS.own]
    have hc' := (hsp.last hne).2
    obtain ⟨u, hlast⟩ := hsp.last_mem hne
    obtain ⟨c'', hc'', hu0, hu1⟩ := hsp.fits (dayL, u) hlast
    simp only at hc'' hu0 hu1
    rw [hc'] at hc''
    cases hc''
    have hcm1 := hS.cap hc'
    have hcm0 := hS.cap hp.cap
    refine c09EncodeAt_intro env (outOf σ) t dayL d ?_ ?_ ?_ ?_ ?_ ?_
    · show firstDay (rowsOf σ.rows t) = _
      rw [hS.rows]; exact firstDay_fill hsp hne _ _
    · show 0 < capMid σ.res _ _
      rw [hcm1]; have := hu dayL; grind
    · show (σ.f t).start = some (_ - _ / capMid σ.res _ _)
      rw [hS.f, hp.start, hs', hbu, hcm1]
    · rw [hbb]; exact hu d
    · rw [hbb]; show _ < capMid σ.res _ _
      rw [hcm0]; have := hp.avail; grind
    · show (σ.f t).end_ = some (_ - _ / capMid σ.res _ _)
      rw [hS.f, hp.end_, hbb, hcm0]

theorem backwardCalc_c09Encode (env : Env) (f0 : Uid → Fields) (res0 : List (Option Nat × Cal)) (o : Output)
    (hf : env.flagsOK) (hn : noFixedDates env f0 = true) (h : backwardCalc env f0 res0 = .ok o) :
    c09Encode env o = true := by
  obtain ⟨σ, rfl, _, hall⟩ := (Sched.bwd env).run_tasks (Sched.bwd_ok env) hf _ (fun _ m => m ≤ env.bound)
    (c09_tasks hf hn (X := fun σ t => (env.info t).children.isEmpty = true → (env.info t).milestone = false →
        ∃ cal used o m v d c s, Seen env σ t cal used o ∧ BwdLeafPlaced cal used m v d c s o) (fun _ _ h => h)
      (fun σ σ' t _ hc' he ht h hleaf hm => by
        obtain ⟨cal, used, o, m, v, d, c, s, hS, hp⟩ := h hleaf hm
        exact ⟨cal, used, o, m, v, d, c, s, hS.keep he hc'.ledger ht, hp⟩)
      (fun σ1 σ σ' t m h _ hb _ hleaf hm => by
        obtain ⟨hs0, he0⟩ := hb.fresh t h.mem h.fresh
        obtain ⟨d, c, s, o, rfl, hp⟩ := bwdPlace_leaf env σ σ' t m _ hb.ledger hleaf hm hs0 he0 h.run
        exact ⟨_, _, o, m, _, d, c, s, Seen.commit h.core h.fresh, hp⟩))
    (fun _ _ => Rat.le_refl) (fun _ _ _ _ _ hq _ => Rat.le_trans (minStarts_le _ _ _) hq) (fun _ _ _ _ hq _ _ => hq)
    (bwdRun_eq env ▸ backwardCalc_run env f0 res0 o h)
  rw [c09Encode_eq, List.all_eq_true]
  intro t ht
  cases hleaf : (env.info t).children.isEmpty with
  | false => unfold c09EncodeAt; simp [isLeaf, hleaf]
  | true =>
    cases hm : (env.info t).milestone with
    | true => unfold c09EncodeAt; simp [hm]
    | false =>
      obtain ⟨cal, used, o, m, v, d, c, s, hS, hp⟩ := (hall t ht).2.2 hleaf hm
      exact c09EncodeAt_of_seen hS hp

/-! ### C09, dependency and late-packing clauses (no links on tasks with children) -/

theorem succLeaves_own (env : Env) (t s : Uid) (hs : s ∈ (env.info t).succs)
    (hl : (env.info s).children.isEmpty = true) : s ∈ succLeaves env t := by
  unfold succLeaves
  refine List.mem_flatMap.2 ⟨s, List.mem_flatMap.2 ⟨t, by simp, hs⟩, ?_⟩
  rw [leavesOf_leaf env s hl]; simp

/-- a done leaf ends no later than each of its member successors starts -/
def Dep (env : Env) (σ : SS) (p : Uid) : Prop :=
  (env.info p).children.isEmpty = true → ∀ t ∈ (env.info p).succs, (env.info t).member = true →
    t ∈ σ.done ∧ ∃ e st, (σ.f p).end_ = some e ∧ (σ.f t).start = some st ∧ e ≤ st

theorem Dep.keep {env : Env} {σ σ' : SS} {p : Uid} (hext : Ext σ σ') (hpd : p ∈ σ.done) (h : Dep env σ p) :
    Dep env σ' p := fun hleaf s hs hsm => by
  obtain ⟨hsd', e, st, h1, h2, h3⟩ := h hleaf s hs hsm
  exact ⟨hext.done_sub hsd', e, st, by rw [hext.frozen p hpd]; exact h1, by rw [hext.frozen s hsd']; exact h2, h3⟩

theorem Dep.new {env : Env} {σ1 σ σ' : SS} {t : Uid} {m : Time} (hb : Base env σ)
    (hmem : (env.info t).member = true) (ht : t ∉ σ.done) (he1 : Ext σ1 σ) (hext : Ext σ σ')
    (hsd : ∀ s ∈ (env.info t).succs, (env.info s).member = (env.info t).member → s ∈ σ1.done)
    (hk : ∀ c ∈ (env.info t).children, c ∈ σ.done) (hmb : m ≤ env.bound)
    (h : bwdPlace env σ t m (minStarts σ1 (env.info t).succs m) = .ok σ') : Dep env σ' t := fun hleaf s hs hsm => by
  have hs1 : s ∈ σ1.done := hsd s hs (hsm.trans hmem.symm)
  have hs2 : s ∈ σ.done := he1.done_sub hs1
  obtain ⟨st, _, hst, _⟩ := hb.dates s hs2
  have hst1 : (σ1.f s).start = some st := by rw [← he1.frozen s hs1]; exact hst
  obtain ⟨_, e, _, hee, _, hle⟩ := bwdPlace_dates_c09 env σ σ' t m _ hb hmem ht hk hmb (minStarts_le _ _ _) h
  refine ⟨hext.done_sub hs2, e, st, hee, by rw [hext.frozen s hs2]; exact hst, ?_⟩
  exact Rat.le_trans (hle (Or.inl hleaf)) (minStarts_le_start σ1 _ m s st hs hst1)

/-- late packing of one task in a state (balancing): its member successors are done, the days after its end's
    day and before the day of the earliest successor start are full, and so are the days strictly inside its
    work span -/
def LPAt (env : Env) (σ : SS) (t : Uid) : Prop :=
  (∀ s ∈ (env.info t).succs, (env.info s).member = true → s ∈ σ.done) ∧
  (∃ e, (σ.f t).end_ = some e ∧ ∀ d', dayOf e < d' → d' < dayOf (minStarts σ (env.info t).succs env.bound) →
    capMid σ.res (env.info t).resource d' ≤ reserved σ.rows (env.info t).resource d' none) ∧
  (∀ d1 d2, firstDay (rowsOf σ.rows t) = some d1 → lastDay (rowsOf σ.rows t) = some d2 →
    ∀ d', d1 < d' → d' < d2 →
      capMid σ.res (env.info t).resource d' ≤ reserved σ.rows (env.info t).resource d' none)

theorem LPAt.keep {env : Env} {σ σ' : SS} {t : Uid}
    (hres : (σ.res.map (·.1)).contains (env.info t).resource = true) (hl' : LedgerOK env σ')
    (hdm' : ∀ x ∈ σ'.done, (env.info x).member = true) (he : Ext σ σ')
    (ht : t ∈ σ.done) (h : LPAt env σ t) : LPAt env σ' t := by
  obtain ⟨h1, ⟨e, hee, h2⟩, h3⟩ := h
  obtain ⟨_, hrows, _, hcap, _⟩ := he.view env ht
  have hcap := hcap hres
  have hmono := fun d => reserved_mono_ext he hl' (env.info t).resource d
  have hms : minStarts σ' (env.info t).succs env.bound = minStarts σ (env.info t).succs env.bound :=
    minStarts_congr _ _ _ _ (he.links_frozen env hdm' _ h1)
  refine ⟨fun s hs hsm => he.done_sub (h1 s hs hsm), ⟨e, by rw [he.frozen t ht]; exact hee, ?_⟩, ?_⟩
  · intro d' hd1 hd2
    rw [hms] at hd2
    rw [hcap]
    exact Rat.le_trans (h2 d' hd1 hd2) (hmono d')
  · intro d1 d2 hf hl d' hd1 hd2
    rw [hrows] at hf hl
    rw [hcap]
    exact Rat.le_trans (h3 d1 d2 hf hl d' hd1 hd2) (hmono d')

theorem LPAt.stable {env : Env} {σ σ' : SS} {t : Uid} (hb : Base env σ) (hb' : Base env σ') (he : Ext σ σ')
    (ht : t ∈ σ.done) (h : LPAt env σ t) : LPAt env σ' t :=
  h.keep (hb.hasRes t ht) hb'.ledger hb'.doneMem he ht

theorem lp_place (env : Env) (σ1 σ' : SS) (t : Uid) (cal : Cal) (used : Int → Rat) (o : Outcome) (d : Int) (c : Rat)
    (s : Time) (hbal : env.balance = true) (hl' : LedgerOK env σ')
    (hdm' : ∀ x ∈ σ'.done, (env.info x).member = true) (hmem : (env.info t).member = true) (he' : Ext σ1 σ')
    (hsd : ∀ s ∈ (env.info t).succs, (env.info s).member = (env.info t).member → s ∈ σ1.done)
    (hS : Seen env σ' t cal used o)
    (hp : BwdLeafPlaced cal used env.bound (minStarts σ1 (env.info t).succs env.bound) d c s o) :
    LPAt env σ' t := by
  have hu := hS.nonneg
  refine ⟨fun s hs hsm => he'.done_sub (hsd s hs (hsm.trans hmem.symm)),
    ⟨_, (congrArg Fields.end_ hS.f).trans hp.end_, ?_⟩, ?_⟩
  · intro d' hd1 hd2
    have hms : minStarts σ' (env.info t).succs env.bound = minStarts σ1 (env.info t).succs env.bound :=
      minStarts_congr _ _ _ _
        (he'.links_frozen env hdm' _ (fun s hs hsm => hsd s hs (hsm.trans hmem.symm)))
    rw [hms] at hd2
    have hfr := div_nonneg_lt_one (u := used d) (c := c) (hu d) (by have := hp.avail; grind)
    have hde : d ≤ dayOf ((d : Rat) + 1 - used d / c) := by
      have := dayOf_mono (a := (d : Rat)) (b := (d : Rat) + 1 - used d / c) (by grind)
      rwa [dayOf_intCast] at this
    exact hS.full hbal hl' (hp.fullAfter d' (by omega) hd2)
  · intro d1 d2 hf hl d' hd1 hd2
    rw [hS.rows] at hf hl
    obtain ⟨⟨r1, hr1, hr1d⟩, _⟩ := firstDay_spec _ d1 hf
    obtain ⟨⟨r2, hr2, hr2d⟩, _⟩ := lastDay_spec _ d2 hl
    obtain ⟨p1, hp1, rfl⟩ := List.mem_map.1 hr1
    obtain ⟨p2, hp2, rfl⟩ := List.mem_map.1 hr2
    simp only [mkRow] at hr1d hr2d
    rcases hp.fill with hnil | ⟨dayL, c', left, hsp, hne, hs'⟩
    · rw [hnil] at hp1; cases hp1
    · have hg1 := (hsp.range p1 hp1).2
      have hg2 := (hsp.range p2 hp2).1
      obtain ⟨cq, hcq, hfull⟩ := hsp.day_full (d := d') (by omega) (by omega)
      exact hS.full_of_le hbal hcq hfull

theorem dueDate_le (env : Env) (σ : SS) (t : Uid)
    (hleafs : ∀ s ∈ (env.info t).succs, (env.info s).children.isEmpty = true) :
    dueDate env (outOf σ) t ≤ minStarts σ (env.info t).succs env.bound := by
  unfold dueDate minStarts
  apply le_foldl_minT_of_le
  · exact (foldl_minT_le _ _).1
  · intro y hy
    obtain ⟨s, hs, hsy⟩ := List.mem_filterMap.1 hy
    exact (foldl_minT_le _ _).2 _ (List.mem_filterMap.2 ⟨s, succLeaves_own env t s hs (hleafs s hs), hsy⟩)

/-- the statement of `C09_partial`.  Beyond `noSummaryLinks` it needs: parent pointers agree with the children
    lists (`Env.parentsOK`), links are stored on both ends (`Env.linksSym`), and linked tasks outside the WBS are
    plain leaves (`outsideLeaves` for predecessors, `hos` for successors).  The counterexamples in `C09CE` below show:
    the dependency clause fails without `linksSym` (with `parentsOK`) and without `parentsOK` (with `linksSym`); with
    both, late packing fails without `hos` (with `outsideLeaves`) and the dependency clause without `outsideLeaves`
    (with `hos`). -/
theorem backwardCalc_c09Deps_packed (env : Env) (f0 : Uid → Fields) (res0 : List (Option Nat × Cal)) (o : Output)
    (hf : env.flagsOK) (hn : noFixedDates env f0 = true) (hs : noSummaryLinks env = true)
    (hp : env.parentsOK) (hl : env.linksSym) (ho : outsideLeaves env = true)
    (hos : ∀ t ∈ memberList env, ∀ s ∈ (env.info t).succs,
      s ∈ memberList env ∨ (env.info s).children.isEmpty = true)
    (h : backwardCalc env f0 res0 = .ok o) :
    c09Deps env o = true ∧ c09LatePacked env o = true := by
  -- every member is called with the project end itself: a task with children has no successors
  obtain ⟨σ, rfl, _, hall⟩ := (Sched.bwd env).run_tasks (Sched.bwd_ok env) hf _ (fun _ m => m = env.bound)
    (c09_tasks hf hn (X := fun σ t => Dep env σ t ∧ (env.balance = true → (env.info t).children.isEmpty = true →
        (env.info t).milestone = false → LPAt env σ t)) (fun _ _ h => h ▸ Rat.le_refl)
      (fun σ σ' t hc hc' he ht h => ⟨h.1.keep he ht, fun hbal hleaf hm =>
        (h.2 hbal hleaf hm).keep (hc.hasRes t ht) hc'.ledger hc'.doneMem he ht⟩)
      (fun σ1 σ σ' t m h hq hb _ => by
        subst hq
        refine ⟨Dep.new hb h.mem h.fresh h.ext1 h.ext h.linksDone h.kids Rat.le_refl h.run, fun hbal hleaf hm => ?_⟩
        obtain ⟨hs0, he0⟩ := hb.fresh t h.mem h.fresh
        obtain ⟨d, c, s, o, rfl, hp⟩ := bwdPlace_leaf env σ σ' t _ _ hb.ledger hleaf hm hs0 he0 h.run
        exact lp_place env σ1 _ t _ _ o d c s hbal h.core'.ledger h.core'.doneMem h.mem (h.ext1.trans h.ext)
          h.linksDone (Seen.commit h.core h.fresh) hp))
    (fun _ _ => rfl)
    (fun σ t c _ ht hq hcc => hq ▸ (nsl_agg env hs ht hcc σ _).2)
    (fun _ _ _ _ hq _ _ => hq) (bwdRun_eq env ▸ backwardCalc_run env f0 res0 o h)
  have hdep := fun t ht => (hall t ht).2.2.1
  have hlp := fun hbal t ht => (hall t ht).2.2.2 hbal
  have hleafs : ∀ t ∈ memberList env, ∀ s ∈ (env.info t).succs, (env.info s).children.isEmpty = true := by
    intro t ht s hss
    rcases hos t ht s hss with hsm | hsl
    · cases hle : (env.info s).children.isEmpty with
      | true => rfl
      | false =>
        have := (nsl_spec env hs s hsm hle).1
        have htp : t ∈ (env.info s).preds := (hl t s).2 hss
        rw [this] at htp; cases htp
    · exact hsl
  constructor
  · unfold c09Deps
    rw [all_imp_iff]
    intro t ht _
    rw [List.all_eq_true]
    intro q hq
    obtain ⟨hq1, hq2⟩ := List.mem_filter.1 hq
    have hqm : q ∈ memberList env := List.contains_iff_mem.1 hq2
    rw [prereqLeaves_own env hs hp hl ho t ht] at hq1
    have hpleaf := pred_leaf env hs hl ho t ht q hq1
    obtain ⟨_, e, st, he, hst, hle⟩ := hdep q hqm hpleaf t ((hl q t).1 hq1) ((hf t).2 ht)
    show (match (σ.f q).end_, (σ.f t).start with
      | some e, some s => decide (e ≤ s)
      | _, _ => false) = true
    rw [he, hst]
    simpa using hle
  · unfold c09LatePacked
    cases hbal : env.balance with
    | false => rfl
    | true =>
      simp only [Bool.not_true, Bool.false_or, List.all_eq_true]
      intro t ht
      cases hleaf : (env.info t).children.isEmpty with
      | false => simp [isLeaf, hleaf]
      | true =>
        cases hm : (env.info t).milestone with
        | true => simp
        | false =>
          obtain ⟨_, ⟨e, he, h2⟩, h3⟩ := hlp hbal t ht hleaf hm
          simp only [isLeaf, hleaf, Bool.not_true, Bool.false_or, Bool.and_eq_true]
          constructor
          · show (match (σ.f t).end_ with
              | some e => (daysBetween (dayOf e + 1) (dayOf (dueDate env (outOf σ) t))).all
                  (fun d => fullDay env (outOf σ) (env.info t).resource d t)
              | none => false) = true
            rw [he]
            simp only [List.all_eq_true]
            intro d hd
            obtain ⟨hd1, hd2⟩ := (mem_daysBetween _ _ _).1 hd
            have hdue := dayOf_mono (dueDate_le env σ t (hleafs t ht))
            have := h2 d (by omega) (by omega)
            simpa [fullDay, booked, hbal, outOf] using this
          · show (match firstDay (rowsOf σ.rows t), lastDay (rowsOf σ.rows t) with
              | some d1, some d2 => (daysBetween (d1 + 1) d2).all
                  (fun d => fullDay env (outOf σ) (env.info t).resource d t)
              | _, _ => true) = true
            cases hfd : firstDay (rowsOf σ.rows t) with
            | none => rfl
            | some d1 =>
              cases hld : lastDay (rowsOf σ.rows t) with
              | none => rfl
              | some d2 =>
                simp only [List.all_eq_true]
                intro d hd
                obtain ⟨hd1, hd2⟩ := (mem_daysBetween _ _ _).1 hd
                have := h3 d1 d2 hfd hld d (by omega) hd2
                simpa [fullDay, booked, hbal, outOf] using this

/-! ### counterexamples (kernel-checked): one of `linksSym`, `parentsOK`, `outsideLeaves`, `hos` fails; the first two
    assert, of the other three, only `parentsOK` resp. `linksSym` -/

namespace C09CE

def ti (children preds succs : List Uid) (parent : Option Uid := none) (member : Bool := true) : TaskInfo :=
  { tid := 0, parent := parent, children := children, preds := preds, succs := succs, member := member,
    resource := some 0, milestone := false, minStart := none }

def nof : Fields := { start := none, end_ := none, est := none, spent := none }

/-- asymmetric link: 0 lists 1 as predecessor, 1 does not list 0 as successor -/
def ce1 : Env :=
  { n := 2, info := fun u => match u with
      | 0 => ti [] [1] []
      | 1 => ti [] [] []
      | _ => ti [] [] [] (member := false),
    roots := [0, 1], balance := true, defaultEst := 1, clock := fun _ => 19000, bound := (316249 : Rat) / 16 }

theorem ce1_mem : memberList ce1 = [0, 1] := by decide +kernel

theorem ce1_flags : ce1.flagsOK := by
  intro t
  rw [ce1_mem]
  match t with
  | 0 => decide
  | 1 => decide
  | n + 2 => simp [ce1, ti]

theorem ce1_parents : ce1.parentsOK := by
  intro t p ht hpar
  rw [ce1_mem] at ht
  simp only [List.mem_cons, List.not_mem_nil, or_false] at ht
  rcases ht with rfl | rfl <;> simp [ce1, ti] at hpar

/-- without `linksSym` the dependency clause of `C09_partial` fails, even with consistent parents: links must be
    stored on both ends -/
theorem C09_partial_false_asym :
    ∃ env f0 res0 o, env.flagsOK ∧ noFixedDates env f0 = true ∧ noSummaryLinks env = true ∧ env.parentsOK ∧
      backwardCalc env f0 res0 = .ok o ∧ c09Deps env o = false := by
  have hev : (match backwardCalc ce1 (fun _ => nof) [] with
      | .ok o => c09Deps ce1 o == false | .error _ => false) = true := by decide +kernel
  cases hb : backwardCalc ce1 (fun _ => nof) [] with
  | error e => rw [hb] at hev; cases hev
  | ok o =>
    rw [hb] at hev
    exact ⟨ce1, fun _ => nof, [], o, ce1_flags, by decide +kernel, by decide +kernel, ce1_parents, hb,
      by simpa using hev⟩

/-- parent pointer not matched by a children list: 0 claims 1 as parent, 1 waits for 2 -/
def ce2 : Env :=
  { n := 3, info := fun u => match u with
      | 0 => ti [] [] [] (parent := some 1)
      | 1 => ti [] [2] []
      | 2 => ti [] [] [1]
      | _ => ti [] [] [] (member := false),
    roots := [0, 1, 2], balance := false, defaultEst := 1, clock := fun _ => 19000, bound := (316249 : Rat) / 16 }

def ce2f : Uid → Fields := fun u => if u = 0 then { nof with est := some 24 } else nof

theorem ce2_mem : memberList ce2 = [0, 1, 2] := by decide +kernel

theorem ce2_flags : ce2.flagsOK := by
  intro t
  rw [ce2_mem]
  match t with
  | 0 => decide
  | 1 => decide
  | 2 => decide
  | n + 3 => simp [ce2, ti]

theorem ce2_links (u : Uid) : (ce2.info u).preds = (if u = 1 then [2] else []) ∧
    (ce2.info u).succs = (if u = 2 then [1] else []) := by
  rcases u with _ | _ | _ | u <;> simp [ce2, ti]

theorem ce2_sym : ce2.linksSym := by
  intro a b
  rw [(ce2_links b).1, (ce2_links a).2]
  by_cases hb : b = 1 <;> by_cases ha : a = 2 <;> simp [ha, hb]

/-- without `parentsOK` the dependency clause of `C09_partial` fails, even with symmetric links: parent pointers
    must agree with the children lists (`prereqLeaves` follows parent pointers, the scheduler follows children lists) -/
theorem C09_partial_false_parent :
    ∃ env f0 res0 o, env.flagsOK ∧ noFixedDates env f0 = true ∧ noSummaryLinks env = true ∧ env.linksSym ∧
      backwardCalc env f0 res0 = .ok o ∧ c09Deps env o = false := by
  have hev : (match backwardCalc ce2 ce2f [] with
      | .ok o => c09Deps ce2 o == false | .error _ => false) = true := by decide +kernel
  cases hb : backwardCalc ce2 ce2f [] with
  | error e => rw [hb] at hev; cases hev
  | ok o =>
    rw [hb] at hev
    exact ⟨ce2, ce2f, [], o, ce2_flags, by decide +kernel, by decide +kernel, ce2_sym, hb, by simpa using hev⟩

/-- an outside successor that has children and a start date of its own: the scheduler honours the date, the
    due date of the statement looks at the successor's leaves only -/
def ce3 : Env :=
  { n := 3, info := fun u => match u with
      | 0 => ti [] [] [1]
      | 1 => ti [2] [0] [] (member := false)
      | 2 => ti [] [] [] (parent := some 1) (member := false)
      | _ => ti [] [] [] (member := false),
    roots := [0], balance := true, defaultEst := 1, clock := fun _ => 19000, bound := (316249 : Rat) / 16 }

def ce3f : Uid → Fields := fun u => if u = 1 then { nof with start := some 19750 } else nof

theorem ce3_mem : memberList ce3 = [0] := by decide +kernel

theorem ce3_flags : ce3.flagsOK := by
  intro t
  rw [ce3_mem]
  match t with
  | 0 => decide
  | 1 => decide
  | 2 => decide
  | n + 3 => simp [ce3, ti]

theorem ce3_links (u : Uid) : (ce3.info u).preds = (if u = 1 then [0] else []) ∧
    (ce3.info u).succs = (if u = 0 then [1] else []) := by
  rcases u with _ | _ | _ | u <;> simp [ce3, ti]

theorem ce3_sym : ce3.linksSym := by
  intro a b
  rw [(ce3_links b).1, (ce3_links a).2]
  by_cases hb : b = 1 <;> by_cases ha : a = 0 <;> simp [ha, hb]

theorem ce3_parents : ce3.parentsOK := by
  intro t p ht hpar
  rw [ce3_mem] at ht
  simp only [List.mem_cons, List.not_mem_nil, or_false] at ht
  subst ht
  simp [ce3, ti] at hpar

/-- with consistent parents, symmetric links and leaf-only outside predecessors the late-packing clause still
    fails when an outside successor has children -/
theorem C09_partial_false_outside_succ :
    ∃ env f0 res0 o, env.flagsOK ∧ noFixedDates env f0 = true ∧ noSummaryLinks env = true ∧ env.parentsOK ∧
      env.linksSym ∧ outsideLeaves env = true ∧
      backwardCalc env f0 res0 = .ok o ∧ c09LatePacked env o = false := by
  have hev : (match backwardCalc ce3 ce3f [] with
      | .ok o => c09LatePacked ce3 o == false | .error _ => false) = true := by decide +kernel
  cases hb : backwardCalc ce3 ce3f [] with
  | error e => rw [hb] at hev; cases hev
  | ok o =>
    rw [hb] at hev
    exact ⟨ce3, ce3f, [], o, ce3_flags, by decide +kernel, by decide +kernel, ce3_parents, ce3_sym,
      by decide +kernel, hb, by simpa using hev⟩

/-- an outside predecessor whose subtree contains a member -/
def ce4 : Env :=
  { n := 3, info := fun u => match u with
      | 0 => ti [] [2] []
      | 1 => ti [] [] []
      | 2 => ti [1] [] [0] (member := false)
      | _ => ti [] [] [] (member := false),
    roots := [0, 1], balance := true, defaultEst := 1, clock := fun _ => 19000, bound := (316249 : Rat) / 16 }

def ce4f : Uid → Fields := fun u => if u = 2 then { nof with start := some 19000, end_ := some 19001 } else nof

theorem ce4_mem : memberList ce4 = [0, 1] := by decide +kernel

theorem ce4_flags : ce4.flagsOK := by
  intro t
  rw [ce4_mem]
  match t with
  | 0 => decide
  | 1 => decide
  | 2 => decide
  | n + 3 => simp [ce4, ti]

theorem ce4_links (u : Uid) : (ce4.info u).preds = (if u = 0 then [2] else []) ∧
    (ce4.info u).succs = (if u = 2 then [0] else []) := by
  rcases u with _ | _ | _ | u <;> simp [ce4, ti]

theorem ce4_sym : ce4.linksSym := by
  intro a b
  rw [(ce4_links b).1, (ce4_links a).2]
  by_cases hb : b = 0 <;> by_cases ha : a = 2 <;> simp [ha, hb]

theorem ce4_parents : ce4.parentsOK := by
  intro t p ht hpar
  rw [ce4_mem] at ht
  simp only [List.mem_cons, List.not_mem_nil, or_false] at ht
  rcases ht with rfl | rfl <;> simp [ce4, ti] at hpar

/-- with consistent parents, symmetric links and no outside successors the dependency clause still fails when an
    outside predecessor has children (its leaves may be members) -/
theorem C09_partial_false_outside_pred :
    ∃ env f0 res0 o, env.flagsOK ∧ noFixedDates env f0 = true ∧ noSummaryLinks env = true ∧ env.parentsOK ∧
      env.linksSym ∧
      (∀ t ∈ memberList env, ∀ s ∈ (env.info t).succs, s ∈ memberList env ∨ (env.info s).children.isEmpty = true) ∧
      backwardCalc env f0 res0 = .ok o ∧ c09Deps env o = false := by
  have hev : (match backwardCalc ce4 ce4f [] with
      | .ok o => c09Deps ce4 o == false | .error _ => false) = true := by decide +kernel
  cases hb : backwardCalc ce4 ce4f [] with
  | error e => rw [hb] at hev; cases hev
  | ok o =>
    rw [hb] at hev
    refine ⟨ce4, ce4f, [], o, ce4_flags, by decide +kernel, by decide +kernel, ce4_parents, ce4_sym, ?_, hb,
      by simpa using hev⟩
    intro t ht s hs
    rw [ce4_mem] at ht
    simp only [List.mem_cons, List.not_mem_nil, or_false] at ht
    rcases ht with rfl | rfl <;> simp [ce4, ti] at hs

end C09CE

end Pj

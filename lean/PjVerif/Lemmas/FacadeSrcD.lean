/-
  Lemmas/FacadeSrcD.lean — stage 4 of the translated tie for the list facades of task.py (`_ImmutableTaskList.__lshift__ /
  __rshift__`, the bulk assignment `tasks.parent = p`), THE RESULTS of all stages (`interp…_eq`, section "THE RESULTS"
  below), and the negative check (end of the file).  See Lemmas/FacadeSrc.lean for the setting.

  Program.  The 17 translated functions extend the program task.py: `facadeFuns k` = the facade function for
    k = 25 … 41, `taskFuns k` otherwise.  The theorems of Lemmas/TaskSrc*.lean hold in every program that contains
    task.py (`TaskProg`); the extended program is one (`progHf`), and every call of a facade method into task.py is
    tied by instantiating them at `progHf`.  `progH_mono` (FacadeSrcMono.lean) says the same of any run whatever: a call
    that does not end STUCK in a program has the same result in every extension of its table and its primitives; `lift`
    is its instance for task.py and this program, which no proof here needs.
  Concrete runs (FacadeSrcCheck*.lean).  On `g1`, `g2` (and `g6`, `g7` for `move` / `reorder`) the runs are instances
    of the results, the model's side of the proviso (for `sort`: the library's side) being evaluated; on the cyclic `g3`
    and for arguments outside the theorems (`None` as the task, an index or right-hand side outside
    the encoding) the run itself is evaluated, `decide +kernel`.
  `interpListSetParent_inv_eq` (also `p = None`) needs `Inv s` (every reachable state) because `t.parent = None` on a member
    of a WBS needs `WF.once` in every intermediate state (the disagreement `Check.g4` of Lemmas/TaskSrcCheckB.lean);
    `interpListSetParent_eq` is its case of visible tasks.

  Disagreements.  None: on every state - well formed or not - the translated facade methods and the model agree
    (`listSetParent … None` on a state whose children lists repeat a task inherits the known disagreement of the
    `parent` setter).  What the model does not say and the source does: nothing was found either; the only modelling
    decision the proofs had to confirm is that `self.__setter(self._list)` and the slice assignment `self._list[:] = …`
    together are one update of the owner's list (`execP_list_set` / `so_last`, `set_children_spec`).

  Limitations (in addition to those of Lemmas/TaskSrc.lean: errors carry no state; the fuel counts nested calls of
    translated functions).  (1) The facade is taken from the state the call starts in (stale facades: not modelled).
    (2) An `_ImmutableTaskList` is a list value: stage 4 is about a list that is not changed in place while the loop
    runs.  (3) Default values of parameters are not modelled (`move`, `sort` take all arguments).  (4) `sort`: the
    library is abstract; keys are numbers, datetimes or abstract strings (numbered in lexicographic order), pairwise
    comparable - where Python raises TypeError / AttributeError (a `None` among the keys, a missing attribute) the run
    is stuck or `L` is undefined, and the model (`chSort` never fails) says nothing.  (5) `__setattr__` is translated for
    the key `parent` only; `remove_all`, `__call__`, `order_by`, `__getattr__`, `__getitem__`, printing are not
    translated.  (6) `insert` takes an `int` index.
-/
import PjVerif.Lemmas.FacadeSrcC
namespace Pj.FacadeSrc
open Pj.PyLite Pj.Extracted Pj.Extracted.Facade Pj.TaskSrc
set_option linter.unusedSimpArgs false
set_option linter.unusedVariables false

/-! ### stage 4: element-by-element application (`forEach`) -/

theorem tf_list_lshift : facadeFuns fn_ImmutableTaskList_lshift =
    some (src_ImmutableTaskList_lshift_params, src_ImmutableTaskList_lshift) := rfl
theorem tf_list_rshift : facadeFuns fn_ImmutableTaskList_rshift =
    some (src_ImmutableTaskList_rshift_params, src_ImmutableTaskList_rshift) := rfl
theorem tf_list_set_parent : facadeFuns fn_ImmutableTaskList_set_parent =
    some (src_ImmutableTaskList_set_parent_params, src_ImmutableTaskList_set_parent) := rfl

/-- the local environment of the list-level operators -/
structure LsEnv (ρ : PyLite.Env) (ts : List Uid) (v : Val) : Prop where
  list : ρ.get? "_list" = some (refs ts)
  other : ρ.get? "other" = some v

theorem LsEnv.set {ρ : PyLite.Env} {ts : List Uid} {v : Val} (hρ : LsEnv ρ ts v) (w : Val) : LsEnv (ρ.set "t" w) ts v :=
  ⟨by rw [Env.get?_set, if_neg (by decide)]; exact hρ.list, by rw [Env.get?_set, if_neg (by decide)]; exact hρ.other⟩

/-! `lsL_shape` / `lsR_shape` fix the statement order of the two translated operators with the loop bodies left abstract;
    no proof uses them (`list_lshift_spec` / `list_rshift_spec` compare the text with the body of `list_extend_spec`): they
    are the lemmas that fail first when a source edit reorders the two statements. -/
def lsBodyL : List Stmt := match src_ImmutableTaskList_lshift with | .forIn _ _ b :: _ => b | _ => []
def lsBodyR : List Stmt := match src_ImmutableTaskList_rshift with | .forIn _ _ b :: _ => b | _ => []
theorem lsL_shape : src_ImmutableTaskList_lshift = [.forIn "t" (.var "_list") lsBodyL, .ret (.var "other")] := rfl
theorem lsR_shape : src_ImmutableTaskList_rshift = [.forIn "t" (.var "_list") lsBodyR, .ret (.var "other")] := rfl

/-- the body of `<<` / `>>` of a list of tasks: `t.<field> = t.<field> + other` for every task `t` of the list, then
    `other`.  The steps are those of the model's `forEach`; `hn`: the setter keeps the number of objects (the fuel) -/
theorem list_extend_spec (R : Rel) (hn : ∀ s t l, (R.set s t l).1.n = s.n) (L : Lib) (s : G) (st : PState)
    (hh : st.heap = encHeap s) (ts : List Uid) (v : Val) (l : List Uid) (hv : ValueOf v l) (F : Nat)
    (hF : s.fuel + R.fuel ≤ F + 2)
    (hrec : (forEach (fun s t => R.set s t (R.get s t ++ l)) s ts).2 ≠ some (.crash .recursion)) :
    callPV (Hf L (F + 2)) ["_list", "other"] [.forIn "t" (.var "_list") [stExtend R "t"], .ret (.var "other")]
        [refs ts, v] st =
      opResult st v (forEach (fun s t => R.set s t (R.get s t ++ l)) s ts) := by
  obtain ⟨st, rfl⟩ := exists_withG hh
  rw [opResult_withG]
  refine Does.callPV_ret (body := [_]) (Q := (LsEnv · ts v)) rfl ?_ (fun _ _ h => evalP_var _ _ _ _ _ _ h.other) hrec
  rw [execBlockP_one]
  refine Does.forIn _ (fun s' => s'.n = s.n) (evalP_var _ _ _ _ _ _ rfl) ⟨rfl, rfl⟩ rfl fun s' t ρ _ hP hs' =>
    ⟨?_, fun _ => (hn s' t _).trans hs'⟩
  rw [execBlockP_one]
  exact (execP_extend R "t" L s' st _ t v l (by rw [Env.get?_set, if_pos rfl]) (hP.set _).other hv F
    (by unfold G.fuel at hF ⊢; omega)).mono fun _ h => h ▸ hP.set _

/-- STAGE 4.  `ts << v` = `forEach lshift`: the tasks are linked one after the other, the first rejection stops the
    loop (the earlier tasks stay linked) -/
theorem list_lshift_spec (L : Lib) (s : G) (st : PState) (hh : st.heap = encHeap s) (ts : List Uid) (v : Val) (l : List Uid)
    (hv : ValueOf v l) (F : Nat) (hF : s.fuel + 5 ≤ F)
    (hrec : (forEach (fun s t => lshift s t l) s ts).2 ≠ some (.crash .recursion)) :
    (Hf L F).fnV fn_ImmutableTaskList_lshift [refs ts, v] st = opResult st v (forEach (fun s t => lshift s t l) s ts) := by
  obtain ⟨F, rfl, hF⟩ := fuel_split 3 hF
  rw [fnVf_succ _ _ _ _ _ tf_list_lshift]
  exact list_extend_spec .preds setPreds_n L s st hh ts v l hv F (by show _ + 3 ≤ _; omega) hrec

theorem list_rshift_spec (L : Lib) (s : G) (st : PState) (hh : st.heap = encHeap s) (ts : List Uid) (v : Val) (l : List Uid)
    (hv : ValueOf v l) (F : Nat) (hF : s.fuel + 5 ≤ F)
    (hrec : (forEach (fun s t => rshift s t l) s ts).2 ≠ some (.crash .recursion)) :
    (Hf L F).fnV fn_ImmutableTaskList_rshift [refs ts, v] st = opResult st v (forEach (fun s t => rshift s t l) s ts) := by
  obtain ⟨F, rfl, hF⟩ := fuel_split 3 hF
  rw [fnVf_succ _ _ _ _ _ tf_list_rshift]
  exact list_extend_spec .succs setSuccs_n L s st hh ts v l hv F (by show _ + 3 ≤ _; omega) hrec

def spBody : List Stmt := match src_ImmutableTaskList_set_parent with | [_, .forIn _ _ b] => b | _ => []
theorem spBody_eq : spBody =
    [.expr (.callFn fn_Task_parent_set (.listCons (.var "t") (.listCons (.var "value") .listNil)))] := rfl
theorem sp_shape : src_ImmutableTaskList_set_parent =
    [.assign "tasks" (.listComp (.var "t") "t" (.var "_list") (.bool true)), .forIn "t" (.var "tasks") spBody] := rfl

/-- STAGE 4.  `ts.parent = p` (`_ImmutableTaskList.__setattr__('parent', p)`) = `forEach setParent`.  `I` is any
    invariant of the intermediate model states that gives what `t.parent = None` needs for a member of a WBS (`honce`:
    the children list of the old parent names the task at most once); for `p ≠ None` take `I := fun _ => True` -/
theorem list_set_parent_spec (L : Lib) (s : G) (st : PState) (hh : st.heap = encHeap s) (ts : List Uid) (p : Option Uid)
    (F : Nat) (hF : s.fuel + 6 ≤ F) (I : G → Prop) (hI : I s)
    (hstep : ∀ s' t, t ∈ ts → I s' → s'.n = s.n → (setParent s' t p).2 = none → I (setParent s' t p).1)
    (honce : p = none → ∀ s' t, t ∈ ts → I s' → s'.n = s.n →
      ∀ w q, s'.owner t = some w → s'.parent t = some q → (s'.children q).count t ≤ 1)
    (hrec : (forEach (fun s t => setParent s t p) s ts).2 ≠ some (.crash .recursion)) :
    (Hf L F).fnV fn_ImmutableTaskList_set_parent [refs ts, .atom (optRef p)] st =
      opResult st (.atom .none) (forEach (fun s t => setParent s t p) s ts) := by
  obtain ⟨st, rfl⟩ := exists_withG hh
  obtain ⟨F, rfl, hF⟩ := fuel_split 1 hF
  rw [fnVf_succ _ _ _ _ _ tf_list_set_parent]
  rw [opResult_withG]
  refine Does.callPV (Q := fun _ => True) rfl ?_ hrec
  rw [sp_shape]
  refine Does.step (execP_assign (he := evalP_listComp_id _ _ _ _ _ _ _ _ (evalP_var _ _ _ _ _ _ rfl))) ?_
  rw [execBlockP_one]
  refine (Does.forIn _ (P := fun ρ => ρ.get? "value" = some (.atom (optRef p))) (fun s' => I s' ∧ s'.n = s.n)
    (evalP_var _ _ _ _ _ _ (by simp [Env.get?_set, Env.get?_cons, refs])) (by simp [Env.get?_set, Env.get?_cons])
    ⟨hI, rfl⟩ fun s' t ρ ht hP hIn => ⟨?_, fun h2 => ⟨hstep s' t ht hIn.1 hIn.2 h2, (setParent_n s' t p).trans hIn.2⟩⟩).mono
    fun _ _ => trivial
  have hP' : (Env.set ρ "t" (.atom (.ref t))).get? "value" = some (.atom (optRef p)) := by
    rw [Env.get?_set, if_neg (by decide)]; exact hP
  rw [spBody_eq, execBlockP_one]
  exact Does.expr (v := .atom .none) hP' fun hr => by
    rw [evalP_callFn2 (ha := evalP_var _ _ _ _ _ _ (by rw [Env.get?_set, if_pos rfl])) (hb := evalP_var _ _ _ _ _ _ hP'),
      parent_set_f L s' _ rfl t p F (by unfold G.fuel at hF ⊢; omega) (fun hp => honce hp s' t ht hIn.1 hIn.2) hr,
      setterResult_withG]

/-! ## THE RESULTS

  In all statements: `s` any graph state (no well-formedness unless stated), `st` any Python state whose store is the
  encoding of `s` (`hh`), `F` the recursion limit, and - where the model can end in RecursionError at all - the proviso
  that it does not (`hrec`); `opResult st v r` = `ok (v, withG st s')` when the model accepts with the new state `s'`,
  `error e` when it rejects with `e`.  The facade is the one of the owner in the state `s` (Lemmas/FacadeSrc.lean). -/

/-- `h.children.append(t)` in the extended program (function 24 of `taskFuns`: `children_append_spec` at `progHf`) -/
def interpChAppend (F : Nat) (h t : Uid) (st : PState) : Res (Val × PState) :=
  interpF noLib F fn_ChildrenList_append [.atom (.ref h), .atom (.ref t)] st

theorem interpChAppend_eq (s : G) (st : PState) (hh : st.heap = encHeap s) (h t : Uid) (F : Nat) (hF : s.n + 5 ≤ F)
    (hrec : (chAppend s h t).2 ≠ some (.crash .recursion)) :
    interpChAppend F h t st = opResult st (.atom .none) (chAppend s h t) :=
  children_append_spec (progHf noLib) s st hh h t F (by unfold G.fuel; omega) hrec

/-- STAGE 1.  `h.children.remove(t)`: returns whether `t` was a child -/
theorem interpChRemove_eq (s : G) (st : PState) (hh : st.heap = encHeap s) (h t : Uid) (F : Nat) (hF : s.n + 7 ≤ F)
    (hrec : (chRemove s h t).2 ≠ some (.crash .recursion)) :
    interpChRemove F h t st = opResult st (.atom (.bool ((s.children h).contains t))) (chRemove s h t) :=
  ch_remove_spec noLib s st hh h t F (by unfold G.fuel; omega) hrec

/-- STAGE 1.  `h.children.insert(i, t)` for an `int` index `i` (`pyInsert`: Python's negative / out-of-range indexes) -/
theorem interpChInsert_eq (s : G) (st : PState) (hh : st.heap = encHeap s) (h : Uid) (i : Int) (t : Uid) (F : Nat)
    (hF : s.n + 7 ≤ F) (hrec : (chInsert s h i t).2 ≠ some (.crash .recursion)) :
    interpChInsert F h i t st = opResult st (.atom .none) (chInsert s h i t) :=
  ch_insert_spec noLib s st hh h i t F (by unfold G.fuel; omega) hrec

/-- STAGE 1.  `t.predecessors.append(x)` / `.remove(x)`, `t.successors.append(x)` / `.remove(x)` -/
theorem interpPrAppend_eq (s : G) (st : PState) (hh : st.heap = encHeap s) (t x : Uid) (F : Nat) (hF : s.n + 5 ≤ F)
    (hrec : (prAppend s t x).2 ≠ some (.crash .recursion)) :
    interpPrAppend F t x st = opResult st (.atom .none) (prAppend s t x) :=
  pr_append_spec noLib s st hh t x F (by unfold G.fuel; omega) hrec

theorem interpPrRemove_eq (s : G) (st : PState) (hh : st.heap = encHeap s) (t x : Uid) (F : Nat) (hF : s.n + 5 ≤ F)
    (hrec : (prRemove s t x).2 ≠ some (.crash .recursion)) :
    interpPrRemove F t x st = opResult st (.atom (.bool ((s.preds t).contains x))) (prRemove s t x) :=
  pr_remove_spec noLib s st hh t x F (by unfold G.fuel; omega) hrec

theorem interpSuAppend_eq (s : G) (st : PState) (hh : st.heap = encHeap s) (t x : Uid) (F : Nat) (hF : s.n + 5 ≤ F)
    (hrec : (suAppend s t x).2 ≠ some (.crash .recursion)) :
    interpSuAppend F t x st = opResult st (.atom .none) (suAppend s t x) :=
  su_append_spec noLib s st hh t x F (by unfold G.fuel; omega) hrec

theorem interpSuRemove_eq (s : G) (st : PState) (hh : st.heap = encHeap s) (t x : Uid) (F : Nat) (hF : s.n + 5 ≤ F)
    (hrec : (suRemove s t x).2 ≠ some (.crash .recursion)) :
    interpSuRemove F t x st = opResult st (.atom (.bool ((s.succs t).contains x))) (suRemove s t x) :=
  su_remove_spec noLib s st hh t x F (by unfold G.fuel; omega) hrec

/-- STAGE 1.  `None` as the task argument of `remove` / `insert` / `append` of the three facades: RuntimeError
    (`_check_not_none`), in every state, for every owner `o`, index `i` and limit `F ≥ 2` -/
theorem interpNoneArg_eq (st : PState) (F : Nat) (hF : 2 ≤ F) (o i : Val) :
    interpF noLib F fn_ChildrenList_remove [o, .atom .none] st = .error .runtime ∧
    interpF noLib F fn_ChildrenList_insert [o, i, .atom .none] st = .error .runtime ∧
    interpF noLib F fn_ChildrenList_append [o, .atom .none] st = .error .runtime ∧
    interpF noLib F fn_PredecessorsList_append [o, .atom .none] st = .error .runtime ∧
    interpF noLib F fn_PredecessorsList_remove [o, .atom .none] st = .error .runtime ∧
    interpF noLib F fn_SuccessorsList_append [o, .atom .none] st = .error .runtime ∧
    interpF noLib F fn_SuccessorsList_remove [o, .atom .none] st = .error .runtime := by
  obtain ⟨F, rfl, hF⟩ := fuel_split 2 hF
  exact none_arg_spec noLib st F o i

/-- STAGE 1.  `h // v`, `t << v`, `t >> v` for every admissible value `v` standing for the list of tasks `l` (`ValueOf`:
    a list of tasks and `None`s, a task, `None`): the children / links are APPENDED; the operator returns `v` -/
theorem interpFloordiv_eq (s : G) (st : PState) (hh : st.heap = encHeap s) (h : Uid) (v : Val) (l : List Uid)
    (hv : ValueOf v l) (F : Nat) (hF : s.n + 7 ≤ F) (hrec : (floordiv s h l).2 ≠ some (.crash .recursion)) :
    interpFloordiv F h v st = opResult st v (floordiv s h l) :=
  floordiv_spec noLib s st hh h v l hv F (by unfold G.fuel; omega) hrec

theorem interpLshift_eq (s : G) (st : PState) (hh : st.heap = encHeap s) (t : Uid) (v : Val) (l : List Uid)
    (hv : ValueOf v l) (F : Nat) (hF : s.n + 5 ≤ F) (hrec : (lshift s t l).2 ≠ some (.crash .recursion)) :
    interpLshift F t v st = opResult st v (lshift s t l) :=
  lshift_spec noLib s st hh t v l hv F (by unfold G.fuel; omega) hrec

theorem interpRshift_eq (s : G) (st : PState) (hh : st.heap = encHeap s) (t : Uid) (v : Val) (l : List Uid)
    (hv : ValueOf v l) (F : Nat) (hF : s.n + 5 ≤ F) (hrec : (rshift s t l).2 ≠ some (.crash .recursion)) :
    interpRshift F t v st = opResult st v (rshift s t l) :=
  rshift_spec noLib s st hh t v l hv F (by unfold G.fuel; omega) hrec

/-- STAGE 2.  `h.children.move(v, before=b, after=a)` = `chMove` (`moveOne`): no proviso, any limit `F ≥ 3` -/
theorem interpChMove_eq (s : G) (st : PState) (hh : st.heap = encHeap s) (h : Uid) (v : Val) (ts : List Uid)
    (hv : ValueOf v ts) (b a : Option Uid) (F : Nat) (hF : 3 ≤ F) :
    interpChMove F h v b a st = opResult st (.atom .none) (chMove s h ts b a) :=
  ch_move_spec noLib s st hh h v ts hv b a F hF

/-- STAGE 2.  `h.children.reorder(ids)` = `chReorder` (`reorderLoop`): StopIteration for an unknown id, ValueError for a
    repeated one; no proviso, any limit `F ≥ 2` -/
theorem interpChReorder_eq (s : G) (st : PState) (hh : st.heap = encHeap s) (h : Uid) (ids : List Int) (F : Nat)
    (hF : 2 ≤ F) :
    interpChReorder F h ids st = opResult st (.atom .none) (chReorder s h ids) :=
  ch_reorder_spec noLib s st hh h ids F hF

/-- STAGE 3.  `h.children.sort(key, reverse)`, `key` a `str`: for EVERY meaning `L` of `__getattribute__` under which
    the attribute values `val u` of the children are ordered (`keyLe`) as the model's integer keys `key u` -/
theorem interpChSort_str_eq (L : Lib) (s : G) (st : PState) (hh : st.heap = encHeap s) (h : Uid) (k : Nat) (rev : Bool)
    (key : Uid → Int) (val : Uid → Atom) (F : Nat) (hF : 2 ≤ F)
    (hval : ∀ u ∈ s.children h, L "__getattribute__" [.ref u, .str k] = .ok (val u))
    (hord : ∀ u ∈ s.children h, ∀ v ∈ s.children h, keyLe (val u) (val v) = some (decide (key u ≤ key v))) :
    interpChSort L F h (.atom (.str k)) rev st = opResult st (.atom .none) (chSort s h key rev) :=
  ch_sort_str_spec L s st hh h k rev key val F hF hval hord

/-- STAGE 3.  `h.children.sort(key, reverse)`, `key` a list of `str`s: the sort key of the child `u` is
    `'-'.join([str(u.__getattribute__(k)) for k in key])` -/
theorem interpChSort_list_eq (L : Lib) (s : G) (st : PState) (hh : st.heap = encHeap s) (h : Uid) (ks : List Nat)
    (rev : Bool) (key : Uid → Int) (attr strv : Uid → Nat → Atom) (val : Uid → Atom) (F : Nat) (hF : 2 ≤ F)
    (hattr : ∀ u ∈ s.children h, ∀ k ∈ ks, L "__getattribute__" [.ref u, .str k] = .ok (attr u k))
    (hstr : ∀ u ∈ s.children h, ∀ k ∈ ks, L "str" [attr u k] = .ok (strv u k))
    (hjoin : ∀ u ∈ s.children h, L "join:-" (ks.map (strv u)) = .ok (val u))
    (hord : ∀ u ∈ s.children h, ∀ v ∈ s.children h, keyLe (val u) (val v) = some (decide (key u ≤ key v))) :
    interpChSort L F h (.list (ks.map Atom.str)) rev st = opResult st (.atom .none) (chSort s h key rev) :=
  ch_sort_list_spec L s st hh h ks rev key attr strv val F hF hattr hstr hjoin hord

/-- STAGE 4.  `ts << v`, `ts >> v` for a list of tasks `ts` = `step s (.listLshift ts l)` / `(.listRshift ts l)` -/
theorem interpListLshift_eq (s : G) (st : PState) (hh : st.heap = encHeap s) (ts : List Uid) (v : Val) (l : List Uid)
    (hv : ValueOf v l) (F : Nat) (hF : s.n + 6 ≤ F) (hrec : (step s (.listLshift ts l)).2 ≠ some (.crash .recursion)) :
    interpListLshift F ts v st = opResult st v (step s (.listLshift ts l)) :=
  list_lshift_spec noLib s st hh ts v l hv F (by unfold G.fuel; omega) hrec

theorem interpListRshift_eq (s : G) (st : PState) (hh : st.heap = encHeap s) (ts : List Uid) (v : Val) (l : List Uid)
    (hv : ValueOf v l) (F : Nat) (hF : s.n + 6 ≤ F) (hrec : (step s (.listRshift ts l)).2 ≠ some (.crash .recursion)) :
    interpListRshift F ts v st = opResult st v (step s (.listRshift ts l)) :=
  list_rshift_spec noLib s st hh ts v l hv F (by unfold G.fuel; omega) hrec

/-- STAGE 4.  `ts.parent = q` for a task `q` = `step s (.listSetParent ts (some q))`: no well-formedness -/
theorem interpListSetParent_some_eq (s : G) (st : PState) (hh : st.heap = encHeap s) (ts : List Uid) (q : Uid) (F : Nat)
    (hF : s.n + 7 ≤ F) (hrec : (step s (.listSetParent ts (some q))).2 ≠ some (.crash .recursion)) :
    interpListSetParent F ts (some q) st = opResult st (.atom .none) (step s (.listSetParent ts (some q))) :=
  list_set_parent_spec noLib s st hh ts (some q) F (by unfold G.fuel; omega) (fun _ => True) trivial
    (fun _ _ _ _ _ _ => trivial) (fun hp => by cases hp) hrec

/-- STAGE 4.  `ts.parent = p` (also `None`) on a state with the invariant `Inv` (C01 / C05: every reachable state), for
    tasks in range: `t.parent = None` needs `WF.once` in every intermediate state, which `Inv` provides; the loop stops
    at a hidden root (`setParent_hidden`), so the tasks that are moved are visible -/
theorem interpListSetParent_inv_eq (s : G) (st : PState) (hh : st.heap = encHeap s) (hi : Inv s) (ts : List Uid)
    (p : Option Uid) (hts : ∀ t ∈ ts, t < s.n) (hp : ∀ q, p = some q → q < s.n) (F : Nat)
    (hF : s.n + 7 ≤ F) (hrec : (step s (.listSetParent ts p)).2 ≠ some (.crash .recursion)) :
    interpListSetParent F ts p st = opResult st (.atom .none) (step s (.listSetParent ts p)) :=
  list_set_parent_spec noLib s st hh ts p F (by unfold G.fuel; omega) (fun s' => Inv s' ∧ s'.tid = s.tid) ⟨hi, rfl⟩
    (fun s' t ht hI hn hok =>
      ⟨setParent_Inv s' t p hI.1 (Bool.eq_false_iff.mpr fun hh => setParent_hidden s' hI.1 t p hh hok)
        (by rw [hn]; exact hts t ht) (fun q hq => by rw [hn]; exact hp q hq), (setParent_tid s' t p).trans hI.2⟩)
    (fun _ s' t _ hI _ _ q _ _ => List.nodup_iff_count.1 (hI.1.wf.once q) t) hrec

/-- … in particular for visible tasks -/
theorem interpListSetParent_eq (s : G) (st : PState) (hh : st.heap = encHeap s) (hi : Inv s) (ts : List Uid) (p : Option Uid)
    (hvis : ∀ t ∈ ts, s.hidden t = false) (hts : ∀ t ∈ ts, t < s.n) (hp : ∀ q, p = some q → q < s.n) (F : Nat)
    (hF : s.n + 7 ≤ F) (hrec : (step s (.listSetParent ts p)).2 ≠ some (.crash .recursion)) :
    interpListSetParent F ts p st = opResult st (.atom .none) (step s (.listSetParent ts p)) :=
  interpListSetParent_inv_eq s st hh hi ts p hts hp F hF hrec

section axioms
#print axioms progH_mono
#print axioms interpChAppend_eq
#print axioms interpChRemove_eq
#print axioms interpChInsert_eq
#print axioms interpPrAppend_eq
#print axioms interpPrRemove_eq
#print axioms interpSuAppend_eq
#print axioms interpSuRemove_eq
#print axioms interpNoneArg_eq
#print axioms interpFloordiv_eq
#print axioms interpLshift_eq
#print axioms interpRshift_eq
#print axioms interpChMove_eq
#print axioms interpChReorder_eq
#print axioms interpChSort_str_eq
#print axioms interpChSort_list_eq
#print axioms interpListLshift_eq
#print axioms interpListRshift_eq
#print axioms interpListSetParent_some_eq
#print axioms interpListSetParent_inv_eq
#print axioms interpListSetParent_eq
end axioms

/-
  NEGATIVE SANITY CHECK (not compiled: one textual edit of a
  scratch copy of the snapshot task.py, tools/extract_facade.py run on the mutated text; unless it answers Miss its output
  is written to Extracted/FacadeSrc.lean of a scratch copy of the Lean project and Lemmas/FacadeSrcA … FacadeSrcD plus the
  check file(s) of the mutated method are built).
  Lemma files are built in the order A, B, C, D and a failing file stops the later ones: the FIRST failing lemma(s) are
  listed; `Check…:` = the file with failing examples (an evaluated run fails by itself, an instance with its theorem).
  Every semantic mutation is a Miss of the translator or breaks a lemma AND an example:

    `remove` (children): the early `return False` for a task that is not a child dropped   ch_remove_spec FAILS; Check
    `remove` (children): `return True` dropped (returns None)             ch_remove_spec FAILS; Check
    `insert`: `siblings.insert(index + 1, task)`                          ch_insert_spec FAILS; CheckI
    `insert`: `siblings.append(task)` (the index ignored)                 ch_insert_spec FAILS; CheckI
    `insert`: the task is not removed from the siblings first             ch_insert_spec FAILS; CheckI
    `insert`: `siblings.insert(max(index, 0), task)` (another clamping)   MISS (call of max)
    `insert`: in place, `self._list.insert(…); self.__parent.children = self._list`   MISS (the live list as a value)
    (PyLite itself: `pyInsertA` clamping a too negative index to the END)  pyInsertA_refs FAILS; CheckI (index -7)
    `predecessors.append`: `[task] + […]` (prepends)                      pr_append_spec FAILS; CheckA
    `predecessors.remove`: `v == task` for `v != task`                    pr_remove_spec FAILS; CheckA
    `successors.remove` assigns `self.__parent.predecessors`              su_remove_spec FAILS; CheckA
    `successors.append` without `_check_not_none(task, 'Task')`           none_arg_spec FAILS; CheckA (`append(None)`)
    `__floordiv__`: `self.children = other` (replaces instead of appending)   floordiv_spec FAILS; CheckA2
    `Task.__lshift__`: `self.successors += other`                         lshift_spec FAILS; CheckA2
    `Task.__rshift__`: `return self`                                      MISS (a parameter that is not a value is returned)
    `__add__`: `_to_list(other) + self._list` (the new tasks first)       add_spec FAILS; CheckA2
    `__iadd__` defined on `_TaskList`                                     MISS
    `move`: `insert(self._list.index(before) + 1, …)` (after, not before) mv_body FAILS; CheckB
    `move`: `insert(self._list.index(after), …)` (before, not after)      mv_body FAILS; CheckB
    `move`: `self._list = [t for t in self._list if t is not task]` (rebinds the list)   MISS (_list is reassigned)
    `move`: the check `before in tasks or after in tasks` dropped         mv_shape, mv_checks, … FAIL; CheckB
    `move`: the check `before not in self._list` dropped                  mv_shape, mv_checks, … FAIL; CheckB
    `move`: without `tasks = _to_list(tasks)`                             mv_shape, mv_l1, … FAIL; CheckB (a single task, `None`)
    `reorder`: `if ch in _all: _all.remove(ch)` (tolerates a repeated id) ro_body FAILS; CheckB
    `reorder`: `_all = self._list` (removes from the live list)           MISS (a list attribute in a local variable)
    `reorder`: `self._list[:] = _all + new_list`                          ch_reorder_spec FAILS; CheckB
    `reorder`: `next((…), None)`                                          MISS
    `reorder`: `id(t) == _id`                                             ro_body FAILS; CheckB
    `reorder`: `self._list = new_list + _all` (rebinds instead of the slice assignment)   MISS (_list is reassigned)
    `sort`: `reverse=False` and then `if reverse: self._list.reverse()` (ties end up reversed)   MISS (method of the raw list)
    `sort`: `reverse=not reverse`                                         ch_sort_str_spec FAILS; CheckC
    `sort`: the multi-key string without `str()`                          ch_sort_list_spec FAILS; CheckC
    `sort`: `'+'.join`                                                    ch_sort_list_spec FAILS; CheckC
    `sort`: `for k in reversed(key)`                                      MISS
    `sort`: `lst = sorted(…)` (a copy is sorted, the list is not updated) ch_sort_str_spec FAILS; CheckC
    `sort`: `type(key) is list` in the first test                         ch_sort_str_spec, ch_sort_list_spec FAIL; CheckC
    list `<<`: `t.successors += other`                                    list_lshift_spec FAILS; CheckD
    list `>>`: `return other` inside the loop (only the first task)       list_rshift_spec FAILS; CheckD
    `__setattr__`: `key.startswith('p')` (the key `parent` takes the `super()` branch)   MISS

  Harmless rewrites that give the same term (everything still builds): comments, docstrings, the text of the error
  messages, `not task in l` for `task not in l`.  Harmless rewrites that give another term and still check (lemmas and
  examples): the local `siblings` of `insert` renamed; the two tests `before is not None and after is not None` /
  `before is None and after is None` of `move` swapped.  Harmless rewrites that break a proof but no example (the
  proofs fix the shape of the term): `t is not task` for `t != task` in `remove` (ch_remove_spec); the final
  `self.__setter(self._list)` of `move` dropped - the list was changed in place (mv_shape); the test
  `self.__setter is None` of `reorder` dropped (ro_shape); `__setattr__` iterating `self._list` directly instead of the
  copy `tasks` - for a list VALUE the same (sp_shape).  Harmless rewrite the translator refuses:
  `list(self._list)` for `self._list.copy()` (Miss: only `.copy()`, a display or a comprehension makes a local fresh).
-/

end Pj.FacadeSrc

/-
  Lemmas/CsvSrcB.lean — `WF` (CsvSrcW.lean, the hypothesis of `write_csv_eq`) in a decidable form, `WFb`, and `WF` of the
  descriptions `w0`, `w1`, `w2` of CsvSrcCheck.lean.  `WF W`: roots / children / predecessors / parents name tasks of `W`;
  custom attribute names are distinct, not a slot of `Task` / `TaskRaw`, do not start with '_', their values are None /
  number / bool / str / datetime.
-/
import PjVerif.Lemmas.CsvSrcR
import PjVerif.Lemmas.CsvSrcCheck
namespace Pj.CsvSrc
open Pj.PyLite Pj.Extracted.Csv Pj.Csv

instance (W : WbsD) (i : Nat) : Decidable (valid W i) := by unfold valid; infer_instance

instance : (a : Atom) → Decidable (cellOK a)
  | .none => isTrue trivial
  | .num _ => isTrue trivial
  | .bool _ => isTrue trivial
  | .str _ => isTrue trivial
  | .time _ => isTrue trivial
  | .delta _ => isFalse id
  | .ref _ => isFalse id
  | .row _ _ _ _ => isFalse id
  | .fn _ => isFalse id
  | .box _ => isFalse id

def WFb (W : WbsD) : Prop :=
  (∀ i ∈ W.roots, valid W i) ∧
  ∀ d ∈ W.tasks, (∀ c ∈ d.children, valid W c) ∧ (∀ p ∈ d.preds, valid W p) ∧ (∀ p ∈ d.parent.toList, valid W p) ∧
    (d.custom.map (·.1)).Nodup ∧
    ∀ p ∈ d.custom, p.1 ∉ reserved ∧ ['_'].isPrefixOf p.1.toList = false ∧ cellOK p.2

instance (W : WbsD) : Decidable (WFb W) := by unfold WFb; infer_instance

theorem WF_of {W : WbsD} (h : WFb W) : WF W where
  roots := h.1
  children := fun d hd => (h.2 d hd).1
  preds := fun d hd => (h.2 d hd).2.1
  parent := fun d hd p hp => (h.2 d hd).2.2.1 p (by simp [hp])
  custom := fun d hd => ⟨(h.2 d hd).2.2.2.1, (h.2 d hd).2.2.2.2⟩

theorem wf_w0 : WF Check.w0 := WF_of (by decide +kernel)
theorem wf_w2 : WF Check.w2 := WF_of (by decide +kernel)
theorem wf_w1 : WF Check.w1 := WF_of (by decide +kernel)

example (L : IOLib) : interpWrite L 8 Check.w1 = .ok (writeCsv (recsOf L Check.w1)) := write_csv_eq L 5 _ wf_w1
example (L : IOLib) : interpWrite L 3 Check.w2 = .ok (writeCsv (recsOf L Check.w2)) := write_csv_eq L 0 _ wf_w2

#print axioms parse_predecessors_eq
#print axioms format_custom_eq
#print axioms parse_header_run
#print axioms hdrDict_get
#print axioms tasks_to_raws_run
#print axioms write_csv_eq
#print axioms read_csv_reduce
#print axioms rowOK_of_readRow

end Pj.CsvSrc

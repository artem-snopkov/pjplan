/-
  Lemmas/TaskSim.lean — the program logic of Lemmas/PyLogic.lean for the programs over the store of task.py.  There the
  model's steps are results `r : G × Option Err` (a new graph, or an error) and the stores of a run are `withG st s`.
  `Does Q st r o`: the outcome `o` of a statement / block / loop is what `r` prescribes - it ends normally in the store
  `withG st s'` of the model's new graph with locals satisfying `Q`, or raises the model's error.  It IS a `Sim` (for
  `toRes r`), so the model's own RecursionError is left out and the rules of PyLogic apply to a `Does` goal as they stand
  (`Sim.one`, `Sim.ok` …); the rules below are the ones that speak of `G × Option Err`: `andThen` is the model's
  sequencing, `chk` a validation.  A call is tied by an EQUATION, `c = callResult st v r` under the proviso
  `r.2 ≠ some (.crash .recursion)` (the results of the ties are such equations): `Does.expr` takes one, `Does.callPV` /
  `Does.callPV_ret` give one.
-/
import PjVerif.Lemmas.TaskSrcA
import PjVerif.Lemmas.PyLogic
namespace Pj.TaskSrc
open Pj.PyLite Pj.Extracted

def toRes : G × Option Err → Res G
  | (s', none) => .ok s'
  | (_, some e) => .error e

def andThen (r : G × Option Err) (k : G → G × Option Err) : G × Option Err :=
  match r with
  | (s', none) => k s'
  | (s', some e) => (s', some e)

abbrev chk (s : G) (c : Option Err) : G × Option Err := (s, c)

theorem toRes_forEach (f : G → Uid → G × Option Err) (ts : List Uid) (s : G) :
    toRes (forEach f s ts) = ts.foldlM (fun s t => toRes (f s t)) s := by
  induction ts generalizing s with
  | nil => rfl
  | cons t ts ih =>
    simp only [forEach, List.foldlM_cons]
    rcases f s t with ⟨s', _ | e⟩
    · exact ih s'
    · rfl

def callResult (st : PState) (v : Val) (r : G × Option Err) : Res (Val × PState) :=
  match r with
  | (s', none) => .ok (v, withG st s')
  | (_, some e) => .error e

/-- the outcome `o` is what the model's result `r` prescribes; `st` is only the frame of the stores `withG st s'` (the
    components of the Python state other than the heap), the run itself may have started anywhere -/
def Does (Q : PyLite.Env → Prop) (st : PState) (r : G × Option Err) (o : OutcomeP) : Prop :=
  Sim (toRes r) o (fun s' ρ' st' => Q ρ' ∧ st' = withG st s')

section rules
variable {H : PHandlers} {self : PyLite.Env} {rec : List Atom → PState → Res (Val × PState)}
  {P Q : PyLite.Env → Prop} {st σ : PState} {ρ : PyLite.Env}

theorem Does.ok {s' : G} (hQ : Q ρ) : Does Q st (s', none) (.normal ρ (withG st s')) := Sim.ok rfl ⟨hQ, rfl⟩

theorem Does.mono {r : G × Option Err} {o : OutcomeP} (h : Does P st r o) (hPQ : ∀ ρ, P ρ → Q ρ) : Does Q st r o :=
  Sim.mono h fun _ _ _ hq => ⟨hPQ _ hq.1, hq.2⟩

theorem Does.of_ne_recursion {r : G × Option Err} {o : OutcomeP} (h : r.2 ≠ some (.crash .recursion) → Does Q st r o) : Does Q st r o := by
  rcases r with ⟨s', _ | e⟩
  · exact h fun hc => nomatch hc
  · exact fun hne => h (fun hc => hne (Option.some.inj hc)) hne

theorem Does.append {p q : List Stmt} {r : G × Option Err} {k : G → G × Option Err}
    (h1 : Does P st r (execBlockP H self rec p ρ σ))
    (h2 : ∀ ρ', r.2 = none → P ρ' → Does Q st (k r.1) (execBlockP H self rec q ρ' (withG st r.1))) :
    Does Q st (andThen r k) (execBlockP H self rec (p ++ q) ρ σ) := by
  rw [execBlockP_append]
  rcases r with ⟨s', _ | e⟩
  · obtain ⟨ρ', _, ho, hP, rfl⟩ := h1
    rw [ho]
    exact h2 ρ' rfl hP
  · exact fun hne => by rw [h1 hne]

theorem Does.cons {s : Stmt} {q : List Stmt} {r : G × Option Err} {k : G → G × Option Err}
    (h1 : Does P st r (s.execP H self rec ρ σ))
    (h2 : ∀ ρ', r.2 = none → P ρ' → Does Q st (k r.1) (execBlockP H self rec q ρ' (withG st r.1))) :
    Does Q st (andThen r k) (execBlockP H self rec (s :: q) ρ σ) :=
  Does.append (p := [s]) (Sim.one h1) h2

theorem Does.step {s : Stmt} {q : List Stmt} {r : G × Option Err} {ρ1 : PyLite.Env} {σ1 : PState}
    (h1 : s.execP H self rec ρ σ = .normal ρ1 σ1) (h2 : Does Q st r (execBlockP H self rec q ρ1 σ1)) :
    Does Q st r (execBlockP H self rec (s :: q) ρ σ) := Sim.step h1 h2

/-- only the result counts, not the graph an error comes with -/
theorem Does.of_toRes_eq {r r' : G × Option Err} {o : OutcomeP} (h : toRes r = toRes r') (hd : Does Q st r o) :
    Does Q st r' o := by
  unfold Does at hd ⊢
  rwa [← h]

theorem Does.stmt {r : G × Option Err} {o : OutcomeP} (hP : P ρ)
    (h : r.2 ≠ some (.crash .recursion) → o = match r with | (s', none) => .normal ρ (withG st s') | (_, some e) => .raise e) :
    Does P st r o := by
  rcases r with ⟨s', _ | e⟩
  · exact Sim.ok (h (fun hc => nomatch hc)) ⟨hP, rfl⟩
  · exact fun hne => h fun hc => hne (Option.some.inj hc)

theorem Does.check {s : G} {c : Option Err} {o : OutcomeP} (hP : P ρ)
    (h : c ≠ some (.crash .recursion) → o = match c with | none => .normal ρ (withG st s) | some e => .raise e) :
    Does P st (chk s c) o :=
  Does.stmt hP fun hne => by have := h hne; cases c <;> exact this

theorem Does.chkCons {s : G} {c : Option Err} {stmt : Stmt} {q : List Stmt} {k : G × Option Err}
    (h1 : c ≠ some (.crash .recursion) →
      stmt.execP H self rec ρ (withG st s) = match c with | none => .normal ρ (withG st s) | some e => .raise e)
    (h2 : c = none → Does Q st k (execBlockP H self rec q ρ (withG st s))) :
    Does Q st (andThen (chk s c) fun _ => k) (execBlockP H self rec (stmt :: q) ρ (withG st s)) := by
  cases c with
  | none => exact Sim.step (h1 (fun hc => nomatch hc)) (h2 rfl)
  | some e => exact fun hne => by rw [execBlockP_cons, h1 fun hc => hne (Option.some.inj hc)]

theorem Does.expr {e : Expr} {r : G × Option Err} {v : Val} (hP : P ρ)
    (he : r.2 ≠ some (.crash .recursion) → e.evalP H self ρ σ = callResult st v r) : Does P st r ((Stmt.expr e).execP H self rec ρ σ) :=
  Does.stmt hP fun hne => by
    have := he hne
    rcases r with ⟨s', _ | err⟩
    · exact execP_expr (he := this)
    · exact execP_expr_err (he := this)

/-- `I`: what the steps need of the model's states -/
theorem Does.forIn (f : G → Uid → G × Option Err) {x : String} {it : Expr} {body : List Stmt} (I : G → Prop)
    {ts : List Uid} {s : G} (hit : it.evalP H self ρ σ = .ok (refs ts, withG st s)) (hP : P ρ) (hI : I s)
    (hbody : ∀ s' t ρ, t ∈ ts → P ρ → I s' →
      Does P st (f s' t) (execBlockP H self rec body (ρ.set x (.atom (.ref t))) (withG st s')) ∧
        ((f s' t).2 = none → I (f s' t).1)) :
    Does P st (forEach f s ts) ((Stmt.forIn x it body).execP H self rec ρ σ) := by
  unfold Does
  rw [toRes_forEach]
  refine (Sim.forIn (g := Atom.ref) (Inv := fun s' ρ' st' => (P ρ' ∧ st' = withG st s') ∧ I s') hit ?_
    ⟨⟨hP, rfl⟩, hI⟩).mono fun _ _ _ hq => hq.1
  rintro s' t ρ' _ hm ⟨⟨hP', rfl⟩, hI'⟩
  obtain ⟨hd, hi⟩ := hbody s' t ρ' hm hP' hI'
  rcases hf : f s' t with ⟨s'', _ | e⟩ <;> rw [hf] at hd hi
  · obtain ⟨ρ1, st1, ho, hq⟩ := hd
    exact ⟨ρ1, st1, ho, hq, hi rfl⟩
  · exact hd

theorem toRes_chk (s : G) (c : Option Err) : toRes (chk s c) = c.elim (.ok s) .error := by cases c <;> rfl

theorem Does.forIn_check {x : String} {it : Expr} {body : List Stmt} {l : List Uid} {s : G} (c : Uid → Option Err)
    (hit : it.evalP H self ρ σ = .ok (refs l, withG st s)) (hP : P ρ)
    (hb : ∀ ρ v, v ∈ l → P ρ →
      Does P st (chk s (c v)) (execBlockP H self rec body (ρ.set x (.atom (.ref v))) (withG st s))) :
    Does P st (chk s (l.findSome? c)) ((Stmt.forIn x it body).execP H self rec ρ σ) :=
  (Does.forIn (fun s' v => chk s' (c v)) (· = s) hit hP rfl fun s' v ρ hv hP e =>
    ⟨e ▸ hb ρ v hv hP, fun _ => e⟩).of_toRes_eq (by
      rw [toRes_forEach]; simp only [toRes_chk]; exact foldlM_findSome c l s)

theorem Does.callPV {params : List String} {body : List Stmt} {args : List Val} {r : G × Option Err}
    (hb : bindParamsV params args = .ok ρ) (h : Does Q st r (execBlockP H [] noRec body ρ σ)) (hne : r.2 ≠ some (.crash .recursion)) :
    callPV H params body args σ = callResult st (.atom .none) r := by
  rw [callPV_bound hb]
  rcases r with ⟨s', _ | e⟩
  · obtain ⟨ρ', _, ho, -, rfl⟩ := h; rw [ho]; rfl
  · rw [h fun hc => hne (congrArg some hc)]; rfl

theorem Does.callPV_ret {params : List String} {body : List Stmt} {e : Expr} {args : List Val} {r : G × Option Err}
    {v : Val} (hb : bindParamsV params args = .ok ρ) (h : Does Q st r (execBlockP H [] noRec body ρ σ))
    (hret : ∀ ρ' s', Q ρ' → e.evalP H [] ρ' (withG st s') = .ok (v, withG st s')) (hne : r.2 ≠ some (.crash .recursion)) :
    PyLite.callPV H params (body ++ [.ret e]) args σ = callResult st v r := by
  rw [callPV_bound hb, execBlockP_append]
  rcases r with ⟨s', _ | e⟩
  · obtain ⟨ρ', _, ho, hQ, rfl⟩ := h
    rw [ho]
    exact (blockRes_ret ..).trans (hret ρ' s' hQ)
  · rw [h fun hc => hne (congrArg some hc)]; rfl

end rules
end Pj.TaskSrc

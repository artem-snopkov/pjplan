/-
  Lemmas/PrintSrc.lean — THE SHEET PRINTER OF task.py (class `_Repr`): the hand-written model of the printed sheets
  (Model/Print.lean: `linkedId`, `fieldValue`, `subtreeRows`, `sheet`) equals the interpretation of the CURRENT SOURCE of

    _Repr.__calc_max_title_len   __get_linked_task_id   __get_linked_tasks_id   __get_field_value   __max_field_len
    __print_task_subtree   repr

  (Extracted/PrintSrc.lean, regenerated from src/pjplan/task.py and utils.py by tools/extract_print.py on every check).
  The seven functions form a PROGRAM (`printFuns`), run by `progH (printPrim S pts th) printFuns F` (Model/PyLite.lean: every
  call costs one unit of the fuel `F`, which bounds the DEPTH of nested calls as Python's recursion limit does).
  No construct of Model/PyLite.lean is particular to strings: every string operation is a library primitive (`prim`) with the meaning stated below.

  Files.  This file: the encoding, the primitives, the entry points, the specifications of the layout numbers.
  The stages: 1 the cell texts (`__get_linked_task_id`, `__get_linked_tasks_id`, `__get_field_value`), 2 the layout numbers
  (`__calc_max_title_len`, `__max_field_len`), 3 the rows (`__print_task_subtree`, `repr`), 4 `TextTable` (not translated).
  PrintSrcA.lean: stage 1, general theorems (`linked_id_spec`, `linked_ids_spec`, `field_value_spec`, `interp…_eq`); the
  summary of the results and the NEGATIVE CHECK (comment block at its end).  PrintSrcB.lean: stage 3.  PrintSrcC.lean:
  stage 2.  PrintSrcLib.lean: the concrete library satisfies `S.OK`.  PrintSrcCheck.lean: the WBS `w1`, no run.
  PrintSrcRuns.lean: `w1` satisfies the side conditions of the theorems, and the theorems on `w1`.  PrintSrcCheckB.lean
  (stages 1 - 3): the concrete runs, instances of those.

  Setting.
  * STRINGS are atoms `.str k`; a string library `S : Lib` relates keys and texts: `S.I : Str → Nat` (the key of a text),
    `S.D : Nat → Str` (the text of a key) with the hypothesis `S.OK : ∀ s, S.D (S.I s) = s` (so equal keys = equal texts:
    Python's `==` on strs is `==` on keys).  `S.strOf a` is Python's `str(a)` for a value that is not a str (ints,
    floats, … - numbers are rationals in PyLite, so the decimal text of a float is NOT determined: it is a parameter),
    `S.fmt t` is `t.strftime('%d.%m.%Y %H:%M')`, `S.emptyId` is the value of EMPTY_TASK_ID.  The theorems hold for EVERY
    such library; the Check files use the concrete one of Lemmas/StrLib.lean, where `Lib` is defined (`cLib`: `enc` / `dec`; its round trip is `dec_enc`, PrintSrcLib.lean).
  * A TASK object is `ref t`; its library attributes are primitives read from a Python-level description
    `pts : Nat → PyTask` (`id`: any value; `name`: None or a str; `estimate`, `spent`: None or a value; `dict`: the entries
    of `__dict__` (name ↦ value); `children`, `preds`, `succs`: the raw lists; `parent`: the PUBLIC parent; `wbs`: the
    identity of the owning WBS or None).  `toPTask S` derives what the model needs to know (`PTask`: the texts).
    `x.__getattribute__(k)` for a key of `__dict__` is the value stored there (no data descriptor of the class shadows a
    key of the instance dict).
  * The THEME is an opaque dict object; `th : PyTheme` gives `theme['level_colors']` (a list of strs) and
    `theme['header_color']` (`header = none`: the key is missing, `some none`: the value None).  `toTheme` is the model's.
  * The TABLE (`TextTable`, stage 4 - not translated) is the LOG of the calls made on it, the box `box 0`:
    `new_row(c)` appends the marker `True` and `c`, `new_cell(v)` appends `v`; `logOfRows` writes the model's rows as such
    a log, `rowsOfLog` reads it back; `table.text_repr()` is the primitive "text_repr" = the model's `render` of the rows.
  * `lower()` / `upper()` are the model's ASCII maps (`asciiLower` / `asciiUpper`): field names are ASCII.
-/
import PjVerif.Extracted.PrintSrc
import PjVerif.Model.Print
import PjVerif.Lemmas.StrLib
namespace Pj.PrintSrc
open Pj.PyLite Pj.Print Pj.Extracted.Print

/-! ### tasks and themes -/

structure PyTask where
  id : Atom
  name : Option Str
  estimate : Atom
  spent : Atom
  dict : List (Str × Atom)
  children : List Nat
  preds : List Nat
  succs : List Nat
  parent : Option Nat
  wbs : Option Nat
  deriving Inhabited

/-- the text of a value of `__dict__` as the model sees it: None, a formatted datetime, `str(v)` -/
def valText (S : Lib) : Atom → Option Str
  | .none => none
  | .time t => some (S.fmt t)
  | a => some (S.text a)

def optText (S : Lib) (a : Atom) : Option Str := if a = .none then none else some (S.text a)

def toPTask (S : Lib) (p : PyTask) : PTask :=
  { idText := S.text p.id, isRoot := p.id.pyEq S.emptyId, name := p.name,
    estimate := optText S p.estimate, spent := optText S p.spent,
    dict := p.dict.map (fun kv => (kv.1, valText S kv.2)),
    children := p.children, preds := p.preds, succs := p.succs, parent := p.parent, owner := p.wbs }

structure PyTheme where
  header : Option (Option Str)
  levels : List Str

def toTheme (th : PyTheme) : Theme :=
  { header := match th.header with | none => some grey | some h => h, levels := th.levels }

def keysOfStrs : List Atom → Option (List Nat)
  | [] => some []
  | .str k :: l => (keysOfStrs l).map (k :: ·)
  | _ :: _ => none

/-! ### the table as a log -/

def mkRow (S : Lib) (c : Atom) (cells : List Atom) : Option (Option Str × List Cell) :=
  match (match c with | .none => some none | .str k => some (some (S.D k)) | _ => none), keysOfStrs cells with
  | some col, some ks => some (col, ks.map (fun k => { text := S.D k, color := col }))
  | _, _ => none

/-- read a log from the right: the items not yet attributed to a row, the rows -/
def parseLog (S : Lib) : List Atom → Option (List Atom × List (Option Str × List Cell))
  | [] => some ([], [])
  | .bool true :: rest =>
    match parseLog S rest with
    | some (c :: cells, rows) => (mkRow S c cells).map (fun r => ([], r :: rows))
    | _ => none
  | a :: rest => (parseLog S rest).map (fun p => (a :: p.1, p.2))

def rowsOfLog (S : Lib) (log : List Atom) : Option (List (Option Str × List Cell)) :=
  match parseLog S log with
  | some ([], rows) => some rows
  | _ => none

/-- the calls `new_row(colour)`, `new_cell(text)…` that produce the rows -/
def logOfRow (S : Lib) (r : Option Str × List Cell) : List Atom :=
  .bool true :: S.os r.1 :: r.2.map (fun c => S.s c.text)

def logOfRows (S : Lib) (rows : List (Option Str × List Cell)) : List Atom := (rows.map (logOfRow S)).flatten

/-! ### the primitives -/

def isTimeA : Atom → Bool
  | .time _ => true
  | _ => false

def printPrim (S : Lib) (pts : Nat → PyTask) (th : PyTheme) : String → List Atom → PState → Res Val := fun name args _ =>
  if name.startsWith "lit:" then
    (match args with
     | [] => pure (S.s (name.drop 4).toString.toList)
     | _ => throw stuck)
  else if name = "EMPTY_TASK_ID" then (match args with | [] => pure S.emptyId | _ => throw stuck)
  else if name = "name" then oneTask args (fun t => S.os (pts t).name)
  else if name = "id" then oneTask args (fun t => (pts t).id)
  else if name = "wbs" then oneTask args (fun t => optRefA (pts t).wbs)
  else if name = "parent" then oneTask args (fun t => optRefA (pts t).parent)
  else if name = "children" then oneTask args (fun t => refsA (pts t).children)
  else if name = "predecessors" then oneTask args (fun t => refsA (pts t).preds)
  else if name = "successors" then oneTask args (fun t => refsA (pts t).succs)
  else if name = "estimate" then oneTask args (fun t => (pts t).estimate)
  else if name = "spent" then oneTask args (fun t => (pts t).spent)
  else if name = "__dict__" then oneTask args (fun t => .list ((pts t).dict.map (fun p => S.s p.1)))
  else if name = "__getattribute__" then
    (match args with
     | [.ref t, .str k] =>
       match lookupA (pts t).dict (S.D k) with
       | some v => pure v
       | none => throw (.crash .attribute)
     | _ => throw stuck)
  else if name = "str" then one args (fun a => pure (S.s (S.text a)))
  else if name = "strlen" then oneStr args (fun k => Atom.num (((S.D k).length : Nat) : Rat))
  else if name = "lower" then oneStr args (fun k => S.s ((S.D k).map asciiLower))
  else if name = "upper" then oneStr args (fun k => S.s ((S.D k).map asciiUpper))
  else if name = "concat" then
    (match args with
     | [.str a, .str b] => pure (S.s (S.D a ++ S.D b))
     | _ => throw stuck)
  else if name = "repeat" then
    (match args with
     | [.str a, n] =>
       match n.asInt? with
       | some i => pure (S.s (List.replicate i.toNat (S.D a)).flatten)
       | none => throw stuck
     | _ => throw stuck)
  else if name = "join:," then
    (match keysOfStrs args with
     | some ks => pure (S.s (joinComma (ks.map S.D)))
     | none => throw stuck)
  else if name = "isinstance:datetime" then
    one args (fun a => pure (Atom.bool (isTimeA a)))
  else if name = "strftime:%d.%m.%Y %H:%M" then
    (match args with
     | [.time t] => pure (S.s (S.fmt t))
     | _ => throw stuck)
  else if name = "getitem" then
    (match args with
     | [_, .str k] =>
       if S.D k = "level_colors".toList then pure (.list (th.levels.map S.s))
       else if S.D k = "header_color".toList then
         (match th.header with
          | some h => pure (S.os h)
          | none => throw (.crash .key))
       else throw (.crash .key)
     | _ => throw stuck)
  else if name = "contains" then
    (match args with
     | [_, .str k] =>
       pure (Atom.bool (decide (S.D k = "level_colors".toList) || (decide (S.D k = "header_color".toList) && th.header.isSome)))
     | _ => throw stuck)
  else if name = "text_repr" then
    (match rowsOfLog S args with
     | some rows => pure (S.s (render rows))
     | none => throw stuck)
  else throw stuck

/-! ### entry points -/

abbrev Hp (S : Lib) (pts : Nat → PyTask) (th : PyTheme) (F : Nat) : PHandlers := progH (printPrim S pts th) printFuns F

def interp (S : Lib) (pts : Nat → PyTask) (th : PyTheme) (F k : Nat) (args : List Val) (st : PState) : Res (Val × PState) :=
  runProg (printPrim S pts th) printFuns F k args st

def noTheme : PyTheme := { header := none, levels := [] }

/-- `_Repr.__get_linked_task_id(t, l)` (`l = none`: None) -/
def interpLinkedId (S : Lib) (pts : Nat → PyTask) (F : Nat) (t : Nat) (l : Option Nat) : Res Val :=
  (interp S pts noTheme F fn_get_linked_task_id [.atom (.ref t), .atom (optRefA l)] st0).map (·.1)

/-- `_Repr.__get_linked_tasks_id(t, ls)` -/
def interpLinkedIds (S : Lib) (pts : Nat → PyTask) (F : Nat) (t : Nat) (ls : List Nat) : Res Val :=
  (interp S pts noTheme F fn_get_linked_tasks_id [.atom (.ref t), refsA ls] st0).map (·.1)

/-- `_Repr.__get_field_value(t, field)` -/
def interpFieldValue (S : Lib) (pts : Nat → PyTask) (F : Nat) (t : Nat) (field : Str) : Res Val :=
  (interp S pts noTheme F fn_get_field_value [.atom (.ref t), .atom (S.s field)] st0).map (·.1)

/-- `_Repr.__calc_max_title_len(t, level, cur)` -/
def interpTitleLen (S : Lib) (pts : Nat → PyTask) (F : Nat) (t level cur : Nat) : Res Val :=
  (interp S pts noTheme F fn_calc_max_title_len
    [.atom (.ref t), .atom (.num ((level : Nat) : Rat)), .atom (.num ((cur : Nat) : Rat))] st0).map (·.1)

/-- `_Repr.__max_field_len(tasks, field)` -/
def interpMaxFieldLen (S : Lib) (pts : Nat → PyTask) (F : Nat) (tasks : List Nat) (field : Str) : Res Val :=
  (interp S pts noTheme F fn_max_field_len [refsA tasks, .atom (S.s field)] st0).map (·.1)

/-- the state in which the table `box 0` has received the calls `log` -/
def stLog (log : List Atom) : PState := { st0 with boxes := [log] }

/-- `_Repr.__print_task_subtree(t, fields, level, table, children, theme)`: the log of the table afterwards -/
def interpSubtree (S : Lib) (pts : Nat → PyTask) (th : PyTheme) (F : Nat) (t : Nat) (fields : List Str) (level : Nat)
    (children : Bool) (log : List Atom) : Res (List Atom) :=
  (interp S pts th F fn_print_task_subtree
    [.atom (.ref t), .list (fields.map S.s), .atom (.num ((level : Nat) : Rat)), .atom (.box 0), .atom (.bool children),
     .atom (.ref 0)] (stLog log)).map (fun r => r.2.boxes.getD 0 [])

/-- `_Repr.repr(tasks, fields, children, theme)`: the value (the text) and the log of the table -/
def interpRepr (S : Lib) (pts : Nat → PyTask) (th : PyTheme) (F : Nat) (tasks : List Nat) (fields : List Str)
    (children : Bool) : Res (Val × List Atom) :=
  (interp S pts th F fn_repr [refsA tasks, .list (fields.map S.s), .atom (.bool children), .atom (.ref 0)] st0).map
    (fun r => (r.1, r.2.boxes.getD 0 []))

/-! ### the layout numbers (the model file has no counterpart: these are the specifications of stage 2) -/

/-- `__calc_max_title_len(t, level, cur)`: the longest indented title in the subtree of `t`, at least `cur` -/
def titleLen (ts : Nat → PTask) : Nat → Nat → Nat → Nat → Nat
  | 0, _, _, cur => cur
  | fuel + 1, level, t, cur =>
    (ts t).children.foldl (fun m ch => titleLen ts fuel (level + 1) ch m)
      (max cur (3 * level + ((ts t).name.map List.length).getD 0))

/-- `__max_field_len(tasks, field)`: the longest cell text of the column `field` over the subtrees, at least the
    header and one blank -/
def maxFieldLen (ts : Nat → PTask) (field : Str) : Nat → List Nat → Nat
  | 0, _ => field.length + 1
  | fuel + 1, tasks =>
    tasks.foldl (fun m t => max (max m (fieldValue ts t field).length) (maxFieldLen ts field fuel (ts t).children))
      (field.length + 1)

end Pj.PrintSrc

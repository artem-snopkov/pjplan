/-
  Lemmas/PrintSrcLib.lean — the concrete string library `cLib` of Lemmas/StrLib.lean round-trips on every text
  (`dec_enc`), so the general theorems of the sheet printer and of the Mermaid renderers apply to it (`cLib_ok`).
-/
import PjVerif.Lemmas.StrLib
namespace Pj.PrintSrc
open Pj.Print

theorem toNat_succ_lt_B (c : Char) : c.toNat + 1 < B := by
  have := c.valid
  simp only [UInt32.isValidChar, Nat.isValidChar] at this
  show c.val.toNat + 1 < 1114113
  omega

theorem enc_cons (c : Char) (cs : Str) : enc (c :: cs) = c.toNat + B * enc cs + 1 := by
  simp only [enc]; omega

/-- the fuel `f` of `decF` only has to reach the key -/
theorem decF_enc : ∀ (s : Str) (f : Nat), enc s ≤ f → decF f (enc s) = s
  | [], f, _ => by cases f <;> rfl
  | c :: cs, f, h => by
    have hc := toNat_succ_lt_B c
    have hB : 0 < B := by decide
    rw [enc_cons] at h ⊢
    obtain ⟨f, rfl⟩ : ∃ f', f = f' + 1 := ⟨f - 1, by omega⟩
    have hle : enc cs ≤ B * enc cs := Nat.le_mul_of_pos_left _ hB
    have hm : (c.toNat + B * enc cs) % B = c.toNat := by
      rw [Nat.add_mul_mod_self_left]; exact Nat.mod_eq_of_lt (by omega)
    have hd : (c.toNat + B * enc cs + 1) / B = enc cs := by
      rw [show c.toNat + B * enc cs + 1 = c.toNat + 1 + B * enc cs by omega, Nat.add_mul_div_left _ _ hB,
        Nat.div_eq_of_lt hc, Nat.zero_add]
    rw [decF, hm, hd, Char.ofNat_toNat, decF_enc cs f (by omega)]

theorem dec_enc : ∀ s : Str, dec (enc s) = s
  | [] => rfl
  | c :: cs => by
    have h := decF_enc (c :: cs) _ (Nat.le_refl _)
    rw [enc_cons] at h ⊢
    exact h

theorem cLib_ok : cLib.OK := dec_enc

/-- A text written as string literals, literal by literal (`"ab"` is `String.ofList ['a', 'b']`): the kernel evaluates
    `String.toList` of a literal in quadratic time, so the characters are taken from the literal before a text is
    compared by evaluation. -/
theorem toList_flatten_cons (cs : List Char) (l : List String) :
    ((String.ofList cs :: l).map String.toList).flatten = cs ++ (l.map String.toList).flatten := by
  rw [List.map_cons, List.flatten_cons, String.toList_ofList]

end Pj.PrintSrc

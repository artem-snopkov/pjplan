/-
  Lemmas/RenderSrc.lean — THE MERMAID RENDERERS (viz/mermaid/network.py, gantt.py): the hand-written model of the two
  sources (Model/Render.lean: `escLabel`, `nodeLabel`, `networkSrc`, `stateOf`, `ganttLine`, `ganttSrc`) against the
  interpretation of the CURRENT SOURCE of

    MermaidNetwork.__label   __src          MermaidGantt.__mermaid_task_state   __mermaid_task   __src

  (Extracted/RenderSrc.lean, regenerated from src/pjplan/viz/mermaid/*.py by tools/extract_render.py on every check).
  The five functions form a PROGRAM (`renderFuns`), run by `progH (renderPrim S V pts) renderFuns F` (Model/PyLite.lean:
  every call costs one unit of the fuel `F`).  Every string operation is a library primitive (`prim`) with the meaning
  stated below.  The data of the DHTMLX renderer is the subject of Lemmas/DhtmlxSrc*.lean; the HTML templates are out of scope.

  Files.  This file: the encoding, the primitives, the entry points.  The general theorems: RenderSrcA.lean (the network
  source), RenderSrcB.lean (state and line of one Gantt task; the summary and the NEGATIVE CHECK are the comment block at
  its end), RenderSrcC0.lean / RenderSrcC.lean (the Gantt source; the dict-of-lists idiom).  RenderSrcCheck.lean /
  RenderSrcCheckB.lean: the concrete runs, instances of the general theorems (RenderSrcRuns.lean: their side condition).

  Setting.
  * STRINGS are atoms `.str k`; the string library `S : Lib` of Lemmas/StrLib.lean relates keys and texts (`S.I`, `S.D`,
    hypothesis `S.OK : ∀ s, S.D (S.I s) = s`), `S.text a` is Python's `str(a)` (`S.strOf` on values that are not strs),
    `S.fmt t` is `t.strftime('%d.%m.%Y %H:%M')`.  `a + b` is "concat", `s.replace(a, b)` is "replace" = `pyReplace`
    (below: left to right, non-overlapping, `a` not empty), f-strings and `'…{}…'.format(…)` are "concat"s of "str"s.
  * A TASK object is `ref t`, described by `pts : Nat → RTask` (`id`: any value; `name`: a str; `milestone`: a bool; `start`,
    `end_`: datetimes (the task is scheduled); `preds`: the predecessor list; `dict`: the entries of `__dict__`
    (name ↦ value)).  `t.network_bar_style` / `t.gantt_section` is the value stored in `__dict__` under that name.
  * The RENDERER object (`self`) is `ref 0`; `V : View` gives what `__init__` stored: `self.wbs.tasks` (`V.tasks`),
    `self.title`, `self.weekends`, `self.tick_interval`; `V.now` is the value of `datetime.now()` (the clock is a parameter);
    `V.style a` is the text `MermaidNetwork.__dict_to_style(a)` (NOT translated; the model takes the style text as given).
  * "truth" is Python's `bool(x)` on None / a bool / a str / a number.
  * `toNTask` / `toGTask` derive what the model reads of a task.
-/
import PjVerif.Extracted.RenderSrc
import PjVerif.Model.Render
import PjVerif.Lemmas.StrLib
namespace Pj.RenderSrc
open Pj.PyLite Pj.Render Pj.Extracted.Render
open Pj.PrintSrc (Lib lookupA refsA one)

/-! ### `str.replace` -/

/-- `s.replace(old, new)` for a non-empty `old`: left to right, non-overlapping (`f` bounds the number of steps) -/
def replF (old new : Str) : Nat → Str → Str
  | 0, s => s
  | _ + 1, [] => []
  | f + 1, c :: cs =>
    if old.isPrefixOf (c :: cs) then new ++ replF old new f ((c :: cs).drop old.length)
    else c :: replF old new f cs

def pyReplace (s old new : Str) : Str := replF old new s.length s

/-! ### tasks and the renderer object -/

structure RTask where
  id : Atom
  name : Str
  milestone : Bool
  start : Time
  end_ : Time
  preds : List Nat
  dict : List (Str × Atom)
  deriving Inhabited

structure View where
  tasks : List Nat
  title : Option Str
  weekends : Bool
  tick : Option Str
  now : Time
  style : Atom → Str

def kStyle : Str := "network_bar_style".toList
def kSection : Str := "gantt_section".toList

def toNTask (S : Lib) (V : View) (p : RTask) : NTask :=
  { idText := S.text p.id, name := p.name, preds := p.preds, style := (lookupA p.dict kStyle).map V.style }

def toGTask (S : Lib) (V : View) (p : RTask) : GTask :=
  { idText := S.text p.id, name := p.name, milestone := p.milestone, done := decide (p.end_ ≤ V.now),
    active := decide (p.start < V.now), start := S.fmt p.start, end_ := S.fmt p.end_,
    sect := (lookupA p.dict kSection).map S.text }

/-- Python's `bool(x)` -/
def pyTruth (S : Lib) : Atom → Option Bool
  | .none => some false
  | .bool b => some b
  | .str k => some (!(S.D k).isEmpty)
  | .num q => some (!decide (q = 0))
  | _ => none

/-! ### the primitives -/

def oneTask (args : List Atom) (f : Nat → Val) : Res Val :=
  match args with
  | [.ref t] => pure (f t)
  | _ => throw stuck

def renderPrim (S : Lib) (V : View) (pts : Nat → RTask) : String → List Atom → PState → Res Val := fun name args _ =>
  if name.startsWith "lit:" then
    (match args with
     | [] => pure (S.s (name.drop 4).toString.toList)
     | _ => throw stuck)
  else if name = "self.wbs" then one args (fun _ => pure (Atom.ref 0))
  else if name = "tasks" then one args (fun _ => pure (refsA V.tasks))
  else if name = "self.title" then one args (fun _ => pure (S.os V.title))
  else if name = "self.weekends" then one args (fun _ => pure (Atom.bool V.weekends))
  else if name = "self.tick_interval" then one args (fun _ => pure (S.os V.tick))
  else if name = "truth" then
    one args (fun a => match pyTruth S a with | some b => pure (Atom.bool b) | none => throw stuck)
  else if name = "datetime.now" then (match args with | [] => pure (Atom.time V.now) | _ => throw stuck)
  else if name = "name" then oneTask args (fun t => S.s (pts t).name)
  else if name = "id" then oneTask args (fun t => (pts t).id)
  else if name = "milestone" then oneTask args (fun t => Atom.bool (pts t).milestone)
  else if name = "start" then oneTask args (fun t => Atom.time (pts t).start)
  else if name = "end" then oneTask args (fun t => Atom.time (pts t).end_)
  else if name = "predecessors" then oneTask args (fun t => refsA (pts t).preds)
  else if name = "__dict__" then oneTask args (fun t => .list ((pts t).dict.map (fun p => S.s p.1)))
  else if name = "__getattribute__" then
    (match args with
     | [.ref t, .str k] =>
       match lookupA (pts t).dict (S.D k) with
       | some v => pure v
       | none => throw (.crash .attribute)
     | _ => throw stuck)
  else if name = "dict_to_style" then one args (fun a => pure (S.s (V.style a)))
  else if name = "str" then one args (fun a => pure (S.s (S.text a)))
  else if name = "concat" then
    (match args with
     | [.str a, .str b] => pure (S.s (S.D a ++ S.D b))
     | _ => throw stuck)
  else if name = "replace" then
    (match args with
     | [.str s, .str a, .str b] => if (S.D a).isEmpty then throw stuck else pure (S.s (pyReplace (S.D s) (S.D a) (S.D b)))
     | _ => throw stuck)
  else if name = "strftime:%d.%m.%Y %H:%M" then
    (match args with
     | [.time t] => pure (S.s (S.fmt t))
     | _ => throw stuck)
  else throw stuck

/-! ### entry points -/

def st0 : PState := Pj.PrintSrc.st0

abbrev Hr (S : Lib) (V : View) (pts : Nat → RTask) (F : Nat) : PHandlers := progH (renderPrim S V pts) renderFuns F

def interp (S : Lib) (V : View) (pts : Nat → RTask) (F k : Nat) (args : List Val) : Res Val :=
  (runProg (renderPrim S V pts) renderFuns F k args st0).map (·.1)

/-- `MermaidNetwork.__label(name)` -/
def interpLabel (S : Lib) (V : View) (pts : Nat → RTask) (F : Nat) (name : Str) : Res Val :=
  interp S V pts F fn_label [.atom (S.s name)]

/-- `MermaidNetwork(wbs).__src()` -/
def interpNetworkSrc (S : Lib) (V : View) (pts : Nat → RTask) (F : Nat) : Res Val :=
  interp S V pts F fn_network_src [.atom (.ref 0)]

/-- `MermaidGantt.__mermaid_task_state(t)` -/
def interpTaskState (S : Lib) (V : View) (pts : Nat → RTask) (F : Nat) (t : Nat) : Res Val :=
  interp S V pts F fn_task_state [.atom (.ref t)]

/-- `MermaidGantt(wbs, …).__mermaid_task(t)` -/
def interpGanttLine (S : Lib) (V : View) (pts : Nat → RTask) (F : Nat) (t : Nat) : Res Val :=
  interp S V pts F fn_mermaid_task [.atom (.ref 0), .atom (.ref t)]

/-- `MermaidGantt(wbs, …).__src()` -/
def interpGanttSrc (S : Lib) (V : View) (pts : Nat → RTask) (F : Nat) : Res Val :=
  interp S V pts F fn_gantt_src [.atom (.ref 0)]

/-- the model's inputs -/
def nAll (S : Lib) (V : View) (pts : Nat → RTask) : Nat → NTask := fun i => toNTask S V (pts i)
def gTasks (S : Lib) (V : View) (pts : Nat → RTask) : List GTask := V.tasks.map (fun i => toGTask S V (pts i))

end Pj.RenderSrc

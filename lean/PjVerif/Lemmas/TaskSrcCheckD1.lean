/-
  Lemmas/TaskSrcCheckD1.lean — the translated tie for task.py on concrete graphs, stage D: the sweep of the `children`
  setter over the graph `g1` (the longest one; see Lemmas/TaskSrcCheckD.lean).
-/
import PjVerif.Lemmas.TaskSrcCheckA
namespace Pj.TaskSrc
open Pj.PyLite Pj.Extracted
namespace Check

example : childrenAgree g1 = true := childrenAgree_of g1 (by decide) (by decide +kernel)

end Check
end Pj.TaskSrc

/-
  Lemmas/TaskSrcCheckC.lean — the translated tie for task.py on concrete graphs, stage C: runs of the `predecessors` / `successors` setters
  (Extracted/TaskSrc.lean) against the graph model.  The graphs and the comparison are defined in
  Lemmas/TaskSrcCheck.lean; see Lemmas/TaskSrc.lean for the setting.  A run on a well-formed graph is an instance of the
  general theorem (Lemmas/TaskSrcRuns.lean; the sweeps over `g1`, `g2`: Lemmas/TaskSrcCheckA.lean); on the cyclic `g3`
  both sides end in RecursionError, which is evaluated.
-/
import PjVerif.Lemmas.TaskSrcCheck
import PjVerif.Lemmas.TaskSrcRuns
namespace Pj.TaskSrc
open Pj.PyLite Pj.Extracted
namespace Check

/-! #### stage C: the `predecessors` / `successors` setters -/

def agreePreds (s : G) (t : Uid) (l : List Uid) : Prop :=
  observe s.n (interpSetPreds F t (refs l) (encSt s)) = expect s.n (setPreds s t l)
instance (s t l) : Decidable (agreePreds s t l) := by unfold agreePreds; infer_instance
def agreeSuccs (s : G) (t : Uid) (l : List Uid) : Prop :=
  observe s.n (interpSetSuccs F t (refs l) (encSt s)) = expect s.n (setSuccs s t l)
instance (s t l) : Decidable (agreeSuccs s t l) := by unfold agreeSuccs; infer_instance

/-- every call with the empty list, every one-element list and every list `[a, 3, a]` -/
def linksAgree (s : G) : Bool :=
  allU s (fun t => decide (agreePreds s t []) && decide (agreeSuccs s t []) &&
    allU s (fun a => decide (agreePreds s t [a]) && decide (agreeSuccs s t [a]) &&
      decide (agreePreds s t [a, 3, a]) && decide (agreeSuccs s t [a, 3, a])))

-- (`g1`, `g2`: Lemmas/TaskSrcCheckA.lean)
example : linksAgree g3 = true := by decide +kernel

example : (setPreds g1 10 [11, 6]).2 = none ∧ agreePreds g1 10 [11, 6] :=  -- accepted
  ⟨by decide +kernel, preds_run g1 (by decide) 10 (valueOf_refs _) (by decide +kernel)⟩
example : (setPreds g1 2 []).2 = none ∧ (setPreds g1 2 []).1.succs 3 = [] ∧ agreePreds g1 2 [] :=
  ⟨by decide +kernel, by decide +kernel, preds_run g1 (by decide) 2 (valueOf_refs _) (by decide +kernel)⟩
example : (setPreds g1 2 [1]).2 = some .runtime ∧ agreePreds g1 2 [1] :=  -- an ancestor
  ⟨by decide +kernel, preds_run g1 (by decide) 2 (valueOf_refs _) (by decide +kernel)⟩
example : (setPreds g1 1 [2]).2 = some .runtime ∧ agreePreds g1 1 [2] :=  -- a descendant
  ⟨by decide +kernel, preds_run g1 (by decide) 1 (valueOf_refs _) (by decide +kernel)⟩
example : (setPreds g1 3 [2]).2 = some .runtime ∧ agreePreds g1 3 [2] :=  -- a cycle
  ⟨by decide +kernel, preds_run g1 (by decide) 3 (valueOf_refs _) (by decide +kernel)⟩
example : (setPreds g1 2 [2]).2 = some .runtime ∧ agreePreds g1 2 [2] :=  -- the task itself
  ⟨by decide +kernel, preds_run g1 (by decide) 2 (valueOf_refs _) (by decide +kernel)⟩
example : (setSuccs g2 6 [4]).2 = some .runtime ∧ agreeSuccs g2 6 [4] :=  -- a longer cycle
  ⟨by decide +kernel, succs_run g2 (by decide) 6 (valueOf_refs _) (by decide +kernel)⟩
example : (setSuccs g2 2 [6, 6]).2 = none ∧ agreeSuccs g2 2 [6, 6] :=  -- a repeated item
  ⟨by decide +kernel, succs_run g2 (by decide) 2 (valueOf_refs _) (by decide +kernel)⟩
example : (setPreds g1 1 [0]).2 = none ∧ agreePreds g1 1 [0] :=  -- the hidden root
  ⟨by decide +kernel, preds_run g1 (by decide) 1 (valueOf_refs _) (by decide +kernel)⟩
-- the other forms of the value: `None`, a task, a list with `None`s
example : observe g1.n (interpSetPreds F 2 (.atom .none) (encSt g1)) = expect g1.n (setPreds g1 2 []) :=
  preds_run g1 (by decide) 2 valueOf_none (by decide +kernel)
example : observe g1.n (interpSetPreds F 10 (refV 11) (encSt g1)) = expect g1.n (setPreds g1 10 [11]) :=
  preds_run g1 (by decide) 10 (valueOf_task 11) (by decide +kernel)
example : observe g1.n (interpSetSuccs F 10 (.list [.none, .ref 11, .none, .ref 6]) (encSt g1)) =
    expect g1.n (setSuccs g1 10 [11, 6]) :=
  succs_run g1 (by decide) 10 (valueOf_list [none, some 11, none, some 6]) (by decide +kernel)

end Check
end Pj.TaskSrc

/-
  Lemmas/TaskSrc.lean — the CORE OF task.py: the hand-written graph model (Model/Graph.lean: `rootF`, `subtreeF`,
  `descF`, `ancF`, `pubParent`, `hasIdIntersection`, `linkedWithAny`, `setOwners`, `chkParentSome`, `detachOld`,
  `mutParentSome`, `setParentSome`, `setParentNone`, `setParent`, `chkLinks`, `mutPreds`, `setPreds`, `mutSuccs`,
  `setSuccs`, `chkChildren`, `releaseChildren`, `foldSetParent`, `setChildren`) equals the interpretation of the CURRENT
  SOURCE of

    _to_list   _find_root   _collect_subtree   _unique_objects   _has_id_intersection   _linked_with_any
    _check_not_none   _check_no_nones_in_list
    Task._attach   Task._detach   Task._raw_parent   the `parent` getter
    Task.__get_all_parents / __get_all_children / __get_all_predecessors / __get_all_successors (with their generators)
    the four relation setters of `Task`: `parent`, `predecessors`, `successors`, `children`     _ChildrenList.append

  (Extracted/TaskSrc.lean, regenerated from src/pjplan/task.py by tools/extract_task.py on every check), run by the pass
  layer of PyLite with its task constructs (Model/PyLite.lean: `progH` / `callPV` / `Stmt.execP` / `Expr.evalP`).

  This file: the encoding and the entry points (`Hd`, `ValueOf`, `withG`: TaskSrcA.lean; `setterResult`: TaskSrcB.lean).
  Lemmas/TaskSrcA.lean: stage A (helpers).  TaskSrcB.lean: stage B (the
  `parent` setter).  TaskSrcC.lean: stage C (`predecessors` / `successors`).  TaskSrcD.lean: stage D (`children`).
  TaskSim.lean: the program logic of PyLogic.lean over this store (`Does`), in which the stages B - D are written.
  TaskSrcCheck.lean, TaskSrcCheckA/B/C/D/D1/E.lean: the concrete runs (stage 1 of every stage); TaskSrcRuns.lean: a run on
  the encoding of a concrete graph as an instance of the theorems of the stages A - D.  PyLiteEqns.lean, PyLiteSteps.lean:
  how the interpreter takes one step (a call, a block, a loop, a comprehension, the common statement and expression
  forms), for every program; the steps of the rarer forms stand where they are first needed.

  Setting.
  * A graph state `s : G` is the store `encHeap s`: the task `u` is the object `ref u` (for EVERY `u : Nat`; the bound
    `s.n` only enters through the model's fuel) with the private fields of `Task` as attributes (`encTask`): `id`
    (`idA`: the model's `Int` as a Python `int`), `parent` (`None` or a reference - the RAW parent, the hidden WBS root
    included), `children` / `predecessors` / `successors` (lists of references: the raw lists `self.__children` …; the
    translator treats the facade classes `_ChildrenList`, `_PredecessorsList`, `_SuccessorsList`, `_ImmutableTaskList`
    as the list they wrap where the code only iterates them / tests membership), `wbs` (`None` or `ref w`, `w` the
    hidden root task of the WBS, `G.owner`).  A WBS object is identified with its hidden root: it is only compared
    (`!=`), tested for `None` and asked for `_root()`, which is the one library primitive (`taskPrim`: the identity).
    `withG st s` = the Python state `st` with the store `encHeap s`; the theorems hold for every `st` whose store is
    `encHeap s` (the ledger, `calculated`, … of `PState` play no role).
  * Identity: `Task` defines no `__eq__` (checked by the translator), so `x in l`, `l.remove(x)`, `==` on tasks are
    identity, PyLite's `pyEq` on references; `id(x)` of `ref u` is the int `u`.  `EMPTY_TASK_ID` = `sys.maxsize` = 2^63-1
    = the model's `emptyId`.
  * Calls are NOT resolved by hand-written handlers: the 25 translated functions form a PROGRAM (`taskFuns`), run by
    `progH taskPrim taskFuns F` (`Hd F`): every call of a function costs one unit of the fuel `F`, i.e. `F` bounds the
    DEPTH of nested calls as Python's recursion limit does; at depth `F` the run ends with RecursionError
    (`.crash .recursion`).  The model's recursions have the fuel `s.fuel = s.n + 1` and end in `.crash .recursion` when it
    runs out - which happens on cyclic structures only.  All theorems therefore have the form
        F ≥ s.n + c,  the model does not end in `.crash .recursion`   ⟹   interp F … = the model,
    the proviso being exactly the case the model adds to the source (as in Lemmas/PassSrc.lean / CalcSrc.lean).
  * `setterResult st r` - what a run of a setter is compared with: `ok (None, withG st s')` when the model accepts with
    the new state `s'`, `error e` when it rejects with `e` (RuntimeError = `.runtime`).  The interpreter's result of a
    rejected call carries no state (an `Except`), so for rejected calls the theorems give the error class only; that a
    rejected call of the `parent` / `predecessors` / `successors` setter leaves the store alone is visible in the
    proofs (the validations are run first and return the unchanged state: `ps_s1`, `ps_s2`, `lk_l1`, `lk_l2`) but is
    not part of the statements.
  * The right-hand side of `predecessors` / `successors` / `children` is any value `v` with `ValueOf v l` (`_to_list(v)`
    is the list of tasks `l`): a Python list of tasks and `None`s (`valueOf_list`, `valueOf_refs`), a single task
    (`valueOf_task`), `None` (`valueOf_none`).  Tuples, sets, generators and facade objects are outside the encoding.

  Results (all proofs complete; axioms: propext, Classical.choice, Quot.sound).
    Stage 1 (TaskSrcCheck*.lean; on the well-formed graphs the runs are instances of the stages A - D and the kernel
             evaluates the model's side of the proviso only; on `g3`, for the one disagreeing call on `g4` and for single
             helper calls it evaluates the run itself, `decide +kernel`; `view`: the returned value and the objects 0 … n-1 of the final store
             against the encoding of the model's state, errors must coincide) on the graphs `g1`: a WBS (hidden root,
             nesting, a link), a detached tree, ids shared between the trees, linked detached tasks, a second WBS;
             `g2`: a deeper WBS with a diamond of links; `g3`: NOT well formed, a parent cycle (RecursionError on both
             sides); some more runs on `g5` (TaskSrcCheckE.lean: several objects with one id) - EVERY task / pair of
             tasks of `g1`, `g2`, `g3`: all helpers; every call `t.parent = p` (accepted: a move inside a WBS,
             a detached task entering a WBS, `None` on a member / a detached task / a root task, the same parent again,
             the hidden root as parent; rejected: shared ids, another WBS, the task itself, a descendant, linked with the
             new ancestors, the hidden root as the task); every `t.predecessors / successors = []`, `[a]`, `[a, 3, a]`;
             every `t.children = []`, `[a]`, `[a, 10]`, `[11, a, 11]`; `None`, a task, lists with `None`s as values.
    Stage A (TaskSrcA.lean), for every `s`, every `st` with store `encHeap s`:
             `raw_parent_spec` = `s.parent`; `parent_get_spec` = `s.pubParent`;
             `find_root_spec`        rootF s f t = some r → f + 1 ≤ F → _find_root(ref t) = ref r
             `collect_subtree_spec`  descF s.children f t = some r → f ≤ F → _collect_subtree(ref t) = refs (t :: r)
             `get_all_children_spec` descF s.children f t = some r → f + 1 ≤ F → t.all_children = refs r
             `get_all_parents_spec`  ancF s f (s.parent t) = some r → f + 2 ≤ F → t.all_parents = refs r
             `get_all_predecessors_spec` / `get_all_successors_spec`  descF s.preds f t = some r → f + 1 ≤ F →
                                     t.all_predecessors = refs r.eraseDups
             `unique_objects_spec`   _unique_objects(refs l) = refs l.eraseDups
             `linked_with_any_spec`  _linked_with_any(refs ts, refs os) = linkedWithAny s ts os
             `has_id_intersection_spec`  hasIdIntersection s p chs = some b → s.fuel + 2 ≤ F →
                                     _has_id_intersection(ref p, refs chs) = b
             `attach_spec` / `attach_none` / `detach_spec`  descF s.children f t = some r → f ≤ F →
                                     t._attach(ref w) ends in withG st (setOwners s (t :: r) (some w)); `_attach(None)` does
                                     nothing; t._detach() ends in withG st (setOwners s (t :: r) none)
             `to_list_none` / `to_list_task` / `to_list_list` / `to_list_refs`, `check_not_none_spec`, `check_no_nones_spec`;
             all of them leave the state unchanged except `_attach` / `_detach`.
    Stage B (TaskSrcB.lean) `interpSetParent_eq`: for every s, st (store encHeap s), t, p : Option Uid, F ≥ s.n + 6,
                 (setParent s t p).2 ≠ some (.crash .recursion)  →
                 interpSetParent F t p st = setterResult st (setParent s t p)
             with the one hypothesis `honce` for `p = None` on a MEMBER of a WBS: the children list of the old parent names
             `t` at most once (`WF.once`; `interpSetParent_eq_wf` for well-formed states).  For `p ≠ None`
             (`parent_set_some`) and for a detached task there is NO well-formedness hypothesis.
    Stage C (TaskSrcC.lean) `interpSetPreds_eq` / `interpSetSuccs_eq`: for every s, st, t, v with ValueOf v l, F ≥ s.n + 4,
                 (setPreds s t l).2 ≠ some (.crash .recursion)  →  interpSetPreds F t v st = setterResult st (setPreds s t l)
             - no well-formedness hypothesis.
    Stage D (TaskSrcD.lean) `interpSetChildren_eq`: for every s, st, h, v with ValueOf v l, F ≥ s.n + 6,
                 (setChildren s h l).2 ≠ some (.crash .recursion)  →
                 interpSetChildren F h v st = setterResult st (setChildren s h l)
             - no well-formedness hypothesis (the inner assignments `v.parent = h` run on intermediate states that are not
             well formed: `parent_set_some` does not need it).

  Disagreements.  On REACHABLE states (C01: `WF`) none was found.  Outside them:
    * `honce` is necessary: on a state whose children list names `t` twice, `t.parent = None` for a member of a WBS
      removes both entries in Python (once before, once inside the inner `root.children.append(t)`), one in the model
      (`Check.g4` in TaskSrcCheckB.lean: kernel-checked disagreement; all other calls on that graph agree).
    * (not observable in PyLite) when the inner assignment of `t.parent = None` is REJECTED, Python has already removed
      `t` from the list of its old parent while the model returns the unchanged state; the inner validations can only
      fail on states that are not well formed (the hidden root has no links, `WF.rootsTop`).
  Modelling notes confirmed by the proofs: the comment on `setParentNone` in Model/Graph.lean (the validations of the
  inner call do not look at the removed entry) is `chkParentSome_detachOld`, which needs no forest hypothesis - a
  successful enumeration below `t` never meets a node that lists `t` (`descF_no_back`); the comment on `mutParentSome`
  (the subtree of `_attach` enumerated before the mutation) is `descF_detachOld`.

  Limitations.  (1) Errors carry no state (see `setterResult`).  (2) The fuel of `progH` counts the depth of calls of
  translated functions; Python's limit also counts the frames of the caller and of builtins, and a generator adds
  frames while it is resumed: the theorems say "any sufficiently large limit".  (3) The generators are translated as
  functions returning the list of the yielded values (faithful because they write nothing and are consumed completely
  by code that writes nothing - checked by the translator's effect analysis).  (4) The list facades are the lists they
  wrap; their other methods (`move`, `sort`, `reorder`, `insert`, `remove`, the operators) are not part of this program:
  Lemmas/FacadeSrc*.lean.
  (5) ids are the model's `Int` (Python ids may be any hashable value; only `==` and `set` membership are used).
  (6) `Task.__init__`, `Task.clone`, `to_dict` are not translated (`WBS.clone`: Lemmas/WbsSrc*.lean; printing:
  Lemmas/PrintSrc*.lean).
  The negative check is at the end of Lemmas/TaskSrcD.lean.
-/
import PjVerif.Extracted.TaskSrc
import PjVerif.Model.GraphOps
namespace Pj.TaskSrc
open Pj.PyLite Pj.Extracted

/-! ### the encoding of a graph state -/

def optRef : Option Uid → Atom
  | none => .none
  | some u => .ref u

def refs (l : List Uid) : Val := .list (l.map Atom.ref)

/-- `task.id`: the model's `Int` as a Python `int` -/
def idA (i : Int) : Atom := .num (i : Rat)

/-- the task object `ref u` of the graph state `s`: the private fields of `Task` -/
def encTask (s : G) (u : Uid) : PyLite.Env :=
  [("id", .atom (idA (s.tid u))), ("parent", .atom (optRef (s.parent u))), ("children", refs (s.children u)),
   ("predecessors", refs (s.preds u)), ("successors", refs (s.succs u)), ("wbs", .atom (optRef (s.owner u)))]

def encHeap (s : G) : Nat → PyLite.Env := fun u => encTask s u

/-- the one library primitive: `wbs._root()`.  The WBS object of the hidden root task `w` is the reference `ref w`
    itself (a WBS object is only compared, tested for `None` and asked for its root), so `_root()` is the identity -/
def taskPrim : String → List Atom → PState → Res Val := fun name args _ =>
  match args with
  | [.ref w] => if name = "_root" then pure (.atom (.ref w)) else throw stuck
  | _ => throw stuck

/-- a Python state whose store is the encoding of `s` (the other components of `PState` play no role) -/
def encSt (s : G) : PState := { L := [], heap := encHeap s, done := [], res := [], reads := 0, boxes := [] }

/-- call the k-th function of task.py with at most `fuel` nested calls -/
def interp (fuel : Nat) (k : Nat) (args : List Val) (st : PState) : Res (Val × PState) :=
  runProg taskPrim taskFuns fuel k args st

/-- `t.parent = p` -/
def interpSetParent (fuel : Nat) (t : Uid) (p : Option Uid) (st : PState) : Res (Val × PState) :=
  interp fuel fn_Task_parent_set [.atom (.ref t), .atom (optRef p)] st

/-- `t.predecessors = v` / `t.successors = v` / `t.children = v` for a Python value `v` (`refs l`: a list of tasks) -/
def interpSetPreds (fuel : Nat) (t : Uid) (v : Val) (st : PState) : Res (Val × PState) :=
  interp fuel fn_Task_predecessors_set [.atom (.ref t), v] st
def interpSetSuccs (fuel : Nat) (t : Uid) (v : Val) (st : PState) : Res (Val × PState) :=
  interp fuel fn_Task_successors_set [.atom (.ref t), v] st
def interpSetChildren (fuel : Nat) (t : Uid) (v : Val) (st : PState) : Res (Val × PState) :=
  interp fuel fn_Task_children_set [.atom (.ref t), v] st


end Pj.TaskSrc

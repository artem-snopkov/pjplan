/-
  Lemmas/SchedC08Removal.lean — C08, last clause: "with balancing off a task's dates do not change when unrelated tasks
  are removed".

  Formalisation: two scheduling environments `env`, `env'` (the WBS before and after removing, adding or re-ordering
  other tasks) that agree on the project start, the clock (constant during the calc), the default estimate and have
  balancing off; a task `t` of `env` and a task `t'` of `env'` that carry the same data (resource, milestone flag,
  min_start, user fields), are leaves, take part in no dependency (neither themselves nor through an ancestor:
  `freeLeaf`), and whose resource resolves to the same calendar in both resource tables.  Then both forward schedules
  give them the same start, end, estimate and spent, and the same (day, units) usage rows.

  Proof: `alone` is what one placement computes for a leaf that has no rows yet, with balancing off and a constant
  clock; it mentions only the leaf's own data, its calendar, the bound handed down, the clock and the default estimate.
  Through the run every resource key keeps resolving to the calendar it resolved to in the supplied table, and once
  the free leaf is done its fields and rows are the ones `alone` computes from the project start (`RemI`).  The bound
  handed down to a free leaf is the project start because nobody above it has predecessors, and nobody reaches it or
  one of its ancestors through a predecessor edge (links are stored on both ends and they have no successors).
-/
import PjVerif.Lemmas.SchedC08
namespace Pj
namespace C08R

/-- the calendar a resource key resolves to (`self.__resources.setdefault(name, Resource(name))`) -/
def calOf (res : List (Option Nat × Cal)) (k : Option Nat) : Cal := (resLookup res k).2

/-- the usage rows of a task as (day, units) -/
def dayUnits (rows : List Row) (t : Uid) : List (Int × Rat) := (rowsOf rows t).map (fun r => (r.day, r.units))

/-- `t` (in `env`) and `t'` (in `env'`) carry the same own data -/
def SameOwn (env env' : Env) (f0 f0' : Uid → Fields) (t t' : Uid) : Prop :=
  (env.info t).resource = (env'.info t').resource ∧ (env.info t).milestone = (env'.info t').milestone ∧
  (env.info t).minStart = (env'.info t').minStart ∧ f0 t = f0' t'

/-- what one placement computes for a leaf that sees an empty ledger and the constant clock `clk`: the new fields and the
    (day, units) pairs reserved -/
def alone (cal : Cal) (v pstart clk : Time) (dflt : Rat) (ms : Bool) (minStart : Option Time) (g0 : Fields) :
    Res (Fields × List (Int × Rat)) :=
  (if ms then pure ⟨⟨some v, some v, some 0, some 0⟩, [], 0⟩
    else fwdLeaf (fun _ => clk) pstart dflt minStart cal (fun _ => 0) v 0 g0).map (fun o => (o.g, o.new))

theorem map_dayUnits_mk (key : Option Nat) (t : Uid) (new : List (Int × Rat)) :
    (new.map (mkRow key t)).map (fun r => (r.day, r.units)) = new := by
  simp [List.map_map, Function.comp_def, mkRow]

theorem fwdPlace_alone (env : Env) (σ σ' : SS) (t : Uid) (v clk : Time)
    (hl : (env.info t).children.isEmpty = true) (hclk : ∀ k, env.clock k = clk) (hb : env.balance = false)
    (hnr : ∀ r ∈ σ.rows, r.task ≠ t) (h : fwdPlace env σ t v = .ok σ') :
    ∃ o, alone (calOf σ.res (env.info t).resource) v env.bound clk env.defaultEst (env.info t).milestone
        (env.info t).minStart (σ.f t) = .ok (o.g, o.new) ∧ σ' = σ.commit env t o := by
  have hu : placeUsed env σ t = fun _ => 0 := by
    funext d
    simp only [usedBy, hb]
    exact reserved_none_task σ.rows t hnr _ d
  have hck : env.clock = fun _ => clk := funext hclk
  unfold alone
  cases hm : (env.info t).milestone with
  | true =>
    rw [fwdPlace_milestone_eq env σ t v hm] at h
    cases h
    exact ⟨_, rfl, rfl⟩
  | false =>
    rw [fwdPlace_leaf_eq env σ t v hm hl, hu, hck] at h
    obtain ⟨o, ho, rfl⟩ := Res.map_ok h
    refine ⟨o, ?_, rfl⟩
    rw [if_neg (by simp)]
    show (fwdLeaf (fun _ => clk) env.bound env.defaultEst (env.info t).minStart (placeCal env σ t) (fun _ => 0) v σ.reads
      (σ.f t)).map _ = _
    rw [ho]; rfl

theorem calOf_resLookup (res : List (Option Nat × Cal)) (k' k : Option Nat) :
    calOf (resLookup res k').1 k = calOf res k := by
  simp only [calOf, resLookup_snd]
  exact Pj.calOf_resLookup res k' k

/-- what the run keeps, for the free leaf `y` and the constant clock value `clk` -/
structure RemI (env : Env) (f0 : Uid → Fields) (res0 : List (Option Nat × Cal)) (clk : Time) (y : Uid) (σ : SS) :
    Prop where
  base : Core env (prepare env f0 (memberList env)) σ
  cal : ∀ k, calOf σ.res k = calOf res0 k
  got : y ∈ σ.done →
    alone (calOf res0 (env.info y).resource) env.bound env.bound clk env.defaultEst (env.info y).milestone
      (env.info y).minStart (f0 y) = .ok (σ.f y, dayUnits σ.rows y)

theorem dayUnits_frozen {σ σ' : SS} (he : Ext σ σ') {y : Uid} (hy : y ∈ σ.done) :
    dayUnits σ'.rows y = dayUnits σ.rows y := by
  obtain ⟨r, hr, hq⟩ := he.rows
  unfold dayUnits
  rw [hr, rowsOf_append, rowsOf_none r y (fun x hx hc => (hq x hx).2 (hc ▸ hy))]
  simp

theorem RemI.place {env : Env} {f0 : Uid → Fields} {res0 : List (Option Nat × Cal)} {clk : Time} {y : Uid}
    {σ σ' : SS} {t : Uid} {v : Time}
    (hclk : ∀ k, env.clock k = clk) (hb : env.balance = false) (hyl : (env.info y).children.isEmpty = true)
    (hv : t = y → v = env.bound) (hi : RemI env f0 res0 clk y σ) (hm : (env.info t).member = true) (ht : t ∉ σ.done)
    (h : fwdPlace env σ t v = .ok σ') : RemI env f0 res0 clk y σ' := by
  obtain ⟨o, rfl, hg, _⟩ := (Sched.fwd_ok env).commit σ σ' t v v h
  obtain ⟨he, hd⟩ := SS.commit_ext env σ t o ht
  refine ⟨hi.base.commit hm ht hg, fun k => (calOf_resLookup σ.res _ k).trans (hi.cal k), ?_⟩
  intro hy
  rcases mem_done_snoc hd hy with hy | rfl
  · rw [he.frozen y hy, dayUnits_frozen he hy]
    exact hi.got hy
  · have hv' := hv rfl
    subst hv'
    obtain ⟨o', ha, ho'⟩ := fwdPlace_alone env σ _ y env.bound clk hyl hclk hb (hi.base.noRows ht) h
    rw [hi.cal, hi.base.init y ht, prepare_leaf env f0 _ y hyl] at ha
    rw [ha, ho']
    have hdu : dayUnits (σ.commit env y o').rows y = o'.new := by
      unfold dayUnits
      rw [show (σ.commit env y o').rows = σ.rows ++ o'.new.map (mkRow (env.info y).resource y) from rfl,
        rowsOf_placed _ _ _ _ (hi.base.noRows ht), map_dayUnits_mk]
    rw [hdu, SS.commit_f_same]

theorem alone_run (env : Env) (f0 : Uid → Fields) (res0 : List (Option Nat × Cal)) (o : Output) (clk : Time) (y : Uid)
    (hf : env.flagsOK) (hl : env.linksSym) (hch : env.childrenOK) (hb : env.balance = false)
    (hclk : ∀ k, env.clock k = clk) (hy : y ∈ memberList env) (hfree : freeLeaf env y = true)
    (h : forwardCalc env f0 res0 = .ok o) :
    alone (calOf res0 (env.info y).resource) env.bound env.bound clk env.defaultEst (env.info y).milestone
      (env.info y).minStart (f0 y) = .ok (o.f y, dayUnits o.rows y) := by
  have hr := forwardCalc_run env f0 res0 o h
  obtain ⟨mem, hm⟩ : ∃ mem, members env = some mem := by
    cases hm : members env with
    | none => simp [fwdRun, hm, bind, Except.bind, throw, throwThe, MonadExceptOf.throw] at hr
    | some mem => exact ⟨mem, rfl⟩
  have hml := memberList_eq env mem hm
  have hch' : ∀ t c, t ∈ mem → c ∈ (env.info t).children → (env.info c).parent = some t := by
    intro t c ht hc; exact hch t c (by rw [hml]; exact ht) hc
  have hyl : (env.info y).children.isEmpty = true := by
    simp only [freeLeaf, isLeaf, Bool.and_eq_true] at hfree
    exact hfree.1
  obtain ⟨σ, rfl, hI, hdone⟩ := (Sched.fwd env).run_inv (Sched.fwd_ok env) (RemI env f0 res0 clk y)
    (fun t m => t ∈ mem ∧ (RTC (fun a b => b ∈ (env.info a).children) t y → m = env.bound))
    (fun σ1 σ2 σ' t m hq hi ht _ _ _ _ hpl => by
      refine RemI.place hclk hb hyl ?_ hi ((hf t).2 (hml ▸ hq.1)) ht hpl
      intro hty
      subst hty
      have hpreds := (C08.free_anc env mem hm hch' t hfree t hq.1 RTC.refl).1
      show maxEnds σ1 (env.info t).preds m = env.bound
      rw [hpreds, C08.maxEnds_nil]
      exact hq.2 RTC.refl)
    (fun σ1 t c m hq hc => by
      refine ⟨members_children env mem hm t hq.1 c hc, fun hr => ?_⟩
      have hrt : RTC (fun a b => b ∈ (env.info a).children) t y := RTC.head hc hr
      have hpreds := (C08.free_anc env mem hm hch' y hfree t hq.1 hrt).1
      show maxEnds σ1 (env.info t).preds m = env.bound
      rw [hpreds, C08.maxEnds_nil]
      exact hq.2 hrt)
    (fun t p m hq hp' hpm => by
      have hpmem : p ∈ mem := hml ▸ (hf p).1 (hpm.trans ((hf t).2 (hml ▸ hq.1)))
      refine ⟨hpmem, fun hr => ?_⟩
      have hsuccs := (C08.free_anc env mem hm hch' y hfree p hpmem hr).2
      have hts := (hl p t).1 hp'
      rw [hsuccs] at hts
      cases hts)
    (fun x hx => ⟨members_root env mem hm x hx, fun _ => rfl⟩)
    ⟨Core.start env _ res0 _, fun _ => rfl, fun hc => by cases hc⟩ (fwdRun_eq env ▸ hr)
  exact hI.got (hdone y hy)

set_option linter.unusedVariables false in
theorem removal_free (env env' : Env) (f0 f0' : Uid → Fields) (res0 res0' : List (Option Nat × Cal)) (o o' : Output)
    (t t' : Uid)
    (hf : env.flagsOK) (hf' : env'.flagsOK)
    (hl : env.linksSym) (hl' : env'.linksSym) (hp : env.parentsOK) (hp' : env'.parentsOK)
    (hch : env.childrenOK) (hch' : env'.childrenOK) (hn : env.membersNodup) (hn' : env'.membersNodup)
    (hb : env.balance = false) (hb' : env'.balance = false)
    (hclk : ∀ k, env.clock k = env.clock 0) (hclk' : ∀ k, env'.clock k = env.clock 0)
    (hbound : env'.bound = env.bound) (hde : env'.defaultEst = env.defaultEst)
    (ht : t ∈ memberList env) (ht' : t' ∈ memberList env')
    (hfree : freeLeaf env t = true) (hfree' : freeLeaf env' t' = true)
    (hown : SameOwn env env' f0 f0' t t')
    (hcal : calOf res0 (env.info t).resource = calOf res0' (env'.info t').resource)
    (h : forwardCalc env f0 res0 = .ok o) (h' : forwardCalc env' f0' res0' = .ok o') :
    o.f t = o'.f t' ∧ dayUnits o.rows t = dayUnits o'.rows t' := by
  have a := alone_run env f0 res0 o (env.clock 0) t hf hl hch hb hclk ht hfree h
  have a' := alone_run env' f0' res0' o' (env.clock 0) t' hf' hl' hch' hb' hclk' ht' hfree' h'
  obtain ⟨_, hms, hmin, hf0⟩ := hown
  rw [← hcal, hbound, hde, ← hms, ← hmin, ← hf0, a] at a'
  have := Except.ok.inj a'
  exact ⟨congrArg Prod.fst this, congrArg Prod.snd this⟩

end C08R
end Pj

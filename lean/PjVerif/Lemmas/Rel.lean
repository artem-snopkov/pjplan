/-
  Lemmas/Rel.lean — closures (`TC`, `RTC` of Spec/Graph.lean) and the link between the fuel-bounded
  enumerations of the model (`descF`, `ancF`, `rootF`) and those closures.
-/
import PjVerif.Spec.Graph
import PjVerif.Lemmas.ListFacts
namespace Pj

variable {α : Type} {r : α → α → Prop}

theorem TC.trans {a b c : α} (h1 : TC r a b) (h2 : TC r b c) : TC r a c := by
  induction h2 with
  | single h => exact TC.tail h1 h
  | tail _ h ih => exact TC.tail ih h

theorem TC.head {a b c : α} (h1 : r a b) (h2 : TC r b c) : TC r a c :=
  TC.trans (TC.single h1) h2

theorem TC.head_cases {a c : α} (h : TC r a c) : r a c ∨ ∃ b, r a b ∧ TC r b c := by
  induction h with
  | single h => exact Or.inl h
  | tail _ hr ih =>
    rcases ih with h | ⟨b, hab, hbc⟩
    · exact Or.inr ⟨_, h, TC.single hr⟩
    · exact Or.inr ⟨b, hab, TC.tail hbc hr⟩

theorem TC.tail_cases {a c : α} (h : TC r a c) : r a c ∨ ∃ b, TC r a b ∧ r b c := by
  cases h with
  | single h => exact Or.inl h
  | tail h1 h2 => exact Or.inr ⟨_, h1, h2⟩

theorem TC.toRTC {a b : α} (h : TC r a b) : RTC r a b := by
  induction h with
  | single h => exact RTC.tail RTC.refl h
  | tail _ h ih => exact RTC.tail ih h

theorem RTC.trans {a b c : α} (h1 : RTC r a b) (h2 : RTC r b c) : RTC r a c := by
  induction h2 with
  | refl => exact h1
  | tail _ h ih => exact RTC.tail ih h

theorem RTC.cases_eq_or_TC {a b : α} (h : RTC r a b) : a = b ∨ TC r a b := by
  induction h with
  | refl => exact Or.inl rfl
  | tail _ hr ih =>
    rcases ih with rfl | h
    · exact Or.inr (TC.single hr)
    · exact Or.inr (TC.tail h hr)

theorem not_RTC_of_ne {a b : α} (hne : a ≠ b) (h : ¬ TC r a b) : ¬ RTC r a b :=
  fun h' => h'.cases_eq_or_TC.elim hne h

theorem RTC.head {a b c : α} (h1 : r a b) (h2 : RTC r b c) : RTC r a c :=
  RTC.trans (RTC.tail RTC.refl h1) h2

theorem TC.of_RTC_step {a b c : α} (h1 : RTC r a b) (h2 : r b c) : TC r a c := by
  rcases RTC.cases_eq_or_TC h1 with rfl | h
  · exact TC.single h2
  · exact TC.tail h h2

theorem TC.of_step_RTC {a b c : α} (h1 : r a b) (h2 : RTC r b c) : TC r a c := by
  induction h2 with
  | refl => exact TC.single h1
  | tail _ h ih => exact TC.tail ih h

theorem TC_map {α β : Type} {r : α → α → Prop} {r' : β → β → Prop} (f : α → β)
    (hm : ∀ a b, r a b → r' (f a) (f b)) {a b : α} (h : TC r a b) : TC r' (f a) (f b) := by
  induction h with
  | single h => exact TC.single (hm _ _ h)
  | tail _ h ih => exact TC.tail ih (hm _ _ h)

theorem TC.mono {r' : α → α → Prop} (hm : ∀ a b, r a b → r' a b) {a b : α} (h : TC r a b) : TC r' a b :=
  TC_map id hm h

theorem RTC.mono {r' : α → α → Prop} (hm : ∀ a b, r a b → r' a b) {a b : α} (h : RTC r a b) : RTC r' a b := by
  induction h with
  | refl => exact RTC.refl
  | tail _ h ih => exact RTC.tail ih (hm _ _ h)

theorem TC.flip {a b : α} (h : TC (fun x y => r y x) a b) : TC r b a := by
  induction h with
  | single h => exact TC.single h
  | tail _ h ih => exact TC.head h ih

theorem TC.unflip {a b : α} (h : TC r b a) : TC (fun x y => r y x) a b := by
  induction h with
  | single h => exact TC.single h
  | tail _ h ih => exact TC.head (r := fun x y => r y x) h ih

theorem RTC.flip {a b : α} (h : RTC (fun x y => r y x) a b) : RTC r b a := by
  induction h with
  | refl => exact RTC.refl
  | tail _ h ih => exact RTC.head h ih

theorem RTC.unflip {a b : α} (h : RTC r b a) : RTC (fun x y => r y x) a b := by
  induction h with
  | refl => exact RTC.refl
  | tail _ h ih => exact RTC.head (r := fun x y => r y x) h ih

theorem TC_RTC {α : Type} {r : α → α → Prop} {a b c : α} (h1 : TC r a b) (h2 : RTC r b c) : TC r a c := by
  rcases h2.cases_eq_or_TC with e | e
  · exact e ▸ h1
  · exact h1.trans e

theorem TC_map_on {α β : Type} {r : α → α → Prop} {r' : β → β → Prop} (P : α → Prop) (f : α → β)
    (hm : ∀ a b, r a b → P a ∨ P b → P a ∧ P b ∧ r' (f a) (f b)) {a b : α} (h : TC r a b) (hp : P a ∨ P b) :
    P a ∧ P b ∧ TC r' (f a) (f b) := by
  induction h with
  | single hab =>
    obtain ⟨h1, h2, h3⟩ := hm _ _ hab hp
    exact ⟨h1, h2, TC.single h3⟩
  | tail _ hbc ih =>
    rcases hp with hp | hp
    · obtain ⟨h1, h2, h3⟩ := ih (Or.inl hp)
      obtain ⟨_, k2, k3⟩ := hm _ _ hbc (Or.inl h2)
      exact ⟨h1, k2, TC.tail h3 k3⟩
    · obtain ⟨k1, k2, k3⟩ := hm _ _ hbc (Or.inr hp)
      obtain ⟨h1, _, h3⟩ := ih (Or.inr k1)
      exact ⟨h1, k2, TC.tail h3 k3⟩

theorem RTC_map_on {α β : Type} {r : α → α → Prop} {r' : β → β → Prop} (P : α → Prop) (f : α → β)
    (hm : ∀ a b, r a b → P a ∨ P b → P a ∧ P b ∧ r' (f a) (f b)) {a b : α} (h : RTC r a b) (hp : P a ∨ P b) :
    P a ∧ P b ∧ RTC r' (f a) (f b) := by
  rcases h.cases_eq_or_TC with rfl | h
  · exact ⟨hp.elim id id, hp.elim id id, RTC.refl⟩
  · obtain ⟨h1, h2, h3⟩ := TC_map_on P f hm h hp
    exact ⟨h1, h2, h3.toRTC⟩

theorem TC_add_in_edges_cases (R : α → α → Prop) (a : α) (S : α → Prop) {x y : α}
    (h : TC (fun u w => R u w ∨ (S u ∧ w = a)) x y) :
    TC R x y ∨ ∃ v, S v ∧ RTC R x v ∧ RTC R a y := by
  induction h with
  | single h =>
    rcases h with h | ⟨hS, rfl⟩
    · exact Or.inl (TC.single h)
    · exact Or.inr ⟨_, hS, RTC.refl, RTC.refl⟩
  | tail _ h ih =>
    rcases h with h | ⟨hS, rfl⟩
    · rcases ih with ih | ⟨v, hv, h1, h2⟩
      · exact Or.inl (TC.tail ih h)
      · exact Or.inr ⟨v, hv, h1, RTC.tail h2 h⟩
    · rcases ih with ih | ⟨v, hv, h1, _⟩
      · exact Or.inr ⟨_, hS, ih.toRTC, RTC.refl⟩
      · exact Or.inr ⟨v, hv, h1, RTC.refl⟩

/-- adding edges that all point INTO one node `a` (from sources satisfying `S`) keeps a relation acyclic,
    provided `a` does not reach any of the new sources (reflexively) -/
theorem acyclic_add_in_edges (R : α → α → Prop) (a : α) (S : α → Prop)
    (hac : ∀ x, ¬ TC R x x) (hno : ∀ v, S v → ¬ RTC R a v) :
    ∀ x, ¬ TC (fun u w => R u w ∨ (S u ∧ w = a)) x x := by
  intro x h
  rcases TC_add_in_edges_cases R a S h with h | ⟨v, hv, h1, h2⟩
  · exact hac x h
  · exact hno v hv (RTC.trans h2 h1)

theorem contains_eq_false {l : List Uid} {u : Uid} (h : ∀ x ∈ l, x ≠ u) : l.contains u = false := by
  cases hc : l.contains u with
  | false => rfl
  | true => exact absurd rfl (h u (by simpa using hc))

/-- one raising step in a chain of validations (`none` = passed) -/
theorem ite_some_eq_none {α : Type} {c : Prop} [Decidable c] {e : α} {r : Option α} :
    (if c then some e else r) = none ↔ ¬ c ∧ r = none := by
  by_cases hc : c <;> simp [hc]

theorem descF_complete (next : Uid → List Uid) (f : Nat) (t : Uid) (l : List Uid)
    (h : descF next f t = some l) : ∀ x, TC (fun a b => b ∈ next a) t x → x ∈ l := by
  induction f generalizing t l with
  | zero => simp [descF] at h
  | succ f ih =>
    intro x hx
    simp only [descF, Option.map_eq_some_iff] at h
    obtain ⟨ll, hll, rfl⟩ := h
    rcases TC.head_cases hx with hc | ⟨c, hc, hrest⟩
    · obtain ⟨b, hb, hg⟩ := mapM_some_mem _ _ _ hll x hc
      simp only [Option.map_eq_some_iff] at hg
      obtain ⟨r', _, rfl⟩ := hg
      exact List.mem_flatten.mpr ⟨_, hb, List.mem_cons_self⟩
    · obtain ⟨b, hb, hg⟩ := mapM_some_mem _ _ _ hll c hc
      simp only [Option.map_eq_some_iff] at hg
      obtain ⟨r', hr', rfl⟩ := hg
      exact List.mem_flatten.mpr ⟨_, hb, List.mem_cons_of_mem _ (ih c r' hr' x hrest)⟩

theorem descF_sound (next : Uid → List Uid) (f : Nat) (t : Uid) (l : List Uid)
    (h : descF next f t = some l) : ∀ x, x ∈ l → TC (fun a b => b ∈ next a) t x := by
  induction f generalizing t l with
  | zero => simp [descF] at h
  | succ f ih =>
    intro x hx
    simp only [descF, Option.map_eq_some_iff] at h
    obtain ⟨ll, hll, rfl⟩ := h
    obtain ⟨b, hb, hxb⟩ := List.mem_flatten.mp hx
    obtain ⟨c, hc, hg⟩ := mapM_some_mem_inv _ _ _ hll b hb
    simp only [Option.map_eq_some_iff] at hg
    obtain ⟨r', hr', rfl⟩ := hg
    rcases List.mem_cons.mp hxb with rfl | hxr
    · exact TC.single hc
    · exact TC.head (r := fun a b => b ∈ next a) hc (ih c r' hr' x hxr)

theorem descF_mono (next : Uid → List Uid) (f : Nat) (t : Uid) (l : List Uid)
    (h : descF next f t = some l) : descF next (f + 1) t = some l := by
  induction f generalizing t l with
  | zero => simp [descF] at h
  | succ f ih =>
    rw [descF] at h ⊢
    simp only [Option.map_eq_some_iff] at h ⊢
    obtain ⟨ll, hll, rfl⟩ := h
    refine ⟨ll, mapM_some_congr _ _ _ _ ?_ hll, rfl⟩
    intro c _ b hb
    simp only [Option.map_eq_some_iff] at hb ⊢
    obtain ⟨r', hr', rfl⟩ := hb
    exact ⟨r', ih c r' hr', rfl⟩

theorem descF_mono_le (next : Uid → List Uid) (f f' : Nat) (hle : f ≤ f') (t : Uid) (l : List Uid)
    (h : descF next f t = some l) : descF next f' t = some l := fuel_mono_le (descF_mono next) hle h

theorem descF_unique (next : Uid → List Uid) (f f' : Nat) (t : Uid) (l l' : List Uid)
    (h : descF next f t = some l) (h' : descF next f' t = some l') : l = l' := fuel_agree (descF_mono next) h h'

theorem pubParent_eq_some_iff (s : G) (t p : Uid) : s.pubParent t = some p ↔ s.parent t = some p ∧ s.hidden p = false := by
  unfold G.pubParent
  cases s.parent t with
  | none => simp
  | some q => cases hq : s.hidden q <;> simp [hq] <;> rintro rfl <;> exact hq

theorem ancF_pubParent (s : G) (f : Nat) (q : Uid) :
    ancF s f (s.pubParent q) = ancF s f (s.parent q) := by
  unfold G.pubParent
  cases hq : s.parent q with
  | none => rfl
  | some p' =>
    cases hh : s.hidden p' with
    | false => simp [hh]
    | true =>
      cases f with
      | zero => simp [ancF]
      | succ f => simp [ancF, hh]

theorem par_TC_cases (s : G) {p q y : Uid} (hp : s.parent p = some q) (h : TC (par s) p y) :
    y = q ∨ TC (par s) q y := by
  rcases TC.head_cases h with h | ⟨c, hc, hrest⟩
  · unfold par at h; rw [hp] at h; exact Or.inl (Option.some.inj h).symm
  · unfold par at hc; rw [hp] at hc; cases Option.some.inj hc; exact Or.inr hrest

theorem par_TC_none (s : G) {p y : Uid} (hp : s.parent p = none) (h : TC (par s) p y) : False := by
  rcases TC.head_cases h with h | ⟨c, hc, _⟩
  · unfold par at h; rw [hp] at h; cases h
  · unfold par at hc; rw [hp] at hc; cases hc

theorem par_RTC_step (s : G) {a b t : Uid} (hs : s.parent a = some b) (hx : RTC (par s) a t) (hat : a ≠ t) :
    RTC (par s) b t := by
  rcases hx.cases_eq_or_TC with e | e
  · exact absurd e hat
  · rcases par_TC_cases s hs e with e' | e'
    · rw [e']; exact RTC.refl
    · exact e'.toRTC

theorem ancF_complete (s : G) (hroot : ∀ r, s.hidden r = true → s.parent r = none)
    (f : Nat) (p : Uid) (l : List Uid) (h : ancF s f (s.parent p) = some l) :
    ∀ y, TC (par s) p y → s.hidden y = false → y ∈ l := by
  induction f generalizing p l with
  | zero => simp [ancF] at h
  | succ f ih =>
    intro y hy hyh
    cases hp : s.parent p with
    | none => exact (par_TC_none s hp hy).elim
    | some q =>
      rw [hp, ancF] at h
      cases hq : s.hidden q with
      | true =>
        rcases par_TC_cases s hp hy with rfl | hy'
        · rw [hq] at hyh; cases hyh
        · exact (par_TC_none s (hroot q hq) hy').elim
      | false =>
        simp only [hq, Bool.false_eq_true, if_false, ancF_pubParent, Option.map_eq_some_iff] at h
        obtain ⟨r', hr', rfl⟩ := h
        rcases par_TC_cases s hp hy with rfl | hy'
        · exact List.mem_cons_self
        · exact List.mem_cons_of_mem _ (ih q r' hr' y hy' hyh)

theorem ancF_sound (s : G) (f : Nat) (p : Uid) (l : List Uid) (h : ancF s f (s.parent p) = some l) :
    ∀ y, y ∈ l → TC (par s) p y ∧ s.hidden y = false := by
  induction f generalizing p l with
  | zero => simp [ancF] at h
  | succ f ih =>
    intro y hy
    cases hp : s.parent p with
    | none =>
      rw [hp, ancF] at h
      cases Option.some.inj h; cases hy
    | some q =>
      rw [hp, ancF] at h
      cases hq : s.hidden q with
      | true =>
        simp only [hq, if_true, Option.some.injEq] at h
        subst h; cases hy
      | false =>
        simp only [hq, Bool.false_eq_true, if_false, ancF_pubParent, Option.map_eq_some_iff] at h
        obtain ⟨r', hr', rfl⟩ := h
        rcases List.mem_cons.mp hy with rfl | hy'
        · exact ⟨TC.single hp, hq⟩
        · obtain ⟨h1, h2⟩ := ih q r' hr' y hy'
          exact ⟨TC.head (r := par s) hp h1, h2⟩

theorem rootF_spec (s : G) (f : Nat) (t r : Uid) (h : rootF s f t = some r) :
    RTC (par s) t r ∧ s.parent r = none := by
  induction f generalizing t with
  | zero => simp [rootF] at h
  | succ f ih =>
    rw [rootF] at h
    cases hp : s.parent t with
    | none =>
      rw [hp] at h
      cases Option.some.inj h
      exact ⟨RTC.refl, hp⟩
    | some p =>
      rw [hp] at h
      obtain ⟨h1, h2⟩ := ih p h
      exact ⟨RTC.head (r := par s) hp h1, h2⟩

/-- the parent relation is a partial function -/
theorem par_chain (s : G) {t a b : Uid} (ha : RTC (par s) t a) (hb : RTC (par s) t b) :
    RTC (par s) a b ∨ RTC (par s) b a := by
  induction ha with
  | refl => exact Or.inl hb
  | tail _ hstep ih =>
    rcases ih with h | h
    · rcases RTC.cases_eq_or_TC h with rfl | h
      · exact Or.inr (RTC.tail RTC.refl hstep)
      · rcases par_TC_cases s hstep h with rfl | h'
        · exact Or.inl RTC.refl
        · exact Or.inl h'.toRTC
    · exact Or.inr (RTC.tail h hstep)

theorem child_iff_par (s : G) (hl : ∀ t p, s.parent t = some p ↔ t ∈ s.children p) (a b : Uid) :
    b ∈ s.children a ↔ par s b a :=
  (hl b a).symm

theorem TC_child_iff (s : G) (hl : ∀ t p, s.parent t = some p ↔ t ∈ s.children p) (a b : Uid) :
    TC (fun x y => y ∈ s.children x) a b ↔ TC (par s) b a := by
  constructor
  · intro h
    exact TC.flip (TC.mono (r' := fun x y => par s y x) (fun x y hxy => (child_iff_par s hl x y).mp hxy) h)
  · intro h
    exact TC.mono (fun x y hxy => (child_iff_par s hl x y).mpr hxy) (TC.unflip h)

theorem descF_mem (s : G) (hl : ∀ t p, s.parent t = some p ↔ t ∈ s.children p) (f : Nat) (t : Uid)
    (l : List Uid) (h : descF s.children f t = some l) (x : Uid) : x ∈ l ↔ TC (par s) x t :=
  ⟨fun hx => (TC_child_iff s hl t x).mp (descF_sound _ _ _ _ h x hx),
   fun hx => descF_complete _ _ _ _ h x ((TC_child_iff s hl t x).mpr hx)⟩

theorem RTC_child_iff (s : G) (hl : ∀ t p, s.parent t = some p ↔ t ∈ s.children p) (a b : Uid) :
    RTC (fun x y => y ∈ s.children x) a b ↔ RTC (par s) b a := by
  constructor
  · intro h
    exact RTC.flip (RTC.mono (r' := fun x y => par s y x) (fun x y hxy => (child_iff_par s hl x y).mp hxy) h)
  · intro h
    exact RTC.mono (fun x y hxy => (child_iff_par s hl x y).mpr hxy) (RTC.unflip h)

theorem subtreeF_reach (next : Uid → List Uid) (f : Nat) (t : Uid) (l : List Uid) (h : subtreeF next f t = some l)
    (x : Uid) : x ∈ l ↔ RTC (fun a b => b ∈ next a) t x := by
  simp only [subtreeF, Option.map_eq_some_iff] at h
  obtain ⟨d, hd, rfl⟩ := h
  rw [List.mem_cons]
  constructor
  · rintro (rfl | hx)
    · exact RTC.refl
    · exact (descF_sound next f t d hd x hx).toRTC
  · intro hx
    exact hx.cases_eq_or_TC.imp Eq.symm (descF_complete next f t d hd x)

theorem RTC_closed (next : Uid → List Uid) (P : Uid → Prop) (hP : ∀ a b, P a → b ∈ next a → P b) {c x : Uid}
    (h : RTC (fun a b => b ∈ next a) c x) (hc : P c) : P x := by
  induction h with
  | refl => exact hc
  | tail _ hb ih => exact hP _ _ ih hb

theorem subtreeF_closed (next : Uid → List Uid) (P : Uid → Prop) (hP : ∀ a b, P a → b ∈ next a → P b)
    (f : Nat) (c : Uid) (sub : List Uid) (h : subtreeF next f c = some sub) (hc : P c) : ∀ x ∈ sub, P x :=
  fun x hx => RTC_closed next P hP ((subtreeF_reach next f c sub h x).mp hx) hc

theorem subtreeF_flatten_reach (next : Uid → List Uid) (f : Nat) (ts : List Uid) (subs : List (List Uid))
    (h : ts.mapM (subtreeF next f) = some subs) (x : Uid) :
    x ∈ subs.flatten ↔ ∃ c ∈ ts, RTC (fun a b => b ∈ next a) c x := by
  constructor
  · intro hx
    obtain ⟨b, hb, hxb⟩ := List.mem_flatten.mp hx
    obtain ⟨c, hc, hg⟩ := mapM_some_mem_inv _ _ _ h b hb
    exact ⟨c, hc, (subtreeF_reach next f c b hg x).mp hxb⟩
  · rintro ⟨c, hc, hx⟩
    obtain ⟨b, hb, hg⟩ := mapM_some_mem _ _ _ h c hc
    exact List.mem_flatten.mpr ⟨b, hb, (subtreeF_reach next f c b hg x).mpr hx⟩

end Pj

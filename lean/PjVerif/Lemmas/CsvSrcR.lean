/-
  Lemmas/CsvSrcR.lean — CSV I/O (io/csv_io.py), the READ side down to the call of `raws_to_wbs`.  A data row gives the raw
  object `TaskRaw(<the parsed standard cells>, **kwargs)`: `min_start` goes through `__parse_date`, every other
  non-standard column is kept as text, in the order of the header dict.  `read_csv_reduce`: `read_csv` on a file is
  `raws_to_wbs` on these raw objects, in the store `readSt`.
-/
import PjVerif.Lemmas.CsvSrcW
import PjVerif.Lemmas.CsvLemmas
namespace Pj.CsvSrc
open Pj.PyLite Pj.Extracted.Csv Pj.Csv
open Pj.TaskSrc (Env.get?_cons Env.get?_set execP_assign execP_expr execP_ret execP_ifElse evalP_ite evalP_bin evalP_dictIndex callPV_bound blockRes noRec forLoopP_foldl)

/-- The loop lemma for a model that recurses over the items still to come (`kwFold`, `byId`): the invariant `R` speaks
    of those items, which the body hypothesis of `forLoopP_foldl` (`c ∈ l`, no position) cannot supply.  `s : σ` is what
    the loop computes, `abs s` the store it stands for; the rounds assign to variables in `xs` only. -/
theorem forLoop_fold {α σ : Type} {x : String} {body : PyLite.Env → PState → OutcomeP} {xs : List String} (hx : x ∈ xs)
    (val : α → Atom) (step : σ → α → σ) (abs : σ → PState) (R : List α → σ → PyLite.Env → Prop)
    (hbody : ∀ a as s env, R (a :: as) s env →
      ∃ env', body (env.set x (val a)) (abs s) = .normal env' (abs (step s a)) ∧ R as (step s a) env' ∧
        Frame xs (env.set x (val a)) env') :
    ∀ (as : List α) (s : σ) (env : PyLite.Env), R as s env →
      ∃ env', forLoopP x body (as.map val) env (abs s) = .normal env' (abs (as.foldl step s)) ∧
        R [] (as.foldl step s) env' ∧ Frame xs env env'
  | [], _, env, h => ⟨env, rfl, h, Frame.refl _ _⟩
  | a :: as, s, env, h => by
    obtain ⟨env1, h1, h2, h3⟩ := hbody a as s env h
    obtain ⟨env2, h4, h5, h6⟩ := forLoop_fold hx val step abs R hbody as (step s a) env1 h2
    refine ⟨env2, ?_, h5, ((Frame.set env x _ hx).trans h3).trans h6⟩
    rw [List.map_cons, forLoopP, h1]
    exact h4

theorem hdr_keys_fold (cells : List Str) : ∀ (is : List Nat) (D : List (Atom × Atom)) (cols : List Str), keysOf D cols →
    keysOf (is.foldl (hdrStep cells) D) ((is.map (cleanAt cells)).foldl addKey cols)
  | [], _, _, h => h
  | i :: is, D, cols, h => by
    rw [List.foldl_cons, List.map_cons, List.foldl_cons]
    exact hdr_keys_fold cells is _ _ (keysOf_insert D cols _ _ h)

theorem range_cleanAt (cells : List Str) :
    (List.range cells.length).map (cleanAt cells) = cells.map (fun h => h.filter (fun c => c != bom)) := by
  apply List.ext_getElem
  · simp
  · intro i h1 h2
    have hi : i < cells.length := by simpa using h1
    simp [cleanAt, List.getD, List.getElem?_eq_getElem hi]

/-- the keys of `__parse_header(row)`, in order: the BOM-free names without repetitions (first occurrence), as the
    model's `readRow` takes its columns (`clean.eraseDups`) -/
theorem hdrDict_keys (cells : List Str) :
    (hdrDict cells).map (·.1) = ((cells.map (fun h => h.filter (fun c => c != bom))).eraseDups).map strA := by
  have := hdr_keys_fold cells (List.range cells.length) [] [] rfl
  rw [range_cleanAt, addKey_fold_nil] at this
  exact this

/-- `setattr(self, k, v)` for one keyword argument -/
def setKw (e : PyLite.Env) (p : Atom × Atom) : PyLite.Env :=
  match p.1 with
  | .str n => e.set (String.ofList (strDecode n)) (.atom p.2)
  | _ => e

theorem ioFn_setattr_str (L : IOLib) (st : PState) (i n : Nat) (v : Val) :
    ioFn L 100 [.atom (.ref i), .atom (.str n), v] st =
      .ok (.atom .none, { st with heap := heapSet st.heap i (String.ofList (strDecode n)) v }) := by
  unfold ioFn
  rw [if_pos rfl]; rfl

theorem kw_body (L : IOLib) (F : Nat) (rec) (env : PyLite.Env) (st : PState) (o n : Nat) (a : Atom)
    (kvs : List (Atom × Atom)) (hself : env.get? "self" = some (.atom (.ref o)))
    (hkw : env.get? "kwargs" = some (.dict kvs)) (hk : env.get? "k" = some (.atom (.str n)))
    (hg : Dict.get? kvs (.str n) = some a) :
    execBlockP (HH L (F + 1)) [] rec kwBody env st =
      .normal (env.set "v" (.atom a))
        { st with heap := fun j => if j = o then setKw (st.heap o) (.str n, a) else st.heap j } := by
  simp [pylite_step, kwBody, hself, hkw, hk, hg, HH_lib L F 100, ioFn_setattr_str, heapSet_eq_updObj, setKw, updObj]

theorem kw_loop (L : IOLib) (F : Nat) (rec) (o : Nat) (kvs : List (Atom × Atom)) :
    ∀ (l : List (Atom × Atom)) (env : PyLite.Env) (st : PState),
      env.get? "self" = some (.atom (.ref o)) → env.get? "kwargs" = some (.dict kvs) →
      (∀ p ∈ l, ∃ n, p.1 = .str n ∧ Dict.get? kvs p.1 = some p.2) →
      ∃ env', forLoopP "k" (fun e s => execBlockP (HH L (F + 1)) [] rec kwBody e s) (l.map (·.1)) env st =
        .normal env' { st with heap := fun j => if j = o then l.foldl setKw (st.heap o) else st.heap j } := by
  intro l env st hself hkw hl
  obtain ⟨env', _, h1, rfl, -⟩ := forLoopP_foldl "k" _ (·.1)
    (fun e env st' => st' = updObj st o e ∧ Env.le [("self", .atom (.ref o)), ("kwargs", .dict kvs)] env) setKw l
    (fun e p env st' hp ⟨hst, h⟩ => by
      subst hst
      obtain ⟨k, v⟩ := p
      obtain ⟨n, rfl, hg⟩ := hl _ hp
      have h' := h.set_ne "k" (.atom (.str n))
      exact ⟨_, _, kw_body L F rec _ _ o n v kvs (h'.get "self") (h'.get "kwargs") (by rw [Env.get?_set, if_pos rfl]) hg,
        by rw [updObj_at]; exact updObj_updObj st o e _, h'.set_ne "v" _⟩)
    (st.heap o) env st ⟨(updObj_self st o).symm, .cons hself (.cons hkw (.nil _))⟩
  exact ⟨env', h1⟩

/-- `TaskRaw.__init__(self, id, …, predecessor_ids, kwargs)` on a fresh object: the ten slots, then one attribute per
    keyword argument (in the order of the dict) -/
theorem taskRaw_init_kw (L : IOLib) (F o : Nat) (a0 a1 a2 a3 a4 a5 a6 a7 a8 a9 : Val) (kvs : List (Atom × Atom))
    (st : PState) (ho : st.heap o = []) (hk : ∀ p ∈ kvs, ∃ n, p.1 = .str n ∧ Dict.get? kvs p.1 = some p.2) :
    callPV (HH L (F + 1)) src_TaskRaw_init_params src_TaskRaw_init
      [.atom (.ref o), a0, a1, a2, a3, a4, a5, a6, a7, a8, a9, .dict kvs] st =
    .ok (.atom .none, { st with heap := fun j =>
      if j = o then (List.foldl setKw (rawBase [a0, a1, a2, a3, a4, a5, a6, a7, a8, a9]) kvs) else st.heap j }) := by
  obtain ⟨env', h1⟩ := kw_loop L F noRec o kvs kvs (initEnv o [a0, a1, a2, a3, a4, a5, a6, a7, a8, a9] (.dict kvs))
    (updObj st o (rawBase [a0, a1, a2, a3, a4, a5, a6, a7, a8, a9])) rfl rfl hk
  replace h1 := h1.trans (congrArg _ (updObj_updObj st o _ _))
  simp only [initEnv, rawBase, List.getD_cons_zero, List.getD_cons_succ, List.cons_append, List.nil_append, updObj_at] at h1
  -- the shape lemma keeps `kwBody` folded, so that the loop fact `h1` fires
  rw [src_TaskRaw_init_shape [a0, a1, a2, a3, a4, a5, a6, a7, a8, a9]]
  simp [pylite_step, src_TaskRaw_init_params, rawBase, heapSet_eq_updObj, updObj_updObj, updObj_at, ho, PyLite.Env.set, h1]
  rfl

theorem HH_run (L : IOLib) (F k : Nat) (args : List Val) (st : PState) :
    (HH L (F + 1)).fnV k args st = runIO L csvFuns (F + 1) k args st := rfl

section more
variable {H : PHandlers} {self : PyLite.Env}

theorem eval_items {b : Expr} {env : PyLite.Env} {st st' : PState} {i : Nat} {vs : List Atom}
    (hb : b.evalP H self env st = .ok (.atom (.box i), st')) (hi : st'.boxes[i]? = some vs) :
    (Expr.items b).evalP H self env st = .ok (.list vs, st') := by
  simp only [Expr.evalP, hb, hi, bind, Except.bind, pure, Except.pure]

theorem eval_listIndex {l i : Expr} {env : PyLite.Env} {st st' st'' : PState} {vs : List Atom} {n : Nat} {v : Atom}
    (hl : l.evalP H self env st = .ok (.list vs, st')) (hi : i.evalP H self env st' = .ok (.atom (numI n), st''))
    (hv : vs[n]? = some v) :
    (Expr.listIndex l i).evalP H self env st = .ok (.atom v, st'') := by
  have hneg : ¬ ((n : Int) < 0) := by omega
  simp only [Expr.evalP, hl, hi, asInt_numI, hneg, if_false, Int.toNat_natCast, hv, bind, Except.bind, pure, Except.pure]

end more

/-- the state of `read_csv` while a data row is processed -/
structure RowCtx (hdr row : List Str) (rb : Nat) (env : PyLite.Env) (st : PState) : Prop where
  hrow : env.get? "row" = some (.atom (.box rb))
  hbox : st.boxes[rb]? = some (atomsOf row)
  hheader : env.get? "header" = some (.dict (hdrDict hdr))

def rowCellE (lit : String) : Expr :=
  .listIndex (.items (.var "row")) (.dictIndex (.var "header") (.prim lit .listNil))

theorem cellAt_some {hdr row : List Str} {name cell : Str} (h : cellAt hdr row name = some cell) :
    ∃ i, headerIndex hdr name = some i ∧ row[i]? = some cell := by
  unfold cellAt at h
  cases hi : headerIndex hdr name with
  | none => rw [hi] at h; cases h
  | some i => rw [hi] at h; exact ⟨i, rfl, h⟩

theorem eval_rowCell (L : IOLib) (F : Nat) {hdr row : List Str} {rb : Nat} {env : PyLite.Env} {st : PState}
    (hc : RowCtx hdr row rb env st) (lit : String) (name cell : Str)
    (hlit : ∀ st', ioPrim L lit [] st' = .ok (.atom (strA name))) (hcell : cellAt hdr row name = some cell) :
    (rowCellE lit).evalP (HH L F) [] env st = .ok (.atom (strA cell), st) := by
  obtain ⟨i, h1, h2⟩ := cellAt_some hcell
  simp [pylite_step, rowCellE, hc.hheader, hc.hrow, hc.hbox, hlit, hdrDict_get, h1, asInt_numI, atomsOf, h2,
    eq_false (by omega : ¬ (i : Int) < 0)]

theorem eval_cellCall (L : IOLib) (F k : Nat) {hdr row : List Str} {rb : Nat} {env : PyLite.Env} {st : PState}
    (hc : RowCtx hdr row rb env st) (lit : String) (name cell : Str)
    (hlit : ∀ st', ioPrim L lit [] st' = .ok (.atom (strA name))) (hcell : cellAt hdr row name = some cell) :
    (Expr.callFn k (.listCons (rowCellE lit) .listNil)).evalP (HH L (F + 1)) [] env st =
      runIO L csvFuns (F + 1) k [.atom (strA cell)] st := by
  simp [pylite_step, eval_rowCell L (F + 1) hc lit name cell hlit hcell]; rfl

theorem prim_lit_min_start (L : IOLib) (st : PState) :
    ioPrim L "lit:min_start" [] st = .ok (.atom (strA "min_start".toList)) :=
  prim_lit L "min_start" (by simp) [] st

theorem cellParse_atom {α} {f : Str → Res α} {g : α → Atom} {s : Str} {v : Val} (h : cellParse f g s = .ok v) :
    ∃ a, v = .atom a := by
  unfold cellParse at h
  cases hn : nonEmpty s with
  | none =>
    simp only [hn] at h
    exact ⟨.none, by injection h with h; exact h.symm⟩
  | some t =>
    simp only [hn] at h
    cases hf : f t with
    | error e => simp [hf, Except.map] at h
    | ok a =>
      simp only [hf, Except.map] at h
      exact ⟨g a, by injection h with h; exact h.symm⟩

def kwReadBody : List Stmt :=
  [.assign "v" (.dictIndex (.var "header") (.var "k")),
   .ifElse (.cmp .eq (.var "k") (.prim "lit:min_start" .listNil))
     [.assign "kwargs" (.dictSet (.var "kwargs") (.var "k") (.callFn fn_parse_date (.listCons (.listIndex (.items (.var "row")) (.var "v")) .listNil)))]
     [.ifElse (.not (.isIn (.var "k") tenLits))
        [.assign "kwargs" (.dictSet (.var "kwargs") (.var "k") (.listIndex (.items (.var "row")) (.var "v")))]
        []]]

/-- what one column adds to the keyword arguments (`none`: IndexError / ValueError) -/
def kwStep (L : IOLib) (hdr row : List Str) (D : List (Atom × Atom)) (c : Str) : Option (List (Atom × Atom)) :=
  if c = "min_start".toList then
    match cellAt hdr row c with
    | some cell =>
      match cellParse L.strptime Atom.time cell with
      | .ok (.atom a) => some (Dict.insert D (strA c) a)
      | _ => none
    | none => none
  else if defaultFields.contains c then some D
  else (cellAt hdr row c).map (fun cell => Dict.insert D (strA c) (strA cell))

theorem kw_read_body (L : IOLib) (F : Nat) (rec) {hdr row : List Str} {rb : Nat} {env : PyLite.Env} {st : PState}
    (hc : RowCtx hdr row rb env st) (c : Str) (i : Nat) (D D' : List (Atom × Atom))
    (hk : env.get? "k" = some (.atom (strA c))) (hkw : env.get? "kwargs" = some (.dict D))
    (hi : headerIndex hdr c = some i) (hstep : kwStep L hdr row D c = some D') :
    ∃ env', execBlockP (HH L (F + 1)) [] rec kwReadBody env st = .normal env' st ∧
      env'.get? "kwargs" = some (.dict D') ∧ Frame ["v", "kwargs"] env env' := by
  have hcellAt : cellAt hdr row c = row[i]? := by simp [cellAt, hi]
  have hneg := eq_false (by omega : ¬ (i : Int) < 0)
  unfold kwStep at hstep
  by_cases hms : c = "min_start".toList
  · rw [if_pos hms, hcellAt] at hstep
    have hms' : (c = ['m', 'i', 'n', '_', 's', 't', 'a', 'r', 't']) = True := by simpa using hms
    cases hcell : row[i]? with
    | none => simp [hcell] at hstep
    | some cell =>
      simp only [hcell] at hstep
      cases hp : cellParse L.strptime Atom.time cell with
      | error e => simp [hp] at hstep
      | ok v =>
        obtain ⟨a, rfl⟩ := cellParse_atom hp
        simp only [hp, Option.some.injEq] at hstep
        subst hstep
        refine ⟨(env.set "v" (.atom (numI i))).set "kwargs" (.dict (Dict.insert D (strA c) a)), ?_,
          by simp [pylite_step], (Frame.set env "v" _ (by simp)).trans (Frame.set _ "kwargs" _ (by simp))⟩
        simp [pylite_step, kwReadBody, hc.hheader, hc.hrow, hc.hbox, hk, hkw, hdrDict_get, hi, prim_lit_min_start,
          pyEq_strA, hms', asInt_numI, hneg, atomsOf, hcell, HH_run L F fn_parse_date, parse_date_run, hp, withSt, Except.map]
  · rw [if_neg hms] at hstep
    have hany : ((defaultFields.map strA).any fun v => v.pyEq (strA c)) = defaultFields.contains c := any_strA _ _
    have hms' : (c = ['m', 'i', 'n', '_', 's', 't', 'a', 'r', 't']) = False := by simpa using hms
    cases hd : defaultFields.contains c with
    | true =>
      rw [hd, if_pos rfl] at hstep
      simp only [Option.some.injEq] at hstep
      subst hstep
      refine ⟨env.set "v" (.atom (numI i)), ?_, by simpa [pylite_step] using hkw, Frame.set env "v" _ (by simp)⟩
      simp [pylite_step, kwReadBody, hc.hheader, hk, hdrDict_get, hi, prim_lit_min_start, pyEq_strA, hms', eval_tenLits,
        hany, hd, -List.contains_eq_mem]
    | false =>
      rw [hd, if_neg (by simp), hcellAt] at hstep
      cases hcell : row[i]? with
      | none => simp [hcell] at hstep
      | some cell =>
        simp only [hcell, Option.map_some, Option.some.injEq] at hstep
        subst hstep
        refine ⟨(env.set "v" (.atom (numI i))).set "kwargs" (.dict (Dict.insert D (strA c) (strA cell))), ?_,
          by simp [pylite_step], (Frame.set env "v" _ (by simp)).trans (Frame.set _ "kwargs" _ (by simp))⟩
        simp [pylite_step, kwReadBody, hc.hheader, hc.hrow, hc.hbox, hk, hkw, hdrDict_get, hi, prim_lit_min_start,
          pyEq_strA, hms', eval_tenLits, hany, hd, asInt_numI, hneg, atomsOf, hcell, -List.contains_eq_mem]

def kwFold (L : IOLib) (hdr row : List Str) : List Str → List (Atom × Atom) → Option (List (Atom × Atom))
  | [], D => some D
  | c :: cs, D =>
    match kwStep L hdr row D c with
    | some D1 => kwFold L hdr row cs D1
    | none => none

theorem RowCtx.frame {hdr row : List Str} {rb : Nat} {env env' : PyLite.Env} {st : PState} {xs : List String}
    (hc : RowCtx hdr row rb env st) (hf : Frame xs env env') (h1 : "row" ∉ xs) (h2 : "header" ∉ xs) :
    RowCtx hdr row rb env' st :=
  ⟨(hf "row" h1).trans hc.hrow, hc.hbox, (hf "header" h2).trans hc.hheader⟩

theorem kw_read_loop (L : IOLib) (F : Nat) (rec) {hdr row : List Str} {rb : Nat} {st : PState} :
    ∀ (cs : List Str) (env : PyLite.Env) (D D' : List (Atom × Atom)), RowCtx hdr row rb env st →
      env.get? "kwargs" = some (.dict D) → (∀ c ∈ cs, ∃ i, headerIndex hdr c = some i) →
      kwFold L hdr row cs D = some D' →
      ∃ env', forLoopP "k" (fun e s => execBlockP (HH L (F + 1)) [] rec kwReadBody e s) (cs.map strA) env st =
          .normal env' st ∧ env'.get? "kwargs" = some (.dict D') ∧ Frame ["k", "v", "kwargs"] env env' := by
  intro cs env D D' hc hkw hcs hf
  -- the store stays; the invariant: the columns still to come take the dict in `kwargs` to `D'`
  obtain ⟨env', h1, ⟨-, D1, hkw1, hf1, -⟩, h2⟩ := forLoop_fold (x := "k") (xs := ["k", "v", "kwargs"]) (by simp)
    strA (fun _ _ => ()) (fun _ => st)
    (fun cs _ env => RowCtx hdr row rb env st ∧ ∃ D, env.get? "kwargs" = some (.dict D) ∧
      kwFold L hdr row cs D = some D' ∧ ∀ c ∈ cs, ∃ i, headerIndex hdr c = some i)
    (fun c cs _ env ⟨hc, D, hkw, hf, hcs⟩ => by
      obtain ⟨i, hi⟩ := hcs c (List.mem_cons_self ..)
      unfold kwFold at hf
      cases hs : kwStep L hdr row D c with
      | none => simp [hs] at hf
      | some D1 =>
        simp only [hs] at hf
        have hc0 : RowCtx hdr row rb (env.set "k" (.atom (strA c))) st :=
          hc.frame (Frame.set (xs := ["k"]) env "k" _ (by simp)) (by decide) (by decide)
        obtain ⟨env1, h1, h2, h3⟩ := kw_read_body L F rec hc0 c i D D1 (by rw [Env.get?_set, if_pos rfl])
          (by rw [Env.get?_set, if_neg (by decide)]; exact hkw) hi hs
        exact ⟨env1, h1, ⟨hc0.frame h3 (by decide) (by decide), D1, h2, hf,
          fun c' hc' => hcs c' (List.mem_cons_of_mem _ hc')⟩, h3.mono (by simp)⟩)
    cs () env ⟨hc, D, hkw, hf, hcs⟩
  simp only [kwFold, Option.some.injEq] at hf1
  subst hf1
  exact ⟨env', h1, hkw1, h2⟩

/-! ### dicts with distinct `str` keys as keyword arguments -/

def DictOK (D : List (Atom × Atom)) : Prop := ∃ cols : List Str, keysOf D cols ∧ cols.Nodup

theorem dictOK_nil : DictOK [] := ⟨[], rfl, List.nodup_nil⟩

theorem addKey_nodup {cols : List Str} (h : cols.Nodup) (s : Str) : (addKey cols s).Nodup := by
  unfold addKey
  by_cases hc : cols.contains s = true
  · rw [if_pos hc]; exact h
  · rw [if_neg hc]
    have : s ∉ cols := by simpa using hc
    rw [List.nodup_append]
    exact ⟨h, by simp, fun a ha b hb => by
      rw [List.mem_singleton] at hb; subst hb; exact fun e => this (e ▸ ha)⟩

theorem dictOK_insert {D : List (Atom × Atom)} (h : DictOK D) (s : Str) (v : Atom) :
    DictOK (Dict.insert D (strA s) v) := by
  obtain ⟨cols, h1, h2⟩ := h
  exact ⟨addKey cols s, keysOf_insert D cols s v h1, addKey_nodup h2 s⟩

theorem dictOK_get : ∀ (D : List (Atom × Atom)) (cols : List Str), keysOf D cols → cols.Nodup →
    ∀ p ∈ D, ∃ n, p.1 = .str n ∧ Dict.get? D p.1 = some p.2
  | [], _, _, _, p, hp => by cases hp
  | _ :: _, [], h, _, _, _ => by simp [keysOf] at h
  | q :: D, c :: cols, h, hnd, p, hp => by
    simp only [keysOf, List.map_cons, List.cons.injEq] at h
    obtain ⟨h1, h2⟩ := h
    rw [List.nodup_cons] at hnd
    rcases List.mem_cons.1 hp with rfl | hp
    · exact ⟨strCode c, h1, by rw [dictGet_cons, h1, pyEq_strA]; simp⟩
    · obtain ⟨n, g1, g2⟩ := dictOK_get D cols h2 hnd.2 p hp
      have hmem : p.1 ∈ cols.map strA := by rw [← h2]; exact List.mem_map_of_mem hp
      obtain ⟨c', hc', e⟩ := List.mem_map.1 hmem
      have hne : ¬ c = c' := fun e' => hnd.1 (e' ▸ hc')
      refine ⟨n, g1, ?_⟩
      rw [dictGet_cons, h1, ← e, pyEq_strA, decide_eq_false hne]
      simp only [Bool.false_eq_true, if_false]
      rw [e]; exact g2

theorem kwStep_ok {L : IOLib} {hdr row : List Str} {D D' : List (Atom × Atom)} {c : Str}
    (h : kwStep L hdr row D c = some D') (hD : DictOK D) : DictOK D' := by
  unfold kwStep at h
  by_cases hms : c = "min_start".toList
  · rw [if_pos hms] at h
    cases hcell : cellAt hdr row c with
    | none => simp [hcell] at h
    | some cell =>
      simp only [hcell] at h
      cases hp : cellParse L.strptime Atom.time cell with
      | error e => simp [hp] at h
      | ok v =>
        obtain ⟨a, rfl⟩ := cellParse_atom hp
        simp only [hp, Option.some.injEq] at h
        subst h; exact dictOK_insert hD c a
  · rw [if_neg hms] at h
    cases hd : defaultFields.contains c with
    | true =>
      rw [hd, if_pos rfl] at h
      simp only [Option.some.injEq] at h
      subst h; exact hD
    | false =>
      rw [hd, if_neg (by simp)] at h
      cases hcell : cellAt hdr row c with
      | none => simp [hcell] at h
      | some cell =>
        simp only [hcell, Option.map_some, Option.some.injEq] at h
        subst h; exact dictOK_insert hD c _

theorem kwFold_ok {L : IOLib} {hdr row : List Str} : ∀ {cs : List Str} {D D' : List (Atom × Atom)},
    kwFold L hdr row cs D = some D' → DictOK D → DictOK D'
  | [], D, D', h, hD => by simp only [kwFold, Option.some.injEq] at h; subst h; exact hD
  | c :: cs, D, D', h, hD => by
    unfold kwFold at h
    cases hs : kwStep L hdr row D c with
    | none => simp [hs] at h
    | some D1 =>
      simp only [hs] at h
      exact kwFold_ok h (kwStep_ok hs hD)

def cellCallE (k : Nat) (lit : String) : Expr := .callFn k (.listCons (rowCellE lit) .listNil)

def rowConsE : Expr :=
  .construct fn_TaskRaw_init (.listCons (.prim "int" (.listCons (rowCellE "lit:id") .listNil)) (.listCons (cellCallE fn_parse_str "lit:name") (.listCons (cellCallE fn_parse_str "lit:resource") (.listCons (cellCallE fn_parse_date "lit:start") (.listCons (cellCallE fn_parse_date "lit:end") (.listCons (cellCallE fn_parse_bool "lit:milestone") (.listCons (cellCallE fn_parse_float "lit:estimate") (.listCons (cellCallE fn_parse_float "lit:spent") (.listCons (cellCallE fn_parse_int "lit:parent_id") (.listCons (cellCallE fn_parse_predecessors "lit:predecessor_ids") (.listCons (.var "kwargs") .listNil)))))))))))

def rowBody : List Stmt :=
  [.assign "kwargs" .dictNil,
   .forIn "k" (.var "header") kwReadBody,
   .assign "raws" (.bin .add (.var "raws") (.listCons rowConsE .listNil))]

theorem src_read_csv_shape : src_read_csv =
    [.assign "raws" .listNil,
     .assign "input_file" (.prim "open" (.listCons (.var "path") .listNil)),
     .assign "csvfile" (.callFn 103 (.listCons (.var "input_file") (.listCons (.var "delimiter") .listNil))),
     .assign "header" (.callFn fn_parse_header (.listCons (.nextComp (.var "_r") "_r" (.var "csvfile") (.bool true)) .listNil)),
     .forIn "row" (.prim "rest" (.var "csvfile")) rowBody,
     .ret (.callFn fn_raws_to_wbs (.listCons (.var "raws") .listNil))] := rfl

/-- the parsed standard cells of a data row: the arguments of `TaskRaw(...)` -/
def RowOK (L : IOLib) (hdr row : List Str) (a : List Val) : Prop :=
  ∃ (c0 c1 c2 c3 c4 c5 c6 c7 c8 c9 : Str) (q0 : Rat) (v3 v4 v6 v7 v8 v9 : Val),
    cellAt hdr row "id".toList = some c0 ∧ cellAt hdr row "name".toList = some c1 ∧
    cellAt hdr row "resource".toList = some c2 ∧ cellAt hdr row "start".toList = some c3 ∧
    cellAt hdr row "end".toList = some c4 ∧ cellAt hdr row "milestone".toList = some c5 ∧
    cellAt hdr row "estimate".toList = some c6 ∧ cellAt hdr row "spent".toList = some c7 ∧
    cellAt hdr row "parent_id".toList = some c8 ∧ cellAt hdr row "predecessor_ids".toList = some c9 ∧
    L.toInt c0 = .ok q0 ∧ cellParse L.strptime Atom.time c3 = .ok v3 ∧ cellParse L.strptime Atom.time c4 = .ok v4 ∧
    cellParse L.toFloat Atom.num c6 = .ok v6 ∧ cellParse L.toFloat Atom.num c7 = .ok v7 ∧
    cellParse L.toInt Atom.num c8 = .ok v8 ∧
    (if c9 = [] then .ok (.list []) else ((splitOn ';' c9).mapM L.toInt).map (fun qs => Val.list (qs.map Atom.num))) = .ok v9 ∧
    a = [.atom (.num q0), .atom (optStr (nonEmpty c1)), .atom (optStr (nonEmpty c2)), v3, v4,
         .atom (.bool (c5 == "True".toList)), v6, v7, v8, v9]

theorem eval_rowCons (L : IOLib) (F : Nat) {hdr row : List Str} {rb : Nat} {env : PyLite.Env} {st : PState}
    (hc : RowCtx hdr row rb env st) (a : List Val) (ha : RowOK L hdr row a) (kvs : List (Atom × Atom))
    (hkw : env.get? "kwargs" = some (.dict kvs)) (hD : DictOK kvs) :
    rowConsE.evalP (HH L (F + 2)) [] env st =
      .ok (.atom (.ref st.reads), allocSt st (kvs.foldl setKw (rawBase a))) := by
  obtain ⟨c0, c1, c2, c3, c4, c5, c6, c7, c8, c9, q0, v3, v4, v6, v7, v8, v9, h0, h1, h2, h3, h4, h5, h6, h7, h8, h9,
    hq0, hv3, hv4, hv6, hv7, hv8, hv9, rfl⟩ := ha
  obtain ⟨cols, hk1, hk2⟩ := hD
  have e0 : (Expr.prim "int" (.listCons (rowCellE "lit:id") .listNil)).evalP (HH L (F + 2)) [] env st =
      .ok (.atom (.num q0), st) :=
    eval_prim (eval_cons (eval_rowCell L (F + 2) hc "lit:id" _ c0 (prim_lit_id L) h0) eval_nil)
      (by rw [HH_prim, prim_int, hq0]; rfl)
  have e1 : (cellCallE fn_parse_str "lit:name").evalP (HH L (F + 2)) [] env st = .ok (.atom (optStr (nonEmpty c1)), st) :=
    (eval_cellCall L (F + 1) fn_parse_str hc "lit:name" _ c1 (prim_lit_name L) h1).trans (parse_str_run L (F + 1) c1 st)
  have e2 : (cellCallE fn_parse_str "lit:resource").evalP (HH L (F + 2)) [] env st =
      .ok (.atom (optStr (nonEmpty c2)), st) :=
    (eval_cellCall L (F + 1) fn_parse_str hc "lit:resource" _ c2 (prim_lit_resource L) h2).trans
      (parse_str_run L (F + 1) c2 st)
  have e3 : (cellCallE fn_parse_date "lit:start").evalP (HH L (F + 2)) [] env st = .ok (v3, st) :=
    (eval_cellCall L (F + 1) fn_parse_date hc "lit:start" _ c3 (prim_lit_start L) h3).trans
      (by rw [parse_date_run, hv3]; rfl)
  have e4 : (cellCallE fn_parse_date "lit:end").evalP (HH L (F + 2)) [] env st = .ok (v4, st) :=
    (eval_cellCall L (F + 1) fn_parse_date hc "lit:end" _ c4 (prim_lit_end L) h4).trans
      (by rw [parse_date_run, hv4]; rfl)
  have e5 : (cellCallE fn_parse_bool "lit:milestone").evalP (HH L (F + 2)) [] env st =
      .ok (.atom (.bool (c5 == "True".toList)), st) :=
    (eval_cellCall L (F + 1) fn_parse_bool hc "lit:milestone" _ c5 (prim_lit_milestone L) h5).trans
      (parse_bool_run L (F + 1) c5 st)
  have e6 : (cellCallE fn_parse_float "lit:estimate").evalP (HH L (F + 2)) [] env st = .ok (v6, st) :=
    (eval_cellCall L (F + 1) fn_parse_float hc "lit:estimate" _ c6 (prim_lit_estimate L) h6).trans
      (by rw [parse_float_run, hv6]; rfl)
  have e7 : (cellCallE fn_parse_float "lit:spent").evalP (HH L (F + 2)) [] env st = .ok (v7, st) :=
    (eval_cellCall L (F + 1) fn_parse_float hc "lit:spent" _ c7 (prim_lit_spent L) h7).trans
      (by rw [parse_float_run, hv7]; rfl)
  have e8 : (cellCallE fn_parse_int "lit:parent_id").evalP (HH L (F + 2)) [] env st = .ok (v8, st) :=
    (eval_cellCall L (F + 1) fn_parse_int hc "lit:parent_id" _ c8 (prim_lit_parent_id L) h8).trans
      (by rw [parse_int_run, hv8]; rfl)
  have e9 : (cellCallE fn_parse_predecessors "lit:predecessor_ids").evalP (HH L (F + 2)) [] env st = .ok (v9, st) :=
    (eval_cellCall L (F + 1) fn_parse_predecessors hc "lit:predecessor_ids" _ c9 (prim_lit_predecessor_ids L) h9).trans
      (by rw [parse_predecessors_run, hv9]; rfl)
  refine eval_construct (st1 := st) (r := .atom .none)
    (evalArgs_cons e0 (evalArgs_cons e1 (evalArgs_cons e2 (evalArgs_cons e3 (evalArgs_cons e4 (evalArgs_cons e5
      (evalArgs_cons e6 (evalArgs_cons e7 (evalArgs_cons e8 (evalArgs_cons e9
      (evalArgs_cons (eval_var hkw) evalArgs_nil))))))))))) ?_
  rw [HH_fnV L (F + 1) fn_TaskRaw_init _ _ _ _ rfl,
    taskRaw_init_kw L F st.reads _ _ _ _ _ _ _ _ _ _ kvs _ (by simp) (dictOK_get kvs cols hk1 hk2)]
  congr 3
  funext j
  by_cases hj : j = st.reads <;> simp [hj]

/-- the columns of the file in the order of the header dict -/
def hdrCols (hdr : List Str) : List Str := (hdr.map (fun h => h.filter (fun c => c != bom))).eraseDups

theorem hdrCols_index (hdr : List Str) : ∀ c ∈ hdrCols hdr, ∃ i, headerIndex hdr c = some i := by
  intro c hc
  have hm : strA c ∈ (hdrDict hdr).map (·.1) := by rw [hdrDict_keys]; exact List.mem_map_of_mem hc
  have := Dict.get?_isSome_of_mem _ _ hm
  rw [hdrDict_get] at this
  cases h : headerIndex hdr c with
  | none => rw [h] at this; cases this
  | some i => exact ⟨i, rfl⟩

/-- the raw object `read_csv` makes of a data row -/
def RowRaw (L : IOLib) (hdr row : List Str) (e : PyLite.Env) : Prop :=
  ∃ a kvs, RowOK L hdr row a ∧ kwFold L hdr row (hdrCols hdr) [] = some kvs ∧ e = kvs.foldl setKw (rawBase a)

theorem row_body (L : IOLib) (F : Nat) (rec) {hdr row : List Str} {rb : Nat} {env : PyLite.Env} {st : PState}
    (hc : RowCtx hdr row rb env st) (e : PyLite.Env) (he : RowRaw L hdr row e) (rs : List Atom)
    (hrs : env.get? "raws" = some (.list rs)) :
    ∃ env', execBlockP (HH L (F + 2)) [] rec rowBody env st = .normal env' (allocSt st e) ∧
      env'.get? "raws" = some (.list (rs ++ [.ref st.reads])) ∧ Frame ["k", "v", "kwargs", "raws"] env env' := by
  obtain ⟨a, kvs, ha, hk, rfl⟩ := he
  have hfr1 : Frame ["k", "v", "kwargs", "raws"] env (env.set "kwargs" (.dict [])) := Frame.set env "kwargs" _ (by simp)
  have hc1 := hc.frame hfr1 (by decide) (by decide)
  obtain ⟨env2, h2, hkw2, hfr2⟩ := kw_read_loop L (F + 1) rec (hdrCols hdr) _ [] kvs hc1
    (by simp [pylite_step]) (hdrCols_index hdr) hk
  have hfr2' : Frame ["k", "v", "kwargs", "raws"] (env.set "kwargs" (.dict [])) env2 := hfr2.mono (by simp)
  have hc2 := hc1.frame hfr2 (by decide) (by decide)
  refine ⟨env2.set "raws" (.list (rs ++ [.ref st.reads])), ?_, by simp [pylite_step],
    (hfr1.trans hfr2').trans (Frame.set env2 "raws" _ (by simp))⟩
  have hkeys : (hdrDict hdr).map (·.1) = (hdrCols hdr).map strA := hdrDict_keys hdr
  simp [pylite_step, rowBody, hc.hheader, hkeys, h2, hfr2 "raws" (by decide), hrs,
    eval_rowCons L F hc2 a ha kvs hkw2 (kwFold_ok hk dictOK_nil)]

theorem allocSt_boxes (st : PState) (e : PyLite.Env) : (allocSt st e).boxes = st.boxes := rfl

/-- the raw objects of the data rows -/
def RowsRaw (L : IOLib) (hdr : List Str) : List (List Str) → List PyLite.Env → Prop
  | [], [] => True
  | row :: rows, e :: es => RowRaw L hdr row e ∧ RowsRaw L hdr rows es
  | _, _ => False

/-- each data row is a list object `box p.1` holding the cells `p.2` -/
theorem read_rows_loop (L : IOLib) (F : Nat) (rec) (hdr : List Str) :
    ∀ (prs : List (Nat × List Str)) (es : List PyLite.Env) (env : PyLite.Env) (st : PState) (rs : List Atom),
      RowsRaw L hdr (prs.map (·.2)) es →
      (∀ p ∈ prs, st.boxes[p.1]? = some (atomsOf p.2)) →
      env.get? "header" = some (.dict (hdrDict hdr)) → env.get? "raws" = some (.list rs) →
      ∃ env', forLoopP "row" (fun e s => execBlockP (HH L (F + 2)) [] rec rowBody e s)
          (prs.map (fun p => Atom.box p.1)) env st = .normal env' (es.foldl allocSt st) ∧
        env'.get? "raws" = some (.list (rs ++ rawRefs st.reads es.length))
  | [], [], env, st, rs, _, _, _, hrs => ⟨env, rfl, by simpa [rawRefs] using hrs⟩
  | [], _ :: _, _, _, _, hf, _, _, _ => by simp [RowsRaw] at hf
  | _ :: _, [], _, _, _, hf, _, _, _ => by simp [RowsRaw] at hf
  | p :: prs, e :: es, env, st, rs, hf, hb, hh, hrs => by
    obtain ⟨h1, h2⟩ : RowRaw L hdr p.2 e ∧ RowsRaw L hdr (prs.map (fun q : Nat × List Str => q.2)) es := by
      simpa [RowsRaw] using hf
    · let env0 := env.set "row" (.atom (.box p.1))
      have hc0 : RowCtx hdr p.2 p.1 env0 st :=
        ⟨by rw [Env.get?_set, if_pos rfl], hb p (List.mem_cons_self ..), by rw [Env.get?_set, if_neg (by decide)]; exact hh⟩
      obtain ⟨env1, g1, g2, g3⟩ := row_body L F rec hc0 e h1 rs (by rw [Env.get?_set, if_neg (by decide)]; exact hrs)
      obtain ⟨env2, g4, g5⟩ := read_rows_loop L F rec hdr prs es env1 (allocSt st e) (rs ++ [.ref st.reads]) h2
        (fun q hq => by rw [allocSt_boxes]; exact hb q (List.mem_cons_of_mem _ hq))
        (by rw [g3 "header" (by decide), Env.get?_set, if_neg (by decide)]; exact hh) g2
      refine ⟨env2, ?_, ?_⟩
      · rw [List.map_cons, forLoopP, g1]
        dsimp only
        rw [g4]; rfl
      · rw [g5, List.length_cons, rawRefs_succ, List.append_assoc]; rfl

def boxPairs : Nat → List (List Str) → List (Nat × List Str)
  | _, [] => []
  | o, r :: rs => (o, r) :: boxPairs (o + 1) rs

theorem boxPairs_snd : ∀ (o : Nat) (rows : List (List Str)), (boxPairs o rows).map (·.2) = rows
  | _, [] => rfl
  | o, r :: rs => by simp [boxPairs, boxPairs_snd (o + 1) rs]

theorem boxPairs_get : ∀ (pre : List (List Atom)) (rows : List (List Str)) (post : List (List Atom)),
    ∀ p ∈ boxPairs pre.length rows, (pre ++ rows.map atomsOf ++ post)[p.1]? = some (atomsOf p.2)
  | _, [], _, p, h => by cases h
  | pre, r :: rs, post, p, h => by
    rcases List.mem_cons.1 h with rfl | h
    · simp
    · have := boxPairs_get (pre ++ [atomsOf r]) rs post p (by simpa using h)
      simpa using this

theorem allocRows_spec : ∀ (rows : List (List Str)) (st : PState),
    allocRows rows st = ((boxPairs st.boxes.length rows).map (fun p => Atom.box p.1),
      { st with boxes := st.boxes ++ rows.map atomsOf })
  | [], st => by simp [allocRows, boxPairs]
  | r :: rs, st => by
    simp only [allocRows, boxPairs, List.map_cons]
    rw [allocRows_spec rs]
    simp [List.append_assoc]

theorem prim_open (L : IOLib) (st : PState) (k : Nat) : ioPrim L "open" [.str k] st = .ok (.atom (.str k)) := by
  unfold ioPrim
  iterate 14 rw [if_neg (by decide +kernel)]
  rw [if_pos (by decide +kernel)]
  rfl

theorem prim_rest (L : IOLib) (st : PState) (as : List Atom) : ioPrim L "rest" as st = .ok (.list as.tail) := by
  unfold ioPrim
  iterate 16 rw [if_neg (by decide +kernel)]
  rw [if_pos (by decide +kernel)]
  rfl

theorem ioFn_reader (L : IOLib) (st : PState) (text : List Char) (rows : List (List Str))
    (hp : parse text = some rows) :
    ioFn L 103 [.atom (strA text), .atom (strA [';'])] st =
      .ok (.list ((boxPairs st.boxes.length rows).map (fun p => Atom.box p.1)),
        { st with boxes := st.boxes ++ rows.map atomsOf }) := by
  unfold ioFn
  rw [if_neg (by decide), if_neg (by decide), if_neg (by decide), if_pos rfl]
  simp only [strA, strDecode_code]
  rw [if_pos (by rfl), hp]
  simp only [allocRows_spec]
  rfl

section more
variable {H : PHandlers} {self : PyLite.Env} {rec : List Atom → PState → Res (Val × PState)}

theorem block_ret_call {e : Expr} {env : PyLite.Env} {st : PState} :
    (match execBlockP H self rec [.ret e] env st with
      | .normal _ st' => (Except.ok (Val.atom Atom.none, st') : Res (Val × PState))
      | .cont _ st' => .ok (Val.atom Atom.none, st')
      | .ret v st' => .ok (v, st')
      | .raise err => .error err) = e.evalP H self env st := by
  rw [execBlockP, Stmt.execP]
  cases e.evalP H self env st with
  | error err => rfl
  | ok r => rfl

end more

/-- the store when `raws_to_wbs` is called: the rows of the file as list objects, one raw object per data row -/
def readSt (hdr : List Str) (rows : List (List Str)) (es : List PyLite.Env) : PState :=
  es.foldl allocSt { emptySt with boxes := (hdr :: rows).map atomsOf }

/-- `read_csv(path)` on a file whose text parses to the header `hdr` and the data rows `rows`, each data row giving the
    raw object `es[i]` (`RowsRaw`: the standard cells present and parsed by `L`, the other columns as keyword arguments):
    the call `raws_to_wbs(raws)` on these raw objects -/
theorem read_csv_reduce (L : IOLib) (F : Nat) (text : List Char) (hdr : List Str) (rows : List (List Str))
    (es : List PyLite.Env) (hp : parse text = some (hdr :: rows)) (hes : RowsRaw L hdr rows es) :
    interpRead L (F + 3) text =
      runIO L csvFuns (F + 2) fn_raws_to_wbs [.list (rawRefs 0 es.length)] (readSt hdr rows es) := by
  let st1 : PState := { emptySt with boxes := (hdr :: rows).map atomsOf }
  let bsAll : List Atom := .box 0 :: (boxPairs 1 rows).map (fun p => Atom.box p.1)
  have hopen : ioPrim L "open" [strA text] emptySt = .ok (.atom (strA text)) := prim_open L _ _
  have hrd : ioFn L 103 [.atom (strA text), semi] emptySt = .ok (.list bsAll, st1) := by
    rw [show semi = .atom (strA [';']) from rfl, ioFn_reader L emptySt text (hdr :: rows) hp]; rfl
  have hhdr := parse_header_run L (F + 1) hdr 0 st1 rfl
  obtain ⟨env5, h5, hraws5⟩ := read_rows_loop L F noRec hdr (boxPairs 1 rows) es
    ((((PyLite.Env.set [("path", .atom (strA text)), ("encoding", utf8), ("delimiter", semi)] "raws" (.list [])).set
      "input_file" (.atom (strA text))).set "csvfile" (.list bsAll)).set "header" (.dict (hdrDict hdr))) st1 []
    (by rw [boxPairs_snd]; exact hes)
    (fun p hp' => by simpa [st1] using boxPairs_get [atomsOf hdr] rows [] p hp')
    (by simp [pylite_step]) (by simp [pylite_step])
  unfold interpRead
  rw [runIO_fn L (F + 2) fn_read_csv _ _ _ _ rfl, src_read_csv_shape]
  simp [pylite_step, src_read_csv_params, hopen, nextLoopP, bsAll, HH_lib L (F + 1) 103, hrd, HH_run L (F + 1) fn_parse_header, hhdr,
    prim_rest, h5, hraws5]
  rw [show (HH L (F + 2)).fnV fn_raws_to_wbs [.list (rawRefs st1.reads es.length)] (es.foldl allocSt st1) =
    runIO L csvFuns (F + 2) fn_raws_to_wbs [.list (rawRefs 0 es.length)] (readSt hdr rows es) from rfl]
  generalize runIO L csvFuns (F + 2) fn_raws_to_wbs _ _ = r
  rcases r with _ | ⟨_, _⟩ <;> rfl

theorem cellParse_of_optParse {α} (f : Str → Res α) (g : α → Atom) (c : Str) (a : Atom)
    (h : optParse f g (nonEmpty c) = some a) : cellParse f g c = .ok (.atom a) := by
  unfold cellParse
  cases hn : nonEmpty c with
  | none =>
    rw [hn] at h
    simp only [optParse, Option.some.injEq] at h
    subst h; rfl
  | some s =>
    rw [hn] at h
    simp only [optParse] at h
    cases hf : f s with
    | error e => simp [hf] at h
    | ok x =>
      simp only [hf, Option.some.injEq] at h
      subst h
      show Except.map (fun a => Val.atom (g a)) (f s) = _
      rw [hf]; rfl

theorem rowOK_of_readRow (L : IOLib) (hdr row : List Str) (r : Rec) (h : readRow hdr row = some r)
    (q0 : Rat) (a3 a4 a6 a7 a8 : Atom) (ps : List Rat) (hq0 : L.toInt r.id = .ok q0)
    (h3 : optParse L.strptime Atom.time r.start = some a3) (h4 : optParse L.strptime Atom.time r.end_ = some a4)
    (h6 : optParse L.toFloat Atom.num r.estimate = some a6) (h7 : optParse L.toFloat Atom.num r.spent = some a7)
    (h8 : optParse L.toInt Atom.num r.parentId = some a8) (h9 : r.predIds.mapM L.toInt = .ok ps) :
    RowOK L hdr row [.atom (.num q0), .atom (optStr r.name), .atom (optStr r.resource), .atom a3, .atom a4,
      .atom (.bool r.milestone), .atom a6, .atom a7, .atom a8, .list (ps.map Atom.num)] := by
  rw [readRow_def] at h
  simp only [Option.bind_eq_some_iff] at h
  obtain ⟨c0, g0, c1, g1, c2, g2, c3, g3, c4, g4, c6, g6, c7, g7, c5, g5, c8, g8, c9, g9, cu, -, hr⟩ := h
  simp only [Option.some.injEq] at hr
  subst hr
  refine ⟨c0, c1, c2, c3, c4, c5, c6, c7, c8, c9, q0, .atom a3, .atom a4, .atom a6, .atom a7, .atom a8,
    .list (ps.map Atom.num), g0, g1, g2, g3, g4, g5, g6, g7, g8, g9, hq0, cellParse_of_optParse _ _ _ _ h3,
    cellParse_of_optParse _ _ _ _ h4, cellParse_of_optParse _ _ _ _ h6, cellParse_of_optParse _ _ _ _ h7,
    cellParse_of_optParse _ _ _ _ h8, ?_, rfl⟩
  by_cases hc : c9 = []
  · subst hc
    have : ps = [] := by simpa [pure, Except.pure] using h9.symm
    subst this; rfl
  · have hne : c9.isEmpty = false := by cases c9 with
      | nil => exact absurd rfl hc
      | cons _ _ => rfl
    simp only [hne, Bool.false_eq_true, if_false] at h9
    rw [if_neg hc, h9]; rfl

end Pj.CsvSrc

/-
  Lemmas/CritPathSrcA3.lean — layer A of the tie for alg/critical_path.py (see Lemmas/CritPathSrcA.lean), part 3:
  the passes `__forward` and `__backward` (a loop with a recursive call in its body).
-/
import PjVerif.Lemmas.CritPathSrcA1
namespace Pj.CritPathSrc
open Pj.PyLite Pj.Extracted.CritPath
open Pj.TaskSrc (callPV_eq callPV_bound execP_assign execP_ifElse execBlockP_cons execBlockP_nil execP_forIn noRec Env.get?_set Env.get?_cons Env.get?_nil pyEq_num)
set_option linter.unusedSimpArgs false
set_option linter.unusedVariables false

/-- `if link.fld.attr is None: self.__pass(link.fld)`, `__pass` being the function `k` (which refines `rec`), `fld` the
    end of the link that is looked at (the node `n`) and `attr` the memo of the pass (`m` on that node) -/
theorem visit_simR (B : Nat) {H : PHandlers} {k : Nat} {rec : Store → Nat → Option Store}
    (hrec : ∀ σ p, SimR (ofOpt (rec σ p)) (H.fnV k [.atom (.ref B), .atom (.ref p)] (mkSt B σ))
      (fun σ' v st => v = .atom .none ∧ st = mkSt B σ'))
    (fld attr : String) {ρ : PyLite.Env} {σ : Store} {l n : Nat} {m : Option Rat}
    (hs : ρ.get? "self" = some (.atom (.ref B))) (hl : ρ.get? "link" = some (.atom (.ref l)))
    (hfld : (encHeap B σ l).get? fld = some (.atom (.ref n)))
    (hattr : (encHeap B σ n).get? attr = some (.atom (optNum m))) :
    Sim (ofOpt (if m.isNone then rec σ n else some σ))
      ((Stmt.ifElse (.isNone (.attr (.attr (.var "link") fld) attr))
        [.expr (.callFn k (.listCons (.var "self") (.listCons (.attr (.var "link") fld) .listNil)))] []).execP H [] noRec ρ
        (mkSt B σ)) (fun σ' ρ' st => ρ' = ρ ∧ st = mkSt B σ') := by
  cases m with
  | none =>
    rw [execP_ifElse (b := true) (st' := mkSt B σ) (v := .atom (.bool true)) (hc := by simp [pylite_step, hl, hfld, hattr, optNum])
      (hb := rfl)]
    exact (Sim.one (SimR.exprCall (by simp [pylite_step, hs, hl, hfld]) (hrec σ n))).mono fun _ _ _ ⟨h1, _, _, h2⟩ => ⟨h1, h2⟩
  | some w => exact Sim.ok (by simp [pylite_step, hs, hl, hfld, hattr, optNum]) ⟨rfl, rfl⟩

def fwThen : List Stmt := match src_CPC_forward with | [.ifElse _ t _] => t | _ => []
def fwLoop : Stmt := fwThen.getD 1 .pass
def fwBody : List Stmt := match fwLoop with | .forIn _ _ b => b | _ => []
theorem fwThen_eq : fwThen =
    [.assign "max_start" (.num 0), fwLoop, .setAttr (.var "node") "start_units" (.var "max_start")] := rfl
theorem fwLoop_eq : fwLoop = .forIn "link" (.attr (.var "node") "backward_links") fwBody := rfl

theorem forward_simR (e : CPEnv) (tid : Uid → Int) (B : Nat) :
    ∀ (f : Nat) (σ : Store) (a : Nat) (F : Nat), f ≤ F →
      SimR (ofOpt (forwardA B f σ a)) ((Hc e tid F).fnV fn_CPC_forward [.atom (.ref B), .atom (.ref a)] (mkSt B σ))
        (fun σ' v st => v = .atom .none ∧ st = mkSt B σ') := by
  intro f
  induction f with
  | zero => intro σ a F _; exact SimR.outside
  | succ f ih =>
    intro σ a F hF
    obtain ⟨F, rfl⟩ : ∃ F', F = F' + 1 := ⟨F - 1, by omega⟩
    rw [fnV_succ _ _ _ _ _ _ cf_forward, callPV_bound rfl]
    refine Sim.retNone (Q := fun σ' st => st = mkSt B σ') ?_
    unfold forwardA src_CPC_forward
    refine Sim.readNode fun fw bw su eu hg => Sim.one ?_
    have hr := encHeap_get B hg
    cases su with
    | some w => exact Sim.ok (by simp [pylite_step, hr, optNum]; rfl) rfl
    | none =>
      rw [execP_ifElse (b := true) (st' := mkSt B σ) (v := .atom (.bool true)) (hc := by simp [pylite_step, hr, optNum]) (hb := rfl)]
      simp only [Option.isNone_none, if_true]
      refine Sim.step (execP_assign (v := .atom (.num 0)) (st' := mkSt B σ) rfl) ?_
      let I : Store × Rat → PyLite.Env → PState → Prop := fun acc ρ st => st = mkSt B acc.1 ∧
        Env.le [("self", .atom (.ref B)), ("node", .atom (.ref a)), ("max_start", .atom (.num acc.2))] ρ
      split
      next => exact Sim.outside
      next σ' ms hfold =>
        refine Sim.consEq (Q := I) hfold ?_ fun ρ1 _ h => Sim.one ?_
        · rw [ofOpt_foldlM]
          refine Sim.forIn (g := Atom.ref) (by simp [pylite_step, hr]) ?_
            ⟨rfl, .cons (by simp [pylite_step]) (.cons (by simp [pylite_step]) (.cons (by simp [pylite_step]) (.nil _)))⟩
          rintro acc l ρ _ _ ⟨rfl, hρ⟩
          have hρ' := hρ.set_ne "link" (.atom (.ref l))
          unfold fwdStep
          refine Sim.readLink fun s _ _ hg1 => Sim.readNode fun _ _ su1 _ hg2 => ?_
          split
          next => exact Sim.outside
          next σ' hv =>
            refine Sim.consEq hv (visit_simR B (fun σ p => ih σ p F (by omega)) "start" "start_units" (l := l)
              (hρ'.get "self") (by simp [pylite_step]) (by rw [encHeap_get B hg1]; rfl) (by rw [encHeap_get B hg2]; rfl))
              fun _ _ h => Sim.one ?_
            obtain ⟨rfl, rfl⟩ := h
            refine Sim.readLink fun s' _ u' hg3 => ?_
            have hr3 := encHeap_get B hg3
            split
            next _ _ v _ hg4 =>
              have hr4 := encHeap_get B hg4
              exact Sim.ok (by simp [pylite_step, hρ'.get "max_start", hr3, hr4, optNum, pyMax_num]) ⟨rfl, hρ'.set "max_start" _⟩
            next => exact Sim.outside
        · obtain ⟨rfl, hρ1⟩ := h
          unfold setSU
          refine Sim.readNode fun fw2 bw2 _ eu2 hg2 => ?_
          have hw := mkSt_set B (f := "start_units") (v := .atom (.num ms)) hg2
            (o' := .node fw2 bw2 (some ms) eu2) (by simp [encObj, Env.set, refsN, optNum])
          exact Sim.ok (by simp [pylite_step, hρ1.get "node", hρ1.get "max_start", hw]; rfl) rfl

theorem forward_sim (e : CPEnv) (tid : Uid → Int) (B : Nat) :
    ∀ (f : Nat) (σ : Store) (a : Nat) (σ' : Store), forwardA B f σ a = some σ' → ∀ F, f ≤ F →
      (Hc e tid F).fnV fn_CPC_forward [.atom (.ref B), .atom (.ref a)] (mkSt B σ) = .ok (.atom .none, mkSt B σ') :=
  fun f σ a _ h F hF => SimR.of_some (forward_simR e tid B f σ a F hF) h

def bwThen : List Stmt := match src_CPC_backward with | [.ifElse _ t _] => t | _ => []
def bwLoop : Stmt := bwThen.getD 1 .pass
def bwBody : List Stmt := match bwLoop with | .forIn _ _ b => b | _ => []
def bwPost : List Stmt := bwThen.drop 2
theorem bwThen_eq : bwThen = [.assign "min_end" .none, bwLoop] ++ bwPost := rfl
theorem bwLoop_eq : bwLoop = .forIn "link" (.attr (.var "node") "forward_links") bwBody := rfl

theorem backward_simR (e : CPEnv) (tid : Uid → Int) (B : Nat) :
    ∀ (f : Nat) (σ : Store) (a : Nat) (F : Nat), f ≤ F →
      SimR (ofOpt (backwardA B f σ a)) ((Hc e tid F).fnV fn_CPC_backward [.atom (.ref B), .atom (.ref a)] (mkSt B σ))
        (fun σ' v st => v = .atom .none ∧ st = mkSt B σ') := by
  intro f
  induction f with
  | zero => intro σ a F _; exact SimR.outside
  | succ f ih =>
    intro σ a F hF
    obtain ⟨F, rfl⟩ : ∃ F', F = F' + 1 := ⟨F - 1, by omega⟩
    rw [fnV_succ _ _ _ _ _ _ cf_backward, callPV_bound rfl]
    refine Sim.retNone (Q := fun σ' st => st = mkSt B σ') ?_
    unfold backwardA src_CPC_backward
    refine Sim.readNode fun fw bw su eu hg => Sim.one ?_
    have hr := encHeap_get B hg
    cases eu with
    | some w => exact Sim.ok (by simp [pylite_step, hr, optNum]; rfl) rfl
    | none =>
      rw [execP_ifElse (b := true) (st' := mkSt B σ) (v := .atom (.bool true)) (hc := by simp [pylite_step, hr, optNum]) (hb := rfl)]
      simp only [Option.isNone_none, if_true]
      refine Sim.step (execP_assign (v := .atom .none) (st' := mkSt B σ) rfl) ?_
      let I : Store × Option Rat → PyLite.Env → PState → Prop := fun acc ρ st => st = mkSt B acc.1 ∧
        Env.le [("self", .atom (.ref B)), ("node", .atom (.ref a)), ("min_end", .atom (optNum acc.2))] ρ
      split
      next => exact Sim.outside
      next σ' me hfold =>
        refine Sim.consEq (Q := I) hfold ?_ fun ρ1 _ h => ?_
        · rw [ofOpt_foldlM]
          refine Sim.forIn (g := Atom.ref) (by simp [pylite_step, hr]) ?_
            ⟨rfl, .cons (by simp [pylite_step]) (.cons (by simp [pylite_step]) (.cons (by simp [pylite_step, optNum]) (.nil _)))⟩
          rintro ⟨σa, m0⟩ l ρ _ _ ⟨rfl, hρ⟩
          have hρ' := hρ.set_ne "link" (.atom (.ref l))
          unfold bwdStep
          refine Sim.readLink fun _ en _ hg1 => Sim.readNode fun _ _ _ eu1 hg2 => ?_
          split
          next => exact Sim.outside
          next σ' hv =>
            refine Sim.consEq hv (visit_simR B (fun σ p => ih σ p F (by omega)) "end" "end_units" (l := l)
              (hρ'.get "self") (by simp [pylite_step]) (by rw [encHeap_get B hg1]; rfl) (by rw [encHeap_get B hg2]; rfl))
              fun _ _ h => Sim.one ?_
            obtain ⟨rfl, rfl⟩ := h
            refine Sim.readLink fun _ en' u' hg3 => ?_
            have hr3 := encHeap_get B hg3
            split
            next _ _ _ v hg4 =>
              have hr4 := encHeap_get B hg4
              have hm := hρ'.get "min_end"
              cases m0 <;> exact Sim.ok (by simp [pylite_step, hm, hr3, hr4, optNum, pyMin_num, Rat.sub_eq_add_neg])
                ⟨rfl, hρ'.set "min_end" _⟩
            next => exact Sim.outside
        · obtain ⟨rfl, hρ1⟩ := h
          have hn := hρ1.get "node"
          cases me with
          | some m =>
            have hm : ρ1.get? "min_end" = some (.atom (.num m)) := hρ1.get "min_end"
            dsimp only
            unfold setEU
            refine Sim.readNode fun fw2 bw2 su2 _ hg2 => ?_
            have hw := mkSt_set B (f := "end_units") (v := .atom (.num m)) hg2
              (o' := .node fw2 bw2 su2 (some m)) (by simp [encObj, Env.set, refsN, optNum])
            exact Sim.ok (by simp [pylite_step, hn, hm, hw]; rfl) rfl
          | none =>
            -- no forward link: `min_end = node.start_units`, whatever it is
            have hm : ρ1.get? "min_end" = some (.atom .none) := hρ1.get "min_end"
            dsimp only
            refine Sim.readNode fun fw3 bw3 su3 _ hg3 => ?_
            unfold setEU
            rw [hg3]
            have hr3 := encHeap_get B hg3
            have hw := mkSt_set B (f := "end_units") (v := .atom (optNum su3)) hg3
              (o' := .node fw3 bw3 su3 su3) (by simp [encObj, Env.set, refsN])
            exact Sim.ok (by simp [pylite_step, hn, hm, hr3, hw]; rfl) rfl

theorem backward_sim (e : CPEnv) (tid : Uid → Int) (B : Nat) :
    ∀ (f : Nat) (σ : Store) (a : Nat) (σ' : Store), backwardA B f σ a = some σ' → ∀ F, f ≤ F →
      (Hc e tid F).fnV fn_CPC_backward [.atom (.ref B), .atom (.ref a)] (mkSt B σ) = .ok (.atom .none, mkSt B σ') :=
  fun f σ a _ h F hF => SimR.of_some (backward_simR e tid B f σ a F hF) h

end Pj.CritPathSrc

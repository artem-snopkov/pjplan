/-
  Lemmas/CritPathSrc.lean — alg/critical_path.py, class `CriticalPathCalculator` with `end_date = None` (the path
  `WBS.critical_path()` takes): the hand-written model (Model/CritPath.lean: `prereqs`, `leaves`, `ef`, `projectLen`,
  `succsOf`, `lfF`, `criticalPath`) equals the interpretation of the CURRENT SOURCE of

    _PNode.__init__   _PLink.__init__   CriticalPathCalculator.__init__ / __insert_task / __new_node / __connect /
    __add_work / __forward / __backward / calc        WBS.critical_path (wbs.py)

  (Extracted/CritPathSrc.lean, regenerated from src/pjplan/alg/critical_path.py and wbs.py by tools/extract_critpath.py on
  every check; `_find_clusters` and the two branches for `end_date is not None` are OUT of scope: the translator replaces
  them by a primitive without meaning, so a run that reached them would be stuck - the theorems show that none does).
  The eleven functions form a PROGRAM (`cpFuns`), run by `progH (cpPrim e tid) cpFuns F` (Model/PyLite.lean: every call
  costs one unit of the fuel `F`, which bounds the DEPTH of nested calls as Python's recursion limit does).

  This is an ALGORITHMIC equivalence, not a statement-by-statement one: the source builds an activity-on-arrow network of
  objects that refer to one another (`_PNode.forward_links / backward_links` hold `_PLink`s, links hold their end nodes),
  runs two memoised recursions over it and selects by a float tolerance; the model characterises the result directly.

  Files.
    this file             encoding of the inputs, primitives, entry point `interpCriticalPath`
    CritPathSrcNet.lean   the object store as a list of typed objects (`Obj`, `encHeap`, `mkSt`) and the program re-written
                          over that store, function by function, in the `Option` monad (`cpA`)
    CritPathSrcStore.lean reading the typed store (`getO` / `setO`) after a write and after an allocation
    CritPathSrcA1/A2/A3/A.lean   layer A, the SIMULATION: the translated source computes what `cpA` computes
                          (`cp_sim`; one lemma per function: the equations `construct_PNode`, `construct_PLink`,
                          `construct_CPC`, the refinements `new_node_simR`, `connect_simR`, `add_work_simR`,
                          `insert_simR`, `forward_simR`, `backward_simR`, `calc_simR`); no invariant of the network
                          is needed there
    CritPathSrcB.lean     the two passes on an ARBITRARY store: the memoised `forwardA` / `backwardA` compute the plain
                          recursions `lpF` (longest path into a node) / `ltF` (latest time of a node) over the arcs
                          (`fwd_correct`, `bwd_correct`, `fwd_all`, `bwd_all`)
    CritPathSrcC1.lean    what `__new_node` / `__connect` do to the arcs (`NewNodeSpec`, `ConnSpec`); the invariant `Net`
    CritPathSrcC2.lean    STAGE 2: the network of `__init__` (`Built`, `insert_ok`, `init_ok`)
    CritPathSrcC3.lean    the arithmetic on the network of `calc` (`Wired`): `lp_task`, `lp_end`, `lt_task`
    CritPathSrcC4.lean    `calc`: the begin / end node (`calc_prelude`), the passes and the selection (`calc_ok`)
    CritPathSrcC5.lean    `cpA_ok`, `criticalPath_mem`; the grid hypothesis (`tolExact_of_grid`)
    CritPathSrcD.lean     STAGE 3: the theorems (and `interpCriticalPath_of_cpA`: a run returns the list `cpA` returns);
                          the NEGATIVE CHECK (comment block at its end)
    CritPathSrcCheck.lean what a concrete run states (`agree`) and the first WBSs, no run
    CritPathSrcRuns.lean  how `agree` on a WBS follows from `interpCriticalPath_grid` (`agree_of_grid`); no run either
    CritPathSrcCheckB.lean, CritPathSrcCheckC.lean   STAGE 1: the concrete runs

  Setting.
  * The input is a WBS description `e : CPEnv` (Model/CritPath.lean; Drive/CritPath.lean fills it from a WBS: `members` =
    `WBS.tasks`, `children`, public `parent`, `preds`, `est`, `spent` per task) and the ids `tid : Uid → Int` (the model
    identifies tasks by their uid and has no ids; the source uses `task.id` as dict key).  The task `u` is the object
    `ref u`; its library attributes are PRIMITIVES read from `e` (`cpPrim`): `children`, `predecessors` (the raw lists),
    `all_parents` = `ancestors e (e.n + 1)`, `all_children` = `descF e.children (e.n + 1)` (RecursionError when that is
    `none`, i.e. on a cycle among the children lists), `estimate`, `spent` (`None` or a number), `id` = `tid`; `id(t)` of
    `ref u` is the int `u`.  `tasks` = `refs e.members`.  Task attributes are never written.
  * The objects of the module (`_PNode`, `_PLink`, the calculator) are allocated in the store from the address `e.n` on
    (`initSt`: the allocation pointer is the component `reads` of `PState`, as in Model/PyLiteW.lean); `C(args)` is the
    construct `construct` of Model/PyLite.lean ("critical-path constructs"): new object without attributes, then
    `__init__`.  Lists held by attributes are changed in place (`attrAppend`), dicts by `setAttr … (dictSet …)`.
  * Numbers are rationals (the model's abstraction of int / float); the float literal `1e-9` is 1/1000000000.

  Results (all proofs complete; axioms: propext, Classical.choice, Quot.sound).
    Stage 1 (CritPathSrcCheckB.lean on the WBSs of CritPathSrcCheck.lean and its own; wherever the run ends, the exact
      list is `cp_sim` applied to the evaluated program over the typed store; `agree` is `interpCriticalPath_grid` with
      its hypotheses evaluated on the model; only the runs that raise - the cycles - are evaluated on the interpreter
      itself): on 16 WBSs - a chain; a diamond; parallel
      branches with a tie, a shorter branch and independent chains; zero-length tasks on and off the longest chain;
      a single task; no links at all (with a summary); no tasks; nested summaries over one leaf without estimate; links
      on summaries standing for their leaves (both ends); predecessors outside the calculated set (a leaf, a summary);
      two tasks sharing an id of which one is a member; spent above the estimate; lengths on the grid of eighths; deep
      nesting; predecessors named twice and through their summary; members in non-topological order - (a) the EXACT list
      the translated program returns, which is the list the real Python (src/pjplan run on the same WBS) returns, and
      (b) `agree`: the same SET as the model's `criticalPath`, each task once.  Plus, outside the hypotheses of the
      general theorem: a dependency cycle and a cycle that closes through the hierarchy (KeyError on both sides); see
      Disagreements for the rest.  CritPathSrcCheckC.lean: the general theorem instantiated on three of them.
    Stage 2 (CritPathSrcC2.lean) `init_ok`: IdInj e tid → DescOK e → acyclicB e = true → e.n + 1 ≤ fa →
        ∃ σ done S E L, initA e tid B fa = some σ ∧ Built e tid B σ done [] S E L ∧ ∀ t, t ∈ done ↔ t ∈ leaves e
      where `Built` says: `__nodes` = [S t, E t | t ← done], `__links` = {id t ↦ L t | t ← done} in this order, `__tasks`
      maps id t to t; the object `L t` is the link (S t, E t, max(est - spent, 0)); the arcs INTO `S t` are exactly
      the zero-length arrows from `E p`, p ← `prereqs e t` in that order (read off by `Built.views`, CritPathSrcC4.lean), the arc out of `S t` / into
      `E t` is `L t`, the arcs OUT of `E t` are the arrows to `S s` for the inserted `s` with `t ∈ prereqs e s`;
      start and end nodes of different tasks are different objects; no `start_units` / `end_units` is set; every
      prerequisite is inserted before the task (`preDone`).  `done` (the insertion order) is a depth-first post-order
      along `prereqs`.  (`insert_ok`: the recursion; its measure is the fuel the model's `efF` needs - this is where
      acyclicity enters: a task that is being inserted is never reached again.)
    Stage 3 (CritPathSrcD.lean), for every e, tid with
        IdInj e tid       the ids of the member leaves are pairwise different (C05 inside one WBS),
        DescOK e          `all_children` is defined for the predecessors met (`descOK_of_forall`: no cycle of children),
        acyclicB e        the model's domain: the leaf-level waits-for relation has no cycle,
        TolExact e        the float test `abs(r) <= 1e-9 * max(1.0, length)` and the exact test `r = 0` agree on the
                          leaves of e (r = the model's float) - STATED MINIMALLY; implied (`tolExact_of_grid`) by
        OnGrid e ∧ length < 10^8    every `max(estimate - spent, 0)` of a member leaf is a multiple of 1/8,
        2 * e.n + 9 ≤ F   the fuel (the passes nest at most 2 * (e.n + 1) + 2 calls):
      `interpCriticalPath_eq`   ∃ order len, projectLen e = some len ∧ order.Nodup ∧ (∀ t, t ∈ order ↔ t ∈ leaves e) ∧
                                interpCriticalPath F e tid = ok (refs (order.filter (critOf e len)))
      `interpCriticalPath_set`  ∃ r l, interpCriticalPath F e tid = ok (refs r) ∧ criticalPath e = ok l ∧ r.Nodup ∧
                                ∀ t, t ∈ r ↔ t ∈ l
      `interpCriticalPath_perm` … ∧ r.Perm l  (with `e.members.Nodup`)     `interpCriticalPath_grid`  (the grid form)
      The ORDER differs: the source returns the critical tasks in the order of insertion (`__links.items()`), the model
      in WBS order; the theorems compare them as sets / up to a permutation.
      How: `lpF` on the network is the model's forward pass (`lp_task`: start node = earliest start, end node = `ef`;
      `lp_end`: the end node = `projectLen` - the maximum over the sinks is the maximum over all leaves, `sink_reach`);
      `ltF` is the backward pass (`lt_task` = `lfF`; the minimum over the arrows in insertion order = the model's minimum
      over `succsOf` in WBS order, `Selects.fold_congr`); the memoised recursions compute `lpF` / `ltF` whatever the order of the
      calls (`fwd_correct` / `bwd_correct`).

  Disagreements.  Inside the hypotheses: none.  Outside (CritPathSrcCheckB.lean: the model's side evaluated; the source's
  side evaluated on the interpreter for the cycles, through `cp_sim` for `offgrid` and `sharedmembers`):
    * `hcycle` - a leaf that waits for its own summary, i.e. for itself (NOT constructible with the library: "Can't set
      parent as predecessor"): the source sets `__links[id]` before the loop of `__add_work`, connects the end of the arc to
      its start and `__forward` never ends (RecursionError); the model reports KeyError.  Other cycles (`cycle`,
      `hcycle2` - the latter is accepted by the library): KeyError on both sides.
    * `offgrid` - a float of 1e-10: the source's tolerance accepts it, the model's exact test does not (this is what
      `TolExact` excludes).
    * `sharedmembers` - two MEMBERS with the same id (impossible inside one WBS): the source keeps the first only.

  Limitations.  (1) The task library is primitive (see Setting): `task.children` etc. are the lists the encoding gives;
    `all_parents` on a cyclic parent chain is the model's truncated enumeration.  (2) Numbers are rationals: float
    rounding inside the passes is not modelled - the tolerance test is; on the grid of eighths below 10^8 floats are
    exact.  (3) `_ImmutableTaskList(res)` is the list `res`.  (4) The fuel counts the depth of calls of translated
    functions (`_PNode()` included), cf. Lemmas/TaskSrc.lean (2).  (5) Errors carry no state; the theorems are about
    runs on acyclic WBSs, which do not raise.  (6) `end_date` ≠ None and `_find_clusters` are not translated.
    (7) ids are `Int`s.
-/
import PjVerif.Extracted.CritPathSrc
import PjVerif.Model.CritPath
namespace Pj.CritPathSrc
open Pj.PyLite Pj.Extracted.CritPath

/-! ### the encoding -/

def refs (l : List Uid) : Val := .list (l.map Atom.ref)

/-- `task.id`: an `int` -/
def idA (i : Int) : Atom := .num (i : Rat)

def optNum : Option Rat → Atom
  | none => .none
  | some q => .num q

/-- the library attributes of a task object `ref t`, read from the WBS description `e` (and the ids `tid`) -/
def cpPrim (e : CPEnv) (tid : Uid → Int) : String → List Atom → PState → Res Val := fun name args _ =>
  match args with
  | [.ref t] =>
    if name = "children" then pure (refs (e.children t))
    else if name = "all_parents" then pure (refs (e.ancestors (e.n + 1) t))
    else if name = "all_children" then
      match descF e.children (e.n + 1) t with
      | some l => pure (refs l)
      | none => throw (.crash .recursion)
    else if name = "predecessors" then pure (refs (e.preds t))
    else if name = "estimate" then pure (.atom (optNum (e.est t)))
    else if name = "spent" then pure (.atom (optNum (e.spent t)))
    else if name = "id" then pure (.atom (idA (tid t)))
    else throw stuck
  | _ => throw stuck

/-- the initial Python state: no object of the module exists; the allocation pointer (`reads`) is `base` -/
def initSt (base : Nat) : PState := { L := [], heap := fun _ => [], done := [], res := [], reads := base, boxes := [] }

/-- the handlers of the program with `F` units of fuel -/
abbrev Hc (e : CPEnv) (tid : Uid → Int) (F : Nat) : PHandlers := progH (cpPrim e tid) cpFuns F

/-- call the k-th function of critical_path.py with at most `fuel` nested calls -/
def interp (e : CPEnv) (tid : Uid → Int) (fuel : Nat) (k : Nat) (args : List Val) (st : PState) : Res (Val × PState) :=
  runProg (cpPrim e tid) cpFuns fuel k args st

/-- `wbs.critical_path()` = `CriticalPathCalculator(wbs.tasks, None).calc()`: the returned value -/
def interpCriticalPath (F : Nat) (e : CPEnv) (tid : Uid → Int) : Res Val :=
  (interp e tid F fn_WBS_critical_path [refs e.members] (initSt e.n)).map (·.1)

end Pj.CritPathSrc

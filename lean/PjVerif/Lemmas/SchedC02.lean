/-
  Lemmas/SchedC02.lean — C02 on the model: what the property says about one placed leaf (`Good`) is a fact kept
  through the forward run; `C02_partial` follows by the collapse of `prereqLeaves` to the own predecessors when no
  summary task carries a link.  Kernel-checked counterexamples show that `parentsOK` and `linksSym` cannot be dropped.
-/
import PjVerif.Lemmas.SchedCore
namespace Pj

namespace C02

/-- `max(ends + [bound])` in the terms of `latestPrereqEnd`: both folds run over `bound` and the ends -/
theorem foldl_maxT_maxOpt (l : List Time) (b : Time) :
    l.foldl maxT b = (match maxOpt l with | some e => maxT e b | none => b) := by
  cases l with
  | nil => rfl
  | cons x xs =>
    exact (maxT_selects.fold_congr b x (x :: xs) (xs ++ [b]) fun y => by grind).trans (by simp [maxOpt, List.foldl_append])

theorem fwdPlace_milestone (env : Env) (σ σ' : SS) (t : Uid) (v : Time) (hm : (env.info t).milestone = true)
    (h : fwdPlace env σ t v = .ok σ') :
    (σ'.f t).start = some v ∧ (σ'.f t).end_ = some v ∧ σ'.rows = σ.rows := by
  rw [fwdPlace_milestone_eq env σ t v hm] at h
  cases h
  simp [SS.commit]

theorem fwdPlace_leaf_lower (env : Env) (σ σ' : SS) (t : Uid) (v : Time)
    (hl : (env.info t).children.isEmpty = true) (hm : (env.info t).milestone = false) (hs : (σ.f t).start = none)
    (hpos : ∀ r ∈ σ.rows, 0 < r.units) (h : fwdPlace env σ t v = .ok σ') :
    ∃ s, (σ'.f t).start = some s ∧ dayOf v ≤ dayOf s ∧ dayOf (env.clock σ.reads) ≤ dayOf s ∧
      (∀ m, (env.info t).minStart = some m → dayOf m ≤ dayOf s) ∧
      ∃ new : List (Int × Rat), σ'.rows = σ.rows ++ new.map (mkRow (env.info t).resource t) ∧ ∀ p ∈ new, dayOf s ≤ p.1 := by
  have hu : ∀ d, 0 ≤ placeUsed env σ t d := fun d => reserved_nonneg _ hpos _ _ _
  rw [fwdPlace_leaf_eq env σ t v hm hl] at h
  obtain ⟨o, ho, rfl⟩ := Res.map_ok h
  obtain ⟨s, k, hsk, hend⟩ := fwdLeaf_ok ho
  rcases fwdLeafStart_ok hsk with ⟨hc, _⟩ | ⟨_, rfl, hn⟩
  · exact nomatch hs.symm.trans hc
  · obtain ⟨d, c, hd, _, _, _, hds, _⟩ := nearestFwd_spec _ _ _ s hu hn
    have hst : (o.g.start = some s) ∧ ∀ p ∈ o.new, dayOf s ≤ p.1 := by
      rcases hend with ⟨e, _, rfl⟩ | ⟨_, e, rows, hsh, rfl⟩
      · exact ⟨rfl, by simp⟩
      · refine ⟨rfl, fun p hp => ?_⟩
        obtain ⟨dayL, dauL, hsp, _⟩ := shiftFwd_spec _ _ _ _ e rows (workLeft_nonneg _ _) hu hsh
        have := (hsp.range p hp).1
        have := dayOf_mono (le_maxT_left s (env.clock (σ.reads + 1)))
        omega
    refine ⟨s, by simp [hst.1], ?_, ?_, ?_, o.new, rfl, hst.2⟩
    · exact Int.le_trans (dayOf_mono (Rat.le_trans (le_maxT_left _ _) (le_maxT_left _ _))) (hds ▸ hd)
    · exact Int.le_trans (dayOf_mono (Rat.le_trans (le_maxT_right _ _) (le_maxT_left _ _))) (hds ▸ hd)
    · intro m hmm
      rw [hmm] at hd
      exact Int.le_trans (dayOf_mono (le_maxT_right _ _)) (hds ▸ hd)

/-- day `D` is not before the project start, the clock, `min_start` and the ends of the own predecessors -/
def Lower (env : Env) (σ : SS) (t : Uid) (D : Int) : Prop :=
  dayOf env.bound ≤ D ∧ dayOf (env.clock 0) ≤ D ∧ (∀ m, (env.info t).minStart = some m → dayOf m ≤ D) ∧
  ∀ p ∈ (env.info t).preds, ∀ e, (σ.f p).end_ = some e → dayOf e ≤ D

/-- what C02 says about a placed leaf, relative to the current state -/
def Good (env : Env) (finit : Uid → Fields) (σ : SS) (t : Uid) : Prop :=
  (∀ p ∈ (env.info t).preds, (env.info p).member = true → p ∈ σ.done) ∧
  ((env.info t).milestone = true →
    (σ.f t).start = some (maxEnds σ (env.info t).preds env.bound) ∧
    (σ.f t).end_ = some (maxEnds σ (env.info t).preds env.bound)) ∧
  ((env.info t).milestone = false → (finit t).start = none →
    ∃ s, (σ.f t).start = some s ∧ Lower env σ t (dayOf s) ∧ ∀ r ∈ σ.rows, r.task = t → dayOf s ≤ r.day)

structure C02Inv (env : Env) (finit : Uid → Fields) (σ : SS) : Prop where
  ledger : LedgerOK env σ
  doneMem : ∀ x ∈ σ.done, (env.info x).member = true
  init : ∀ x, x ∉ σ.done → σ.f x = finit x
  rowsDone : ∀ r ∈ σ.rows, r.task ∈ σ.done
  good : ∀ t ∈ σ.done, (env.info t).children = [] → Good env finit σ t

theorem Good.ext {env : Env} {finit : Uid → Fields} {σ σ' : SS} {t : Uid} (hg : Good env finit σ t)
    (hext : Ext σ σ') (hdm : ∀ x ∈ σ'.done, (env.info x).member = true) (ht : t ∈ σ.done) :
    Good env finit σ' t := by
  obtain ⟨g1, g2, g3⟩ := hg
  have hpf := hext.links_frozen env hdm _ g1
  have htf : σ'.f t = σ.f t := hext.frozen t ht
  have hme := maxEnds_congr σ σ' (env.info t).preds env.bound (fun p hp => by rw [hpf p hp])
  refine ⟨fun p hp hm => hext.done_sub (g1 p hp hm), ?_, ?_⟩
  · intro hm
    rw [htf, hme]; exact g2 hm
  · intro hm hs
    obtain ⟨s, h1, ⟨l1, l2, l3, l4⟩, h3⟩ := g3 hm hs
    refine ⟨s, by rw [htf]; exact h1, ⟨l1, l2, l3, ?_⟩, ?_⟩
    · intro p hp e he
      rw [hpf p hp] at he
      exact l4 p hp e he
    · intro r hr hrt
      obtain ⟨new, hnew, hn⟩ := hext.rows
      rw [hnew] at hr
      rcases List.mem_append.1 hr with hr | hr
      · exact h3 r hr hrt
      · exact absurd (hrt ▸ ht) (hn r hr).2

theorem good_tasks (env : Env) (fi : Uid → Fields) (hclock : ∀ k, dayOf (env.clock k) = dayOf (env.clock 0)) :
    Tasks env fi (Sched.fwd env) (fun σ t => (env.info t).children.isEmpty = true → Good env fi σ t)
      (fun _ m => m = env.bound) where
  keep := fun _ _ _ _ hc' he ht h hk => (h hk).ext he hc'.doneMem ht
  new := fun σ1 σ σ' t m h hq _ hk => by
    subst hq
    have := h.leaf hk
    subst this
    have hme := maxEnds_congr σ σ' (env.info t).preds env.bound (fun p hp => by rw [(h.linked hp).1])
    refine ⟨fun p hp hm => h.ext.done_sub (h.linksDone p hp (hm.trans h.mem.symm)), ?_, ?_⟩
    · intro hm
      obtain ⟨h1, h2, _⟩ := fwdPlace_milestone env σ σ' t _ hm h.run
      rw [hme]; exact ⟨h1, h2⟩
    · intro hm hs
      obtain ⟨s, h1, h2, h3, h4, new, hnew, hn⟩ :=
        fwdPlace_leaf_lower env σ σ' t _ hk hm (h.init ▸ hs) h.core.ledger.pos h.run
      obtain ⟨m1, m2⟩ := maxEnds_ge σ (env.info t).preds env.bound
      refine ⟨s, h1, ⟨Int.le_trans (dayOf_mono m1) h2, (hclock σ.reads) ▸ h3, h4, ?_⟩, ?_⟩
      · intro p hp e he
        rw [(h.linked hp).1] at he
        exact Int.le_trans (dayOf_mono (m2 p hp e he)) h2
      · intro r hr hrt
        rw [hnew] at hr
        rcases List.mem_append.1 hr with hr | hr
        · exact absurd hrt (h.core.noRows h.fresh r hr)
        · obtain ⟨p, hp, rfl⟩ := List.mem_map.1 hr
          exact hn p hp

theorem fwdRun_c02 (env : Env) (f0 : Uid → Fields) (res0 : List (Option Nat × Cal)) (o : Output)
    (hf : env.flagsOK) (hc : env.clockOK) (hs : noSummaryLinks env = true)
    (h : fwdRun env f0 res0 = .ok o) :
    ∃ σ, o = { f := σ.f, rows := σ.rows, res := σ.res } ∧ C02Inv env (prepare env f0 (memberList env)) σ ∧
      ∀ t ∈ memberList env, t ∈ σ.done := by
  -- every member is called with the project start: a task with children has no predecessors to take a later date from
  obtain ⟨σ, ho, hcore, hall⟩ := (Sched.fwd env).run_tasks (Sched.fwd_ok env) hf _ _ (good_tasks env _ hc.2) (fun _ _ => rfl)
    (fun σ t c _ ht hq hcc => hq ▸ (nsl_agg env hs ht hcc σ _).1)
    (fun _ _ _ _ hq _ _ => hq) (fwdRun_eq env ▸ h)
  exact ⟨σ, ho, ⟨hcore.ledger, hcore.doneMem, hcore.init, hcore.rowsDone,
    fun t ht hk => (hall t ((hf t).1 (hcore.doneMem t ht))).2 (by simp [hk])⟩, fun t ht => (hall t ht).1⟩

end C02

/-- C02 for inputs without links on summary tasks, given that the parent pointers agree with the children lists
    and that links are stored on both ends (without either the statement fails: `C02_partial_needs_parentsOK`,
    `C02_partial_needs_linksSym`) -/
theorem forwardCalc_c02 (env : Env) (f0 : Uid → Fields) (res0 : List (Option Nat × Cal)) (o : Output)
    (hf : env.flagsOK) (hc : env.clockOK) (hs : noSummaryLinks env = true) (ho : outsideLeaves env = true)
    (hp : env.parentsOK) (hl : env.linksSym)
    (h : forwardCalc env f0 res0 = .ok o) :
    c02Leaf env f0 o = true ∧ c02Milestone env o = true := by
  obtain ⟨σ, rfl, hI, hdone⟩ := C02.fwdRun_c02 env f0 res0 o hf hc hs (forwardCalc_run env f0 res0 o h)
  have hpre : ∀ t ∈ memberList env, prereqLeaves env t = (env.info t).preds :=
    fun t ht => prereqLeaves_own env hs hp hl ho t ht
  constructor
  · simp only [c02Leaf, List.all_eq_true, Bool.or_eq_true]
    intro t ht
    by_cases hk : (env.info t).children = []
    · by_cases hmi : (env.info t).milestone = true
      · exact Or.inl (Or.inl (Or.inr hmi))
      · cases hst : (f0 t).start with
        | some s0 => exact Or.inl (Or.inr rfl)
        | none =>
          right
          obtain ⟨_, _, g3⟩ := hI.good t (hdone t ht) hk
          obtain ⟨s, h1, ⟨l1, l2, l3, l4⟩, h3⟩ := g3 (by simpa using hmi) (by rw [prepare_leaf env f0 _ t (by simp [hk])]; exact hst)
          simp only [h1, hpre t ht]
          have hrows : ∀ d, d ≤ dayOf s → (rowsOf σ.rows t).all (fun r => decide (d ≤ r.day)) = true := by
            intro d hd
            simp only [rowsOf, List.all_eq_true, List.mem_filter, beq_iff_eq, decide_eq_true_eq]
            intro r hr
            exact Int.le_trans hd (h3 r hr.1 hr.2)
          simp only [List.all_eq_true, Bool.and_eq_true, decide_eq_true_eq]
          intro d hd
          have hle : d ≤ dayOf s := by
            simp only [List.mem_append, List.mem_cons, List.mem_map, List.mem_filterMap, Option.mem_toList,
              Option.map_eq_some_iff, List.not_mem_nil, or_false] at hd
            rcases hd with ((rfl | rfl) | ⟨m, hm1, rfl⟩) | ⟨p, hp1, e, he, rfl⟩
            · exact l1
            · exact l2
            · exact l3 m hm1
            · exact l4 p hp1 e he
          exact ⟨hle, by simpa [List.all_eq_true] using hrows d hle⟩
    · exact Or.inl (Or.inl (Or.inl (by simpa [isLeaf, List.isEmpty_iff] using hk)))
  · simp only [c02Milestone, List.all_eq_true, Bool.or_eq_true]
    intro t ht
    by_cases hk : (env.info t).children = []
    · by_cases hmi : (env.info t).milestone = true
      · right
        obtain ⟨_, g2, _⟩ := hI.good t (hdone t ht) hk
        obtain ⟨h1, h2⟩ := g2 hmi
        have hfold := C02.foldl_maxT_maxOpt ((env.info t).preds.filterMap (fun p => (σ.f p).end_)) env.bound
        have hlat : latestPrereqEnd env { f := σ.f, rows := σ.rows, res := σ.res } t =
            maxOpt ((env.info t).preds.filterMap (fun p => (σ.f p).end_)) := by
          unfold latestPrereqEnd
          rw [hpre t ht]
        rw [hlat, h1, h2]
        unfold maxEnds
        cases hq : maxOpt ((env.info t).preds.filterMap (fun p => (σ.f p).end_)) with
        | none => rw [hq] at hfold; simp [hfold]
        | some e => rw [hq] at hfold; simp [hfold]
      · exact Or.inl (Or.inl (by simpa using hmi))
    · exact Or.inl (Or.inr (by simpa [isLeaf, List.isEmpty_iff] using hk))

/-! ### where `parentsOK` comes from, and why `parentsOK` and `linksSym` are needed -/

/-- `parentsOK` follows from the forest invariants of the graph family (`EnvWF.parentIff`, `EnvWF.rootsTop`) -/
theorem parentsOK_of_forest (env : Env)
    (hpi : ∀ c p, (env.info c).parent = some p ↔ c ∈ (env.info p).children)
    (hrt : ∀ r ∈ env.roots, (env.info r).parent = none) : env.parentsOK := by
  intro t p ht hp
  cases hm : members env with
  | none => simp [memberList, hm] at ht
  | some mem =>
    rw [memberList_eq env mem hm] at ht ⊢
    refine ⟨?_, (hpi t p).1 hp⟩
    obtain ⟨r, hr, h⟩ := (members_iff env mem hm t).1 ht
    have key : ∀ b, t ∈ (env.info b).children → b = p := by
      intro b hb
      have := (hpi t b).2 hb
      rw [hp] at this
      cases this; rfl
    rcases h with rfl | h
    · rw [hrt t hr] at hp; cases hp
    · rcases h.tail_cases with h1 | ⟨b, hb1, hb2⟩
      · rw [← key r h1]; exact members_root env mem hm r hr
      · rw [← key b hb2]
        exact (members_iff env mem hm b).2 ⟨r, hr, Or.inr hb1⟩

namespace C02Cex

/-- a member leaf whose `parent` field points at a task outside the WBS that has a predecessor -/
def env1 : Env :=
  { n := 3,
    info := fun u => match u with
      | 0 => { tid := 1, parent := some 1, children := [], preds := [], succs := [], member := true, resource := none, milestone := false, minStart := none }
      | 1 => { tid := 2, parent := none, children := [], preds := [2], succs := [], member := false, resource := none, milestone := false, minStart := none }
      | 2 => { tid := 3, parent := none, children := [], preds := [], succs := [1], member := false, resource := none, milestone := false, minStart := none }
      | _ => { tid := 0, parent := none, children := [], preds := [], succs := [], member := false, resource := none, milestone := false, minStart := none },
    roots := [0], balance := false, defaultEst := 1, clock := fun _ => 100, bound := 100 }

def f1 : Uid → Fields := fun u => match u with
  | 2 => { start := some 1000, end_ := some 1000, est := none, spent := none }
  | _ => { start := none, end_ := none, est := none, spent := none }

/-- a milestone with a child, and a link stored on the successor's side only -/
def env2 : Env :=
  { n := 3,
    info := fun u => match u with
      | 0 => { tid := 1, parent := none, children := [1], preds := [], succs := [], member := true, resource := none, milestone := true, minStart := none }
      | 1 => { tid := 2, parent := some 0, children := [], preds := [], succs := [], member := true, resource := some 0, milestone := false, minStart := none }
      | 2 => { tid := 3, parent := none, children := [], preds := [0], succs := [], member := true, resource := some 1, milestone := false, minStart := none }
      | _ => { tid := 0, parent := none, children := [], preds := [], succs := [], member := false, resource := none, milestone := false, minStart := none },
    roots := [0, 2], balance := false, defaultEst := 100, clock := fun _ => 100, bound := 100 }

def f2 : Uid → Fields := fun _ => { start := none, end_ := none, est := none, spent := none }

end C02Cex

open C02Cex in
/-- without `parentsOK` the statement of `C02_partial` fails: nothing else ties the `parent` fields to the `children`
    lists -/
theorem C02_partial_needs_parentsOK :
    ∃ env f0 res0 o, env.flagsOK ∧ env.clockOK ∧ noSummaryLinks env = true ∧ outsideLeaves env = true ∧
      env.linksSym ∧ forwardCalc env f0 res0 = .ok o ∧ c02Leaf env f0 o = false := by
  have hev : (match forwardCalc env1 f1 [] with
     | .ok o => c02Leaf env1 f1 o == false
     | .error _ => false) = true := by decide +kernel
  cases hc : forwardCalc env1 f1 [] with
  | error e => rw [hc] at hev; cases hev
  | ok o =>
    rw [hc] at hev
    refine ⟨env1, f1, [], o, ?_, ⟨fun _ _ _ => Rat.le_refl, fun _ => rfl⟩, by decide +kernel, by decide +kernel, ?_, hc,
      by simpa using hev⟩
    · intro t
      have hm : memberList env1 = [0] := by decide +kernel
      rw [hm]
      match t with
      | 0 => simp [env1]
      | 1 => simp [env1]
      | 2 => simp [env1]
      | (k+3) => simp [env1]
    · intro a b
      match a, b with
      | 0, 0 | 0, 1 | 0, 2 | 0, (k+3) => simp [env1]
      | 1, 0 | 1, 1 | 1, 2 | 1, (k+3) => simp [env1]
      | 2, 0 | 2, 1 | 2, 2 | 2, (k+3) => simp [env1]
      | (j+3), 0 | (j+3), 1 | (j+3), 2 | (j+3), (k+3) => simp [env1]

open C02Cex in
/-- with `parentsOK` but without `linksSym` the statement is still false -/
theorem C02_partial_needs_linksSym :
    ∃ env f0 res0 o, env.flagsOK ∧ env.clockOK ∧ noSummaryLinks env = true ∧ outsideLeaves env = true ∧
      env.parentsOK ∧ forwardCalc env f0 res0 = .ok o ∧ c02Leaf env f0 o = false := by
  have hev : (match forwardCalc env2 f2 [] with
     | .ok o => c02Leaf env2 f2 o == false
     | .error _ => false) = true := by decide +kernel
  have hm : memberList env2 = [0, 1, 2] := by decide +kernel
  cases hc : forwardCalc env2 f2 [] with
  | error e => rw [hc] at hev; cases hev
  | ok o =>
    rw [hc] at hev
    refine ⟨env2, f2, [], o, ?_, ⟨fun _ _ _ => Rat.le_refl, fun _ => rfl⟩, by decide +kernel, by decide +kernel, ?_, hc,
      by simpa using hev⟩
    · intro t
      rw [hm]
      match t with
      | 0 => simp [env2]
      | 1 => simp [env2]
      | 2 => simp [env2]
      | (k+3) => simp [env2]
    · intro t p ht hp
      rw [hm] at ht ⊢
      match t with
      | 0 => simp [env2] at hp
      | 1 =>
        simp only [env2, Option.some.injEq] at hp
        subst hp
        simp [env2]
      | 2 => simp [env2] at hp
      | (k+3) => simp at ht

end Pj

/-
  Lemmas/CritPathSrcC4.lean — the translated tie for alg/critical_path.py: `calc` on the network of `__init__`
  (`Built`, Lemmas/CritPathSrcC2.lean): the begin and the end node are wired in (`Wired`, CritPathSrcC3.lean), the two
  passes compute the model's earliest / latest finish, the tolerance test selects the model's critical tasks.
  See Lemmas/CritPathSrc.lean.
-/
import PjVerif.Lemmas.CritPathSrcC3
namespace Pj.CritPathSrc
open Pj.PyLite Pj.CPEnv
set_option linter.unusedSimpArgs false
set_option linter.unusedVariables false

/-- on this WBS the tolerance test of the source and the exact test of the model select the same tasks -/
def TolExact (e : CPEnv) : Prop :=
  ∀ len, projectLen e = some len → ∀ t ∈ leaves e, ∀ f l, ef e t = some f → lfF e len (e.n + 1) t = some l →
    ((if l - (f - e.dur t) - e.dur t < 0 then -(l - (f - e.dur t) - e.dur t) else l - (f - e.dur t) - e.dur t) ≤
        (1 / 1000000000 : Rat) * max 1 len ↔ l - (f - e.dur t) - e.dur t = 0)

section prelude
variable (B : Nat)

theorem filterO_eq (c : Nat → Option Bool) (l : List Nat) (h : ∀ n ∈ l, ∃ b, c n = some b) :
    filterO c l = some (l.filter (fun n => c n == some true)) := by
  induction l with
  | nil => rfl
  | cons n l ih =>
    obtain ⟨b, hb⟩ := h n List.mem_cons_self
    simp only [filterO, hb, ih (fun m hm => h m (List.mem_cons_of_mem _ hm)), Option.map_some, List.filter_cons]
    cases b <;> simp

theorem noBw_of_inArcs {σ : Store} {a : Nat} {L : List (Nat × Rat)} (h : inArcs B σ a = some L) :
    noBw B σ a = some (decide (L.length = 0)) := by
  obtain ⟨fw, bw, su, eu, hg, hm⟩ := inArcs_some B h
  simp only [noBw, hg, mapM_length _ _ _ hm]

theorem noFw_of_outArcs {σ : Store} {a : Nat} {L : List (Nat × Rat)} (h : outArcs B σ a = some L) :
    noFw B σ a = some (decide (L.length = 0)) := by
  obtain ⟨fw, bw, su, eu, hg, hm⟩ := outArcs_some B h
  simp only [noFw, hg, mapM_length _ _ _ hm]

theorem mem_filter_noBw {σ : Store} {ns : List Nat} {a : Nat} {L : List (Nat × Rat)} (h : inArcs B σ a = some L) :
    a ∈ ns.filter (fun n => noBw B σ n == some true) ↔ a ∈ ns ∧ L = [] := by
  simp [List.mem_filter, noBw_of_inArcs B h]

theorem mem_filter_noFw {σ : Store} {ns : List Nat} {a : Nat} {L : List (Nat × Rat)} (h : outArcs B σ a = some L) :
    a ∈ ns.filter (fun n => noFw B σ n == some true) ↔ a ∈ ns ∧ L = [] := by
  simp [List.mem_filter, noFw_of_outArcs B h]

end prelude

section arrows
variable (e : CPEnv)

theorem arrowsOf_cons (s : Uid) (done : List Uid) :
    arrowsOf e (s :: done) = (prereqs e s).map (fun p => (p, s)) ++ arrowsOf e done := by
  simp [arrowsOf]

theorem filter_snd_map (l : List Uid) (s t : Uid) :
    (l.map (fun p => (p, s))).filter (fun a => decide (a.2 = t)) = if s = t then l.map (fun p => (p, s)) else [] := by
  by_cases h : s = t
  · subst h
    simp
  · simp [h]

theorem arrowsOf_filter_snd_notin (done : List Uid) (t : Uid) (ht : t ∉ done) :
    (arrowsOf e done).filter (fun a => decide (a.2 = t)) = [] := by
  induction done with
  | nil => rfl
  | cons s done ih =>
    rw [arrowsOf_cons, List.filter_append, filter_snd_map, ih (fun h => ht (List.mem_cons_of_mem _ h))]
    have : s ≠ t := fun h => ht (h ▸ List.mem_cons_self)
    simp [this]

theorem arrowsOf_filter_snd (done : List Uid) (hnd : done.Nodup) (t : Uid) (ht : t ∈ done) :
    (arrowsOf e done).filter (fun a => decide (a.2 = t)) = (prereqs e t).map (fun p => (p, t)) := by
  induction done with
  | nil => cases ht
  | cons s done ih =>
    obtain ⟨hs, hnd'⟩ := List.nodup_cons.mp hnd
    rw [arrowsOf_cons, List.filter_append, filter_snd_map]
    by_cases hst : s = t
    · subst hst
      rw [arrowsOf_filter_snd_notin e done s hs]
      simp
    · rcases List.mem_cons.mp ht with h | h
      · exact absurd h.symm hst
      · simp [hst, ih hnd' h]

theorem filter_fst_map (l : List Uid) (hl : l.Nodup) (s t : Uid) :
    (l.map (fun p => (p, s))).filter (fun a => decide (a.1 = t)) = if l.contains t then [(t, s)] else [] := by
  rw [List.filter_map, show ((fun a : Uid × Uid => decide (a.1 = t)) ∘ fun p => (p, s)) = fun p => decide (p = t) from rfl,
    filter_eq_of_nodup hl]
  by_cases h : t ∈ l <;> simp [h]

theorem arrowsOf_filter_fst (done : List Uid) (t : Uid) :
    (arrowsOf e done).filter (fun a => decide (a.1 = t)) = (succsIn e done t).map (fun s => (t, s)) := by
  induction done with
  | nil => rfl
  | cons s done ih =>
    rw [arrowsOf_cons, List.filter_append, filter_fst_map _ (by rw [prereqs_eq]; exact nodup_eraseDups _), ih]
    unfold succsIn
    simp only [List.filter_cons]
    by_cases h : t ∈ prereqs e s
    · simp [h]
    · simp [h]

theorem nodes_nodup {done : List Uid} {S E : Uid → Nat} (hnd : done.Nodup)
    (hinj : ∀ t ∈ done, ∀ t' ∈ done, (S t = S t' → t = t') ∧ (E t = E t' → t = t') ∧ S t ≠ E t') :
    (done.flatMap (fun t => [S t, E t])).Nodup := by
  refine List.pairwise_flatMap.mpr ⟨fun t ht => by simpa using (hinj t ht t ht).2.2, ?_⟩
  refine hnd.imp_of_mem fun {a b} ha hb hab => ?_
  have h1 := hinj a ha b hb
  have h2 := hinj b hb a ha
  simp only [List.mem_cons, List.not_mem_nil, or_false]
  rintro x (rfl | rfl) y (rfl | rfl)
  · exact fun h => hab (h1.1 h)
  · exact h1.2.2
  · exact fun h => h2.2.2 h.symm
  · exact fun h => hab (h1.2.1 h)

end arrows

/-! ### `calc` before the passes: the begin and the end node -/

section wire
variable (e : CPEnv) (tid : Uid → Int) (B : Nat)

/-- the arcs of the network of `__init__`, by prerequisites and successors -/
theorem Built.views {σ : Store} {done : List Uid} {S E L : Uid → Nat} (hb : Built e tid B σ done [] S E L) :
    (∀ t ∈ done, inArcs B σ (S t) = some ((prereqs e t).map (fun p => (E p, (0 : Rat))))) ∧
    (∀ t ∈ done, outArcs B σ (E t) = some ((succsIn e done t).map (fun s => (S s, (0 : Rat))))) := by
  constructor
  · intro t ht
    rw [hb.net.inS t ht, arrowsOf_filter_snd e done hb.nodup t ht, List.map_map]
    rfl
  · intro t ht
    rw [hb.net.outE t ht, arrowsOf_filter_fst e done t, List.map_map]
    rfl

/-- the statements of `calc` before the passes, on the network of `__init__`.  First the five equations the store
    program `calcA` asks for, in its order: the two comprehensions, `begin.start_units = 0`, the loop from the begin
    node (`σ2`), the loop into the end node (`σ3`; `begin` = `B + σ.length`, `end` = `B + σ2.length`).  Then what `σ3`
    is: the network is `Wired` with the nodes without successor as sinks; the only memo field set is `start_units = 0`
    of the begin node; the calculator object and the links of the tasks are as before. -/
theorem calc_prelude {σ : Store} {done : List Uid} {S E L : Uid → Nat} (hb : Built e tid B σ done [] S E L) :
    ∃ startNodes endNodes σ1 σ2 σ3,
      filterO (noBw B σ) (done.flatMap (fun t => [S t, E t])) = some startNodes ∧
      filterO (noFw B σ) (done.flatMap (fun t => [S t, E t])) = some endNodes ∧
      setSU B (newPNode B σ).2 (newPNode B σ).1 (some 0) = some σ1 ∧
      startNodes.foldlM (fun σ' n => (connectA B σ' (newPNode B σ).1 n 0).map (·.2)) σ1 = some σ2 ∧
      endNodes.foldlM (fun σ' n => (connectA B σ' n (newPNode B σ2).1 0).map (·.2)) (newPNode B σ2).2 = some σ3 ∧
      Wired e B σ3 done S E (B + σ.length) (B + σ2.length) endNodes ∧
      suOf B σ3 (B + σ.length) = some 0 ∧ (∀ a, a ≠ B + σ.length → suOf B σ3 a = none) ∧ (∀ a, euOf B σ3 a = none) ∧
      getO B σ3 B = getO B σ B ∧ (∀ t ∈ done, getO B σ3 (L t) = some (.link (S t) (E t) (e.dur t))) := by
  obtain ⟨hinS, houtE⟩ := hb.views e tid B
  have hnet := hb.net
  obtain ⟨tasks, hcalc, _, _⟩ := hb.hcalc
  let nodes := done.flatMap (fun t => [S t, E t])
  have hnodes : ∀ n, n ∈ nodes ↔ ∃ t ∈ done, n = S t ∨ n = E t := by
    intro n
    simp only [nodes, List.mem_flatMap, List.mem_cons, List.not_mem_nil, or_false]
  have hnd : nodes.Nodup := nodes_nodup hb.nodup hnet.inj
  have hstart := filterO_eq (noBw B σ) nodes (by
    intro n hn
    obtain ⟨t, ht, h | h⟩ := (hnodes n).mp hn
    · exact ⟨_, h ▸ noBw_of_inArcs B (hinS t ht)⟩
    · exact ⟨_, h ▸ noBw_of_inArcs B (hnet.inE t ht)⟩)
  have hend := filterO_eq (noFw B σ) nodes (by
    intro n hn
    obtain ⟨t, ht, h | h⟩ := (hnodes n).mp hn
    · exact ⟨_, h ▸ noFw_of_outArcs B (hnet.outS t ht)⟩
    · exact ⟨_, h ▸ noFw_of_outArcs B (houtE t ht)⟩)
  let startNodes := nodes.filter (fun n => noBw B σ n == some true)
  let endNodes := nodes.filter (fun n => noFw B σ n == some true)
  have hSstart : ∀ t ∈ done, (S t ∈ startNodes ↔ prereqs e t = []) := fun t ht =>
    (mem_filter_noBw B (hinS t ht)).trans
      ⟨fun h => List.map_eq_nil_iff.mp h.2, fun h => ⟨(hnodes _).mpr ⟨t, ht, Or.inl rfl⟩, by rw [h]; rfl⟩⟩
  have hEstart : ∀ t ∈ done, E t ∉ startNodes := fun t ht h =>
    List.cons_ne_nil _ _ ((mem_filter_noBw B (hnet.inE t ht)).mp h).2
  have hSend : ∀ t ∈ done, S t ∉ endNodes := fun t ht h =>
    List.cons_ne_nil _ _ ((mem_filter_noFw B (hnet.outS t ht)).mp h).2
  have hEend : ∀ t ∈ done, (E t ∈ endNodes ↔ succsIn e done t = []) := fun t ht =>
    (mem_filter_noFw B (houtE t ht)).trans
      ⟨fun h => List.map_eq_nil_iff.mp h.2, fun h => ⟨(hnodes _).mpr ⟨t, ht, Or.inr rfl⟩, by rw [h]; rfl⟩⟩
  have hnodeOld : ∀ n ∈ nodes, IsNode B σ n := by
    intro n hn
    obtain ⟨t, ht, h | h⟩ := (hnodes n).mp hn
    · exact h ▸ isNode_of_inArcs B (hinS t ht)
    · exact h ▸ isNode_of_inArcs B (hnet.inE t ht)
  have hbgnew : getO B (σ ++ [Obj.node [] [] none none]) (B + σ.length) = some (.node [] [] none none) :=
    getO_append_new B σ _
  have hset1 := setSU_node B hbgnew (some 0)
  let σ1 := setO B (σ ++ [Obj.node [] [] none none]) (B + σ.length) (.node [] [] (some 0) none)
  have hsame1 : SameF B (σ ++ [Obj.node [] [] none none]) σ1 := SameF.of_setSU B hset1
  have hw1 : Wires B σ σ1 ([] ++ []) := (wires_newPNode B σ).trans B (hsame1.wires B)
  have hbg1 : IsNode B σ1 (B + σ.length) := ⟨_, _, _, _, getO_setO_same B _ hbgnew⟩
  obtain ⟨σ2, hfold2, hw2, hm2⟩ := connects B (fun n => (B + σ.length, n)) _ startNodes σ1 (fun _ _ _ _ _ => rfl) (by
    intro n hn
    have hn' := hnodeOld n (List.mem_filter.mp hn).1
    exact ⟨hbg1, hw1.node hn', by have := hn'.lt B; omega⟩)
  have hennew : getO B (σ2 ++ [Obj.node [] [] none none]) (B + σ2.length) = some (.node [] [] none none) :=
    getO_append_new B σ2 _
  obtain ⟨σ3, hfold3, hw3, hm3⟩ := connects B (fun n => (n, B + σ2.length)) _ endNodes (σ2 ++ [Obj.node [] [] none none])
    (fun _ _ _ _ _ => rfl) (by
      intro n hn
      have hn' := hw2.node (hw1.node (hnodeOld n (List.mem_filter.mp hn).1))
      exact ⟨(wires_newPNode B σ2).node hn', ⟨_, _, _, _, hennew⟩, by have := hn'.lt B; omega⟩)
  have hw13 := (hw2.trans B (wires_newPNode B σ2)).trans B hw3
  have hw := hw1.trans B hw13
  have hold_lt : ∀ n, IsNode B σ n → n ≠ B + σ.length ∧ n ≠ B + σ2.length := by
    intro n hn
    have h1 := hn.lt B
    have h2 := (hw2.node (hw1.node hn)).lt B
    omega
  have hndS : startNodes.Nodup := List.Nodup.sublist List.filter_sublist hnd
  have hndE : endNodes.Nodup := List.Nodup.sublist List.filter_sublist hnd
  have hinF : ∀ b L, inArcs B σ b = some L →
      inArcs B σ3 b = some (L ++ if b ∈ startNodes then [(B + σ.length, (0 : Rat))] else []) := by
    intro b L h
    rw [hw.inArcs h]
    simp [List.filter_map, Function.comp_def, filter_eq_of_nodup hndS, Ne.symm (hold_lt b (isNode_of_inArcs B h)).2]
    split <;> simp
  have houtF : ∀ b L, outArcs B σ b = some L →
      outArcs B σ3 b = some (L ++ if b ∈ endNodes then [(B + σ2.length, (0 : Rat))] else []) := by
    intro b L h
    obtain ⟨_, _, _, _, hg, _⟩ := outArcs_some B h
    rw [hw.outArcs h]
    simp [List.filter_map, Function.comp_def, filter_eq_of_nodup hndE, Ne.symm (hold_lt b ⟨_, _, _, _, hg⟩).1]
    split <;> simp
  have hm13 : MemoEq B σ1 σ3 := (hm2.trans B ((ext_newPNode B σ2).memo B)).trans B hm3
  refine ⟨startNodes, endNodes, σ1, σ2, σ3, hstart, hend, hset1, hfold2, hfold3, ⟨?_, ?_, ?_, ?_, ?_, ?_, ?_, ?_⟩,
    ?_, ?_, ?_, ?_, ?_⟩
  · intro t ht
    simp only [hinF _ _ (hinS t ht), hSstart t ht]
  · intro t ht
    rw [hinF _ _ (hnet.inE t ht), if_neg (hEstart t ht), List.append_nil]
  · intro t ht
    rw [houtF _ _ (hnet.outS t ht), if_neg (hSend t ht), List.append_nil]
  · intro t ht
    simp only [houtF _ _ (houtE t ht), hEend t ht]
  · -- the begin node has no incoming arc
    have h1 : inArcs B σ1 (B + σ.length) = some [] := by
      rw [← hsame1.inArcs_eq B]; exact inArcs_bare B hbgnew
    have hnot : ∀ n ∈ startNodes, n ≠ B + σ.length := fun n hn hx =>
      (hold_lt n (hnodeOld n (List.mem_filter.mp hn).1)).1 hx
    have hne : B + σ2.length ≠ B + σ.length := by
      have := (hw2.node hbg1).lt B
      omega
    rw [hw13.inArcs h1]
    simpa [List.filter_map, Function.comp_def, hne] using ⟨hnot, fun _ _ h => hne (by omega)⟩
  · rw [hw3.inArcs (inArcs_bare B hennew)]
    simp [List.filter_map, Function.comp_def, List.filter_eq_self.mpr]
  · have hnot : ∀ n ∈ endNodes, n ≠ B + σ2.length := fun n hn hx =>
      (hold_lt n (hnodeOld n (List.mem_filter.mp hn).1)).2 hx
    rw [hw3.outArcs (outArcs_bare B hennew)]
    simpa [List.filter_map, Function.comp_def] using hnot
  · intro n
    constructor
    · intro hn
      obtain ⟨t, ht, h | h⟩ := (hnodes n).mp (List.mem_filter.mp hn).1
      · subst h; exact absurd hn (hSend t ht)
      · subst h; exact ⟨t, ht, rfl, (hEend t ht).mp hn⟩
    · rintro ⟨t, ht, rfl, hs⟩
      exact (hEend t ht).mpr hs
  · rw [(hm13 _).1]
    simp only [suOf, σ1, getO_setO_same B _ hbgnew]
  · intro a ha
    have h1 := suOf_setSU B hset1 a
    rw [if_neg ha] at h1
    rw [(hm13 a).1, h1, ((ext_newPNode B σ).memo B a).1]
    exact (hnet.fresh a).1
  · intro a
    rw [(hm13 a).2, ← hsame1.euOf_eq B, ((ext_newPNode B σ).memo B a).2]
    exact (hnet.fresh a).2
  · rw [hcalc]
    exact hw.calcObj hcalc
  · intro t ht
    exact hw.link _ _ _ _ (hnet.link t ht)

end wire

section final
variable (e : CPEnv) (tid : Uid → Int) (B : Nat)

theorem suOf_some_node {σ : Store} {a : Nat} {v : Rat} (h : suOf B σ a = some v) :
    ∃ fw bw eu, getO B σ a = some (.node fw bw (some v) eu) := by
  unfold suOf at h
  split at h
  · next fw bw su eu hg => subst h; exact ⟨fw, bw, eu, hg⟩
  · cases h

theorem euOf_some_node {σ : Store} {a : Nat} {v : Rat} (h : euOf B σ a = some v) :
    ∃ fw bw su, getO B σ a = some (.node fw bw su (some v)) := by
  unfold euOf at h
  split at h
  · next fw bw su eu hg => subst h; exact ⟨fw, bw, su, hg⟩
  · cases h

/-- the last loop of `calc` -/
theorem res_loop {σ : Store} {done : List Uid} {S E L : Uid → Nat} {en : Nat} {len : Rat}
    {nodes : List Nat} {links tasks : List (Atom × Atom)} {ed : Atom} {mem : List Atom}
    (hc : getO B σ B = some (.calc nodes links tasks ed mem))
    (hlinks : ∀ t ∈ done, Dict.get? links (idA (tid t)) = some (.ref (L t)))
    (htasks : ∀ t ∈ done, Dict.get? tasks (idA (tid t)) = some (.ref t))
    (hlink : ∀ t ∈ done, getO B σ (L t) = some (.link (S t) (E t) (e.dur t)))
    (hen : suOf B σ en = some len)
    (hval : ∀ t ∈ done, ∃ f l, ef e t = some f ∧ lfF e len (e.n + 1) t = some l ∧
      suOf B σ (S t) = some (f - e.dur t) ∧ euOf B σ (E t) = some l)
    (htol : TolExact e) (hlen : projectLen e = some len) (hleaf : ∀ t ∈ done, t ∈ leaves e) :
    ∀ (ds : List Uid), (∀ t ∈ ds, t ∈ done) → ∀ (res : List Atom),
      (ds.map (fun t => idA (tid t))).foldlM (resStep B en σ) res =
        some (res ++ (ds.filter (critOf e len)).map Atom.ref) := by
  intro ds
  induction ds with
  | nil => intro _ res; simp
  | cons t ds ih =>
    intro hds res
    have ht := hds t List.mem_cons_self
    obtain ⟨f, l, hf, hl, hsu, heu⟩ := hval t ht
    obtain ⟨fwS, bwS, euS, hgS⟩ := suOf_some_node B hsu
    obtain ⟨fwE, bwE, suE, hgE⟩ := euOf_some_node B heu
    obtain ⟨fwN, bwN, euN, hgN⟩ := suOf_some_node B hen
    have hcrit : critOf e len t = decide (l - (f - e.dur t) - e.dur t = 0) := by
      simp only [critOf, hf, hl]
    have hstep : resStep B en σ res (idA (tid t)) =
        some (if critOf e len t = true then res ++ [Atom.ref t] else res) := by
      simp only [resStep, hc, hlinks t ht, hlink t ht, hgE, hgS, hgN, pyMaxR_eq_max, htasks t ht]
      by_cases hz : l - (f - e.dur t) - e.dur t = 0
      · have := (htol len hlen t (hleaf t ht) f l hf hl).mpr hz
        rw [if_pos this, hcrit]
        simp [hz]
      · have := fun hx => hz ((htol len hlen t (hleaf t ht) f l hf hl).mp hx)
        rw [if_neg this, hcrit]
        simp [hz]
    simp only [List.map_cons, List.foldlM_cons, hstep, bind, Option.bind]
    rw [ih (fun x hx => hds x (List.mem_cons_of_mem _ hx))]
    by_cases hcr : critOf e len t = true
    · simp [hcr, List.filter_cons]
    · simp [hcr, List.filter_cons]

theorem calc_ok (hid : IdInj e tid) (hac : acyclicB e = true) (htol : TolExact e) {σ : Store} {done : List Uid}
    {S E L : Uid → Nat} (hb : Built e tid B σ done [] S E L) (hdone : ∀ t, t ∈ done ↔ t ∈ leaves e)
    {len : Rat} (hlen : projectLen e = some len) (f : Nat) (hf : 2 * (e.n + 1) + 2 ≤ f) :
    ∃ σ5, calcA B f σ = some ((done.filter (critOf e len)).map Atom.ref, σ5) := by
  obtain ⟨tasks, hcalc, _, htk2⟩ := hb.hcalc
  obtain ⟨startNodes, endNodes, σ1, σ2, σ3, hstart, hend, hset1, hfold2, hfold3, hw, hsubg, hsun, heun, hc3, hlk3⟩ :=
    calc_prelude e tid B hb
  rw [hcalc] at hc3
  have hpre := hb.preDone
  have hefl : ∀ t ∈ done, ∃ v, efF e (e.n + 1) t = some v := fun t ht => ef_of_acyclic e hac ((hdone t).mp ht)
  have hlfl : ∀ t ∈ done, ∃ v, lfF e len (e.n + 1) t = some v := fun t ht => lfF_total e len hac t ((hdone t).mp ht)
  have hinv3 : FwdInv B σ3 σ3 := ⟨SameF.refl B σ3, by
    intro a v hv
    by_cases ha : a = B + σ.length
    · subst ha
      rw [hsubg] at hv
      cases hv
      exact ⟨1, lp_bg e B hw 0⟩
    · rw [hsun a ha] at hv; cases hv⟩
  have hlpn : ∀ n ∈ done.flatMap (fun t => [S t, E t]) ++ [B + σ2.length], ∃ v, lpF (inArcs B σ3) f n = some v := by
    intro n hn
    rcases List.mem_append.mp hn with hn | hn
    · obtain ⟨t, ht, hnt⟩ := List.mem_flatMap.mp hn
      obtain ⟨v, hv⟩ := hefl t ht
      have := lp_task_le e B hw hpre ht hv (k := f) (by omega)
      simp only [List.mem_cons, List.not_mem_nil, or_false] at hnt
      rcases hnt with h | h
      · exact ⟨_, h ▸ this.1⟩
      · exact ⟨_, h ▸ this.2⟩
    · simp only [List.mem_singleton] at hn
      subst hn
      exact ⟨len, lpF_mono_le _ _ _ hf _ _ (lp_end e B hw hpre hdone hac hlen)⟩
  obtain ⟨σ4, hfold4, hinv4, _, hset4⟩ := fwd_all B σ3 f _ σ3 hinv3 hlpn
  have hc4 : getO B σ4 B = some (.calc (done.flatMap (fun t => [S t, E t]))
      (done.map (fun t => (idA (tid t), Atom.ref (L t)))) tasks .none (memOf e.members)) := hinv4.same.calcObj B hc3
  have hsuS : ∀ t ∈ done, ∀ v, efF e (e.n + 1) t = some v → suOf B σ4 (S t) = some (v - e.dur t) := by
    intro t ht v hv
    exact hinv4.su_eq B (lp_task_le e B hw hpre ht hv (k := f) (by omega)).1
      (hset4 _ (List.mem_append_left _ (List.mem_flatMap.mpr ⟨t, ht, List.mem_cons_self⟩)))
  have hsuEn : suOf B σ4 (B + σ2.length) = some len :=
    hinv4.su_eq B (lpF_mono_le _ _ _ hf _ _ (lp_end e B hw hpre hdone hac hlen))
      (hset4 _ (List.mem_append_right _ List.mem_cons_self))
  have hw4 := hw.of_same e B hinv4.same
  have hinv4b : BwdInv B σ4 σ4 := ⟨SameB.refl B σ4, by
    intro a v hv
    rw [← hinv4.same.euOf_eq B, heun a] at hv; cases hv⟩
  have hltn : ∀ n ∈ done.flatMap (fun t => [S t, E t]), ∃ v, ltF (outArcs B σ4) (suOf B σ4) f n = some v := by
    intro n hn
    obtain ⟨t, ht, hnt⟩ := List.mem_flatMap.mp hn
    obtain ⟨v, hv⟩ := hlfl t ht
    have := lt_task_le e B hw4 hdone (suOf B σ4) hsuEn ht hv (k := f) (by omega)
    simp only [List.mem_cons, List.not_mem_nil, or_false] at hnt
    rcases hnt with h | h
    · exact ⟨_, h ▸ this.2⟩
    · exact ⟨_, h ▸ this.1⟩
  obtain ⟨σ5, hfold5, hinv5, _, hset5⟩ := bwd_all B σ4 f _ σ4 hinv4b hltn
  have hc5 := hinv5.same.calcObj B hc4
  have heuE : ∀ t ∈ done, ∀ v, lfF e len (e.n + 1) t = some v → euOf B σ5 (E t) = some v := by
    intro t ht v hv
    exact hinv5.eu_eq B (lt_task_le e B hw4 hdone (suOf B σ4) hsuEn ht hv (k := f) (by omega)).1
      (hset5 _ (List.mem_flatMap.mpr ⟨t, ht, by simp⟩))
  have hres := res_loop e tid B (σ := σ5) (done := done) (S := S) (E := E) (L := L) (en := B + σ2.length) (len := len) hc5
    (fun t ht => get?_map_idA tid (fun x => Atom.ref (L x)) done t ht
      (fun x hx hxt => hid x (hb.doneLeaf x hx) t (hb.doneLeaf t ht) hxt))
    (fun t ht => htk2 t (Or.inl ht))
    (fun t ht => (hinv5.same.link B).1 ((hinv4.same.link B).1 (hlk3 t ht)))
    (by rw [← hinv5.same.suOf_eq B]; exact hsuEn)
    (by
      intro t ht
      obtain ⟨v, hv⟩ := hefl t ht
      obtain ⟨l, hl⟩ := hlfl t ht
      exact ⟨v, l, hv, hl, by rw [← hinv5.same.suOf_eq B]; exact hsuS t ht v hv, heuE t ht l hl⟩)
    htol hlen hb.doneLeaf
    done (fun t ht => ht) []
  refine ⟨σ5, ?_⟩
  have hn3 : nodesOf B σ3 = some (done.flatMap (fun t => [S t, E t])) := by simp only [nodesOf, hc3]
  have hn4 : nodesOf B σ4 = some (done.flatMap (fun t => [S t, E t])) := by simp only [nodesOf, hc4]
  have hkeys : (done.map (fun t => (idA (tid t), Atom.ref (L t)))).map (·.1) = done.map (fun t => idA (tid t)) := by
    rw [List.map_map]; rfl
  simp only [calcA, hcalc, hstart, hend, hset1, hfold2, hfold3, hn3]
  rw [show (newPNode B σ2).1 = B + σ2.length from rfl]
  simp only [hfold4, hn4, hfold5, hc5, hkeys, hres, List.nil_append, if_true]

end final

end Pj.CritPathSrc

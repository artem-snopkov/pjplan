/-
  Lemmas/PrintSrcCheck.lean — the WBS of the concrete runs of the translated sheet printer (Extracted/PrintSrc.lean)
  against Model/Print.lean, with the concrete string library `cLib`: the runs are in PrintSrcCheckB.lean.  See
  Lemmas/PrintSrc.lean.
-/
import PjVerif.Lemmas.PrintSrc
import PjVerif.Lemmas.PrintSrcLib
namespace Pj.PrintSrc
open Pj.PyLite Pj.Print Pj.Extracted.Print

deriving instance DecidableEq for Except

namespace Check

def FC : Nat := 40

def S : Lib := cLib

def mk (l : List PyTask) : Nat → PyTask := fun u => l.getD u default

def i (n : Nat) : Atom := .num ((n : Nat) : Rat)

/-- WBS 7 (root 0, hidden: id = EMPTY_TASK_ID): 1 "Alpha" [2 "beta" [3 None], 4 "Gamma"]; task 5 lives in WBS 8, task 6 in no
    WBS; links inside and outside; custom attributes (a str, a number, None, a datetime, an upper-case key, a print_color) -/
def w1 : Nat → PyTask := mk
  [ { id := .num 9223372036854775807, name := none, estimate := .none, spent := .none, dict := [],
      children := [1], preds := [], succs := [], parent := none, wbs := some 7 },
    { id := i 1, name := some "Alpha".toList, estimate := i 5, spent := .none,
      dict := [("resource".toList, cLib.s "Ann".toList), ("start".toList, .time 19000), ("end".toList, .none)],
      children := [2, 4], preds := [], succs := [4, 5], parent := none, wbs := some 7 },
    { id := i 2, name := some "beta".toList, estimate := .num (5/2), spent := i 1,
      dict := [("resource".toList, .none), ("Prio".toList, i 3), ("print_color".toList, cLib.s "91m".toList)],
      children := [3], preds := [1, 5, 6], succs := [], parent := some 1, wbs := some 7 },
    { id := cLib.s "x-3".toList, name := none, estimate := .none, spent := .none,
      dict := [("print_color".toList, .none)],
      children := [], preds := [2, 2, 0], succs := [], parent := some 2, wbs := some 7 },
    { id := i 4, name := some "Gamma".toList, estimate := i 0, spent := i 0, dict := [("prio".toList, i 9)],
      children := [], preds := [1], succs := [], parent := some 1, wbs := some 7 },
    { id := i 50, name := some "Ext".toList, estimate := .none, spent := .none, dict := [],
      children := [], preds := [1], succs := [2], parent := none, wbs := some 8 },
    { id := i 60, name := some "Free".toList, estimate := .none, spent := .none, dict := [],
      children := [], preds := [], succs := [2], parent := some 5, wbs := none } ]

def ts1 : Nat → PTask := fun u => toPTask S (w1 u)

def allFields : List Str :=
  ["id", "name", "resource", "estimate", "spent", "start", "end", "predecessors", "successors", "parent", "prio", "Prio",
   "PRIO", "RESOURCE", "nosuch", "print_color", ""].map String.toList

/-- the string library round-trips on the texts used -/
example : (allFields.all (fun f => dec (enc f) == f)) = true := List.all_eq_true.2 fun f _ => beq_iff_eq.2 (dec_enc f)

end Check
end Pj.PrintSrc

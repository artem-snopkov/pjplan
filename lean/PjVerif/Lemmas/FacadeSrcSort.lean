/-
  Lemmas/FacadeSrcSort.lean — stable sorting: the insertion sort of PyLite (`insSort`, the meaning of Python's `sorted` in
  `pySorted`) is `List.mergeSort` for a total preorder, hence the model's `sortBy` (Model/GraphOps.lean).  Used by
  Lemmas/FacadeSrcC.lean (stage 3 of the tie for the list facades of task.py) and by Lemmas/FacadeSrcCheckC.lean
  (`List.mergeSort` is defined by well-founded recursion and does not reduce in the kernel; `insSort` does).
-/
import PjVerif.Model.PyLite
import PjVerif.Lemmas.GraphEffLemmas
namespace Pj.FacadeSrc
open Pj.PyLite

theorem insLe_append {α : Type} (le : α → α → Bool) (a : α) (l₂ : List α) (h2 : ∀ c ∈ l₂.head?, le a c = true) :
    ∀ (l₁ : List α), (∀ b ∈ l₁, le a b = false) → insLe le a (l₁ ++ l₂) = l₁ ++ a :: l₂ := by
  intro l₁
  induction l₁ with
  | nil =>
    intro _
    cases l₂ with
    | nil => rfl
    | cons c l₂ => simp only [List.nil_append, insLe, h2 c (by simp), if_true]
  | cons b l₁ ih =>
    intro h1
    have hb := h1 b List.mem_cons_self
    simp only [List.cons_append, insLe, hb, Bool.false_eq_true, if_false]
    rw [ih (fun c hc => h1 c (List.mem_cons_of_mem _ hc))]

theorem insSort_eq_mergeSort {α : Type} (le : α → α → Bool) (htr : ∀ a b c, le a b = true → le b c = true → le a c = true)
    (htot : ∀ a b, (le a b || le b a) = true) : ∀ (l : List α), insSort le l = l.mergeSort le := by
  intro l
  induction l with
  | nil => simp [insSort]
  | cons a l ih =>
    obtain ⟨l₁, l₂, h1, h2, h3⟩ := List.mergeSort_cons htr htot a l
    have hs := List.pairwise_mergeSort htr htot (a :: l)
    rw [h1] at hs
    have ha2 : ∀ c ∈ l₂, le a c = true := by
      have := (List.pairwise_append.1 hs).2.1
      exact fun c hc => (List.pairwise_cons.1 this).1 c hc
    simp only [insSort, ih, h2, h1]
    apply insLe_append
    · intro c hc
      cases l₂ with
      | nil => simp at hc
      | cons d l₂ => simp at hc; subst hc; exact ha2 _ List.mem_cons_self
    · intro b hb
      have := h3 b hb
      simpa using this

theorem mem_insLe {α : Type} (le : α → α → Bool) (a b : α) : ∀ (l : List α), b ∈ insLe le a l ↔ b = a ∨ b ∈ l := by
  intro l
  induction l with
  | nil => simp [insLe]
  | cons c l ih =>
    simp only [insLe]
    split
    · simp
    · simp only [List.mem_cons, ih]
      constructor
      · rintro (h | h | h)
        · exact Or.inr (Or.inl h)
        · exact Or.inl h
        · exact Or.inr (Or.inr h)
      · rintro (h | h | h)
        · exact Or.inr (Or.inl h)
        · exact Or.inl h
        · exact Or.inr (Or.inr h)

theorem mem_insSort {α : Type} (le : α → α → Bool) (b : α) : ∀ (l : List α), b ∈ insSort le l ↔ b ∈ l := by
  intro l
  induction l with
  | nil => simp [insSort]
  | cons a l ih => simp only [insSort, mem_insLe, ih, List.mem_cons]

theorem insLe_map {α β : Type} (f : α → β) (le : β → β → Bool) (le' : α → α → Bool) (a : α) :
    ∀ (l : List α), (∀ b ∈ l, le' a b = le (f a) (f b)) → insLe le (f a) (l.map f) = (insLe le' a l).map f := by
  intro l
  induction l with
  | nil => intro _; rfl
  | cons c l ih =>
    intro h
    have hc := h c List.mem_cons_self
    simp only [List.map_cons, insLe, ← hc]
    split
    · rfl
    · simp only [List.map_cons, ih (fun b hb => h b (List.mem_cons_of_mem _ hb))]

theorem insSort_map {α β : Type} (f : α → β) (le : β → β → Bool) (le' : α → α → Bool) :
    ∀ (l : List α), (∀ a ∈ l, ∀ b ∈ l, le' a b = le (f a) (f b)) → insSort le (l.map f) = (insSort le' l).map f := by
  intro l
  induction l with
  | nil => intro _; rfl
  | cons a l ih =>
    intro h
    simp only [List.map_cons, insSort]
    rw [ih (fun x hx y hy => h x (List.mem_cons_of_mem _ hx) y (List.mem_cons_of_mem _ hy))]
    apply insLe_map
    intro b hb
    exact h a List.mem_cons_self b (List.mem_cons_of_mem _ ((mem_insSort le' b l).1 hb))

theorem sortBy_eq_insSort (key : Uid → Int) (r : Bool) (l : List Uid) :
    sortBy key r l = insSort (fun a b => if r then decide (key b ≤ key a) else decide (key a ≤ key b)) l := by
  rw [sortBy_eq, ← insSort_eq_mergeSort _ (leOf_trans key r) (leOf_total key r)]
  cases r <;> rfl

end Pj.FacadeSrc

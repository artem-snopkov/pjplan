/-
  Lemmas/CritPathSrcCheck.lean — stage 1 of the translated tie for alg/critical_path.py: what the concrete runs of
  `wbs.critical_path()` (Extracted/CritPathSrc.lean) against Model/CritPath.lean state (`agree`), and the first WBSs.
  The runs on them are at the head of Lemmas/CritPathSrcCheckB.lean.  See Lemmas/CritPathSrc.lean.
-/
import PjVerif.Lemmas.CritPathSrc
namespace Pj.CritPathSrc
open Pj.PyLite Pj.Extracted.CritPath

deriving instance DecidableEq for Except

namespace Check

/-- a row of a WBS description: parent, children, predecessors, estimate, spent (as in Drive/CritPath.lean) -/
abbrev Row := Option Uid × List Uid × List Uid × Option Rat × Option Rat

def mkEnv (rows : List Row) (members : List Uid) : CPEnv :=
  let row (u : Nat) : Row := rows.getD u (none, [], [], none, none)
  { n := rows.length, members := members,
    children := fun u => (row u).2.1, parent := fun u => (row u).1, preds := fun u => (row u).2.2.1,
    est := fun u => (row u).2.2.2.1, spent := fun u => (row u).2.2.2.2 }

/-- the fuel of the runs: the depth of nested calls -/
def FC : Nat := 60

def sameSet (a b : List Atom) : Bool := a.all b.contains && b.all a.contains

/-- the run returns the model's critical tasks (as a set, each once), or both fail with the same error -/
def agree (e : CPEnv) (tid : Uid → Int) : Bool :=
  match interpCriticalPath FC e tid, e.criticalPath with
  | .ok (.list l), .ok m => sameSet l (m.map Atom.ref) && decide (l.eraseDups.length = l.length)
  | .error a, .error b => decide (a = b)
  | _, _ => false

/-- ids of their own -/
def tidOf (u : Uid) : Int := 100 + u

/-- a chain 0 -> 1 -> 2 -/
def chain : CPEnv := mkEnv
  [(none, [], [], some 2, none),
   (none, [], [0], some 3, some 1),
   (none, [], [1], some 1, none)]
  [0, 1, 2]

/-- a diamond 0 -> {1, 2} -> 3, the branch through 2 is longer -/
def diamond : CPEnv := mkEnv
  [(none, [], [], some 1, none),
   (none, [], [0], some 3, none),
   (none, [], [0], some 5, none),
   (none, [], [1, 2], some 2, none)]
  [0, 1, 2, 3]

/-- parallel branches with a tie (1 and 2), a shorter branch (4), an independent chain of the same total length (5), a short one (6) -/
def ties : CPEnv := mkEnv
  [(none, [], [], some 1, none),
   (none, [], [0], some 4, none),
   (none, [], [0], some 6, some 2),
   (none, [], [1, 2], some 2, none),
   (none, [], [0], some 3, none),
   (none, [], [], some 7, none),
   (none, [], [], some 1, none)]
  [0, 1, 2, 3, 4, 5, 6]

/-- zero-length tasks on the longest chain (1 in the middle, 6 at its end) and off it (3, 7 alone, 5 after 4) -/
def zeros : CPEnv := mkEnv
  [(none, [], [], some 2, none),
   (none, [], [0], some 0, none),
   (none, [], [1], some 3, none),
   (none, [], [], some 0, none),
   (none, [], [], some 1, none),
   (none, [], [4], some 0, none),
   (none, [], [2], some 0, none),
   (none, [], [], none, none)]
  [0, 1, 2, 3, 4, 5, 6, 7]

/-- a single task -/
def single : CPEnv := mkEnv
  [(none, [], [], some 3, none)]
  [0]

/-- no links at all: the longest tasks are critical -/
def nolinks : CPEnv := mkEnv
  [(none, [], [], some 3, none),
   (none, [], [], some 5, none),
   (some 4, [], [], some 5, some 1),
   (some 4, [], [], some 5, none),
   (none, [2, 3], [], none, none)]
  [0, 1, 2, 3, 4]

/-- no tasks -/
def empty : CPEnv := mkEnv
  []
  []

/-- nested summaries over one leaf without estimate -/
def onlysummary : CPEnv := mkEnv
  [(none, [1], [], some 3, none),
   (some 0, [2], [], some 1, none),
   (some 1, [], [], none, none)]
  [0, 1, 2]

end Check
end Pj.CritPathSrc

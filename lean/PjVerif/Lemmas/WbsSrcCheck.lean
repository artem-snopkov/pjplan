/-
  Lemmas/WbsSrcCheck.lean — stage 1 / stage 2 of the translated tie for wbs.py: kernel-checked concrete runs of the
  translated `WBS.tasks`, `__getitem__`, `roots` (getter / setter), `//`, `remove`, `remove_all` (Extracted/WbsSrc.lean)
  against the graph model.  See Lemmas/WbsSrc.lean.  Here: what is compared (the comments at the comparisons name the inputs of all
  their runs), the runs on the cyclic g3 and one comparison of the model's two forms of `remove` on g2; the runs on g1 and
  g2 are instances of the general theorems (WbsSrcRuns.lean).
-/
import PjVerif.Lemmas.WbsSrc
import PjVerif.Lemmas.TaskSrcCheck
namespace Pj.WbsSrc
open Pj.PyLite Pj.Extracted Pj.TaskSrc Pj.TaskSrc.Check

namespace Check

def FW : Nat := 40

def runW (filt : List Atom → PState → List Uid) (s : G) (k : Nat) (args : List Val) : Res (Val × List PyLite.Env) :=
  observe s.n (interpW filt FW k args (encStN s))

/-- a value and the model's new state, or the model's error -/
def expectR (n : Nat) (v : Val) (r : G × Option Err) : Res (Val × List PyLite.Env) :=
  match r with
  | (s', none) => .ok (v, view n (encHeap s'))
  | (_, some e) => .error e

def idV (i : Int) : Val := .atom (idA i)

/-! #### stage 1 -/

-- `wbs.tasks` = `wbsTasks`, `wbs.roots` = the children of the hidden root: every object as the receiver (the hidden
-- roots 0 and 8 of g1, 0 of g2; on other objects the functions are the same functions of the task)
def tasksAgree (s : G) : Bool :=
  allU s (fun w =>
    decide (runW noFilt s fn_WBS_tasks [refV w] = expectV s ((wbsTasks s w).map refs)) &&
    decide (runW noFilt s fn_WBS_roots_get [refV w] = expectV s (some (refs (s.children w)))))

example : tasksAgree g3 = true := by decide +kernel

/-- `wbs[i]` = `wbsGet`: the first member with that id / RuntimeError; ids 10 (also carried by tasks of other trees),
    20, 30, 40 (a detached task only), EMPTY_TASK_ID (the hidden root is not a member) -/
def expectGet (s : G) (r : Res Uid) : Res (Val × List PyLite.Env) :=
  match r with
  | .ok t => .ok (refV t, view s.n (encHeap s))
  | .error e => .error e

def getAgree (s : G) (ids : List Int) : Bool :=
  allU s (fun w => ids.all (fun i =>
    decide (runW noFilt s fn_WBS_getitem [refV w, idV i] = expectGet s (wbsGet s w i))))

example : getAgree g3 [1, 2] = true := by decide +kernel

-- `wbs.roots = v` = the children setter on the hidden root; `wbs // v` = `floordiv`, returning `v`
def rootsSetAgree (s : G) (w : Uid) : Bool :=
  allU s (fun a =>
    decide (runW noFilt s fn_WBS_roots_set [refV w, refs [a]] = expect s.n (setChildren s w [a])) &&
    decide (runW noFilt s fn_WBS_roots_set [refV w, refs [a, 10]] = expect s.n (setChildren s w [a, 10])) &&
    decide (runW noFilt s fn_WBS_roots_set [refV w, refs []] = expect s.n (setChildren s w [])) &&
    decide (runW noFilt s fn_WBS_floordiv [refV w, refV a] = expectR s.n (refV a) (floordiv s w [a])) &&
    decide (runW noFilt s fn_WBS_floordiv [refV w, refs [11, a]] = expectR s.n (refs [11, a]) (floordiv s w [11, a])))

/-! #### stage 2 -/

def boolV' (b : Bool) : Val := .atom (.bool b)

/-- what `wbs.remove(t)` is compared with: the flag and the new state of `removeRec`, RecursionError when it runs out
    of fuel (`removeRecS` = `removeRec`, `wbsRemoveS` = `wbsRemove`: `removeRecS_eq`, `wbsRemoveS_eq` in WbsSrc.lean - the
    kernel cannot evaluate the model's well-founded recursion) -/
def expectRemove (s : G) (w t : Uid) : Res (Val × List PyLite.Env) :=
  match removeRecS t s.fuel s w with
  | none => .error (.crash .recursion)
  | some (s', none, b) => .ok (boolV' b, view s.n (encHeap s'))
  | some (_, some e, _) => .error e

-- `wbs.remove(t)`: every task of every graph, from every object as the WBS
def removeAgree (s : G) : Bool :=
  allU s (fun w => allU s (fun t =>
    decide (runW noFilt s fn_WBS_remove [refV w, refV t] = expectRemove s w t)))

example : removeAgree g3 = true := by decide +kernel

/-- the model's `wbsRemove` is `removeRec` without the flag -/
example : allU g2 (fun t => decide ((expectRemove g2 0 t).map (·.2) = (expect g2.n (wbsRemoveS g2 0 t)).map (·.2))) = true := by
  decide +kernel

-- `wbs.remove_all(...)`, the filter evaluation yielding `ts`: `forEach wbsRemove`, the value is the list of the chosen
-- tasks (`[]` when nothing is chosen)
def removeAllAgree (s : G) (w : Uid) (ts : List Uid) : Bool :=
  decide (runW (fun _ _ => ts) s fn_WBS_remove_all [refV w, .atom .none, .atom .none] =
    expectR s.n (refs ts) (forEach (fun s t => wbsRemoveS s w t) s ts))

example : removeAllAgree g3 0 [1] = true := by decide +kernel            -- the cycle: RecursionError on both sides

end Check
end Pj.WbsSrc

/-
  Lemmas/SchedPass.lean — the recursive passes: what one placement and one pass may change (`Ext`, the "extension" of the
  pass state), and the induction over a pass, once for both directions (`gPass`, of which both passes are instances; `Sched`
  holds what distinguishes the two schedulers, `Sched.OK` what the inductions need of one).
-/
import PjVerif.Lemmas.SchedLedger
import PjVerif.Lemmas.SchedWbs
namespace Pj

theorem maxEnds_ge (σ : SS) (l : List Uid) (m : Time) :
    m ≤ maxEnds σ l m ∧ ∀ p ∈ l, ∀ e, (σ.f p).end_ = some e → e ≤ maxEnds σ l m := by
  obtain ⟨h1, h2⟩ := (maxT_selects.foldl (l.filterMap (fun t => (σ.f t).end_)) m).2
  exact ⟨h1, fun p hp e he => h2 e (List.mem_filterMap.2 ⟨p, hp, he⟩)⟩

theorem maxEnds_congr (σ σ' : SS) (l : List Uid) (m : Time) (h : ∀ p ∈ l, (σ'.f p).end_ = (σ.f p).end_) :
    maxEnds σ' l m = maxEnds σ l m := by
  unfold maxEnds
  rw [filterMap_congr' l _ _ h]

/-- `σ'` extends `σ`: tasks are only ever added to `done` (each once), the fields of a task change only while it
    is being placed and are frozen afterwards, rows and resource-table entries are only appended, and every new
    row belongs to a task that became done in between -/
structure Ext (σ σ' : SS) : Prop where
  done : ∃ l, σ'.done = σ.done ++ l ∧ (∀ x ∈ l, x ∉ σ.done) ∧ l.Nodup
  frozen : ∀ x, x ∈ σ.done → σ'.f x = σ.f x
  untouched : ∀ x, x ∉ σ'.done → σ'.f x = σ.f x
  rows : ∃ r, σ'.rows = σ.rows ++ r ∧ ∀ x ∈ r, x.task ∈ σ'.done ∧ x.task ∉ σ.done
  res : ∃ r, σ'.res = σ.res ++ r ∧ ∀ p ∈ r, ∀ q ∈ σ.res, q.1 ≠ p.1
  reads : σ.reads ≤ σ'.reads

theorem Ext.refl (σ : SS) : Ext σ σ :=
  ⟨⟨[], by simp, by simp, List.nodup_nil⟩, fun _ _ => rfl, fun _ _ => rfl, ⟨[], by simp, by simp⟩,
    ⟨[], by simp, by simp⟩, Nat.le_refl _⟩

theorem Ext.done_sub {σ σ' : SS} (h : Ext σ σ') {x : Uid} (hx : x ∈ σ.done) : x ∈ σ'.done := by
  obtain ⟨l, hl, _⟩ := h.done
  rw [hl]; exact List.mem_append_left _ hx

theorem Ext.rows_done {σ σ' : SS} (h : Ext σ σ') (hr : ∀ r ∈ σ.rows, r.task ∈ σ.done) :
    ∀ r ∈ σ'.rows, r.task ∈ σ'.done := by
  intro x hx
  obtain ⟨new, hn, hq⟩ := h.rows
  rw [hn] at hx
  rcases List.mem_append.1 hx with hx | hx
  · exact h.done_sub (hr x hx)
  · exact (hq x hx).1

/-- the fields of the tasks a done task is linked to do not change any more: those inside the WBS are done, the
    others are never placed -/
theorem Ext.links_frozen {σ σ' : SS} (he : Ext σ σ') (env : Env)
    (hdm : ∀ x ∈ σ'.done, (env.info x).member = true) (l : List Uid)
    (hl : ∀ p ∈ l, (env.info p).member = true → p ∈ σ.done) : ∀ p ∈ l, σ'.f p = σ.f p := by
  intro p hp
  by_cases hm : (env.info p).member = true
  · exact he.frozen p (hl p hp hm)
  · exact he.untouched p (fun hc => hm (hdm p hc))

theorem Ext.trans {σ σ' σ'' : SS} (h1 : Ext σ σ') (h2 : Ext σ' σ'') : Ext σ σ'' := by
  obtain ⟨l1, hl1, hn1, hd1⟩ := h1.done
  obtain ⟨l2, hl2, hn2, hd2⟩ := h2.done
  obtain ⟨r1, hr1, hq1⟩ := h1.rows
  obtain ⟨r2, hr2, hq2⟩ := h2.rows
  obtain ⟨s1, hs1, hp1⟩ := h1.res
  obtain ⟨s2, hs2, hp2⟩ := h2.res
  refine ⟨⟨l1 ++ l2, by rw [hl2, hl1, List.append_assoc], ?_, ?_⟩, ?_, ?_, ⟨r1 ++ r2, by rw [hr2, hr1, List.append_assoc], ?_⟩,
    ⟨s1 ++ s2, by rw [hs2, hs1, List.append_assoc], ?_⟩, Nat.le_trans h1.reads h2.reads⟩
  · intro x hx
    rcases List.mem_append.1 hx with hx | hx
    · exact hn1 x hx
    · exact fun hc => hn2 x hx (h1.done_sub hc)
  · refine List.nodup_append.2 ⟨hd1, hd2, ?_⟩
    intro a ha b hb hab
    subst hab
    exact hn2 a hb (by rw [hl1]; exact List.mem_append_right _ ha)
  · intro x hx
    rw [h2.frozen x (h1.done_sub hx), h1.frozen x hx]
  · intro x hx
    have hx' : x ∉ σ'.done := fun hc => hx (h2.done_sub hc)
    rw [h2.untouched x hx, h1.untouched x hx']
  · intro x hx
    rcases List.mem_append.1 hx with hx | hx
    · exact ⟨h2.done_sub (hq1 x hx).1, (hq1 x hx).2⟩
    · exact ⟨(hq2 x hx).1, fun hc => (hq2 x hx).2 (h1.done_sub hc)⟩
  · intro p hp q hq
    rcases List.mem_append.1 hp with hp | hp
    · exact hp1 p hp q hq
    · exact hp2 p hp q (by rw [hs1]; exact List.mem_append_left _ hq)

/-- later placements leave everything the specification reads about a done task as it was -/
theorem Ext.view {σ σ' : SS} (he : Ext σ σ') (env : Env) {x : Uid} (hx : x ∈ σ.done) :
    σ'.f x = σ.f x ∧ rowsOf σ'.rows x = rowsOf σ.rows x ∧
    (∀ k d, reserved σ'.rows k d (some x) = reserved σ.rows k d (some x)) ∧
    ((σ.res.map (·.1)).contains (env.info x).resource = true →
      ∀ d, capMid σ'.res (env.info x).resource d = capMid σ.res (env.info x).resource d) ∧
    (rowsOf σ.rows x ≠ [] → ∀ k d, bookedBefore env (outOf σ') k d x = bookedBefore env (outOf σ) k d x) := by
  obtain ⟨r, hr, hq⟩ := he.rows
  obtain ⟨r', hr', _⟩ := he.res
  have hnew : ∀ y ∈ r, y.task ≠ x := fun y hy hc => (hq y hy).2 (hc ▸ hx)
  refine ⟨he.frozen x hx, ?_, fun k d => ?_, fun hkey d => ?_, fun hne k d => bookedBefore_append env σ σ' r hr k d x hne⟩
  · rw [hr, rowsOf_append, rowsOf_none r x hnew, List.append_nil]
  · rw [hr, reserved_append, reserved_none_task r x hnew]
    grind
  · rw [hr']; exact capMid_append _ _ _ _ hkey

theorem reserved_mono_ext {env : Env} {σ σ' : SS} (he : Ext σ σ') (hl : LedgerOK env σ') (k : Option Nat) (d : Int) :
    reserved σ.rows k d none ≤ reserved σ'.rows k d none := by
  obtain ⟨r, hr, _⟩ := he.rows
  rw [hr, reserved_append]
  have := reserved_nonneg r (fun x hx => hl.pos x (by rw [hr]; exact List.mem_append_right _ hx)) k d none
  grind

theorem passList_eq_foldlM (step : SS → Uid → Res SS) (σ : SS) (l : List Uid) : passList step σ l = l.foldlM step σ := by
  induction l generalizing σ with
  | nil => rfl
  | cons u l ih => simp only [passList, List.foldlM_cons, ih]

theorem passList_rel (R : SS → SS → Prop) (hrefl : ∀ σ, R σ σ) (htrans : ∀ a b c, R a b → R b c → R a c)
    (step : SS → Uid → Res SS) :
    ∀ (xs : List Uid), (∀ σ x σ', x ∈ xs → step σ x = .ok σ' → R σ σ') →
      ∀ (σ σ' : SS), passList step σ xs = .ok σ' → R σ σ' := by
  intro xs
  induction xs with
  | nil => intro _ σ σ' h; cases h; exact hrefl _
  | cons x xs ih =>
    intro hstep σ σ' h
    simp only [passList, bind, Except.bind] at h
    split at h
    · cases h
    · rename_i σ1 h1
      exact htrans _ _ _ (hstep σ x σ1 List.mem_cons_self h1)
        (ih (fun σ y σ' hy => hstep σ y σ' (List.mem_cons_of_mem _ hy)) σ1 σ' h)

theorem passList_ext (step : SS → Uid → Res SS) (hstep : ∀ σ x σ', step σ x = .ok σ' → Ext σ σ') :
    ∀ (xs : List Uid) (σ σ' : SS), passList step σ xs = .ok σ' → Ext σ σ' := fun xs =>
  passList_rel Ext Ext.refl (fun _ _ _ => Ext.trans) step xs (fun σ x σ' _ => hstep σ x σ')

theorem passList_inv (I : SS → Prop) (step : SS → Uid → Res SS) (xs : List Uid)
    (hstep : ∀ σ x σ', x ∈ xs → I σ → step σ x = .ok σ' → I σ') (σ σ' : SS) (hi : I σ)
    (h : passList step σ xs = .ok σ') : I σ' :=
  passList_rel (fun a b => I a → I b) (fun _ h => h) (fun _ _ _ h1 h2 h => h2 (h1 h)) step xs
    (fun σ x σ' hx h hi => hstep σ x σ' hx hi h) σ σ' h hi

theorem passList_done_if (step : SS → Uid → Res SS) (P : Uid → Prop) :
    ∀ (xs : List Uid), (∀ σ x σ', x ∈ xs → step σ x = .ok σ' → Ext σ σ' ∧ (P x → x ∈ σ'.done)) →
      ∀ (σ σ' : SS), passList step σ xs = .ok σ' → ∀ x ∈ xs, P x → x ∈ σ'.done := by
  intro xs
  induction xs with
  | nil => intro _ σ σ' _ x hx; cases hx
  | cons y xs ih =>
    intro hstep σ σ' h x hx hp
    simp only [passList, bind, Except.bind] at h
    split at h
    · cases h
    · rename_i σ1 h1
      have hrest := fun σ z σ' (hz : z ∈ xs) => hstep σ z σ' (List.mem_cons_of_mem _ hz)
      rcases List.mem_cons.1 hx with rfl | hx
      · have he : Ext σ1 σ' := passList_rel Ext Ext.refl (fun _ _ _ => Ext.trans) step xs
          (fun σ z σ' hz hh => (hrest σ z σ' hz hh).1) σ1 σ' h
        exact he.done_sub ((hstep σ x σ1 List.mem_cons_self h1).2 hp)
      · exact ih hrest σ1 σ' h x hx hp

theorem passList_all_done (step : SS → Uid → Res SS) (xs : List Uid)
    (hstep : ∀ σ x σ', x ∈ xs → step σ x = .ok σ' → Ext σ σ' ∧ x ∈ σ'.done) (σ σ' : SS)
    (h : passList step σ xs = .ok σ') : ∀ x ∈ xs, x ∈ σ'.done := fun x hx =>
  passList_done_if step (fun _ => True) xs (fun σ x σ' hx hh => ⟨(hstep σ x σ' hx hh).1, fun _ => (hstep σ x σ' hx hh).2⟩)
    σ σ' h x hx trivial

/-- `fwdPass` and `bwdPass` are instances of one memoised traversal: pass over the same-side links, aggregate a
    date from them, pass over the children, place the task -/
def gPass (env : Env) (links kids : Uid → List Uid) (agg : SS → List Uid → Time → Time)
    (place : SS → Uid → Time → Time → Res SS) : Nat → List Uid → SS → Uid → Time → Res SS
  | 0, _, _, _, _ => throw (.crash .recursion)
  | fuel + 1, stk, σ, t, minDate =>
    if σ.done.contains t then pure σ
    else if stk.contains t then throw (.crash .recursion)
    else do
      let σ ← passList (fun σ p => if (env.info p).member == (env.info t).member
                 then gPass env links kids agg place fuel (t :: stk) σ p minDate else pure σ) σ (links t)
      let v := agg σ (links t) minDate
      let σ ← passList (fun σ c => gPass env links kids agg place fuel (t :: stk) σ c v) σ (kids t)
      place σ t minDate v

theorem fwdPass_eq_gPass (env : Env) : ∀ (fuel : Nat) (stk : List Uid) (σ : SS) (t : Uid) (m : Time),
    fwdPass env fuel stk σ t m =
      gPass env (fun u => (env.info u).preds) (fun u => (env.info u).children) maxEnds
        (fun σ t _ v => fwdPlace env σ t v) fuel stk σ t m := by
  intro fuel
  induction fuel with
  | zero => intros; rfl
  | succ fuel ih =>
    intro stk σ t m
    simp only [fwdPass, gPass, ih]

theorem bwdPass_eq_gPass (env : Env) : ∀ (fuel : Nat) (stk : List Uid) (σ : SS) (t : Uid) (m : Time),
    bwdPass env fuel stk σ t m =
      gPass env (fun u => (env.info u).succs) (fun u => (env.info u).children.reverse) minStarts
        (fun σ t m v => bwdPlace env σ t m v) fuel stk σ t m := by
  intro fuel
  induction fuel with
  | zero => intros; rfl
  | succ fuel ih =>
    intro stk σ t m
    simp only [bwdPass, gPass, ih]

theorem gPass_succ (env : Env) (links kids : Uid → List Uid) (agg : SS → List Uid → Time → Time)
    (place : SS → Uid → Time → Time → Res SS) (fuel : Nat) (stk : List Uid) (σ : SS) (t : Uid) (m : Time)
    (hd : t ∉ σ.done) (hs : t ∉ stk) :
    gPass env links kids agg place (fuel + 1) stk σ t m =
      (passList (fun σ p => if (env.info p).member == (env.info t).member
          then gPass env links kids agg place fuel (t :: stk) σ p m else pure σ) σ (links t)).bind (fun σ1 =>
        (passList (fun σ c => gPass env links kids agg place fuel (t :: stk) σ c (agg σ1 (links t) m)) σ1 (kids t)).bind
          (fun σ2 => place σ2 t m (agg σ1 (links t) m))) := by
  have h1 : σ.done.contains t = false := by simpa using hd
  have h2 : stk.contains t = false := by simpa using hs
  simp only [gPass, h1, h2]
  rfl

theorem gPass_succ_cases (env : Env) (links kids : Uid → List Uid) (agg : SS → List Uid → Time → Time)
    (place : SS → Uid → Time → Time → Res SS) (fuel : Nat) (stk : List Uid) (σ : SS) (t : Uid) (m : Time) (σ' : SS)
    (h : gPass env links kids agg place (fuel + 1) stk σ t m = .ok σ') :
    (t ∈ σ.done ∧ σ' = σ) ∨
    (t ∉ σ.done ∧ t ∉ stk ∧ ∃ σ1 σ2,
      passList (fun σ p => if (env.info p).member == (env.info t).member
          then gPass env links kids agg place fuel (t :: stk) σ p m else pure σ) σ (links t) = .ok σ1 ∧
      passList (fun σ c => gPass env links kids agg place fuel (t :: stk) σ c (agg σ1 (links t) m)) σ1 (kids t)
        = .ok σ2 ∧
      place σ2 t m (agg σ1 (links t) m) = .ok σ') := by
  by_cases hd : t ∈ σ.done
  · have h1 : σ.done.contains t = true := by simpa using hd
    simp only [gPass, h1, if_true] at h
    cases h
    exact Or.inl ⟨hd, rfl⟩
  by_cases hs : t ∈ stk
  · have h1 : σ.done.contains t = false := by simpa using hd
    have h2 : stk.contains t = true := by simpa using hs
    simp only [gPass, h1, h2, if_true] at h
    cases h
  rw [gPass_succ _ _ _ _ _ _ _ _ _ _ hd hs] at h
  obtain ⟨σ1, h1, h⟩ := bind_ok h
  obtain ⟨σ2, h2, h⟩ := bind_ok h
  exact Or.inr ⟨hd, hs, σ1, σ2, h1, h2, h⟩

/-- stack-aware extension: additionally, no task of the in-progress stack becomes done -/
def ExtS (stk : List Uid) (σ σ' : SS) : Prop := Ext σ σ' ∧ ∀ x ∈ stk, x ∉ σ.done → x ∉ σ'.done

theorem ExtS.refl (stk : List Uid) (σ : SS) : ExtS stk σ σ := ⟨Ext.refl σ, fun _ _ h => h⟩

theorem ExtS.trans {stk : List Uid} {a b c : SS} (h1 : ExtS stk a b) (h2 : ExtS stk b c) : ExtS stk a c :=
  ⟨h1.1.trans h2.1, fun x hx hn => h2.2 x hx (h1.2 x hx hn)⟩

theorem passList_extS (stk : List Uid) (step : SS → Uid → Res SS) (xs : List Uid)
    (hstep : ∀ σ x σ', x ∈ xs → step σ x = .ok σ' → ExtS stk σ σ') (σ σ' : SS)
    (h : passList step σ xs = .ok σ') : ExtS stk σ σ' :=
  passList_rel (ExtS stk) (ExtS.refl stk) (fun _ _ _ => ExtS.trans) step xs hstep σ σ' h

section generic
variable (env : Env) (links kids : Uid → List Uid) (agg : SS → List Uid → Time → Time)
  (place : SS → Uid → Time → Time → Res SS)
  (hplace_ext : ∀ σ σ' t m v, t ∉ σ.done → place σ t m v = .ok σ' → Ext σ σ' ∧ σ'.done = σ.done ++ [t])
include hplace_ext

theorem gPass_extS : ∀ (fuel : Nat) (stk : List Uid) (σ : SS) (t : Uid) (m : Time) (σ' : SS),
    gPass env links kids agg place fuel stk σ t m = .ok σ' → ExtS stk σ σ' ∧ t ∈ σ'.done := by
  intro fuel
  induction fuel with
  | zero => intro stk σ t m σ' h; cases h
  | succ fuel ih =>
    intro stk σ t m σ' h
    rcases gPass_succ_cases env links kids agg place fuel stk σ t m σ' h with ⟨hd, rfl⟩ | ⟨hd, hs, σ1, σ2, h1, h2, h3⟩
    · exact ⟨ExtS.refl _ _, hd⟩
    · have e1 : ExtS (t :: stk) σ σ1 := passList_extS _ _ _ (fun a x b _ hh => by
        split at hh
        · exact (ih _ _ _ _ _ hh).1
        · cases hh; exact ExtS.refl _ _) _ _ h1
      have e2 : ExtS (t :: stk) σ1 σ2 := passList_extS _ _ _ (fun a x b _ hh => (ih _ _ _ _ _ hh).1) _ _ h2
      have e12 := e1.trans e2
      have ht2 : t ∉ σ2.done := e12.2 t List.mem_cons_self hd
      obtain ⟨e3, hd3⟩ := hplace_ext _ _ _ _ _ ht2 h3
      refine ⟨⟨e12.1.trans e3, ?_⟩, by rw [hd3]; simp⟩
      intro x hx hn
      rw [hd3]
      have := e12.2 x (List.mem_cons_of_mem _ hx) hn
      intro hc
      rcases List.mem_append.1 hc with hc | hc
      · exact this hc
      · simp only [List.mem_singleton] at hc
        exact hs (hc ▸ hx)

/-- the two loops of a pass step over `t` run with `t` on the stack, so `t` is still not done when it is placed -/
theorem gPass_frame {fuel : Nat} {stk : List Uid} {σ σ1 σ2 : SS} {t : Uid} {m v : Time} (hd : t ∉ σ.done)
    (h1 : passList (fun σ p => if (env.info p).member == (env.info t).member
      then gPass env links kids agg place fuel (t :: stk) σ p m else pure σ) σ (links t) = .ok σ1)
    (h2 : passList (fun σ c => gPass env links kids agg place fuel (t :: stk) σ c v) σ1 (kids t) = .ok σ2) :
    ExtS (t :: stk) σ σ1 ∧ ExtS (t :: stk) σ1 σ2 ∧ t ∉ σ2.done ∧ (∀ c ∈ kids t, c ∈ σ2.done) ∧
    (∀ p ∈ links t, (env.info p).member = (env.info t).member → p ∈ σ1.done) ∧ (kids t = [] → σ2 = σ1) := by
  have hx := gPass_extS env links kids agg place hplace_ext fuel (t :: stk)
  have e1 : ExtS (t :: stk) σ σ1 := passList_extS _ _ _ (fun a x b _ hh => by
    split at hh
    · exact (hx _ _ _ _ hh).1
    · cases hh; exact ExtS.refl _ _) _ _ h1
  have e2 : ExtS (t :: stk) σ1 σ2 := passList_extS _ _ _ (fun a x b _ hh => (hx _ _ _ _ hh).1) _ _ h2
  refine ⟨e1, e2, (e1.trans e2).2 t List.mem_cons_self hd, ?_, ?_, ?_⟩
  · exact passList_all_done _ _ (fun a x b _ hh => ⟨(hx _ _ _ _ hh).1.1, (hx _ _ _ _ hh).2⟩) _ _ h2
  · exact passList_done_if _ (fun p => (env.info p).member = (env.info t).member) _ (fun a x b _ hh => by
      split at hh
      · exact ⟨(hx _ _ _ _ hh).1.1, fun _ => (hx _ _ _ _ hh).2⟩
      · rename_i hm
        cases hh
        exact ⟨Ext.refl _, fun hc => absurd (by simpa using hc) hm⟩) _ _ h1
  · intro hk0
    rw [hk0] at h2
    cases h2
    rfl

/-- an invariant `I` of the state is kept by a pass if every placement keeps it.  `Q` (inherited by the children
    and by the same-side links the pass follows) tracks the task and the date handed down.  The placement of `t` may
    assume: `t` is not done yet and its children are; the state `σ1` the aggregate was computed in is extended by
    the current one; the links followed are done in `σ1`; nothing happened in between when `t` has no children -/
theorem gPass_inv2 (I : SS → Prop) (Q : Uid → Time → Prop)
    (hplace : ∀ σ1 σ σ' t m, Q t m → I σ → t ∉ σ.done → (∀ c ∈ kids t, c ∈ σ.done) → Ext σ1 σ →
      (∀ p ∈ links t, (env.info p).member = (env.info t).member → p ∈ σ1.done) → (kids t = [] → σ = σ1) →
      place σ t m (agg σ1 (links t) m) = .ok σ' → I σ')
    (hkids : ∀ σ t c m, Q t m → c ∈ kids t → Q c (agg σ (links t) m))
    (hlinks : ∀ t p m, Q t m → p ∈ links t → (env.info p).member = (env.info t).member → Q p m) :
    ∀ (fuel : Nat) (stk : List Uid) (σ : SS) (t : Uid) (m : Time) (σ' : SS),
      Q t m → I σ → gPass env links kids agg place fuel stk σ t m = .ok σ' → I σ' := by
  intro fuel
  induction fuel with
  | zero => intro stk σ t m σ' _ _ h; cases h
  | succ fuel ih =>
    intro stk σ t m σ' hq hi h
    rcases gPass_succ_cases env links kids agg place fuel stk σ t m σ' h with ⟨hd, rfl⟩ | ⟨hd, hs, σ1, σ2, h1, h2, h3⟩
    · exact hi
    · obtain ⟨_, e2, ht2, hk, hl, h12⟩ := gPass_frame env links kids agg place hplace_ext hd h1 h2
      have i1 : I σ1 := passList_inv I _ _ (fun a x b hxl ha hh => by
        split at hh
        · rename_i hm
          exact ih _ _ _ _ _ (hlinks t x m hq hxl (by simpa using hm)) ha hh
        · cases hh; exact ha) _ _ hi h1
      have i2 : I σ2 := passList_inv I _ _ (fun a x b hxl ha hh => ih _ _ _ _ _ (hkids σ1 t x m hq hxl) ha hh) _ _ i1 h2
      exact hplace σ1 σ2 σ' t m hq i2 ht2 hk e2.1 hl h12 h3

theorem gPass_inv (I : SS → Prop) (Q : Uid → Prop)
    (hplace : ∀ σ σ' t m v, Q t → I σ → t ∉ σ.done → (∀ c ∈ kids t, c ∈ σ.done) → place σ t m v = .ok σ' → I σ')
    (hkids : ∀ t c, Q t → c ∈ kids t → Q c)
    (hlinks : ∀ t p, Q t → p ∈ links t → (env.info p).member = (env.info t).member → Q p)
    (fuel : Nat) (stk : List Uid) (σ : SS) (t : Uid) (m : Time) (σ' : SS) (hq : Q t) (hi : I σ)
    (h : gPass env links kids agg place fuel stk σ t m = .ok σ') : I σ' :=
  gPass_inv2 env links kids agg place hplace_ext I (fun t _ => Q t)
    (fun _ σ σ' t m hq hi ht hk _ _ _ h => hplace σ σ' t m _ hq hi ht hk h)
    (fun _ t c _ => hkids t c) (fun t p _ => hlinks t p) fuel stk σ t m σ' hq hi h

end generic

/-- `done` is closed under `children` (holds of the empty list, kept by every pass) -/
def DoneClosed (env : Env) (σ : SS) : Prop := ∀ x ∈ σ.done, ∀ c ∈ (env.info x).children, c ∈ σ.done

theorem DoneClosed.desc {env : Env} {σ : SS} (hcl : DoneClosed env σ) {t x : Uid} (ht : t ∈ σ.done)
    (h : TC (fun a b => b ∈ (env.info a).children) t x) : x ∈ σ.done := by
  induction h with
  | single h => exact hcl _ ht _ h
  | tail _ h ih => exact hcl _ ih _ h

theorem DoneClosed.subtree {env : Env} {σ : SS} (hcl : DoneClosed env σ) {t : Uid} (ht : t ∈ σ.done)
    (f : Nat) (l : List Uid) (hl : subtreeF (fun u => (env.info u).children) f t = some l) :
    ∀ x ∈ l, x ∈ σ.done := by
  intro x hx
  simp only [subtreeF, Option.map_eq_some_iff] at hl
  obtain ⟨r, hr, rfl⟩ := hl
  rcases List.mem_cons.1 hx with rfl | hx
  · exact ht
  · exact hcl.desc ht (descF_sound _ _ _ _ hr x hx)

theorem place_doneClosed (env : Env) (σ σ' : SS) (t : Uid) (hi : DoneClosed env σ)
    (hk : ∀ c ∈ (env.info t).children, c ∈ σ.done) (hd : σ'.done = σ.done ++ [t]) : DoneClosed env σ' := by
  intro x hx c hc
  rw [hd] at hx ⊢
  rcases List.mem_append.1 hx with hx | hx
  · exact List.mem_append_left _ (hi x hx c hc)
  · simp only [List.mem_singleton] at hx
    subst hx
    exact List.mem_append_left _ (hk c hc)

/-! ### the two schedulers

`Sched` holds what distinguishes the forward from the backward scheduler; `Sched.OK` is what the inductions over a pass and
over a run need of one: it visits the children of a task (in some order) and a placement commits an outcome whose
reservations fit and which sets all four fields of its task. -/

structure Sched (env : Env) where
  links : Uid → List Uid
  kids : Uid → List Uid
  agg : SS → List Uid → Time → Time
  place : SS → Uid → Time → Time → Res SS
  roots : List Uid
  reads0 : Nat

def Sched.fwd (env : Env) : Sched env where
  links u := (env.info u).preds
  kids u := (env.info u).children
  agg := maxEnds
  place σ t _ v := fwdPlace env σ t v
  roots := env.roots
  reads0 := 1

def Sched.bwd (env : Env) : Sched env where
  links u := (env.info u).succs
  kids u := (env.info u).children.reverse
  agg := minStarts
  place σ t m v := bwdPlace env σ t m v
  roots := env.roots.reverse
  reads0 := 0

/-- the pass of a scheduler: `fwdPass env` is `(Sched.fwd env).pass` (`fwdPass_eq_gPass`), `bwdPass env` is
    `(Sched.bwd env).pass` -/
def Sched.pass {env : Env} (d : Sched env) : Nat → List Uid → SS → Uid → Time → Res SS :=
  gPass env d.links d.kids d.agg d.place

theorem SS.commit_ext (env : Env) (σ : SS) (t : Uid) (o : Outcome) (ht : t ∉ σ.done) :
    Ext σ (σ.commit env t o) ∧ (σ.commit env t o).done = σ.done ++ [t] := by
  obtain ⟨⟨r, hr, hrk⟩, _, _⟩ := resLookup_spec σ.res (env.info t).resource
  refine ⟨⟨⟨[t], rfl, by simpa using ht, by simp⟩, ?_, ?_, ⟨_, rfl, ?_⟩, ⟨r, hr, fun p hp => (hrk p hp).2⟩,
    Nat.le_add_right _ _⟩, rfl⟩
  · intro x hx
    exact SS.commit_f_other env σ t o x (fun hc => ht (hc ▸ hx))
  · intro x hx
    exact SS.commit_f_other env σ t o x (fun hc => hx (by simp [SS.commit, hc]))
  · intro x hx
    obtain ⟨p, _, rfl⟩ := List.mem_map.1 hx
    exact ⟨by simp [SS.commit, mkRow], ht⟩

structure Sched.OK {env : Env} (d : Sched env) : Prop where
  kids : ∀ t c, c ∈ d.kids t ↔ c ∈ (env.info t).children
  roots : ∀ r, r ∈ d.roots ↔ r ∈ env.roots
  commit : ∀ σ σ' t m v, d.place σ t m v = .ok σ' →
    ∃ o, σ' = σ.commit env t o ∧ GoodNew (placeCal env σ t) (placeUsed env σ t) o.new ∧ AllSome o.g

theorem Sched.fwd_ok (env : Env) : (Sched.fwd env).OK where
  kids _ _ := Iff.rfl
  roots _ := Iff.rfl
  commit σ σ' t _ v h := by
    rw [show (Sched.fwd env).place σ t _ v = fwdPlace env σ t v from rfl, fwdPlace_eq env σ t v] at h
    obtain ⟨o, ho, rfl⟩ := Res.map_ok h
    exact ⟨o, rfl, fwdOut_sound ho⟩

theorem Sched.bwd_ok (env : Env) : (Sched.bwd env).OK where
  kids _ _ := List.mem_reverse
  roots _ := List.mem_reverse
  commit σ σ' t m v h := by
    rw [show (Sched.bwd env).place σ t m v = bwdPlace env σ t m v from rfl, bwdPlace_eq env σ t m v] at h
    obtain ⟨o, ho, rfl⟩ := Res.map_ok h
    exact ⟨o, rfl, bwdOut_sound ho⟩

section sched
variable {env : Env} (d : Sched env) (hd : d.OK)
include hd

theorem Sched.place_ext : ∀ (σ σ' : SS) (t : Uid) (m v : Time), t ∉ σ.done → d.place σ t m v = .ok σ' →
    Ext σ σ' ∧ σ'.done = σ.done ++ [t] := by
  intro σ σ' t m v ht h
  obtain ⟨o, rfl, _⟩ := hd.commit σ σ' t m v h
  exact SS.commit_ext env σ t o ht

theorem Sched.pass_extS (fuel : Nat) (stk : List Uid) (σ : SS) (t : Uid) (m : Time) (σ' : SS)
    (h : d.pass fuel stk σ t m = .ok σ') : ExtS stk σ σ' ∧ t ∈ σ'.done :=
  gPass_extS env _ _ _ _ (d.place_ext hd) fuel stk σ t m σ' h

theorem Sched.pass_ext (fuel : Nat) (stk : List Uid) (σ : SS) (t : Uid) (m : Time) (σ' : SS)
    (h : d.pass fuel stk σ t m = .ok σ') : Ext σ σ' ∧ t ∈ σ'.done :=
  have := d.pass_extS hd fuel stk σ t m σ' h
  ⟨this.1.1, this.2⟩

/-- `gPass_inv2` for a scheduler, with the children as the model lists them -/
theorem Sched.pass_inv2 (I : SS → Prop) (Q : Uid → Time → Prop)
    (hplace : ∀ σ1 σ σ' t m, Q t m → I σ → t ∉ σ.done → (∀ c ∈ (env.info t).children, c ∈ σ.done) → Ext σ1 σ →
      (∀ p ∈ d.links t, (env.info p).member = (env.info t).member → p ∈ σ1.done) →
      ((env.info t).children = [] → σ = σ1) →
      d.place σ t m (d.agg σ1 (d.links t) m) = .ok σ' → I σ')
    (hkids : ∀ σ t c m, Q t m → c ∈ (env.info t).children → Q c (d.agg σ (d.links t) m))
    (hlinks : ∀ t p m, Q t m → p ∈ d.links t → (env.info p).member = (env.info t).member → Q p m)
    (fuel : Nat) (stk : List Uid) (σ : SS) (t : Uid) (m : Time) (σ' : SS) (hq : Q t m) (hi : I σ)
    (h : d.pass fuel stk σ t m = .ok σ') : I σ' :=
  gPass_inv2 env _ _ _ _ (d.place_ext hd) I Q
    (fun σ1 σ σ' t m hq hi ht hk he hl h12 hpl =>
      hplace σ1 σ σ' t m hq hi ht (fun c hc => hk c ((hd.kids t c).2 hc)) he hl
        (fun h0 => h12 (List.eq_nil_iff_forall_not_mem.2 fun c hc => by
          have := (hd.kids t c).1 hc; rw [h0] at this; cases this)) hpl)
    (fun σ t c m hq hc => hkids σ t c m hq ((hd.kids t c).1 hc)) hlinks fuel stk σ t m σ' hq hi h

theorem Sched.pass_inv (I : SS → Prop) (Q : Uid → Prop)
    (hplace : ∀ σ σ' t m v, Q t → I σ → t ∉ σ.done → (∀ c ∈ (env.info t).children, c ∈ σ.done) →
      d.place σ t m v = .ok σ' → I σ')
    (hkids : ∀ t c, Q t → c ∈ (env.info t).children → Q c)
    (hlinks : ∀ t p, Q t → p ∈ d.links t → (env.info p).member = (env.info t).member → Q p)
    (fuel : Nat) (stk : List Uid) (σ : SS) (t : Uid) (m : Time) (σ' : SS) (hq : Q t) (hi : I σ)
    (h : d.pass fuel stk σ t m = .ok σ') : I σ' :=
  d.pass_inv2 hd I (fun t _ => Q t) (fun _ σ σ' t m hq hi ht hk _ _ _ h => hplace σ σ' t m _ hq hi ht hk h)
    (fun _ t c _ => hkids t c) (fun t p _ => hlinks t p) fuel stk σ t m σ' hq hi h

theorem Sched.pass_doneClosed (fuel : Nat) (stk : List Uid) (σ : SS) (t : Uid) (m : Time) (σ' : SS)
    (hcl : DoneClosed env σ) (h : d.pass fuel stk σ t m = .ok σ') : DoneClosed env σ' :=
  d.pass_inv hd (DoneClosed env) (fun _ => True)
    (fun σ σ' t m v _ hi ht hk h => place_doneClosed env σ σ' t hi hk
      (d.place_ext hd σ σ' t m v ht h).2)
    (fun _ _ _ _ => trivial) (fun _ _ _ _ _ => trivial) fuel stk σ t m σ' trivial hcl h

end sched

theorem fwdPass_inv (env : Env) (I : SS → Prop) (Q : Uid → Prop)
    (hplace : ∀ σ σ' t v, Q t → I σ → t ∉ σ.done → (∀ c ∈ (env.info t).children, c ∈ σ.done) →
      fwdPlace env σ t v = .ok σ' → I σ')
    (hkids : ∀ t c, Q t → c ∈ (env.info t).children → Q c)
    (hlinks : ∀ t p, Q t → p ∈ (env.info t).preds → (env.info p).member = (env.info t).member → Q p)
    (fuel : Nat) (stk : List Uid) (σ : SS) (t : Uid) (m : Time) (σ' : SS) (hq : Q t) (hi : I σ)
    (h : fwdPass env fuel stk σ t m = .ok σ') : I σ' := by
  rw [fwdPass_eq_gPass] at h
  exact (Sched.fwd env).pass_inv (Sched.fwd_ok env) I Q (fun σ σ' t _ v => hplace σ σ' t v) hkids hlinks
    fuel stk σ t m σ' hq hi h

theorem bwdPass_inv (env : Env) (I : SS → Prop) (Q : Uid → Prop)
    (hplace : ∀ σ σ' t m v, Q t → I σ → t ∉ σ.done → (∀ c ∈ (env.info t).children, c ∈ σ.done) →
      bwdPlace env σ t m v = .ok σ' → I σ')
    (hkids : ∀ t c, Q t → c ∈ (env.info t).children → Q c)
    (hlinks : ∀ t p, Q t → p ∈ (env.info t).succs → (env.info p).member = (env.info t).member → Q p)
    (fuel : Nat) (stk : List Uid) (σ : SS) (t : Uid) (m : Time) (σ' : SS) (hq : Q t) (hi : I σ)
    (h : bwdPass env fuel stk σ t m = .ok σ') : I σ' := by
  rw [bwdPass_eq_gPass] at h
  exact (Sched.bwd env).pass_inv (Sched.bwd_ok env) I Q hplace hkids hlinks fuel stk σ t m σ' hq hi h

/-- after a successful pass over a task, its whole subtree (along `children`) is done — provided `done` was
    closed under `children` before (otherwise a task that is already done returns at once although its children
    need not be done); `Sched.pass_doneClosed` preserves that hypothesis -/
theorem fwdPass_subtree_done (env : Env) : ∀ (fuel : Nat) (stk : List Uid) (σ : SS) (t : Uid) (m : Time) (σ' : SS),
    DoneClosed env σ →
    fwdPass env fuel stk σ t m = .ok σ' →
    ∀ x l, subtreeF (fun u => (env.info u).children) (env.n + 1) t = some l → x ∈ l → x ∈ σ'.done := by
  intro fuel stk σ t m σ' hcl h x l hl hx
  rw [fwdPass_eq_gPass] at h
  exact ((Sched.fwd env).pass_doneClosed (Sched.fwd_ok env) fuel stk σ t m σ' hcl h).subtree
    ((Sched.fwd env).pass_extS (Sched.fwd_ok env) fuel stk σ t m σ' h).2 _ l hl x hx

/-- the closure hypothesis of `fwdPass_subtree_done` cannot be dropped: a task that is already done returns at
    once, whatever the state of its children -/
example : ∃ (env : Env) (σ : SS), fwdPass env 1 [] σ 0 0 = .ok σ ∧
    subtreeF (fun u => (env.info u).children) (env.n + 1) 0 = some [0, 1] ∧ 1 ∉ σ.done := by
  refine ⟨{ n := 1, info := fun u => { (default : TaskInfo) with children := if u = 0 then [1] else [] }, roots := [0],
            balance := false, defaultEst := 1, clock := fun _ => 0, bound := 0 },
          { f := fun _ => default, rows := [], done := [0], res := [], reads := 0 }, ?_, ?_, ?_⟩
  · simp [fwdPass]; rfl
  · simp [subtreeF, descF]
  · simp

theorem bwdPass_subtree_done (env : Env) : ∀ (fuel : Nat) (stk : List Uid) (σ : SS) (t : Uid) (m : Time) (σ' : SS),
    DoneClosed env σ →
    bwdPass env fuel stk σ t m = .ok σ' →
    ∀ x l, subtreeF (fun u => (env.info u).children) (env.n + 1) t = some l → x ∈ l → x ∈ σ'.done := by
  intro fuel stk σ t m σ' hcl h x l hl hx
  rw [bwdPass_eq_gPass] at h
  exact ((Sched.bwd env).pass_doneClosed (Sched.bwd_ok env) fuel stk σ t m σ' hcl h).subtree
    ((Sched.bwd env).pass_extS (Sched.bwd_ok env) fuel stk σ t m σ' h).2 _ l hl x hx

theorem forwardCalc_run (env : Env) (f0 : Uid → Fields) (res0 : List (Option Nat × Cal)) (o : Output)
    (h : forwardCalc env f0 res0 = .ok o) : fwdRun env f0 res0 = .ok o := by
  unfold forwardCalc at h
  simp only [bind, Except.bind] at h
  split at h
  · cases h
  · exact h

theorem backwardCalc_run (env : Env) (f0 : Uid → Fields) (res0 : List (Option Nat × Cal)) (o : Output)
    (h : backwardCalc env f0 res0 = .ok o) : bwdRun env f0 res0 = .ok o := by
  unfold backwardCalc at h
  simp only [bind, Except.bind] at h
  split at h
  · cases h
  · exact h

/-- the forward pre-check is the backward one followed by `__check_no_end_dates_in_future` -/
theorem fwdPrecheck_eq_bwd_bind (env : Env) (f0 : Uid → Fields) :
    fwdPrecheck env f0 = bwdPrecheck env f0 >>= fun _ =>
      if (memberList env).any (fun t => match (f0 t).end_ with | some e => decide (env.clock 0 < e) | none => false)
      then .error .runtime else .ok () := by
  unfold fwdPrecheck bwdPrecheck memberList
  cases members env with
  | none => rfl
  | some mem =>
    cases hi : isolationOk env f0 mem <;> cases hc : checkLoops env mem <;>
      simp only [bind, Except.bind, pure, Except.pure, throw, throwThe, MonadExceptOf.throw, hc, hi] <;> rfl

end Pj

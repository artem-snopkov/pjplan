/-
  Lemmas/CsvSrc.lean — CSV I/O (io/csv_io.py + io/raw.py): the setting of the translated tie.  See CsvSrcD.lean for the
  summary, the results and the negative check.

  * The program `csvFuns` (Extracted/CsvSrc.lean, 13 functions) runs over the I/O library of Model/PyLiteIO.lean:
    `runIO L csvFuns F k args st`, `L : IOLib` the meaning of `str` of a number, `strftime` / `strptime('%d.%m.%y')`,
    `float`, `int` - a PARAMETER (the model, Model/CsvRec.lean, takes the formatted cells as given).
  * A WBS is a description `W : WbsD`: the WBS object is `ref 0`, the task `W.tasks[i]` is the object `ref (i+1)` with the
    slots of `encTask` (in the order `Task.__init__` creates them, custom attributes last).
  * `recsOf L W` - the model's records of `W` (one per task in `wbs.tasks` order, `min_start` the first custom column).
  * the read side is stated on views: `observeRead` reads the tasks of the WBS object a run returned (`viewOf`: a `TaskView`
    per task, depth first), `expectRead L text` is what the model says they are (`readCsv`, `rebuildForest` flattened by
    `flattenTree`, cells parsed by `L`); the concrete runs of CsvSrcCheckC.lean state that the two agree.
  * `sampleLib` - a concrete library for the kernel-checked runs (decimal numbers, proleptic Gregorian dates, `%y`
    pivot 69).
-/
import PjVerif.Extracted.CsvSrc
import PjVerif.Model.PyLiteIO
import PjVerif.Model.CsvRec
namespace Pj.CsvSrc
open Pj.PyLite Pj.Extracted.Csv Pj.Csv

/-! ### the encoding -/

structure TaskD where
  id : Int
  name : Option Str := none
  resource : Option Str := none
  start : Option Time := none
  end_ : Option Time := none
  minStart : Option Time := none
  estimate : Option Rat := none
  spent : Option Rat := none
  milestone : Bool := false
  parent : Option Nat := none
  children : List Nat := []
  preds : List Nat := []
  custom : List (String × Atom) := []

structure WbsD where
  tasks : List TaskD
  roots : List Nat

def optStr : Option Str → Atom
  | none => .none
  | some s => strA s
def optTime : Option Time → Atom
  | none => .none
  | some t => .time t
def optNum : Option Rat → Atom
  | none => .none
  | some q => .num q
def optRef : Option Nat → Atom
  | none => .none
  | some i => .ref i
def refs (l : List Nat) : Val := .list (l.map Atom.ref)

def encTask (d : TaskD) : PyLite.Env :=
  [("__task__", .atom (.bool true)), ("id", .atom (.num (d.id : Rat))), ("name", .atom (optStr d.name)),
   ("resource", .atom (optStr d.resource)), ("start", .atom (optTime d.start)), ("end", .atom (optTime d.end_)),
   ("milestone", .atom (.bool d.milestone)), ("estimate", .atom (optNum d.estimate)), ("spent", .atom (optNum d.spent)),
   ("parent", .atom (optRef d.parent)), ("children", refs d.children), ("predecessors", refs d.preds),
   ("successors", .list []), ("min_start", .atom (optTime d.minStart))] ++ d.custom.map (fun p => (p.1, Val.atom p.2))

def encHeap (W : WbsD) : Nat → PyLite.Env := fun j =>
  if j = 0 then [("__wbs__", .atom (.bool true)), ("roots", refs W.roots)]
  else match W.tasks[j - 1]? with
    | some d => encTask d
    | none => []

def encSt (W : WbsD) : PState :=
  { L := [], heap := encHeap W, done := [], res := [], reads := W.tasks.length + 1, boxes := [] }

def emptySt : PState := { L := [], heap := fun _ => [], done := [], res := [], reads := 0, boxes := [] }

/-! ### the model's records of a WBS -/

def taskAt (W : WbsD) (i : Nat) : Option TaskD := W.tasks[i - 1]?

def cellOpt (L : IOLib) : Atom → Option Str
  | .none => none
  | .time t => some (L.strftime t)
  | a => match L.cell a with
    | .ok s => some s
    | .error _ => none

def idStr (L : IOLib) (W : WbsD) (i : Nat) : Str :=
  match taskAt W i with
  | some d => L.strNum (d.id : Rat)
  | none => []

def recOf (L : IOLib) (W : WbsD) (d : TaskD) : Rec :=
  { id := L.strNum (d.id : Rat), name := d.name, resource := d.resource, start := d.start.map L.strftime,
    end_ := d.end_.map L.strftime, estimate := d.estimate.map L.strNum, spent := d.spent.map L.strNum,
    milestone := d.milestone, parentId := d.parent.map (idStr L W), predIds := d.preds.map (idStr L W),
    custom := ("min_start".toList, d.minStart.map L.strftime) :: d.custom.map (fun p => (p.1.toList, cellOpt L p.2)) }

/-- `wbs.tasks`: depth first -/
def orderOf (W : WbsD) : List Nat := wbsTasks (encSt W) 0

def recsOf (L : IOLib) (W : WbsD) : List Rec := (orderOf W).filterMap (fun i => (taskAt W i).map (recOf L W))

/-! ### entry points -/

def semi : Val := .atom (litA ";")
def utf8 : Val := .atom (litA "utf-8")

/-- a cell function `f(s)` on the text `s` -/
def interpCell (L : IOLib) (F : Nat) (k : Nat) (a : Atom) : Res Val :=
  (runIO L csvFuns F k [.atom a] emptySt).map (·.1)

def textOf (items : List Atom) : List Char :=
  (items.map (fun a => match a with | .str k => strDecode k | _ => [])).flatten

/-- `write_csv(wbs, path)`: the text of the file -/
def interpWrite (L : IOLib) (F : Nat) (W : WbsD) : Res (List Char) :=
  (runIO L csvFuns F fn_write_csv [.atom (.ref 0), .atom (litA "out.csv"), utf8, semi] (encSt W)).map
    (fun r => textOf (r.2.boxes[0]?.getD []))

/-- `read_csv(path)` on a file with the text `text`: the WBS object and the store -/
def interpRead (L : IOLib) (F : Nat) (text : List Char) : Res (Val × PState) :=
  runIO L csvFuns F fn_read_csv [.atom (strA text), utf8, semi] emptySt

/-! ### what the reader builds, as the model says it: the records of `readCsv`, the forest of `rebuildForest` -/

structure TaskView where
  id : Atom
  name : Atom
  resource : Atom
  start : Atom
  end_ : Atom
  estimate : Atom
  spent : Atom
  milestone : Atom
  minStart : Atom
  parentId : Atom
  childIds : List Atom
  predIds : List Atom
  custom : List (Str × Val)
  deriving DecidableEq, Repr

def slot (env : PyLite.Env) (f : String) : Atom :=
  match env.get? f with
  | some (.atom a) => a
  | _ => .none

def idsOf (heap : Nat → PyLite.Env) (v : Option Val) : List Atom :=
  match v with
  | some (.list l) => l.map (fun a => match a with | .ref i => slot (heap i) "id" | _ => .none)
  | _ => []

def stdSlots : List String := ["__task__", "id", "name", "resource", "start", "end", "milestone", "estimate", "spent",
  "parent", "children", "predecessors", "successors", "min_start"]

def viewOf (heap : Nat → PyLite.Env) (i : Nat) : TaskView :=
  let e := heap i
  { id := slot e "id", name := slot e "name", resource := slot e "resource", start := slot e "start", end_ := slot e "end",
    estimate := slot e "estimate", spent := slot e "spent", milestone := slot e "milestone", minStart := slot e "min_start",
    parentId := match e.get? "parent" with | some (.atom (.ref p)) => slot (heap p) "id" | _ => .none
    childIds := idsOf heap (e.get? "children"), predIds := idsOf heap (e.get? "predecessors"),
    custom := (e.filter (fun p => !stdSlots.contains p.1)).map (fun p => (p.1.toList, p.2)) }

/-- the tasks of the WBS object a run returned, depth first -/
def observeRead (r : Res (Val × PState)) : Option (List TaskView) :=
  match r with
  | .ok (.atom (.ref w), st) => some ((wbsTasks st w).map (viewOf st.heap))
  | _ => none

def optParse {α} (f : Str → Res α) (g : α → Atom) : Option Str → Option Atom
  | none => some .none
  | some s => match f s with
    | .ok a => some (g a)
    | .error _ => none

def flattenTree : Nat → List Tree → List (Str × List Str)
  | 0, _ => []
  | f + 1, ts => ts.flatMap (fun t => match t with
    | .node id ch => (id, ch.map (fun c => match c with | .node x _ => x)) :: flattenTree f ch)

/-- the model's reading of a file: records (`readCsv`), hierarchy (`rebuildForest`), the cells parsed by `L` -/
def expectRead (L : IOLib) (text : List Char) : Option (List TaskView) := do
  let recs ← readCsv text
  let forest := rebuildForest (recs.map (fun r => (r.id, r.parentId)))
  let num (s : Str) : Option Atom := match L.toInt s with | .ok q => some (.num q) | .error _ => none
  (flattenTree (recs.length + 1) forest).mapM (fun (p : Str × List Str) => do
    let r ← recs.reverse.find? (fun r => r.id == p.1)
    let id ← num r.id
    let start ← optParse L.strptime Atom.time r.start
    let end_ ← optParse L.strptime Atom.time r.end_
    let est ← optParse L.toFloat Atom.num r.estimate
    let spent ← optParse L.toFloat Atom.num r.spent
    let pid ← optParse L.toInt Atom.num r.parentId
    let preds ← r.predIds.mapM num
    let kids ← p.2.mapM num
    let ms ← match r.custom.find? (fun c => c.1 == "min_start".toList) with
      | some c => optParse L.strptime Atom.time c.2
      | none => some Atom.none
    let parentKnown := match r.parentId with | some q => recs.any (fun x => x.id == q) | none => false
    pure { id := id, name := optStr r.name, resource := optStr r.resource, start := start, end_ := end_, estimate := est,
           spent := spent, milestone := .bool r.milestone, minStart := ms,
           parentId := if parentKnown then pid else .none, childIds := kids, predIds := preds,
           custom := [("parent_id".toList, Val.atom pid), ("predecessor_ids".toList, Val.list preds)] ++
             (r.custom.filter (fun c => c.1 != "min_start".toList)).map (fun c => (c.1, Val.atom (strA (orEmpty c.2)))) })

/-! ### a concrete library for the kernel-checked runs -/

def digitsF : Nat → Nat → List Char → List Char
  | 0, _, acc => acc
  | f + 1, n, acc => if n < 10 then Char.ofNat (48 + n) :: acc else digitsF f (n / 10) (Char.ofNat (48 + n % 10) :: acc)

def natStr (n : Nat) : Str := digitsF (n + 1) n []
def intStr (i : Int) : Str := if i < 0 then '-' :: natStr i.natAbs else natStr i.natAbs

def fracF : Nat → Nat → Nat → List Char
  | 0, _, _ => []
  | f + 1, r, d => if r = 0 then [] else Char.ofNat (48 + r * 10 / d) :: fracF f (r * 10 % d) d

/-- `str` of a number: an integer as an `int`, anything else as a decimal fraction (at most 9 digits) -/
def sampleStrNum (q : Rat) : Str :=
  if q.den = 1 then intStr q.num
  else (if q < 0 then ['-'] else []) ++ natStr (q.num.natAbs / q.den) ++ '.' :: fracF 9 (q.num.natAbs % q.den) q.den

def two (n : Nat) : Str := [Char.ofNat (48 + n / 10 % 10), Char.ofNat (48 + n % 10)]

/-- civil date of a day number (days since 1970-01-01) -/
def civil (z0 : Int) : Int × Nat × Nat :=
  let z := z0 + 719468
  let era := z / 146097
  let doe := (z - era * 146097).toNat
  let yoe := (doe - doe / 1460 + doe / 36524 - doe / 146096) / 365
  let doy := doe - (365 * yoe + yoe / 4 - yoe / 100)
  let mp := (5 * doy + 2) / 153
  let d := doy - (153 * mp + 2) / 5 + 1
  let m := if mp < 10 then mp + 3 else mp - 9
  let y := (yoe : Int) + era * 400 + (if m ≤ 2 then 1 else 0)
  (y, m, d)

def daysFromCivil (y0 : Int) (m d : Nat) : Int :=
  let y := if m ≤ 2 then y0 - 1 else y0
  let era := y / 400
  let yoe := (y - era * 400).toNat
  let doy := (153 * (if m > 2 then m - 3 else m + 9) + 2) / 5 + d - 1
  let doe := yoe * 365 + yoe / 4 - yoe / 100 + doy
  era * 146097 + (doe : Int) - 719468

def sampleStrftime (t : Time) : Str :=
  let (y, m, d) := civil t.floor
  two d ++ '.' :: two m ++ '.' :: two (y % 100).toNat

def digit? (c : Char) : Option Nat := if '0' ≤ c ∧ c ≤ '9' then some (c.toNat - 48) else none

def nat? (s : Str) : Option Nat :=
  if s.isEmpty then none else s.foldl (fun acc c => do let a ← acc; let x ← digit? c; pure (a * 10 + x)) (some 0)

def sampleStrptime (s : Str) : Res Time :=
  match s with
  | [d1, d2, '.', m1, m2, '.', y1, y2] =>
    match nat? [d1, d2], nat? [m1, m2], nat? [y1, y2] with
    | some d, some m, some y =>
      if 1 ≤ m ∧ m ≤ 12 ∧ 1 ≤ d ∧ d ≤ 31 then
        .ok ((daysFromCivil (if y < 69 then 2000 + y else 1900 + y) m d : Int) : Rat)
      else .error (.crash .value)
    | _, _, _ => .error (.crash .value)
  | _ => .error (.crash .value)

def sampleInt (s : Str) : Res Rat :=
  match s with
  | '-' :: r => match nat? r with | some n => .ok (-(n : Rat)) | none => .error (.crash .value)
  | r => match nat? r with | some n => .ok (n : Rat) | none => .error (.crash .value)

def sampleFloat (s : Str) : Res Rat :=
  let (neg, r) := match s with | '-' :: r => (true, r) | r => (false, r)
  let ip := r.takeWhile (fun c => c != '.')
  let fp := (r.dropWhile (fun c => c != '.')).drop 1
  match nat? ip, (if fp.isEmpty then some 0 else nat? fp) with
  | some a, some b =>
    let q : Rat := (a : Rat) + (b : Rat) / ((10 ^ fp.length : Nat) : Rat)
    .ok (if neg then -q else q)
  | _, _ => .error (.crash .value)

def sampleLib : IOLib :=
  { strNum := sampleStrNum, strftime := sampleStrftime, strptime := sampleStrptime, toFloat := sampleFloat,
    toInt := sampleInt, typeName := fun _ => "x".toList }

end Pj.CsvSrc

/-
  Lemmas/CsvSrcS.lean — CSV I/O, READ side, `raws_to_wbs` (io/raw.py): the first two loops, for every library `L` and any
  store.  First loop: one `Task` per raw object (`taskEnvOf`), the attributes the task does not have yet copied over
  (`attrStep`), the dict `tasks_by_id` (`byId`).  Hypothesis `RawOK`: the standard cells are scalars and estimate / spent
  are not negative (the program raises RuntimeError there, `expectRead` does not look).  Second loop (hierarchy): one
  round is `linkStep` - child of `tasks_by_id.get(parent_id)` through `setParent` twice, a root when the parent id is None
  or names no task; the raw objects lie below `n`, the tasks from `n` on, and `setParent` writes the task, its new parent
  and the parent it had - tasks all three (`ParInv`), so the raw objects stay.
-/
import PjVerif.Lemmas.CsvSrcB
namespace Pj.CsvSrc
open Pj.PyLite Pj.Extracted.Csv Pj.Csv
open Pj.TaskSrc (Env.get?_cons Env.get?_set execP_assign execP_expr execP_ret execP_ifElse evalP_ite evalP_bin evalP_dictIndex evalP_dictGet forLoopP_foldl)

theorem prim_dir (L : IOLib) (st : PState) (i : Nat) :
    ioPrim L "dir" [.ref i] st = .ok (.list ((((st.heap i).map (·.1)) ++ taskClassNames).map nameA)) := by
  unfold ioPrim
  iterate 19 rw [if_neg (by decide +kernel)]
  rw [if_pos (by decide +kernel)]
  rfl

theorem ioFn_task (L : IOLib) (st : PState) (a0 a1 a2 a3 a4 a5 a6 a7 a8 : Atom)
    (h5 : negNum (.atom a5) = false) (h6 : negNum (.atom a6) = false) :
    ioFn L 101 [.atom a0, .atom a1, .atom a2, .atom a3, .atom a4, .atom a5, .atom a6, .atom a7, .atom a8] st =
      .ok (.atom (.ref st.reads), allocSt st
        [("__task__", .atom (.bool true)), ("id", .atom a0), ("name", .atom a1), ("resource", .atom a2),
          ("start", .atom a3), ("end", .atom a4), ("milestone", .atom a7), ("estimate", .atom a5), ("spent", .atom a6),
          ("parent", .atom .none), ("children", .list []), ("predecessors", .list []), ("successors", .list []),
          ("min_start", .atom a8)]) := by
  unfold ioFn
  rw [if_neg (by decide), if_pos rfl]
  simp only [h5, h6, Bool.or_self, Bool.false_eq_true, if_false]
  rfl

section more
variable {H : PHandlers} {self : PyLite.Env}
theorem eval_noneE {env : PyLite.Env} {st : PState} : Expr.none.evalP H self env st = .ok (.atom .none, st) := by
  simp only [Expr.evalP, pure, Except.pure]
end more

def rawAtomFields : List String := ["id", "name", "resource", "start", "end", "estimate", "spent", "milestone"]

def msOf (e : PyLite.Env) : Atom := if hasKey e "min_start" then slot e "min_start" else .none

/-- `Task(raw.id, …, raw.min_start if 'min_start' in raw.__dict__ else None)` -/
def taskEnvOf (e : PyLite.Env) : PyLite.Env :=
  [("__task__", .atom (.bool true)), ("id", .atom (slot e "id")), ("name", .atom (slot e "name")),
   ("resource", .atom (slot e "resource")), ("start", .atom (slot e "start")), ("end", .atom (slot e "end")),
   ("milestone", .atom (slot e "milestone")), ("estimate", .atom (slot e "estimate")), ("spent", .atom (slot e "spent")),
   ("parent", .atom .none), ("children", .list []), ("predecessors", .list []), ("successors", .list []),
   ("min_start", .atom (msOf e))]

/-- `if k not in dir(t): setattr(t, k, getattr(raw, k))` -/
def attrStep (e : PyLite.Env) (T : PyLite.Env) (k : String) : PyLite.Env :=
  if ((T.map (·.1)) ++ taskClassNames).contains k then T else
    match e.get? k with
    | some v => T.set k v
    | none => T

def mkTask (e : PyLite.Env) : PyLite.Env := (e.map (·.1)).foldl (attrStep e) (taskEnvOf e)

/-- what the first loop needs of a raw object: the eight standard cells (and `min_start`, when there) are scalars,
    `estimate` / `spent` are not negative (the setters of `Task` raise RuntimeError otherwise) -/
structure RawOK (e : PyLite.Env) : Prop where
  noTask : isTask e = false
  atoms : ∀ f ∈ rawAtomFields, ∃ a, e.get? f = some (.atom a)
  ms : hasKey e "min_start" = true → ∃ a, e.get? "min_start" = some (.atom a)
  est : negNum (.atom (slot e "estimate")) = false
  spent : negNum (.atom (slot e "spent")) = false

theorem RawOK.get {e : PyLite.Env} (h : RawOK e) (f : String) (hf : f ∈ rawAtomFields) :
    e.get? f = some (.atom (slot e f)) := by
  obtain ⟨a, ha⟩ := h.atoms f hf
  simp only [slot, ha]

theorem attrStep_get (e T : PyLite.Env) (k f : String) (v : Val) (h : T.get? f = some v) :
    (attrStep e T k).get? f = some v := by
  unfold attrStep
  by_cases hc : ((T.map (·.1)) ++ taskClassNames).contains k = true
  · rw [if_pos hc]; exact h
  · rw [if_neg hc]
    cases e.get? k with
    | none => exact h
    | some w =>
      have hne : k ≠ f := by
        intro hk; subst hk
        exact hc (by simp [mem_keys_of_get T k v h])
      show (T.set k w).get? f = some v
      rw [Env.get?_set, if_neg hne]; exact h

theorem attrFold_get (e : PyLite.Env) (f : String) (v : Val) : ∀ (ks : List String) (T : PyLite.Env),
    T.get? f = some v → (ks.foldl (attrStep e) T).get? f = some v
  | [], _, h => h
  | k :: ks, T, h => attrFold_get e f v ks _ (attrStep_get e T k f v h)

theorem mkTask_get (e : PyLite.Env) (f : String) (v : Val) (h : (taskEnvOf e).get? f = some v) :
    (mkTask e).get? f = some v := attrFold_get e f v _ _ h

def attrBody : List Stmt :=
  [.ifElse (.not (.isIn (.var "k") (.prim "dir" (.listCons (.var "t") .listNil))))
     [.expr (.callFn 100 (.listCons (.var "t") (.listCons (.var "k") (.listCons (.prim "__getattribute__" (.listCons (.var "raw") (.listCons (.var "k") .listNil))) .listNil))))]
     []]

/-- `k in dir(t)` -/
def inDir (T : PyLite.Env) (k : String) : Bool := ((T.map (·.1)) ++ taskClassNames).contains k

theorem attrStep_eq (e T : PyLite.Env) (k : String) : attrStep e T k = copyAttr inDir e T k := rfl

theorem attr_loop (L : IOLib) (F : Nat) (rec) (o i : Nat) (e : PyLite.Env) (hio : o ≠ i) :
    ∀ (ks : List String) (env : PyLite.Env) (st : PState),
      env.get? "raw" = some (.atom (.ref o)) → env.get? "t" = some (.atom (.ref i)) →
      st.heap o = e → (∀ k ∈ ks, (e.get? k).isSome) →
      ∃ env', forLoopP "k" (fun e s => execBlockP (HH L (F + 1)) [] rec attrBody e s) (ks.map nameA) env st =
          .normal env' { st with heap := fun j => if j = i then ks.foldl (attrStep e) (st.heap i) else st.heap j } ∧
        (∀ x, x ≠ "k" → env'.get? x = env.get? x) :=
  fun ks env st hraw ht he hget =>
    copyAttr_loop L F rec _ "raw" "t" inDir (fun _ => True) o i e
      (fun env st k ht hk _ => by
        rw [eval_not (eval_isIn (eval_var hk) (eval_prim (eval_cons (eval_var ht) eval_nil)
          (by rw [HH_prim, prim_dir]))) rfl, any_nameA, inDir])
      hio (by decide) (by decide) (fun _ _ _ => trivial) ks env st hraw ht trivial he (fun k hk _ _ => hget k hk)

def msE : Expr :=
  .ite (.isIn (.prim "lit:min_start" .listNil) (.prim "__dict__" (.listCons (.var "raw") .listNil)))
    (.prim "__getattribute__" (.listCons (.var "raw") (.listCons (.prim "lit:min_start" .listNil) .listNil))) .none

/-- `raw.min_start if 'min_start' in raw.__dict__ else None` -/
theorem eval_msE (L : IOLib) (F : Nat) (env : PyLite.Env) (st : PState) (o : Nat)
    (hraw : env.get? "raw" = some (.atom (.ref o))) (h : RawOK (st.heap o)) :
    msE.evalP (HH L F) [] env st = .ok (.atom (msOf (st.heap o)), st) := by
  have hlit : ∀ st, ioPrim L "lit:min_start" [] st = .ok (.atom (nameA "min_start")) := prim_lit_min_start L
  have hany := names_any _ "min_start" h.noTask
  cases hk : hasKey (st.heap o) "min_start" with
  | false => simp [pylite_step, msE, hraw, hlit, hany, hk, msOf]
  | true =>
    obtain ⟨a, ha⟩ := h.ms hk
    simp [pylite_step, msE, hraw, hlit, hany, hk, ha, msOf, slot]

def taskCallE : Expr :=
  .callFn 101 (.listCons (.attr (.var "raw") "id") (.listCons (.attr (.var "raw") "name") (.listCons (.attr (.var "raw") "resource") (.listCons (.attr (.var "raw") "start") (.listCons (.attr (.var "raw") "end") (.listCons (.attr (.var "raw") "estimate") (.listCons (.attr (.var "raw") "spent") (.listCons (.attr (.var "raw") "milestone") (.listCons msE .listNil)))))))))

/-- `Task(raw.id, raw.name, …)` -/
theorem eval_taskCall (L : IOLib) (F : Nat) (env : PyLite.Env) (st : PState) (o : Nat)
    (hraw : env.get? "raw" = some (.atom (.ref o))) (h : RawOK (st.heap o)) :
    taskCallE.evalP (HH L (F + 1)) [] env st = .ok (.atom (.ref st.reads), allocSt st (taskEnvOf (st.heap o))) := by
  have ha : ∀ f, rawAtomFields.contains f = true → (st.heap o).get? f = some (.atom (slot (st.heap o) f)) :=
    fun f hf => h.get f (by simpa using hf)
  simp [pylite_step, taskCallE, hraw, ha "id", ha "name", ha "resource", ha "start", ha "end", ha "estimate", ha "spent",
    ha "milestone", rawAtomFields, eval_msE L (F + 1) env st o hraw h, HH_lib L F 101,
    ioFn_task L st _ _ _ _ _ _ _ _ _ h.est h.spent, taskEnvOf]

def mkBody : List Stmt :=
  [.assign "t" taskCallE,
   .forIn "k" (.prim "__dict__" (.listCons (.var "raw") .listNil)) attrBody,
   .assign "tasks_by_id" (.dictSet (.var "tasks_by_id") (.attr (.var "t") "id") (.var "t"))]

theorem dictNames_raw (e : PyLite.Env) (h : isTask e = false) : dictNames e = e.map (·.1) := by
  unfold dictNames
  rw [h]; rfl

theorem mk_body (L : IOLib) (F : Nat) (rec) (env : PyLite.Env) (st : PState) (o : Nat) (D : List (Atom × Atom))
    (hraw : env.get? "raw" = some (.atom (.ref o))) (hD : env.get? "tasks_by_id" = some (.dict D))
    (ho : o < st.reads) (h : RawOK (st.heap o)) :
    ∃ env', execBlockP (HH L (F + 1)) [] rec mkBody env st = .normal env' (allocSt st (mkTask (st.heap o))) ∧
      env'.get? "tasks_by_id" = some (.dict (Dict.insert D (slot (st.heap o) "id") (.ref st.reads))) ∧
      Frame ["t", "k", "tasks_by_id"] env env' := by
  have hoi : o ≠ st.reads := Nat.ne_of_lt ho
  have he1 : (allocSt st (taskEnvOf (st.heap o))).heap o = st.heap o := by simp [allocSt, hoi]
  obtain ⟨env2, h2, hfr2⟩ := attr_loop L F rec o st.reads (st.heap o) hoi ((st.heap o).map (·.1))
    (env.set "t" (.atom (.ref st.reads))) (allocSt st (taskEnvOf (st.heap o)))
    (by simpa [pylite_step] using hraw) (by simp [pylite_step]) he1 (fun k hk => get_of_mem_keys _ k hk)
  rw [show (allocSt st (taskEnvOf (st.heap o))).heap st.reads = taskEnvOf (st.heap o) by simp [allocSt]] at h2
  replace h2 := h2.trans (congrArg (OutcomeP.normal env2) (updObj_allocSt st (taskEnvOf (st.heap o)) (mkTask (st.heap o))))
  have ht2 : env2.get? "t" = some (.atom (.ref st.reads)) := by rw [hfr2 "t" (by decide)]; simp [pylite_step]
  have hD2 : env2.get? "tasks_by_id" = some (.dict D) := by
    rw [hfr2 "tasks_by_id" (by decide)]; simpa [pylite_step] using hD
  have hid : ((allocSt st (mkTask (st.heap o))).heap st.reads).get? "id" = some (.atom (slot (st.heap o) "id")) := by
    simp only [allocSt, if_true]
    exact mkTask_get _ "id" _ (by simp [taskEnvOf, PyLite.Env.get?])
  refine ⟨env2.set "tasks_by_id" (.dict (Dict.insert D (slot (st.heap o) "id") (.ref st.reads))), ?_,
    by rw [Env.get?_set, if_pos rfl], ?_⟩
  · simp [pylite_step, mkBody, eval_taskCall L F env st o hraw h, hraw, he1, dictNames_raw _ h.noTask, h2, ht2, hD2, hid, -List.map_map]
  · intro x hx
    rw [Env.get?_set, if_neg (fun hh => hx (by simp [← hh])), hfr2 x (fun hh => hx (by simp [hh])),
      Env.get?_set, if_neg (fun hh => hx (by simp [← hh]))]

/-- the dict `tasks_by_id` after the raw objects `os` (their tasks at `r`, `r + 1`, …) -/
def byId (E : Nat → PyLite.Env) : List Nat → Nat → List (Atom × Atom) → List (Atom × Atom)
  | [], _, D => D
  | o :: os, r, D => byId E os (r + 1) (Dict.insert D (slot (E o) "id") (.ref r))

theorem mk_loop (L : IOLib) (F : Nat) (rec) (E : Nat → PyLite.Env) :
    ∀ (os : List Nat) (env : PyLite.Env) (st : PState) (D : List (Atom × Atom)),
      env.get? "tasks_by_id" = some (.dict D) → (∀ o ∈ os, o < st.reads ∧ st.heap o = E o ∧ RawOK (E o)) →
      ∃ env', forLoopP "raw" (fun e s => execBlockP (HH L (F + 1)) [] rec mkBody e s) (os.map Atom.ref) env st =
          .normal env' (os.foldl (fun s o => allocSt s (mkTask (E o))) st) ∧
        env'.get? "tasks_by_id" = some (.dict (byId E os st.reads D)) ∧
        Frame ["raw", "t", "k", "tasks_by_id"] env env' := by
  intro os env st D hD hos
  obtain ⟨env', h1, ⟨D', hD', hfin, -⟩, h2⟩ := forLoop_fold (x := "raw") (xs := ["raw", "t", "k", "tasks_by_id"])
    (by simp) Atom.ref (fun s o => allocSt s (mkTask (E o))) id
    (fun os' s env => ∃ D', env.get? "tasks_by_id" = some (.dict D') ∧
      byId E os' s.reads D' = byId E os st.reads D ∧ ∀ o ∈ os', o < s.reads ∧ s.heap o = E o ∧ RawOK (E o))
    (fun o os' s env ⟨D', hD', hfin, hos'⟩ => by
      obtain ⟨ho, he, hok⟩ := hos' o (List.mem_cons_self ..)
      obtain ⟨env1, g1, g2, g3⟩ := mk_body L F rec (env.set "raw" (.atom (.ref o))) s o D'
        (by rw [Env.get?_set, if_pos rfl]) (by rw [Env.get?_set, if_neg (by decide)]; exact hD') ho (by rw [he]; exact hok)
      rw [he] at g1 g2
      exact ⟨env1, g1, ⟨_, g2, hfin, fun o' ho' => by
          obtain ⟨a, b, c⟩ := hos' o' (List.mem_cons_of_mem _ ho')
          refine ⟨Nat.lt_succ_of_lt a, ?_, c⟩
          simp only [allocSt, if_neg (Nat.ne_of_lt a)]; exact b⟩, g3.mono (by simp)⟩)
    os st env ⟨D, hD, rfl, hos⟩
  exact ⟨env', h1, by rw [hD', ← hfin]; rfl, h2⟩

theorem ioFn_append_child (L : IOLib) (st : PState) (p t : Nat) :
    ioFn L 104 [.atom (.ref p), .atom (.ref t)] st = .ok (.atom .none, setParent st t p) := by
  unfold ioFn
  rw [if_neg (by decide), if_neg (by decide), if_neg (by decide), if_neg (by decide), if_pos rfl]
  rfl

theorem ioFn_set_parent (L : IOLib) (st : PState) (p t : Nat) :
    ioFn L 105 [.atom (.ref t), .atom (.ref p)] st = .ok (.atom .none, setParent st t p) := by
  unfold ioFn
  rw [if_neg (by decide), if_neg (by decide), if_neg (by decide), if_neg (by decide), if_neg (by decide), if_pos rfl]
  rfl

attribute [pylite_step] ioFn_append_child ioFn_set_parent

def addRootS : Stmt := .assign "roots" (.bin .add (.var "roots") (.listCons (.var "task") .listNil))

def linkBody : List Stmt :=
  [.assign "task" (.dictIndex (.var "tasks_by_id") (.attr (.var "raw") "id")),
   .ifElse (.isNotNone (.attr (.var "raw") "parent_id"))
     [.assign "parent_task" (.dictGet (.var "tasks_by_id") (.attr (.var "raw") "parent_id")),
      .ifElse (.isNotNone (.var "parent_task"))
        [.expr (.callFn 104 (.listCons (.var "parent_task") (.listCons (.var "task") .listNil))),
         .expr (.callFn 105 (.listCons (.var "task") (.listCons (.var "parent_task") .listNil)))]
        [addRootS]]
     [addRootS]]

/-- one round of the second loop on the store and the list `roots`: the task `t` of the row becomes a child of the task
    `tasks_by_id.get(parent_id)`, a root when the parent id is None or names no task -/
def linkStep (D : List (Atom × Atom)) (t : Nat) (p : Atom) (s : PState × List Atom) : PState × List Atom :=
  if p = .none then (s.1, s.2 ++ [.ref t]) else
    match Dict.get? D p with
    | some (.ref q) => (setParent (setParent s.1 t q) t q, s.2)
    | _ => (s.1, s.2 ++ [.ref t])

theorem link_body (L : IOLib) (F : Nat) (rec) (env : PyLite.Env) (st : PState) (o t : Nat) (a p : Atom)
    (D : List (Atom × Atom)) (rs : List Atom)
    (hraw : env.get? "raw" = some (.atom (.ref o))) (hD : env.get? "tasks_by_id" = some (.dict D))
    (hr : env.get? "roots" = some (.list rs))
    (hid : (st.heap o).get? "id" = some (.atom a)) (hpid : (st.heap o).get? "parent_id" = some (.atom p))
    (hget : Dict.get? D a = some (.ref t)) (hrefs : ∀ v, Dict.get? D p = some v → ∃ q, v = .ref q) :
    ∃ env', execBlockP (HH L (F + 1)) [] rec linkBody env st = .normal env' (linkStep D t p (st, rs)).1 ∧
      env'.get? "roots" = some (.list (linkStep D t p (st, rs)).2) ∧
      Frame ["task", "parent_task", "roots"] env env' := by
  have f1 := Frame.set env "task" (.atom (.ref t)) (xs := ["task", "parent_task", "roots"]) (by simp)
  by_cases hp : p = .none
  · subst hp
    exact ⟨(env.set "task" (.atom (.ref t))).set "roots" (.list (rs ++ [.ref t])),
      by simp [pylite_step, linkBody, addRootS, hraw, hD, hr, hid, hpid, hget, linkStep],
      by simp [pylite_step, linkStep], f1.trans (Frame.set _ "roots" _ (by simp))⟩
  · cases hg : Dict.get? D p with
    | none =>
      exact ⟨((env.set "task" (.atom (.ref t))).set "parent_task" (.atom .none)).set "roots" (.list (rs ++ [.ref t])),
        by simp [pylite_step, linkBody, addRootS, hraw, hD, hr, hid, hpid, hget, linkStep, hp, hg],
        by simp [pylite_step, linkStep, hp, hg],
        (f1.trans (Frame.set _ "parent_task" _ (by simp))).trans (Frame.set _ "roots" _ (by simp))⟩
    | some v =>
      obtain ⟨q, rfl⟩ := hrefs v hg
      exact ⟨(env.set "task" (.atom (.ref t))).set "parent_task" (.atom (.ref q)),
        by simp [pylite_step, linkBody, hraw, hD, hid, hpid, hget, linkStep, hp, hg, HH_lib L F 104, HH_lib L F 105],
        by simp [pylite_step, linkStep, hp, hg, hr], f1.trans (Frame.set _ "parent_task" _ (by simp))⟩

/-- the parent `setParent` unlinks a task of `tasks_by_id` from is not a raw object: it lies from `n` on -/
def ParInv (n : Nat) (D : List (Atom × Atom)) (st : PState) : Prop :=
  ∀ k t x, Dict.get? D k = some (.ref t) → (st.heap t).get? "parent" = some (.atom (.ref x)) → n ≤ x

theorem heapSet_other (h : Nat → PyLite.Env) (i j : Nat) (f : String) (v : Val) (hne : j ≠ i) :
    heapSet h i f v j = h j := PyLite.heapSet_other h i j f v hne

theorem heapSet_get_ne (h : Nat → PyLite.Env) (i j : Nat) (f g : String) (v : Val) (hne : f ≠ g) :
    (heapSet h i f v j).get? g = (h j).get? g := PyLite.heapSet_get_ne h i j f g v hne

/-- the first step of `setParent`: the task leaves the `children` of its old parent -/
def unlinkH (h0 : Nat → PyLite.Env) (t : Nat) : Nat → PyLite.Env :=
  match (h0 t).get? "parent" with
  | some (.atom (.ref o)) =>
    heapSet h0 o "children" (.list ((listSlot h0 o "children").filter (fun a => a != Atom.ref t)))
  | _ => h0

theorem setParent_eq (st : PState) (t p : Nat) : setParent st t p =
    { st with heap := (heapSet (heapSet (unlinkH st.heap t) p "children"
        (.list ((listSlot (unlinkH st.heap t) p "children").filter (fun a => a != Atom.ref t) ++ [Atom.ref t])))
        t "parent" (.atom (.ref p))) } := rfl

theorem unlinkH_cases (h0 : Nat → PyLite.Env) (t : Nat) :
    unlinkH h0 t = h0 ∨
      ∃ o l, (h0 t).get? "parent" = some (.atom (.ref o)) ∧ unlinkH h0 t = heapSet h0 o "children" (.list l) := by
  unfold unlinkH
  split
  · exact .inr ⟨_, _, ‹_›, rfl⟩
  · exact .inl rfl

theorem unlinkH_get (h0 : Nat → PyLite.Env) (t j : Nat) (g : String) (hg : "children" ≠ g) :
    (unlinkH h0 t j).get? g = (h0 j).get? g := by
  rcases unlinkH_cases h0 t with e | ⟨o, l, -, e⟩ <;> rw [e]
  exact heapSet_get_ne _ _ _ _ _ _ hg

theorem setParent_low {D : List (Atom × Atom)} {k : Atom} (st : PState) (t q n : Nat) (ht : n ≤ t) (hq : n ≤ q)
    (hk : Dict.get? D k = some (.ref t)) (hinv : ParInv n D st) (j : Nat) (hj : j < n) :
    (setParent st t q).heap j = st.heap j := by
  rw [setParent_eq]
  show heapSet _ t _ _ j = _
  rw [heapSet_other _ t j _ _ (by omega), heapSet_other _ q j _ _ (by omega)]
  rcases unlinkH_cases st.heap t with e | ⟨o, l, ho, e⟩ <;> rw [e]
  have := hinv k t o hk ho
  exact heapSet_other _ o j _ _ (by omega)

theorem setParent_parent (st : PState) (t q j : Nat) :
    ((setParent st t q).heap j).get? "parent" =
      if j = t then some (.atom (.ref q)) else (st.heap j).get? "parent" := by
  rw [setParent_eq]
  show (heapSet _ t _ _ j).get? "parent" = _
  by_cases hj : j = t
  · subst hj
    simp only [heapSet, if_true]
    rw [Env.get?_set, if_pos rfl]
  · rw [if_neg hj, heapSet_other _ t j _ _ hj, heapSet_get_ne _ _ _ _ _ _ (by decide), unlinkH_get _ _ _ _ (by decide)]

theorem setParent_inv {D : List (Atom × Atom)} (st : PState) (t q n : Nat) (hq : n ≤ q) (hinv : ParInv n D st) :
    ParInv n D (setParent st t q) := by
  intro k j x hk hx
  rw [setParent_parent] at hx
  by_cases hj : j = t
  · rw [if_pos hj] at hx
    injection hx with hx; injection hx with hx; injection hx with hx
    omega
  · rw [if_neg hj] at hx
    exact hinv k j x hk hx

structure LinkInv (n : Nat) (E : Nat → PyLite.Env) (D : List (Atom × Atom)) (st : PState) : Prop where
  low : ∀ j < n, st.heap j = E j
  par : ParInv n D st

theorem linkStep_inv (n : Nat) (E : Nat → PyLite.Env) (D : List (Atom × Atom))
    (hD : ∀ k v, Dict.get? D k = some v → ∃ q, v = .ref q ∧ n ≤ q) (t : Nat) {a : Atom}
    (ha : Dict.get? D a = some (.ref t)) (p : Atom) (s : PState × List Atom) (h : LinkInv n E D s.1) :
    LinkInv n E D (linkStep D t p s).1 := by
  have ht : n ≤ t := by
    obtain ⟨q, hq1, hq2⟩ := hD _ _ ha
    injection hq1 with hq1; omega
  unfold linkStep
  by_cases hp : p = .none
  · rw [if_pos hp]; exact h
  · rw [if_neg hp]
    cases hg : Dict.get? D p with
    | none => exact h
    | some v =>
      obtain ⟨q, rfl, hq⟩ := hD p v hg
      have i1 := setParent_inv s.1 t q n hq h.par
      exact ⟨fun j hj => by
        show (setParent (setParent s.1 t q) t q).heap j = E j
        rw [setParent_low _ t q n ht hq ha i1 j hj, setParent_low _ t q n ht hq ha h.par j hj]; exact h.low j hj,
        setParent_inv _ t q n hq i1⟩

/-- a row of the second loop: the raw object, its task, its id and its parent id -/
structure LinkRow where
  o : Nat
  t : Nat
  a : Atom
  p : Atom

theorem link_loop (L : IOLib) (F : Nat) (rec) (n : Nat) (E : Nat → PyLite.Env) (D : List (Atom × Atom))
    (hD : ∀ k v, Dict.get? D k = some v → ∃ q, v = .ref q ∧ n ≤ q) :
    ∀ (rows : List LinkRow) (env : PyLite.Env) (st : PState) (rs : List Atom),
      env.get? "tasks_by_id" = some (.dict D) → env.get? "roots" = some (.list rs) → LinkInv n E D st →
      (∀ r ∈ rows, r.o < n ∧ (E r.o).get? "id" = some (.atom r.a) ∧ (E r.o).get? "parent_id" = some (.atom r.p) ∧
        Dict.get? D r.a = some (.ref r.t)) →
      ∃ env', forLoopP "raw" (fun e s => execBlockP (HH L (F + 1)) [] rec linkBody e s)
          (rows.map (fun r => Atom.ref r.o)) env st =
          .normal env' (rows.foldl (fun s r => linkStep D r.t r.p s) (st, rs)).1 ∧
        env'.get? "roots" = some (.list (rows.foldl (fun s r => linkStep D r.t r.p s) (st, rs)).2) ∧
        Frame ["raw", "task", "parent_task", "roots"] env env' := by
  intro rows env st rs hDe hr hinv hrows
  obtain ⟨env', _, h1, rfl, hr', -, h2⟩ := forLoopP_foldl "raw" _ (fun r : LinkRow => Atom.ref r.o)
    (fun s ρ st' => st' = s.1 ∧ ρ.get? "roots" = some (.list s.2) ∧ LinkInv n E D s.1 ∧
      Frame ["raw", "task", "parent_task", "roots"] env ρ)
    (fun s r => linkStep D r.t r.p s) rows
    (fun s r ρ st' hr h => by
      obtain ⟨rfl, hroots, hinv, hfr⟩ := h
      obtain ⟨ho, hid, hpid, hget⟩ := hrows r hr
      have hfr0 := hfr.trans (Frame.set ρ "raw" (.atom (.ref r.o)) (by simp))
      obtain ⟨env1, g1, g2, g3⟩ := link_body L F rec (ρ.set "raw" (.atom (.ref r.o))) s.1 r.o r.t r.a r.p D s.2
        (by rw [Env.get?_set, if_pos rfl]) ((hfr0 "tasks_by_id" (by decide)).trans hDe)
        (by rw [Env.get?_set, if_neg (by decide)]; exact hroots) (by rw [hinv.low _ ho]; exact hid)
        (by rw [hinv.low _ ho]; exact hpid) hget (fun v hv => by obtain ⟨q, hq, _⟩ := hD _ _ hv; exact ⟨q, hq⟩)
      exact ⟨env1, _, g1, rfl, g2, linkStep_inv n E D hD r.t hget r.p s hinv, hfr0.trans (g3.mono (by simp))⟩)
    (st, rs) env st ⟨rfl, hr, hinv, Frame.refl _ _⟩
  exact ⟨env', h1, hr', h2⟩

#print axioms mk_loop
#print axioms link_body
#print axioms link_loop

end Pj.CsvSrc

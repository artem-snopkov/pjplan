/-
  Lemmas/WbsSrcA.lean — stage 1 of the translated tie for wbs.py: `WBS.tasks`, `WBS.__getitem__`,
  the `roots` getter / setter, `WBS.__floordiv__` (with `Task.__floordiv__`).  See Lemmas/WbsSrc.lean.
-/
import PjVerif.Lemmas.WbsSrc
import PjVerif.Lemmas.TaskSrcD
namespace Pj.WbsSrc
open Pj.PyLite Pj.Extracted Pj.TaskSrc
set_option linter.unusedSimpArgs false
set_option linter.unusedVariables false

-- the filter evaluation of `remove_all`, the only method that reads it: the lemmas about the other methods hold for every
-- `filt`; their entry points (Lemmas/WbsSrc.lean) are defined at `noFilt`
variable (filt : List Atom → PState → List Uid)

theorem interpW_eq (F k : Nat) (args : List Val) (st : PState) :
    interpW filt F k args st = (Hw filt F).fnV k args st := rfl

theorem fnW_top (F k : Nat) (params : List String) (body : List Stmt) (h : wbsFuns k = some (params, body))
    (args : List Val) (st : PState) :
    (Hw filt (F + 1)).fnV k args st = callPV (Hw filt F) params body args st := by
  simp only [Hw, progW, h]

theorem fnW_base (F k : Nat) (h : wbsFuns k = none) (args : List Val) (st : PState) :
    (Hw filt (F + 1)).fnV k args st = (Hd (F + 1)).fnV k args st := by
  simp only [Hw, progW, h, runProg, Hd]

theorem fnW_zero (k : Nat) (args : List Val) (st : PState) :
    (Hw filt 0).fnV k args st = .error (.crash .recursion) := rfl

theorem Hw_prim (F : Nat) : (Hw filt F).prim = wbsPrim filt := by cases F <;> rfl
theorem Hw_fn (F : Nat) : (Hw filt F).fn = wbsFn := by cases F <;> rfl

theorem prim_root (w : Uid) (st : PState) : wbsPrim filt "_root" [.ref w] st = .ok (.atom (.ref w)) := rfl

/-- `self.__root` -/
theorem evalP_root (F : Nat) (self ρ : PyLite.Env) (st : PState) (x : String) (w : Uid)
    (hx : ρ.get? x = some (.atom (.ref w))) :
    (Expr.prim "_root" (.listCons (.var x) .listNil)).evalP (Hw filt F) self ρ st = .ok (.atom (.ref w), st) := by
  simp only [Expr.evalP, hx, bind, Except.bind, pure, Except.pure, Hw_prim, prim_root]

attribute [pylite_step] Hw_prim Hw_fn prim_root

theorem wf_base_get_all_children : wbsFuns fn_Task_get_all_children = none := rfl
theorem wf_base_children_set : wbsFuns fn_Task_children_set = none := rfl
theorem wf_base_to_list : wbsFuns fn_to_list = none := rfl
theorem wf_base_check_not_none : wbsFuns fn_check_not_none = none := rfl
theorem wf_base_parent_set : wbsFuns fn_Task_parent_set = none := rfl
theorem wf_base_parent_get : wbsFuns fn_Task_parent_get = none := rfl
theorem wf_base_preds_set : wbsFuns fn_Task_predecessors_set = none := rfl
theorem wf_base_succs_set : wbsFuns fn_Task_successors_set = none := rfl

theorem wf_tasks : wbsFuns fn_WBS_tasks = some (src_WBS_tasks_params, src_WBS_tasks) := rfl
theorem wf_getitem : wbsFuns fn_WBS_getitem = some (src_WBS_getitem_params, src_WBS_getitem) := rfl
theorem wf_roots_get : wbsFuns fn_WBS_roots_get = some (src_WBS_roots_get_params, src_WBS_roots_get) := rfl
theorem wf_roots_set : wbsFuns fn_WBS_roots_set = some (src_WBS_roots_set_params, src_WBS_roots_set) := rfl
theorem wf_floordiv : wbsFuns fn_WBS_floordiv = some (src_WBS_floordiv_params, src_WBS_floordiv) := rfl
theorem wf_task_floordiv : wbsFuns fn_Task_floordiv = some (src_Task_floordiv_params, src_Task_floordiv) := rfl

theorem fnW_children_set (s : G) (st : PState) (hh : st.heap = encHeap s) (h : Uid) (v : Val) (l : List Uid)
    (hv : ValueOf v l) (F : Nat) (hF : s.n + 6 ≤ F) (hrec : (setChildren s h l).2 ≠ some (.crash .recursion)) :
    (Hw filt F).fnV fn_Task_children_set [.atom (.ref h), v] st = setterResult st (setChildren s h l) := by
  obtain ⟨F, rfl, hF⟩ := fuel_split 1 hF
  rw [fnW_base _ _ _ wf_base_children_set]
  exact interpSetChildren_eq s st hh h v l hv (F + 1) hF hrec

theorem tasks_spec (s : G) (st : PState) (hh : st.heap = encHeap s) (f : Nat) (w : Uid) (r : List Uid)
    (h : descF s.children f w = some r) (F : Nat) (hF : f + 2 ≤ F) :
    (Hw filt F).fnV fn_WBS_tasks [.atom (.ref w)] st = .ok (refs r, st) := by
  obtain ⟨F, rfl, hF⟩ := fuel_split 2 hF
  rw [fnW_top _ _ _ _ _ wf_tasks, callPV_bound rfl, src_WBS_tasks, blockRes_ret,
    evalP_callFn1 (ha := evalP_root filt _ _ _ _ "self" w rfl), fnW_base _ _ _ wf_base_get_all_children]
  exact get_all_children_spec progHd s st hh f w r h (F + 1) (by omega)

/-- STAGE 1, `WBS.tasks`: the member list of the model -/
theorem interpTasks_eq (s : G) (st : PState) (hh : st.heap = encHeap s) (w : Uid) (r : List Uid)
    (h : wbsTasks s w = some r) (F : Nat) (hF : s.n + 3 ≤ F) :
    interpTasks F w st = .ok (refs r, st) :=
  tasks_spec noFilt s st hh s.fuel w r h F (by unfold G.fuel; omega)

/-- STAGE 1, the `roots` getter: the list of the root tasks (as the list it is at that time) -/
theorem interpRootsGet_eq (s : G) (st : PState) (hh : st.heap = encHeap s) (w : Uid) (F : Nat) (hF : 1 ≤ F) :
    interpRootsGet F w st = .ok (refs (s.children w), st) := by
  obtain ⟨F, rfl, hF⟩ := fuel_split 1 hF
  unfold interpRootsGet
  rw [interpW_eq, fnW_top _ _ _ _ _ wf_roots_get, callPV_bound rfl, src_WBS_roots_get, blockRes_ret]
  exact evalP_attr (evalP_root noFilt _ _ _ _ "self" w rfl)
    (by rw [hh, encHeap_apply, encTask_children])

theorem roots_set_spec (s : G) (st : PState) (hh : st.heap = encHeap s) (w : Uid) (v : Val) (l : List Uid)
    (hv : ValueOf v l) (F : Nat) (hF : s.n + 7 ≤ F) (hrec : (setChildren s w l).2 ≠ some (.crash .recursion)) :
    (Hw filt F).fnV fn_WBS_roots_set [.atom (.ref w), v] st = setterResult st (setChildren s w l) := by
  obtain ⟨st, rfl⟩ := exists_withG hh
  obtain ⟨F, rfl, hF⟩ := fuel_split 1 hF
  rw [fnW_top _ _ _ _ _ wf_roots_set]
  rw [setterResult_withG]
  refine Does.callPV (Q := fun _ => True) rfl ?_ hrec
  rw [src_WBS_roots_set, execBlockP_one]
  exact Does.expr (v := .atom .none) trivial fun hne => by
    rw [evalP_callFn2 (ha := evalP_root filt _ _ _ _ "self" w rfl) (hb := evalP_var _ _ _ _ "value" v rfl),
      fnW_children_set filt s _ rfl w v l hv F (by omega) hne, setterResult_withG]

/-- STAGE 1, the `roots` setter: the children setter on the hidden root -/
theorem interpRootsSet_eq (s : G) (st : PState) (hh : st.heap = encHeap s) (w : Uid) (v : Val) (l : List Uid)
    (hv : ValueOf v l) (F : Nat) (hF : s.n + 7 ≤ F) (hrec : (setChildren s w l).2 ≠ some (.crash .recursion)) :
    interpRootsSet F w v st = setterResult st (setChildren s w l) :=
  roots_set_spec noFilt s st hh w v l hv F hF hrec

def resultV (st : PState) (v : Val) (r : G × Option Err) : Res (Val × PState) :=
  match r with
  | (s', none) => .ok (v, withG st s')
  | (_, some e) => .error e

theorem resultV_withG (st : PState) (s : G) (v : Val) (r : G × Option Err) :
    resultV (withG st s) v r = callResult st v r := rfl

/-- `task // other`: `self.children += other; return other` -/
theorem task_floordiv_spec (s : G) (st : PState) (hh : st.heap = encHeap s) (h : Uid) (v : Val) (l : List Uid)
    (hv : ValueOf v l) (F : Nat) (hF : s.n + 7 ≤ F) (hrec : (floordiv s h l).2 ≠ some (.crash .recursion)) :
    (Hw filt F).fnV fn_Task_floordiv [.atom (.ref h), v] st = resultV st v (floordiv s h l) := by
  obtain ⟨st, rfl⟩ := exists_withG hh
  obtain ⟨F, rfl, hF⟩ := fuel_split 2 hF
  unfold floordiv at hrec ⊢
  -- `self.children + _to_list(other)`
  have hsum : (Expr.bin .add (.attr (.var "self") "children") (.callFn fn_to_list (.listCons (.var "other") .listNil))).evalP
      (Hw filt (F + 1)) [] [("self", .atom (.ref h)), ("other", v)] (withG st s) =
      .ok (refs (s.children h ++ l), withG st s) := by
    have hb : (Expr.callFn fn_to_list (.listCons (.var "other") .listNil)).evalP (Hw filt (F + 1)) []
        [("self", .atom (.ref h)), ("other", v)] (withG st s) = .ok (refs l, withG st s) := by
      rw [evalP_callFn1 (ha := evalP_var _ _ _ _ "other" v rfl), fnW_base _ _ _ wf_base_to_list, hv _ F]
    rw [evalP_bin (hb := hb) (hr := rfl) (ha := evalP_attr (v := refs (s.children h))
      (evalP_var _ _ _ _ "self" _ rfl) (by rw [withG_heap, encHeap_apply, encTask_children])), refs, List.map_append]
  rw [fnW_top _ _ _ _ _ wf_task_floordiv, src_Task_floordiv, resultV_withG]
  refine Does.callPV_ret (body := [_]) (Q := (· = [("self", .atom (.ref h)), ("other", v)])) rfl ?_
    (fun _ _ hρ => hρ ▸ evalP_var _ _ _ _ "other" v rfl) hrec
  rw [execBlockP_one]
  exact Does.expr (v := .atom .none) rfl fun hne => by
    rw [evalP_callFn2 (ha := evalP_var _ _ _ _ "self" _ rfl) (hb := hsum),
      fnW_children_set filt s _ rfl h _ _ (valueOf_refs _) (F + 1) (by omega) hne, setterResult_withG]

/-- STAGE 1, `wbs // v` = `floordiv` on the hidden root; the value is `v` -/
theorem interpFloordiv_eq (s : G) (st : PState) (hh : st.heap = encHeap s) (w : Uid) (v : Val) (l : List Uid)
    (hv : ValueOf v l) (F : Nat) (hF : s.n + 8 ≤ F) (hrec : (floordiv s w l).2 ≠ some (.crash .recursion)) :
    interpFloordiv F w v st = resultV st v (floordiv s w l) := by
  obtain ⟨F, rfl, hF⟩ := fuel_split 1 hF
  unfold interpFloordiv
  rw [interpW_eq, fnW_top _ _ _ _ _ wf_floordiv, callPV_bound rfl, src_WBS_floordiv, blockRes_ret,
    evalP_callFn2 (ha := evalP_root noFilt _ _ _ _ "self" w rfl) (hb := evalP_var _ _ _ _ "other" v rfl)]
  exact task_floordiv_spec noFilt s st hh w v l hv F (by omega) hrec

theorem getitem_spec (s : G) (st : PState) (hh : st.heap = encHeap s) (f : Nat) (w : Uid) (r : List Uid)
    (h : descF s.children f w = some r) (i : Int) (F : Nat) (hF : f + 2 ≤ F) :
    (Hw filt F).fnV fn_WBS_getitem [.atom (.ref w), .atom (idA i)] st =
      match r.find? (fun t => s.tid t == i) with
      | some t => .ok (.atom (.ref t), st)
      | none => .error .runtime := by
  obtain ⟨F, rfl, hF⟩ := fuel_split 2 hF
  rw [fnW_top _ _ _ _ _ wf_getitem, callPV_eq]
  have hg : (Hd (F + 1)).fnV _ _ _ = _ := get_all_children_spec progHd s st hh f w r h (F + 1) (by omega)
  simp only [src_WBS_getitem_params, src_WBS_getitem, bindParamsV, pure, Except.pure, bind, Except.bind, execBlockP,
    Stmt.execP]
  rw [evalP_nextComp_pure (vs := r.map Atom.ref) (st := st)
    (p := refP (fun t => s.tid t == i)) (e := fun a => a)
    (hit := by simp [pylite_step, fnW_base _ _ _ wf_base_get_all_children, hg, refs])
    (hc := by
      intro v hv
      obtain ⟨t, _, rfl⟩ := List.mem_map.1 hv
      simp [pylite_step, hh, pyEq_idA, refP]
      cases hid : (s.tid t == i) <;> simpa using hid)
    (he := by
      intro v hv _
      simp [pylite_step])]
  rw [find?_refP]
  cases r.find? (fun t => s.tid t == i) <;> simp

def getResult (st : PState) (r : Res Uid) : Res (Val × PState) :=
  match r with
  | .ok t => .ok (.atom (.ref t), st)
  | .error e => .error e

/-- STAGE 1, `WBS.__getitem__` = `wbsGet`: the first member with the id `i`, RuntimeError when there is none -/
theorem interpGetitem_eq (s : G) (st : PState) (hh : st.heap = encHeap s) (w : Uid) (i : Int) (F : Nat)
    (hF : s.n + 3 ≤ F) (hrec : wbsGet s w i ≠ .error (.crash .recursion)) :
    interpGetitem F w (.atom (idA i)) st = getResult st (wbsGet s w i) := by
  unfold wbsGet at hrec ⊢
  cases hm : wbsTasks s w with
  | none => rw [hm] at hrec; exact absurd rfl hrec
  | some r =>
    have := getitem_spec noFilt s st hh s.fuel w r hm i F (by unfold G.fuel; omega)
    unfold interpGetitem
    rw [interpW_eq, this]
    cases hf : r.find? (fun t => s.tid t == i) <;> simp [getResult, hf]

end Pj.WbsSrc

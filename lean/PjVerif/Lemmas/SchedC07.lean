/-
  Lemmas/SchedC07.lean — C07 from the outcome of a placement: `C07Out` is what the property needs of one, `C07At` the fact
  about each done task that committing such an outcome establishes (`c07_tasks`), `Sched.run_c07` reads `C07Inv` and the
  executable predicates off the end of a run of either scheduler; the `WBS.start` / `WBS.end` clause follows from the
  roll-up alone.
-/
import PjVerif.Lemmas.SchedCore
namespace Pj

section
variable {op : Time → Time → Time} {R : Time → Time → Prop} (h : Selects op R)
include h

/-- `minOpt` and `maxOpt` as instances of `sel`: two lists with the same `R`-least element have the same `sel` -/
theorem Selects.opt_eq_of (sel : List Time → Option Time)
    (h1 : ∀ a l, sel (a :: l) = some (l.foldl op a)) (l l' : List Time) (hsub : ∀ x ∈ l, x ∈ l')
    (hle : ∀ y ∈ l', ∃ x ∈ l, R x y) : sel l = sel l' := by
  cases l with
  | nil =>
    cases l' with
    | nil => rfl
    | cons b l'' =>
      obtain ⟨x, hx, _⟩ := hle b List.mem_cons_self
      cases hx
  | cons a l =>
    cases l' with
    | nil => cases hsub a List.mem_cons_self
    | cons a' l' =>
      obtain ⟨m1, m2⟩ := h.head_fold a l
      obtain ⟨m1', m2'⟩ := h.head_fold a' l'
      obtain ⟨x, hx, hxm⟩ := hle _ m1'
      rw [h1, h1, h.antisymm (h.trans (m2 x hx) hxm) (m2' _ (hsub _ m1))]

end

theorem minOpt_eq_of (l l' : List Time) (hsub : ∀ x ∈ l, x ∈ l') (hle : ∀ y ∈ l', ∃ x ∈ l, x ≤ y) :
    minOpt l = minOpt l' :=
  minT_selects.opt_eq_of minOpt (fun _ _ => rfl) l l' hsub hle

theorem maxOpt_eq_of (l l' : List Time) (hsub : ∀ x ∈ l, x ∈ l') (hle : ∀ y ∈ l', ∃ x ∈ l, y ≤ x) :
    maxOpt l = maxOpt l' :=
  maxT_selects.opt_eq_of maxOpt (fun _ _ => rfl) l l' hsub hle

theorem minOpt_spec (l : List Time) (m : Time) (h : minOpt l = some m) : m ∈ l ∧ ∀ x ∈ l, m ≤ x := by
  cases l with
  | nil => cases h
  | cons a l => cases h; exact minT_selects.head_fold a l

theorem maxOpt_spec (l : List Time) (m : Time) (h : maxOpt l = some m) : m ∈ l ∧ ∀ x ∈ l, x ≤ m := by
  cases l with
  | nil => cases h
  | cons a l => cases h; exact maxT_selects.head_fold a l

theorem minOpt_isSome (l : List Time) (h : l ≠ []) : ∃ m, minOpt l = some m := by
  cases l with
  | nil => exact absurd rfl h
  | cons a l => exact ⟨_, rfl⟩

theorem maxOpt_isSome (l : List Time) (h : l ≠ []) : ∃ m, maxOpt l = some m := by
  cases l with
  | nil => exact absurd rfl h
  | cons a l => exact ⟨_, rfl⟩

theorem children_aggr_congr (ch : List Uid) (f f' : Uid → Fields) (hc : ∀ c ∈ ch, f' c = f c) :
    ch.filterMap (fun c => (f' c).start) = ch.filterMap (fun c => (f c).start) ∧
    ch.filterMap (fun c => (f' c).end_) = ch.filterMap (fun c => (f c).end_) ∧
    ch.map (fun c => ((f' c).est).getD 0) = ch.map (fun c => ((f c).est).getD 0) ∧
    ch.map (fun c => ((f' c).spent).getD 0) = ch.map (fun c => ((f c).spent).getD 0) :=
  ⟨filterMap_congr' _ _ _ (fun c h => by rw [hc c h]), filterMap_congr' _ _ _ (fun c h => by rw [hc c h]),
    List.map_congr_left (fun c h => by rw [hc c h]), List.map_congr_left (fun c h => by rw [hc c h])⟩

theorem shiftBwd_le (cal : Cal) (used : Int → Rat) (en : Time) (left : Rat) (s : Time)
    (rows : List (Int × Rat)) (hl : 0 ≤ left) (hu : ∀ d, 0 ≤ used d)
    (h : shiftBwd cal used en left = .ok (s, rows)) : s ≤ en := by
  obtain ⟨dayL, _, hs, h0, hd⟩ := shiftBwd_spec cal used en left s rows hl hu h
  cases rows with
  | nil => rw [h0 rfl]; exact Rat.le_refl
  | cons p l =>
    obtain ⟨_, hlt, _⟩ := hd (by simp)
    have hr := (hs.range p (by simp))
    have h2 : dayL + 1 ≤ dayOf en := by omega
    have h3 : ((dayL + 1 : Int) : Rat) ≤ en := Rat.le_floor_iff.1 h2
    rw [Rat.intCast_add] at h3
    have : ((1 : Int) : Rat) = 1 := rfl
    grind

def SLE (g : Fields) : Prop := ∀ s e, g.start = some s → g.end_ = some e → s ≤ e

/-- the fields of `t` are the roll-ups of its children's -/
def RollupAt (env : Env) (f : Uid → Fields) (t : Uid) : Prop :=
(f t).start = minOpt ((env.info t).children.filterMap (fun c => (f c).start)) ∧
(f t).end_ = maxOpt ((env.info t).children.filterMap (fun c => (f c).end_)) ∧
(f t).est = some (((env.info t).children.map (fun c => ((f c).est).getD 0)).sum) ∧
(f t).spent = some (((env.info t).children.map (fun c => ((f c).spent).getD 0)).sum)

theorem RollupAt.congr {env : Env} {f f' : Uid → Fields} {t : Uid} (h : RollupAt env f t) (ht : f' t = f t)
    (hc : ∀ c ∈ (env.info t).children, f' c = f c) : RollupAt env f' t := by
  obtain ⟨a, b, c, d⟩ := children_aggr_congr _ f f' hc
  unfold RollupAt at h ⊢
  rw [ht, a, b, c, d]
  exact h

theorem RollupAt.sle {env : Env} {f : Uid → Fields} {t : Uid} (h : RollupAt env f t)
    (hne : (env.info t).children.isEmpty = false)
    (hall : ∀ c ∈ (env.info t).children, AllSome (f c)) (hsle : ∀ c ∈ (env.info t).children, SLE (f c)) :
    SLE (f t) := by
  intro s e hs he
  obtain ⟨h1, h2, _, _⟩ := h
  cases hch : (env.info t).children with
  | nil => rw [hch] at hne; cases hne
  | cons c0 rest =>
    have hc0 : c0 ∈ (env.info t).children := by rw [hch]; exact List.mem_cons_self
    obtain ⟨a1, a2, _, _⟩ := hall c0 hc0
    obtain ⟨s0, hs0⟩ := Option.isSome_iff_exists.1 a1
    obtain ⟨e0, he0⟩ := Option.isSome_iff_exists.1 a2
    have m1 : s0 ∈ (env.info t).children.filterMap (fun c => (f c).start) :=
      List.mem_filterMap.2 ⟨c0, hc0, hs0⟩
    have m2 : e0 ∈ (env.info t).children.filterMap (fun c => (f c).end_) :=
      List.mem_filterMap.2 ⟨c0, hc0, he0⟩
    have b1 := (minOpt_spec _ s (by rw [← h1, hs])).2 s0 m1
    have b2 := (maxOpt_spec _ e (by rw [← h2, he])).2 e0 m2
    have b3 := hsle c0 hc0 s0 e0 hs0 he0
    grind

/-- the invariant behind C07, over the states of a run started from the fields `fi`: tasks not done are untouched, `done`
    is closed under `children`, done tasks have all four fields, done summaries are the roll-ups of their children, and -
    under the condition `C` - done tasks have start ≤ end.  `C` switches the last clause: the forward scheduler owes it only
    for consistent user-fixed dates (`C := consistentFixed … = true`); the roll-up clause alone and the dates of C06 take
    `C := False`, the backward scheduler `C := True` -/
structure C07Inv (env : Env) (fi : Uid → Fields) (C : Prop) (σ : SS) : Prop where
  init : ∀ x, x ∉ σ.done → σ.f x = fi x
  closed : DoneClosed env σ
  all : ∀ x ∈ σ.done, AllSome (σ.f x)
  roll : ∀ x ∈ σ.done, (env.info x).children.isEmpty = false → (env.info x).milestone = false →
    RollupAt env σ.f x
  sle : C → ∀ x ∈ σ.done, SLE (σ.f x)

theorem rollupAt_of_placed (env : Env) (f f' : Uid → Fields) (t : Uid) (s e es sp : Rat)
    (hft : f' t = ⟨some s, some e, some es, some sp⟩) (hc : ∀ c ∈ (env.info t).children, f' c = f c)
    (h1 : some s = minOpt ((env.info t).children.filterMap (fun c => (f c).start)))
    (h2 : some e = maxOpt ((env.info t).children.filterMap (fun c => (f c).end_)))
    (h3 : es = ((env.info t).children.map (fun c => ((f c).est).getD 0)).sum)
    (h4 : sp = ((env.info t).children.map (fun c => ((f c).spent).getD 0)).sum) : RollupAt env f' t := by
  obtain ⟨a, b, c, d⟩ := children_aggr_congr _ f f' hc
  unfold RollupAt
  rw [hft, a, b, c, d]
  exact ⟨h1, h2, by rw [h3], by rw [h4]⟩

theorem minOpt_children_some (f : Uid → Fields) (ch : List Uid) (hne : ch.isEmpty = false)
    (hall : ∀ c ∈ ch, AllSome (f c)) :
    (∃ m, minOpt (ch.filterMap (fun c => (f c).start)) = some m) ∧
    (∃ m, maxOpt (ch.filterMap (fun c => (f c).end_)) = some m) := by
  cases ch with
  | nil => cases hne
  | cons c0 rest =>
    obtain ⟨a1, a2, _, _⟩ := hall c0 List.mem_cons_self
    obtain ⟨s0, hs0⟩ := Option.isSome_iff_exists.1 a1
    obtain ⟨e0, he0⟩ := Option.isSome_iff_exists.1 a2
    constructor
    · apply minOpt_isSome
      simp [hs0]
    · apply maxOpt_isSome
      simp [he0]

/-- what `C07Inv` needs of the outcome of a placement of `t` (the three clauses about the task just placed) -/
structure C07Out (env : Env) (f : Uid → Fields) (t : Uid) (C : Prop) (o : Outcome) : Prop where
  all : AllSome o.g
  roll : (env.info t).children.isEmpty = false → (env.info t).milestone = false → RollupAt env (upd f t o.g) t
  sle : C → ((env.info t).children.isEmpty = true ∨ (env.info t).milestone = true) → SLE o.g

/-- the clauses of C07 about one done task; its children are done, so later placements leave them alone -/
def C07At (env : Env) (C : Prop) (σ : SS) (t : Uid) : Prop :=
  (∀ c ∈ (env.info t).children, c ∈ σ.done) ∧ AllSome (σ.f t) ∧
  ((env.info t).children.isEmpty = false → (env.info t).milestone = false → RollupAt env σ.f t) ∧ (C → SLE (σ.f t))

/-- a summary has start ≤ end because its children, placed before it, have -/
theorem c07_tasks {env : Env} {fi : Uid → Fields} {d : Sched env} {C : Prop}
    (hout : ∀ σ1 σ σ' t m, Placing env fi d σ1 σ σ' t m → (∀ c ∈ (env.info t).children, AllSome (σ.f c)) →
      ∃ o, σ' = σ.commit env t o ∧ C07Out env σ.f t C o) :
    Tasks env fi d (C07At env C) (fun _ _ => True) where
  keep := fun σ σ' t _ _ he ht ⟨hk, ha, hr, hs⟩ => by
    have hft := he.frozen t ht
    exact ⟨fun c hc => he.done_sub (hk c hc), by rw [hft]; exact ha,
      fun hl hm => (hr hl hm).congr hft (fun c hc => he.frozen c (hk c hc)), fun hC => by rw [hft]; exact hs hC⟩
  new := fun σ1 σ σ' t m h _ hall => by
    obtain ⟨o, rfl, ho⟩ := hout σ1 σ σ' t m h (fun c hc => (hall c (h.kids c hc)).2.1)
    have hkid : ∀ c ∈ (env.info t).children, upd σ.f t o.g c = σ.f c := fun c hc =>
      upd_other _ _ _ _ (fun e => h.fresh (e ▸ h.kids c hc))
    refine ⟨fun c hc => h.ext.done_sub (h.kids c hc), by rw [SS.commit_f_same]; exact ho.all, ho.roll, fun hC => ?_⟩
    by_cases hl : (env.info t).children.isEmpty = true
    · rw [SS.commit_f_same]; exact ho.sle hC (Or.inl hl)
    · by_cases hm : (env.info t).milestone = true
      · rw [SS.commit_f_same]; exact ho.sle hC (Or.inr hm)
      · have hl' : (env.info t).children.isEmpty = false := by simpa using hl
        exact (ho.roll hl' (by simpa using hm)).sle hl'
          (fun c hc => (hkid c hc).symm ▸ (hall c (h.kids c hc)).2.1)
          (fun c hc => (hkid c hc).symm ▸ (hall c (h.kids c hc)).2.2.2 hC)

theorem fwdOut_c07 (env : Env) (C : Prop) (cal : Cal) (used : Int → Rat) (t : Uid) (v : Time) (r : Nat) (f : Uid → Fields)
    (o : Outcome) (htc : t ∉ (env.info t).children)
    (hprep : (env.info t).children.isEmpty = false → f t = ⟨none, none, none, none⟩)
    (hall : ∀ c ∈ (env.info t).children, AllSome (f c))
    (hfix : C → (env.info t).children.isEmpty = true → (env.info t).milestone = false →
      ∀ e0, (f t).end_ = some e0 → ∃ s0, (f t).start = some s0 ∧ s0 ≤ e0)
    (h : fwdOut env cal used t v r f = .ok o) : C07Out env f t C o := by
  rcases kind_ok h with ⟨hm, h⟩ | ⟨hm, hl, h⟩ | ⟨hm, hl, h⟩
  · cases h
    exact ⟨⟨rfl, rfl, rfl, rfl⟩, fun _ hc => (nomatch hm.symm.trans hc), fun _ _ s e h1 h2 => by cases h1; cases h2; exact Rat.le_refl⟩
  · obtain ⟨s, k, hs, hend⟩ := fwdLeaf_ok h
    rcases hend with ⟨e, he, rfl⟩ | ⟨he, e, rows, _, rfl⟩
    · refine ⟨⟨rfl, rfl, rfl, rfl⟩, fun hc => (nomatch hl.symm.trans hc), fun hC _ s' e' h1 h2 => ?_⟩
      cases h1; cases h2
      obtain ⟨s0, hs0, hle⟩ := hfix hC hl hm e he
      rcases fwdLeafStart_ok hs with ⟨h1, _⟩ | ⟨h1, _⟩
      · cases hs0.symm.trans h1; exact hle
      · exact nomatch h1.symm.trans hs0
    · exact ⟨⟨rfl, rfl, rfl, rfl⟩, fun hc => (nomatch hl.symm.trans hc),
        fun _ _ s' e' h1 h2 => by cases h1; cases h2; exact le_maxT_right _ _⟩
  · obtain ⟨s, e, es, sp, rfl, hs, hes, hsp, he⟩ := fwdSum_ok h
    rw [hprep hl] at hs hes hsp he
    refine ⟨⟨rfl, rfl, rfl, rfl⟩, fun _ _ => ?_, fun _ hc => hc.elim (fun hc => nomatch hl.symm.trans hc) (fun hc => nomatch hm.symm.trans hc)⟩
    obtain ⟨⟨m1, hm1⟩, _⟩ := minOpt_children_some f _ hl hall
    refine rollupAt_of_placed env f _ t s e es sp (upd_same _ _ _)
      (fun c hc => upd_other _ _ _ _ (fun e => htc (e ▸ hc))) ?_ (orValueError_ok he).symm ?_ ?_
    · rw [hs, hm1]; rfl
    · rw [rollSum_none hes, List.map_map]; rfl
    · rw [rollSum_none hsp, List.map_map]; rfl

theorem bwdOut_c07 (env : Env) (cal : Cal) (used : Int → Rat) (t : Uid) (m v : Time) (f : Uid → Fields)
    (o : Outcome) (htc : t ∉ (env.info t).children) (hu : ∀ d, 0 ≤ used d)
    (hprep : (env.info t).children.isEmpty = false → f t = ⟨none, none, none, none⟩)
    (hall : ∀ c ∈ (env.info t).children, AllSome (f c))
    (h : bwdOut env cal used t m v f = .ok o) : C07Out env f t True o := by
  rcases kind_ok h with ⟨hm, h⟩ | ⟨hm, hl, h⟩ | ⟨hm, hl, h⟩
  · cases h
    exact ⟨⟨rfl, rfl, rfl, rfl⟩, fun _ hc => (nomatch hm.symm.trans hc), fun _ _ s e h1 h2 => by cases h1; cases h2; exact Rat.le_refl⟩
  · obtain ⟨E, s, rows, _, hsh, rfl⟩ := bwdLeaf_ok h
    refine ⟨⟨rfl, rfl, rfl, rfl⟩, fun hc => (nomatch hl.symm.trans hc), fun _ _ s' e' h1 h2 => ?_⟩
    cases h1; cases h2
    have h1 := shiftBwd_le _ _ _ _ _ _ (workLeft_nonneg _ _) hu hsh
    have h2 := minT_le_left E m
    split
    · have := minT_le_right ‹Time› s
      grind
    · grind
  · obtain ⟨s, e, es, sp, rfl, he, hes, hsp, hs⟩ := bwdSum_ok h
    rw [hprep hl] at he hes hsp
    refine ⟨⟨rfl, rfl, rfl, rfl⟩, fun _ _ => ?_, fun _ hc => hc.elim (fun hc => nomatch hl.symm.trans hc) (fun hc => nomatch hm.symm.trans hc)⟩
    obtain ⟨_, ⟨m2, hm2⟩⟩ := minOpt_children_some f _ hl hall
    refine rollupAt_of_placed env f _ t s e es sp (upd_same _ _ _)
      (fun c hc => upd_other _ _ _ _ (fun e => htc (e ▸ hc))) hs.symm ?_ ?_ ?_
    · rw [he, hm2]; rfl
    · rw [rollSum_none hes, List.map_map]; rfl
    · rw [rollSum_none hsp, List.map_map]; rfl

theorem c07_of_inv (env : Env) (fi : Uid → Fields) (C : Prop) (σ : SS) (mem : List Uid)
    (hm : members env = some mem) (hi : C07Inv env fi C σ) (hdone : ∀ t ∈ mem, t ∈ σ.done) :
    c07Rollup env (outOf σ) = true ∧ (C → c07StartLeEnd env (outOf σ) = true) := by
  unfold outOf
  constructor
  · simp only [c07Rollup, List.all_eq_true, memberList_eq env mem hm]
    intro t ht
    by_cases hl : isLeaf env t = true
    · simp [hl]
    · by_cases hms : (env.info t).milestone = true
      · simp [hms]
      · have hl' : (env.info t).children.isEmpty = false := by simpa [isLeaf] using hl
        have hms' : (env.info t).milestone = false := by simpa using hms
        obtain ⟨h1, h2, h3, h4⟩ := hi.roll t (hdone t ht) hl' hms'
        simp only [Bool.or_eq_true, Bool.and_eq_true, beq_iff_eq]
        exact Or.inr ⟨⟨⟨h1, h2⟩, h3⟩, h4⟩
  · intro hC
    simp only [c07StartLeEnd, List.all_eq_true, memberList_eq env mem hm]
    intro t ht
    obtain ⟨a1, a2, _, _⟩ := hi.all t (hdone t ht)
    obtain ⟨s0, hs0⟩ := Option.isSome_iff_exists.1 a1
    obtain ⟨e0, he0⟩ := Option.isSome_iff_exists.1 a2
    simp only [hs0, he0, decide_eq_true_eq]
    exact hi.sle hC t (hdone t ht) s0 e0 hs0 he0

theorem consistentFixed_spec (env : Env) (f0 : Uid → Fields) (mem : List Uid) (hm : members env = some mem)
    (h : consistentFixed env f0 = true) (t : Uid) (ht : t ∈ mem) (hl : (env.info t).children.isEmpty = true)
    (hms : (env.info t).milestone = false) (e0 : Time) (he : (f0 t).end_ = some e0) :
    ∃ s0, (f0 t).start = some s0 ∧ s0 ≤ e0 := by
  simp only [consistentFixed, List.all_eq_true, memberList_eq env mem hm] at h
  have := h t ht
  simp only [isLeaf, hl, hms, he] at this
  cases hs : (f0 t).start with
  | none => simp [hs] at this
  | some s0 =>
    simp [hs] at this
    exact ⟨s0, rfl, this⟩

theorem Sched.run_c07 {env : Env} (d : Sched env) (hd : d.OK) (hf : env.flagsOK) (C : Prop) {f0 : Uid → Fields}
    {res0 : List (Option Nat × Cal)} {o : Output}
    (hout : ∀ σ1 σ σ' t m, Placing env (prepare env f0 (memberList env)) d σ1 σ σ' t m →
      (∀ c ∈ (env.info t).children, AllSome (σ.f c)) → ∃ o, σ' = σ.commit env t o ∧ C07Out env σ.f t C o)
    (h : d.run f0 res0 = .ok o) :
    c07Rollup env o = true ∧ (C → c07StartLeEnd env o = true) ∧
      ∀ t ∈ memberList env, (o.f t).start.isSome = true ∧ (o.f t).end_.isSome = true := by
  obtain ⟨mem, _, hm, _⟩ := d.run_ok h
  obtain ⟨σ, rfl, hc, hall⟩ := d.run_tasks hd hf _ _ (c07_tasks hout) (fun _ _ => trivial)
    (fun _ _ _ _ _ _ _ => trivial) (fun _ _ _ _ _ _ _ => trivial) h
  have hat : ∀ x ∈ σ.done, C07At env C σ x := fun x hx => (hall x ((hf x).1 (hc.doneMem x hx))).2
  have := c07_of_inv env _ C σ mem hm ⟨hc.init, fun x hx => (hat x hx).1, fun x hx => (hat x hx).2.1,
    fun x hx => (hat x hx).2.2.1, fun hC x hx => (hat x hx).2.2.2 hC⟩
    (fun t ht => (hall t (memberList_eq env mem hm ▸ ht)).1)
  exact ⟨this.1, this.2, fun t ht => ⟨(hall t ht).2.2.1.1, (hall t ht).2.2.1.2.1⟩⟩

theorem forwardCalc_c07 (env : Env) (f0 : Uid → Fields) (res0 : List (Option Nat × Cal)) (o : Output) (C : Prop)
    (hf : env.flagsOK) (hC : C → consistentFixed env f0 = true) (h : forwardCalc env f0 res0 = .ok o) :
    c07Rollup env o = true ∧ (C → c07StartLeEnd env o = true) ∧
      ∀ t ∈ memberList env, (o.f t).start.isSome = true ∧ (o.f t).end_.isSome = true := by
  obtain ⟨mem, _, hm, _⟩ := (Sched.fwd env).run_ok (fwdRun_eq env ▸ forwardCalc_run env f0 res0 o h)
  have hml := memberList_eq env mem hm
  refine (Sched.fwd env).run_c07 (Sched.fwd_ok env) hf C (fun σ1 σ σ' t m hp hall => ?_)
    (fwdRun_eq env ▸ forwardCalc_run env f0 res0 o h)
  have hpl := hp.run
  rw [show (Sched.fwd env).place σ t m _ = fwdPlace env σ t _ from rfl, fwdPlace_eq] at hpl
  obtain ⟨o, ho, rfl⟩ := Res.map_ok hpl
  refine ⟨o, rfl, fwdOut_c07 env C _ _ t _ σ.reads σ.f o (fun hc => hp.fresh (hp.kids t hc)) ?_ hall ?_ ho⟩
  · intro hl; rw [hp.init, hml]; exact prepare_summary env f0 mem t (hml ▸ (hf t).1 hp.mem) hl
  · intro hc hl hms e0 he
    rw [hp.init, hml, prepare_leaf env f0 mem t hl] at he ⊢
    exact consistentFixed_spec env f0 mem hm (hC hc) t (hml ▸ (hf t).1 hp.mem) hl hms e0 he

theorem backwardCalc_c07 (env : Env) (f0 : Uid → Fields) (res0 : List (Option Nat × Cal)) (o : Output)
    (hf : env.flagsOK) (h : backwardCalc env f0 res0 = .ok o) :
    c07Rollup env o = true ∧ (True → c07StartLeEnd env o = true) ∧
      ∀ t ∈ memberList env, (o.f t).start.isSome = true ∧ (o.f t).end_.isSome = true := by
  obtain ⟨mem, _, hm, _⟩ := (Sched.bwd env).run_ok (bwdRun_eq env ▸ backwardCalc_run env f0 res0 o h)
  have hml := memberList_eq env mem hm
  refine (Sched.bwd env).run_c07 (Sched.bwd_ok env) hf True (fun σ1 σ σ' t m hp hall => ?_)
    (bwdRun_eq env ▸ backwardCalc_run env f0 res0 o h)
  have hpl := hp.run
  rw [show (Sched.bwd env).place σ t m _ = bwdPlace env σ t m _ from rfl, bwdPlace_eq] at hpl
  obtain ⟨o, ho, rfl⟩ := Res.map_ok hpl
  refine ⟨o, rfl, bwdOut_c07 env _ _ t m _ σ.f o (fun hc => hp.fresh (hp.kids t hc)) (hp.core.used_nonneg t) ?_ hall ho⟩
  intro hl; rw [hp.init, hml]; exact prepare_summary env f0 mem t (hml ▸ (hf t).1 hp.mem) hl

theorem c07Rollup_spec (env : Env) (o : Output) (hr : c07Rollup env o = true) (t : Uid) (ht : t ∈ memberList env)
    (hl : (env.info t).children.isEmpty = false) (hms : (env.info t).milestone = false) : RollupAt env o.f t := by
  simp only [c07Rollup, List.all_eq_true] at hr
  have := hr t ht
  simp only [isLeaf, hl, hms, Bool.or_eq_true, Bool.and_eq_true, beq_iff_eq, Bool.false_eq_true, false_or] at this
  obtain ⟨⟨⟨h1, h2⟩, h3⟩, h4⟩ := this
  exact ⟨h1, h2, h3, h4⟩

/-! A date `g` that every task with children takes from its children with `sel` (`minOpt` for starts, `maxOpt` for
ends) is, at a root, `R`-below the same date of everything underneath; said once for both. -/

section wbs
variable {op : Time → Time → Time} {R : Time → Time → Prop} (hS : Selects op R) (sel : List Time → Option Time)
  (h0 : sel [] = none) (h1 : ∀ a l, sel (a :: l) = some (l.foldl op a)) (env : Env) (g : Uid → Option Time)
  (hroll : ∀ a ∈ memberList env, (env.info a).children ≠ [] → g a = sel ((env.info a).children.filterMap g))
  (hall : ∀ t ∈ memberList env, (g t).isSome)
  (hch : ∀ x ∈ memberList env, ∀ c ∈ (env.info x).children, c ∈ memberList env)
include hS h0 h1 hroll hall hch

theorem rolled_desc (a b : Uid) (h : TC (fun a b => b ∈ (env.info a).children) a b) (ha : a ∈ memberList env) :
    b ∈ memberList env ∧ ∀ x y, g a = some x → g b = some y → R x y := by
  have child : ∀ a c, a ∈ memberList env → c ∈ (env.info a).children → ∀ x y, g a = some x → g c = some y → R x y := by
    intro a c ha hc x y hx hy
    have hs := hroll a ha (List.ne_nil_of_mem hc)
    rw [hx] at hs
    cases hl : (env.info a).children.filterMap g with
    | nil => rw [hl, h0] at hs; cases hs
    | cons z l =>
      rw [hl, h1] at hs
      cases hs
      exact (hS.head_fold z l).2 y (hl ▸ List.mem_filterMap.2 ⟨c, hc, hy⟩)
  induction h with
  | single h => exact ⟨hch a ha _ h, child a _ ha h⟩
  | @tail b c _ hbc ih =>
    obtain ⟨hb, hle⟩ := ih
    refine ⟨hch b hb c hbc, fun x z hx hz => ?_⟩
    obtain ⟨y, hy⟩ := Option.isSome_iff_exists.1 (hall b hb)
    exact hS.trans (hle x y hx hy) (child b c hb hbc y z hy hz)

theorem rolled_roots (hroots : ∀ r ∈ env.roots, r ∈ memberList env)
    (hdown : ∀ t ∈ memberList env, ∃ r ∈ env.roots, r = t ∨ TC (fun a b => b ∈ (env.info a).children) r t) :
    sel (env.roots.filterMap g) = sel ((memberList env).filterMap g) := by
  refine hS.opt_eq_of sel h1 _ _ (fun x hx => ?_) (fun y hy => ?_)
  · obtain ⟨r, hr, hx⟩ := List.mem_filterMap.1 hx
    exact List.mem_filterMap.2 ⟨r, hroots r hr, hx⟩
  · obtain ⟨t, ht, hy⟩ := List.mem_filterMap.1 hy
    obtain ⟨r, hr, hrt⟩ := hdown t ht
    obtain ⟨x, hx⟩ := Option.isSome_iff_exists.1 (hall r (hroots r hr))
    refine ⟨x, List.mem_filterMap.2 ⟨r, hr, hx⟩, ?_⟩
    rcases hrt with rfl | htc
    · rw [hx] at hy
      cases hy
      exact hS.refl _
    · exact (rolled_desc hS sel h0 h1 env g hroll hall hch r t htc (hroots r hr)).2 x y hx hy

end wbs

/-- the earliest root start / latest root end are the earliest start / latest end over all members, for any output
    that is rolled up and has all dates, when the roots belong to the member list (which holds whenever the
    enumeration of the WBS succeeds, in particular for every result of `forwardCalc`/`backwardCalc`) -/
theorem wbs_start_end_of_roots_mem (env : Env) (o : Output) (hr : c07Rollup env o = true)
    (hall : ∀ t ∈ memberList env, (o.f t).start.isSome ∧ (o.f t).end_.isSome)
    (hms : ∀ t ∈ memberList env, (env.info t).milestone = true → isLeaf env t = true)
    (hroots : ∀ r ∈ env.roots, r ∈ memberList env) :
    minOpt (env.roots.filterMap (fun r => (o.f r).start)) = minOpt ((memberList env).filterMap (fun t => (o.f t).start)) ∧
    maxOpt (env.roots.filterMap (fun r => (o.f r).end_)) = maxOpt ((memberList env).filterMap (fun t => (o.f t).end_)) := by
  cases hm : members env with
  | none =>
    have hml : memberList env = [] := by unfold memberList; rw [hm]; rfl
    have hr0 : env.roots = [] := by
      cases hrr : env.roots with
      | nil => rfl
      | cons r _ =>
        have := hroots r (by rw [hrr]; exact List.mem_cons_self)
        rw [hml] at this; cases this
    rw [hml, hr0]; exact ⟨rfl, rfl⟩
  | some mem =>
    have hml := memberList_eq env mem hm
    have hch : ∀ x ∈ memberList env, ∀ c ∈ (env.info x).children, c ∈ memberList env := by
      rw [hml]; exact members_children env mem hm
    have hdown : ∀ t ∈ memberList env, ∃ r ∈ env.roots, r = t ∨ TC (fun a b => b ∈ (env.info a).children) r t := by
      intro t ht
      obtain ⟨r, hr', h⟩ := (members_iff env mem hm t).1 (hml ▸ ht)
      exact ⟨r, hr', h.imp Eq.symm id⟩
    have hR : ∀ a ∈ memberList env, (env.info a).children ≠ [] → RollupAt env o.f a := by
      intro a ha hne
      have hl : (env.info a).children.isEmpty = false := by simpa [List.isEmpty_iff] using hne
      refine c07Rollup_spec env o hr a ha hl ?_
      cases hmm : (env.info a).milestone with
      | false => rfl
      | true => have := hms a ha hmm; rw [isLeaf, hl] at this; cases this
    exact ⟨rolled_roots minT_selects minOpt rfl (fun _ _ => rfl) env (fun t => (o.f t).start)
        (fun a ha hne => (hR a ha hne).1) (fun t ht => (hall t ht).1) hch hroots hdown,
      rolled_roots maxT_selects maxOpt rfl (fun _ _ => rfl) env (fun t => (o.f t).end_)
        (fun a ha hne => (hR a ha hne).2.1) (fun t ht => (hall t ht).2) hch hroots hdown⟩

theorem wbs_start_end_of_members (env : Env) (o : Output) (hr : c07Rollup env o = true)
    (hall : ∀ t ∈ memberList env, (o.f t).start.isSome ∧ (o.f t).end_.isSome)
    (hms : ∀ t ∈ memberList env, (env.info t).milestone = true → isLeaf env t = true)
    (hmem : (members env).isSome = true) :
    minOpt (env.roots.filterMap (fun r => (o.f r).start)) = minOpt ((memberList env).filterMap (fun t => (o.f t).start)) ∧
    maxOpt (env.roots.filterMap (fun r => (o.f r).end_)) = maxOpt ((memberList env).filterMap (fun t => (o.f t).end_)) := by
  obtain ⟨mem, hm⟩ := Option.isSome_iff_exists.1 hmem
  exact wbs_start_end_of_roots_mem env o hr hall hms
    (fun r hr' => by rw [memberList_eq env mem hm]; exact members_root env mem hm r hr')

/-- without a hypothesis that makes the roots members the equations of `wbs_start_end_of_roots_mem` fail when the
    enumeration of the WBS runs out of fuel (`members env = none`, e.g. a task that is its own child): the member list is then empty,
    so all hypotheses hold vacuously, while the roots still carry dates -/
example : ∃ (env : Env) (o : Output), c07Rollup env o = true ∧
    (∀ t ∈ memberList env, (o.f t).start.isSome ∧ (o.f t).end_.isSome) ∧
    (∀ t ∈ memberList env, (env.info t).milestone = true → isLeaf env t = true) ∧
    minOpt (env.roots.filterMap (fun r => (o.f r).start)) ≠
      minOpt ((memberList env).filterMap (fun t => (o.f t).start)) := by
  refine ⟨{ n := 0, info := fun _ => { (default : TaskInfo) with children := [0] }, roots := [0],
            balance := false, defaultEst := 1, clock := fun _ => 0, bound := 0 },
          { f := fun _ => ⟨some 0, some 0, none, none⟩, rows := [], res := [] }, ?_, ?_, ?_, ?_⟩
  all_goals simp [c07Rollup, memberList, members, subtreeF, descF, minOpt]

theorem forwardCalc_wbs_start_end (env : Env) (f0 : Uid → Fields) (res0 : List (Option Nat × Cal)) (o : Output)
    (hf : env.flagsOK) (h : forwardCalc env f0 res0 = .ok o)
    (hms : ∀ t ∈ memberList env, (env.info t).milestone = true → isLeaf env t = true) :
    minOpt (env.roots.filterMap (fun r => (o.f r).start)) = minOpt ((memberList env).filterMap (fun t => (o.f t).start)) ∧
    maxOpt (env.roots.filterMap (fun r => (o.f r).end_)) = maxOpt ((memberList env).filterMap (fun t => (o.f t).end_)) := by
  obtain ⟨mem, _, hm, _⟩ := (Sched.fwd env).run_ok (fwdRun_eq env ▸ forwardCalc_run env f0 res0 o h)
  obtain ⟨hr, _, hd⟩ := forwardCalc_c07 env f0 res0 o False hf False.elim h
  exact wbs_start_end_of_members env o hr (fun t ht => by simpa using hd t ht) hms (by rw [hm]; rfl)

theorem backwardCalc_wbs_start_end (env : Env) (f0 : Uid → Fields) (res0 : List (Option Nat × Cal)) (o : Output)
    (hf : env.flagsOK) (h : backwardCalc env f0 res0 = .ok o)
    (hms : ∀ t ∈ memberList env, (env.info t).milestone = true → isLeaf env t = true) :
    minOpt (env.roots.filterMap (fun r => (o.f r).start)) = minOpt ((memberList env).filterMap (fun t => (o.f t).start)) ∧
    maxOpt (env.roots.filterMap (fun r => (o.f r).end_)) = maxOpt ((memberList env).filterMap (fun t => (o.f t).end_)) := by
  obtain ⟨mem, _, hm, _⟩ := (Sched.bwd env).run_ok (bwdRun_eq env ▸ backwardCalc_run env f0 res0 o h)
  obtain ⟨hr, _, hd⟩ := backwardCalc_c07 env f0 res0 o hf h
  exact wbs_start_end_of_members env o hr (fun t ht => by simpa using hd t ht) hms (by rw [hm]; rfl)

end Pj

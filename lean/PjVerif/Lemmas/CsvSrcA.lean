/-
  Lemmas/CsvSrcA.lean — CSV I/O: the numbering of texts is injective (`strDecode_code`), how a function of the program is
  run (`runIO_fn`, `call_ifRet`), and the translated `__parse_str` is the model's `nonEmpty` for every text and every
  library `L` (`parse_str_eq`); the other cell functions are in CsvSrcB1.lean.
-/
import PjVerif.Lemmas.PyLiteSteps
import PjVerif.Lemmas.CsvSrc
namespace Pj.CsvSrc
open Pj.PyLite Pj.Extracted.Csv Pj.Csv

theorem char_lt (c : Char) : c.toNat + 1 < strBase := by
  have h := c.valid
  simp only [UInt32.isValidChar, Nat.isValidChar] at h
  show c.val.toNat + 1 < 1114113
  omega

theorem strCode_cons (c : Char) (cs : List Char) : strCode (c :: cs) = c.toNat + 1 + strBase * strCode cs := rfl

theorem length_le_code : ∀ s : List Char, s.length ≤ strCode s
  | [] => Nat.le_refl _
  | c :: cs => by
    have ih := length_le_code cs
    have : strCode cs ≤ strBase * strCode cs := Nat.le_mul_of_pos_left _ (by decide)
    rw [strCode_cons, List.length_cons]; omega

theorem strDecodeF_code : ∀ (s : List Char) (f : Nat), s.length ≤ f → strDecodeF f (strCode s) = s
  | [], f, _ => by cases f <;> simp [strDecodeF, strCode]
  | c :: cs, 0, h => by simp at h
  | c :: cs, f + 1, h => by
    have hc := char_lt c
    have hb : 0 < strBase := by decide
    have hne : strCode (c :: cs) ≠ 0 := by rw [strCode_cons]; omega
    have hmod : strCode (c :: cs) % strBase = c.toNat + 1 := by
      rw [strCode_cons, Nat.add_mul_mod_self_left, Nat.mod_eq_of_lt hc]
    have hdiv : strCode (c :: cs) / strBase = strCode cs := by
      rw [strCode_cons, Nat.add_mul_div_left _ _ hb, Nat.div_eq_of_lt hc, Nat.zero_add]
    rw [strDecodeF, if_neg hne, hmod, hdiv, strDecodeF_code cs f (by simpa using h)]
    simp [Char.ofNat_toNat]

/-- the numbering of texts is injective: a text is recovered from its atom -/
theorem strDecode_code (s : List Char) : strDecode (strCode s) = s :=
  strDecodeF_code s _ (length_le_code s)

theorem strCode_inj {s t : List Char} (h : strCode s = strCode t) : s = t := by
  rw [← strDecode_code s, ← strDecode_code t, h]

theorem strCode_eq_zero {s : List Char} : strCode s = 0 ↔ s = [] := by
  constructor
  · intro h; exact strCode_inj (h.trans rfl)
  · intro h; subst h; rfl

theorem pyEq_strA (s t : List Char) : (strA s).pyEq (strA t) = decide (s = t) := by
  simp only [Atom.pyEq, strA, Atom.norm]
  by_cases h : s = t
  · subst h; simp
  · have : strCode s ≠ strCode t := fun e => h (strCode_inj e)
    simp [h, this]

/-! ### the cell functions, for every text and every library -/

theorem progIO_prim (p f t) (F : Nat) : (progIO p f t F).prim = p := by cases F <;> rfl

theorem prim_lit (L : IOLib) {name : String} (s : String) (h : name = "lit:" ++ s) (args : List Atom) (st : PState) :
    ioPrim L name args st = .ok (.atom (strA s.toList)) := by
  subst h
  have h : ("lit:" ++ s).startsWith "lit:" = true := by
    rw [String.startsWith_string_iff, String.toList_append]; exact List.prefix_append _ _
  unfold ioPrim
  rw [if_pos h, String.toList_append]; rfl

theorem prim_lit_empty (L : IOLib) (st : PState) : ioPrim L "lit:" [] st = .ok (.atom (strA [])) :=
  prim_lit L "" (by simp) [] st
theorem prim_lit_True (L : IOLib) (st : PState) : ioPrim L "lit:True" [] st = .ok (.atom (litA "True")) :=
  prim_lit L "True" (by simp) [] st
theorem prim_strlen (L : IOLib) (st : PState) (s : List Char) :
    ioPrim L "strlen" [strA s] st = .ok (.atom (.num ((s.length : Nat) : Rat))) := by
  unfold ioPrim; rw [if_neg (by decide +kernel)]
  simp only [String.reduceEq, ↓reduceIte, strA, strDecode_code, pure, Except.pure]

/-- the handlers a function body of the program runs with -/
abbrev HH (L : IOLib) (F : Nat) : PHandlers := progIO (ioPrim L) (ioFn L) csvFuns F

theorem HH_prim (L : IOLib) (F : Nat) : (HH L F).prim = ioPrim L := progIO_prim _ _ _ _

theorem runIO_fn (L : IOLib) (F k : Nat) (params : List String) (body : List Stmt) (args : List Val) (st : PState)
    (h : csvFuns k = some (params, body)) :
    runIO L csvFuns (F + 1) k args st = callPV (HH L F) params body args st := by
  simp only [runIO, progIO, h, HH]

theorem env1_get (x : String) (v : Val) : PyLite.Env.get? [(x, v)] x = some v := by
  simp [PyLite.Env.get?]

theorem call_ifRet (H : PHandlers) (x : String) (c d e : Expr) (v : Val) (st : PState) :
    callPV H [x] [.ifElse c [.ret d] [], .ret e] [v] st =
      (c.evalP H [] [(x, v)] st).bind fun r => (truthP r.1).bind fun b =>
        (if b then d else e).evalP H [] [(x, v)] r.2 := by
  simp only [callPV, bindParamsV, execBlockP, Stmt.execP, bind, Except.bind, pure, Except.pure]
  cases c.evalP H [] [(x, v)] st with
  | error err => rfl
  | ok r =>
    obtain ⟨cv, st'⟩ := r
    dsimp only
    cases truthP cv with
    | error err => rfl
    | ok b =>
      cases b
      · simp only [Bool.false_eq_true, if_false, execBlockP, Stmt.execP]
        cases e.evalP H [] [(x, v)] st' <;> rfl
      · simp only [if_true, execBlockP, Stmt.execP]
        cases d.evalP H [] [(x, v)] st' <;> rfl

theorem parse_str_call (L : IOLib) (F : Nat) (s : List Char) (st : PState) :
    callPV (HH L F) src_parse_str_params src_parse_str [.atom (strA s)] st = .ok (.atom (optStr (nonEmpty s)), st) := by
  have hx := env1_get "_val" (.atom (strA s))
  rw [src_parse_str_params, src_parse_str, call_ifRet]
  simp only [Expr.evalP, hx, HH_prim, prim_lit_empty, pure, Except.pure, bind, Except.bind, PyLite.compare, pyEq_strA, truthP]
  by_cases h : s = [] <;> simp [h, nonEmpty, optStr, Expr.evalP, hx, pure, Except.pure]

theorem parse_str_run (L : IOLib) (F : Nat) (s : List Char) (st : PState) :
    runIO L csvFuns (F + 1) fn_parse_str [.atom (strA s)] st = .ok (.atom (optStr (nonEmpty s)), st) := by
  rw [runIO_fn L F fn_parse_str _ _ _ _ rfl, parse_str_call]

theorem parse_str_eq (L : IOLib) (F : Nat) (s : List Char) :
    interpCell L (F + 1) fn_parse_str (strA s) = .ok (.atom (optStr (nonEmpty s))) := by
  rw [interpCell, parse_str_run]; rfl

#print axioms strDecode_code
#print axioms parse_str_eq

end Pj.CsvSrc

/-
  Lemmas/TaskSrcB.lean — stage B of the translated tie for task.py: the `parent` setter (general theorem).
  See Lemmas/TaskSrc.lean for the setting and the list of results.
-/
import PjVerif.Lemmas.TaskSim
namespace Pj.TaskSrc
open Pj.PyLite Pj.Extracted
set_option linter.unusedSimpArgs false
set_option linter.unusedVariables false

variable (P : TaskProg)

theorem mapM_eq_some_map {β γ : Type} (g : β → Option γ) (g' : β → γ) (l : List β)
    (h : ∀ a ∈ l, g a = some (g' a)) : l.mapM g = some (l.map g') := mapM_eq_map h

theorem descF_congr (next next' : Uid → List Uid) :
    ∀ (f : Nat) (t : Uid) (r : List Uid), descF next f t = some r → (∀ x ∈ t :: r, next' x = next x) →
      descF next' f t = some r := by
  intro f
  induction f with
  | zero => intro t r h; simp [descF] at h
  | succ f ih =>
    intro t r h hx
    obtain ⟨hch, rfl⟩ := descF_succ_eq next f t r h
    have ht : next' t = next t := hx t List.mem_cons_self
    have hc : ∀ c ∈ next t, descF next' f c = some (dsc next f c) := by
      intro c hc
      refine ih c _ (hch c hc) ?_
      intro x hxm
      refine hx x (List.mem_cons_of_mem _ ?_)
      exact List.mem_flatten.2 ⟨c :: dsc next f c, List.mem_map.2 ⟨c, hc, rfl⟩, hxm⟩
    rw [descF, ht, mapM_eq_some_map _ (fun c => c :: dsc next f c)]
    · rfl
    · intro c hcm
      rw [hc c hcm]; rfl

theorem length_le_flatten {α : Type} (L : List (List α)) (l : List α) (h : l ∈ L) : l.length ≤ L.flatten.length := by
  induction L with
  | nil => cases h
  | cons a L ih =>
    rw [List.flatten_cons, List.length_append]
    rcases List.mem_cons.1 h with rfl | h
    · omega
    · have := ih h; omega

/-- a successful enumeration below `t` never comes back to a node that lists `t`: otherwise it would contain itself -/
theorem descF_no_back (next : Uid → List Uid) (f : Nat) (t : Uid) (r : List Uid) (h : descF next f t = some r)
    (q : Uid) (hq : t ∈ next q) : q ∉ t :: r := by
  intro hmem
  -- the enumeration below `q` contains `t :: r`
  have key : ∀ d, descF next f q = some d → r.length + 1 ≤ d.length := by
    intro d hd
    obtain ⟨hch, rfl⟩ := descF_eq_flatten next f q d hd
    have h1 := hch t hq
    rw [h] at h1
    have h2 : r = dsc next f t := Option.some.inj h1
    have : (t :: dsc next f t) ∈ (next q).map (fun c => c :: dsc next f c) := List.mem_map.2 ⟨t, hq, rfl⟩
    have := length_le_flatten _ _ this
    rw [← h2] at this
    simpa using this
  rcases List.mem_cons.1 hmem with rfl | hr
  · have := key r h; omega
  · obtain ⟨pre, post, d, hd, hrd⟩ := descF_segment next f t r h q hr
    have := key d hd
    have hl : r.length = pre.length + (d.length + 1) + post.length := by
      rw [hrd]; simp [List.length_append]; omega
    omega

theorem detachOld_children (s : G) (t x : Uid) (hx : s.parent t ≠ some x ∨ t ∉ s.children x) :
    (detachOld s t).children x = s.children x := by
  rw [detachOld_children_eq]
  split
  · next hp => exact List.erase_of_not_mem (hx.resolve_left fun h => h hp)
  · rfl

theorem descF_detachOld (s : G) (f : Nat) (t : Uid) (r : List Uid) (h : descF s.children f t = some r) :
    descF (detachOld s t).children f t = some r := by
  refine descF_congr s.children _ f t r h ?_
  intro x hx
  apply detachOld_children
  by_cases hc : t ∈ s.children x
  · exact absurd hx (descF_no_back s.children f t r h x hc)
  · exact Or.inr hc

/-- the validations / the mutations of the `parent` setter -/
def psChecks : List Stmt := src_Task_parent_set.take 2
def psMut : List Stmt := src_Task_parent_set.drop 2
theorem ps_shape : src_Task_parent_set = psChecks ++ psMut := rfl

theorem refs_single (t : Uid) : refs [t] = .list [.ref t] := rfl
theorem refs_cons (t : Uid) (l : List Uid) : refs (t :: l) = .list (.ref t :: l.map Atom.ref) := rfl

/-- the two halves of `chkParentSome` -/
def chkC1 (s : G) (t p : Uid) : Option Err :=
  match s.owner t with
  | none =>
    if s.pubParent t = none ∨ s.pubParent t ≠ some p then
      (match hasIdIntersection s p [t] with
       | none => some (.crash .recursion)
       | some true => some .runtime
       | some false => none)
    else none
  | some w => if s.owner p ≠ some w then some .runtime else none

def chkC2 (s : G) (t p : Uid) : Option Err :=
  match descF s.children s.fuel t with
  | none => some (.crash .recursion)
  | some desc =>
    if p = t ∨ desc.contains p then some .runtime
    else
      match ancF s s.fuel (s.parent p) with
      | none => some (.crash .recursion)
      | some anc => if linkedWithAny s (t :: desc) (p :: anc) then some .runtime else none

theorem chkParentSome_eq (s : G) (t p : Uid) :
    chkParentSome s t p = match chkC1 s t p with | some e => some e | none => chkC2 s t p := rfl

def psS1 : Stmt := match src_Task_parent_set with | s1 :: _ => s1 | _ => .pass
def psS2 : Stmt := match src_Task_parent_set with | _ :: s2 :: _ => s2 | _ => .pass

theorem pyEq_ref (a b : Uid) : (Atom.ref a).pyEq (Atom.ref b) = decide (a = b) := by
  simp [Atom.pyEq, Atom.norm]
theorem not_pyEq_ref (a b : Uid) : (!(Atom.ref a).pyEq (Atom.ref b)) = (a != b) := by
  rw [pyEq_ref]; by_cases h : a = b <;> simp [h]
theorem pyEq_none_ref (a : Uid) : Atom.none.pyEq (Atom.ref a) = false := by simp [Atom.pyEq, Atom.norm]
theorem pyEq_ref_none (a : Uid) : (Atom.ref a).pyEq Atom.none = false := by simp [Atom.pyEq, Atom.norm]
theorem pyEq_none_none : Atom.none.pyEq Atom.none = true := pyEq_refl _

/-- `id(a) == id(b)`, with `oidA` unfolded as `idOf` yields it -/
theorem pyEq_oid (a b : Uid) : (Atom.num ((a : Nat) : Rat)).pyEq (Atom.num ((b : Nat) : Rat)) = decide (a = b) :=
  oidA_pyEq a b

theorem ps_s1 (s : G) (st : PState) (hh : st.heap = encHeap s) (t p : Uid) (F : Nat)
    (hF : s.fuel + 2 ≤ F) (hrec : chkC1 s t p ≠ some (.crash .recursion)) (ρ : PyLite.Env)
    (hself : ρ.get? "self" = some (.atom (.ref t))) (hpar : ρ.get? "parent" = some (.atom (.ref p))) :
    psS1.execP (P.H F) [] noRec ρ st =
      match chkC1 s t p with
      | none => .normal ρ st
      | some e => .raise e := by
  obtain ⟨F, rfl, hF⟩ := fuel_split 1 hF
  have hpg := parent_get_spec P s st hh F t
  unfold chkC1 at hrec ⊢
  unfold psS1
  simp only [src_Task_parent_set]
  cases how : s.owner t with
  | none =>
    simp only [how] at hrec ⊢
    cases hpp : s.pubParent t with
    | none =>
      simp only [hpp, true_or, if_true] at hrec ⊢
      cases hid : hasIdIntersection s p [t] with
      | none => simp [hid] at hrec
      | some b =>
        have hcall := has_id_intersection_spec P s st hh p [t] b hid (F + 1) hF
        rw [refs_single] at hcall
        cases b <;> simp [pylite_step, hself, hpar, hh, how, hpg, hpp, hcall]
    | some pp =>
      by_cases hpe : pp = p
      · subst hpe
        simp only [hpp, reduceCtorEq, ne_eq, not_true_eq_false, or_self, if_false] at hrec ⊢
        simp [pylite_step, hself, hpar, hh, how, hpg, hpp, pyEq_oid]
      · have hne : ¬ (some pp = some p) := fun e => hpe (Option.some.inj e)
        simp only [hpp, reduceCtorEq, ne_eq, hne, not_false_eq_true, or_true, if_true] at hrec ⊢
        cases hid : hasIdIntersection s p [t] with
        | none => simp [hid] at hrec
        | some b =>
          have hcall := has_id_intersection_spec P s st hh p [t] b hid (F + 1) hF
          rw [refs_single] at hcall
          cases b <;> simp [pylite_step, hself, hpar, hh, how, hpg, hpp, hcall, pyEq_oid, hpe]
  | some w =>
    simp only [how] at hrec ⊢
    cases hop : s.owner p with
    | none => simp [pylite_step, hself, hpar, hh, how, hop, pyEq_none_ref]
    | some w' =>
      by_cases hw : w' = w
      · subst hw
        simp [pylite_step, hself, hpar, hh, how, hop, pyEq_ref]
      · have hne : ¬ (some w' = some w) := fun e => hw (Option.some.inj e)
        simp [pylite_step, hself, hpar, hh, how, hop, hne, hw, pyEq_ref]

theorem any_ref_pyEq (l : List Uid) (p : Uid) : (l.map Atom.ref).any (fun v => v.pyEq (Atom.ref p)) = l.contains p :=
  any_map_contains Atom.ref _ p (fun a => pyEq_ref a p) l

/-- the two validations of a new child `c` of `p`, as the `parent` and the `children` setter both run them (`x`, `y`:
    the locals holding `c` and `p`; `same`: the test `c is p`, written in either order):
    `if c is p or p in c.all_children: raise` and
    `if _linked_with_any(_collect_subtree(c), [p] + p.all_parents): raise`  =  `chkC2 s c p` -/
theorem pair_checks (s : G) (st : PState) (hh : st.heap = encHeap s) (c p : Uid) (F : Nat)
    (hF : s.fuel + 2 ≤ F) (hrec : chkC2 s c p ≠ some (.crash .recursion)) (x y : String) (same : Expr) (ρ : PyLite.Env)
    (hx : ρ.get? x = some (.atom (.ref c))) (hy : ρ.get? y = some (.atom (.ref p)))
    (hsame : same.evalP (P.H F) [] ρ st = .ok (.atom (.bool (decide (p = c))), st)) :
    execBlockP (P.H F) [] noRec
      [.ifElse (.or same (.isIn (.var y) (.callFn fn_Task_get_all_children (.listCons (.var x) .listNil))))
         [.raiseRuntime] [],
       .ifElse (.callFn fn_linked_with_any (.listCons (.callFn fn_collect_subtree (.listCons (.var x) .listNil))
           (.listCons (.bin .add (.listCons (.var y) .listNil)
             (.callFn fn_Task_get_all_parents (.listCons (.var y) .listNil))) .listNil)))
         [.raiseRuntime] []] ρ st =
      match chkC2 s c p with
      | none => .normal ρ st
      | some e => .raise e := by
  obtain ⟨F, rfl, hF⟩ := fuel_split 1 hF
  unfold chkC2 at hrec ⊢
  cases hd : descF s.children s.fuel c with
  | none => simp [hd] at hrec
  | some desc =>
    simp only [hd] at hrec ⊢
    have hac := get_all_children_spec P s st hh _ c desc hd (F + 1) (by omega)
    have hany := any_ref_pyEq desc p
    simp only [refs] at hac
    generalize hD : desc.map Atom.ref = D at hac hany
    by_cases hpt : p = c
    · subst hpt
      simp only [true_or, if_true]
      simp [pylite_step, hx, hy, hsame]
    · cases hdc : desc.contains p with
      | true =>
        rw [hdc] at hany
        simp only [hpt, hdc, false_or, if_true]
        simp [pylite_step, hx, hy, hsame, hpt, hac, hany]
      | false =>
        rw [hdc] at hany
        simp only [hpt, hdc, false_or, Bool.false_eq_true, if_false] at hrec ⊢
        cases ha : ancF s s.fuel (s.parent p) with
        | none => simp [ha] at hrec
        | some anc =>
          simp only [ha]
          have hcs := collect_subtree_spec P s st hh _ c desc hd (F + 1) (by omega)
          have hap := get_all_parents_spec P s st hh _ p anc ha (F + 1) (by omega)
          have hlw := linked_with_any_spec P s st hh F (c :: desc) (p :: anc)
          simp only [refs_cons] at hcs hlw
          simp only [refs] at hap
          rw [hD] at hcs hlw
          generalize hA : anc.map Atom.ref = A at hap hlw
          cases hl : linkedWithAny s (c :: desc) (p :: anc) <;>
            (rw [hl] at hlw; simp [pylite_step, hx, hy, hsame, hpt, hac, hany, hcs, hap, hlw])

theorem ps_s2 (s : G) (st : PState) (hh : st.heap = encHeap s) (t p : Uid) (F : Nat)
    (hF : s.fuel + 2 ≤ F) (hrec : chkC2 s t p ≠ some (.crash .recursion)) (ρ : PyLite.Env)
    (hself : ρ.get? "self" = some (.atom (.ref t))) (hpar : ρ.get? "parent" = some (.atom (.ref p))) :
    psS2.execP (P.H F) [] noRec ρ st =
      match chkC2 s t p with
      | none => .normal ρ st
      | some e => .raise e := by
  unfold psS2
  simp only [src_Task_parent_set]
  rw [execP_ifElse (v := .atom (.bool true)) (b := true) (st' := st) (hc := by simp [pylite_step, hpar]) (hb := rfl)]
  exact pair_checks P s st hh t p F hF hrec "self" "parent" _ ρ hself hpar (by simp [pylite_step, hself, hpar, pyEq_ref])

@[simp] theorem withG_L (st : PState) (s : G) : (withG st s).L = st.L := rfl
@[simp] theorem withG_done (st : PState) (s : G) : (withG st s).done = st.done := rfl
@[simp] theorem withG_res (st : PState) (s : G) : (withG st s).res = st.res := rfl
@[simp] theorem withG_reads (st : PState) (s : G) : (withG st s).reads = st.reads := rfl
@[simp] theorem withG_boxes (st : PState) (s : G) : (withG st s).boxes = st.boxes := rfl
theorem mk_withG (st : PState) (s : G) :
    ({ L := st.L, heap := encHeap s, done := st.done, res := st.res, reads := st.reads, boxes := st.boxes } : PState) =
      withG st s := rfl


theorem pyErase_refs (l : List Uid) (t : Uid) :
    pyErase (l.map Atom.ref) (.ref t) = if l.contains t then some ((l.erase t).map Atom.ref) else none := by
  induction l with
  | nil => rfl
  | cons a l ih =>
    simp only [List.map_cons, pyErase, pyEq_ref, ih, List.contains_cons, List.erase_cons]
    by_cases h : a = t
    · subst h; simp
    · have h' : ¬ t = a := fun e => h e.symm
      have hb : (a == t) = false := by simpa using h
      simp only [h, h', decide_false, Bool.false_eq_true, if_false, Bool.false_or, hb]
      cases l.contains t <;> simp [h']

def psS3 : Stmt := match src_Task_parent_set with | _ :: _ :: s3 :: _ => s3 | _ => .pass
def psS4 : Stmt := match src_Task_parent_set with | _ :: _ :: _ :: s4 :: _ => s4 | _ => .pass

/-- `if self.__parent is not None and self in self.__parent.__children: self.__parent.__children.remove(self)` -/
theorem ps_s3 (s : G) (st : PState) (hh : st.heap = encHeap s) (t : Uid) (F : Nat) (ρ : PyLite.Env)
    (hself : ρ.get? "self" = some (.atom (.ref t))) :
    psS3.execP (P.H F) [] noRec ρ st = .normal ρ (withG st (detachOld s t)) := by
  unfold psS3 detachOld
  simp only [src_Task_parent_set]
  cases hp : s.parent t with
  | none =>
    dsimp only
    rw [withG_self st s hh]
    simp [pylite_step, hself, hh, hp]
  | some q =>
    dsimp only
    have hany := any_ref_pyEq (s.children q) t
    have her := pyErase_refs (s.children q) t
    cases hc : (s.children q).contains t with
    | false =>
      rw [hc] at hany
      simp only [Bool.false_eq_true, if_false]
      rw [withG_self st s hh]
      simp [pylite_step, hself, hh, hp, refs, hany]
    | true =>
      rw [hc] at hany
      rw [hc, if_pos rfl] at her
      simp only [if_true]
      have hset := heapSet_children s q ((s.children q).erase t)
      simp only [refs] at hset
      simp [pylite_step, hself, hh, hp, refs, hany, her, mk_withG, hset]

theorem ps_s4_some (s1 : G) (st : PState) (hh : st.heap = encHeap s1) (t p : Uid) (f : Nat) (r : List Uid)
    (hd : descF s1.children f t = some r) (F : Nat) (hF : f ≤ F) (ρ : PyLite.Env)
    (hself : ρ.get? "self" = some (.atom (.ref t))) (hpar : ρ.get? "parent" = some (.atom (.ref p))) :
    psS4.execP (P.H F) [] noRec ρ st = .normal ρ (withG st (appStep (ownStep (parStep s1 t p) (t :: r) p) t p)) := by
  unfold psS4
  simp only [src_Task_parent_set]
  have hset : heapSet (encHeap s1) t "parent" (.atom (.ref p)) =
      encHeap { s1 with parent := upd s1.parent t (some p) } := heapSet_parent s1 t (some p)
  have hany := any_ref_pyEq (s1.children p) t
  generalize hs2 : ({ s1 with parent := upd s1.parent t (some p) } : G) = s2 at hset
  have hc2 : s2.children = s1.children := by rw [← hs2]
  have ho2 : s2.owner p = s1.owner p := by rw [← hs2]
  -- `self._attach(parent.__wbs)`
  have hat := attach_opt_spec P (s1.owner p) f s2 (withG st s2) rfl t r (by rw [hc2]; exact hd) F hF
  have hm : appStep (ownStep (parStep s1 t p) (t :: r) p) t p =
      (let s3 := attachTo s2 (t :: r) (s1.owner p)
       if (s1.children p).contains t then s3 else { s3 with children := upd s3.children p (s3.children p ++ [t]) }) := by
    rw [← hs2]; unfold appStep ownStep parStep
    cases hop : s1.owner p <;> simp only [hop] <;> rfl
  rw [hm]
  have hc3 : (attachTo s2 (t :: r) (s1.owner p)).children = s1.children := by rw [attachTo_children, hc2]
  generalize attachTo s2 (t :: r) (s1.owner p) = s3 at hat hc3 ⊢
  cases hc : (s1.children p).contains t with
  | true =>
    rw [hc] at hany
    simp only [if_true]
    simp [pylite_step, hself, hpar, hh, hset, mk_withG, withG_withG, ho2, hat, refs, hany, hc3]
  | false =>
    rw [hc] at hany
    simp only [Bool.false_eq_true, if_false]
    have happ := heapSet_children s3 p (s3.children p ++ [t])
    simp only [refs, List.map_append, List.map_cons, List.map_nil, hc3] at happ
    simp [pylite_step, hself, hpar, hh, hset, mk_withG, withG_withG, ho2, hat, refs, hany, happ, hc3]

def setterResult (st : PState) (r : G × Option Err) : Res (Val × PState) :=
  match r with
  | (s', none) => .ok (.atom .none, withG st s')
  | (_, some e) => .error e

/-- `setterResult`, for a state given as a store `withG st s`, in the form the rules of Lemmas/TaskSim.lean speak of -/
theorem setterResult_withG (st : PState) (s : G) (r : G × Option Err) :
    setterResult (withG st s) r = callResult st (.atom .none) r := rfl

theorem ps_flat : src_Task_parent_set = [psS1, psS2, psS3, psS4] := rfl

theorem setParentSome_seq (s : G) (t p : Uid) :
    setParentSome s t p =
      andThen (chk s (chkC1 s t p)) fun _ => andThen (chk s (chkC2 s t p)) fun _ => mutParentSome s t p := by
  unfold setParentSome andThen
  rw [chkParentSome_eq]
  cases chkC1 s t p <;> cases chkC2 s t p <;> rfl

/-- STAGE B, `p` not None.  `t.parent = p` = `setParentSome`, for EVERY state `s` -/
theorem parent_set_some (s : G) (st : PState) (hh : st.heap = encHeap s) (t p : Uid) (F : Nat)
    (hF : s.fuel + 3 ≤ F) (hrec : (setParentSome s t p).2 ≠ some (.crash .recursion)) :
    (P.H F).fnV fn_Task_parent_set [.atom (.ref t), .atom (.ref p)] st = setterResult st (setParentSome s t p) := by
  obtain ⟨st, rfl⟩ := exists_withG hh
  obtain ⟨F, rfl, hF⟩ := fuel_split 1 hF
  rw [P.call _ fn_Task_parent_set _ _ rfl]
  rw [setterResult_withG]
  refine Does.callPV (Q := fun _ => True) rfl ?_ hrec
  rw [setParentSome_seq, ps_flat]
  refine Does.chkCons (fun h => ps_s1 P s _ rfl t p F (by omega) h _ rfl rfl) fun hc1 => ?_
  refine Does.chkCons (fun h => ps_s2 P s _ rfl t p F (by omega) h _ rfl rfl) fun hc2 => ?_
  obtain ⟨desc, _, hd, _⟩ := chkParentSome_none s t p (by rw [chkParentSome_eq, hc1, hc2])
  rw [mutParentSome_eq]
  simp only [subtreeF, hd, Option.map_some]
  refine Does.step (ps_s3 P s _ rfl t F _ rfl) ?_
  rw [execBlockP_one, ps_s4_some P (detachOld s t) _ rfl t p s.fuel desc (descF_detachOld s _ t desc hd) F (by omega) _
    rfl rfl]
  exact Does.ok trivial

/-! `t.parent = None` -/

theorem linkedWithAny_congr (s s' : G) (hp : s'.preds = s.preds) (hs : s'.succs = s.succs) (a b : List Uid) :
    linkedWithAny s' a b = linkedWithAny s a b := by
  unfold linkedWithAny; rw [hp, hs]

theorem detachOld_idem (s : G) (t : Uid) (honce : ∀ q, s.parent t = some q → (s.children q).count t ≤ 1) :
    detachOld (detachOld s t) t = detachOld s t := by
  obtain ⟨hp, hpr, hsu, hti, how⟩ := detachOld_fields (detachOld s t) t
  refine G.eq_of_fields ⟨detachOld_n _ t, fun q =>
    ⟨congrFun hti q, congrFun hp q, ?_, congrFun hpr q, congrFun hsu q, congrFun how q⟩⟩
  rw [detachOld_children_eq, (detachOld_fields s t).1, detachOld_children_eq]
  split
  · next hq =>
    have := honce q hq
    exact List.erase_of_not_mem (by rw [← List.count_eq_zero, List.count_erase_self]; omega)
  · rfl

theorem chkParentSome_detachOld (s : G) (t p w0 : Uid) (how : s.owner t = some w0)
    (hrec : chkParentSome s t p ≠ some (.crash .recursion)) :
    chkParentSome (detachOld s t) t p = chkParentSome s t p := by
  obtain ⟨hp, hpr, hsu, hti, hown⟩ := detachOld_fields s t
  rw [chkParentSome_eq] at hrec ⊢
  rw [chkParentSome_eq]
  have hc1 : chkC1 (detachOld s t) t p = chkC1 s t p := by
    unfold chkC1; simp only [hown, how]
  rw [hc1]
  cases h1 : chkC1 s t p with
  | some e => rfl
  | none =>
    simp only [h1] at hrec ⊢
    unfold chkC2 at hrec ⊢
    rw [G.fuel, detachOld_n, ← G.fuel]
    cases hd : descF s.children s.fuel t with
    | none => simp [hd] at hrec
    | some desc =>
      rw [descF_detachOld s _ t desc hd]
      simp only [hp, ancF_congr s (detachOld s t) hp hti, linkedWithAny_congr s (detachOld s t) hpr hsu]

theorem mutParentSome_detachOld (s : G) (t p : Uid) (desc : List Uid) (hd : descF s.children s.fuel t = some desc)
    (honce : ∀ q, s.parent t = some q → (s.children q).count t ≤ 1) :
    mutParentSome (detachOld s t) t p = mutParentSome s t p := by
  rw [mutParentSome_eq, mutParentSome_eq]
  rw [G.fuel, detachOld_n, ← G.fuel]
  simp only [subtreeF, hd, descF_detachOld s _ t desc hd, Option.map_some, detachOld_idem s t honce]

theorem tf_children_append : taskFuns fn_ChildrenList_append =
    some (src_ChildrenList_append_params, src_ChildrenList_append) := rfl

/-- `<owner>.children.append(t)` = `t.parent = owner` -/
theorem children_append_spec (s : G) (st : PState) (hh : st.heap = encHeap s) (o t : Uid) (F : Nat)
    (hF : s.fuel + 4 ≤ F) (hrec : (setParentSome s t o).2 ≠ some (.crash .recursion)) :
    (P.H F).fnV fn_ChildrenList_append [.atom (.ref o), .atom (.ref t)] st = setterResult st (setParentSome s t o) := by
  obtain ⟨st, rfl⟩ := exists_withG hh
  obtain ⟨F, rfl, hF⟩ := fuel_split 2 hF
  rw [P.call _ _ _ _ tf_children_append]
  rw [setterResult_withG]
  refine Does.callPV (Q := fun _ => True) rfl ?_ hrec
  rw [src_ChildrenList_append]
  refine Does.step (execP_expr (he := by
    rw [evalP_callFn1 (ha := evalP_var _ _ _ _ _ _ rfl)]; exact check_not_none_spec P _ F t)) ?_
  rw [execBlockP_one]
  exact Does.expr trivial fun hne => by
    rw [evalP_callFn2 (ha := evalP_var _ _ _ _ _ _ rfl) (hb := evalP_var _ _ _ _ _ _ rfl),
      parent_set_some P s _ rfl t o (F + 1) (by omega) hne, setterResult_withG]

theorem parent_set_checks_none (s : G) (st : PState) (hh : st.heap = encHeap s) (t : Uid) (F : Nat) (ρ : PyLite.Env)
    (hself : ρ.get? "self" = some (.atom (.ref t))) (hpar : ρ.get? "parent" = some (.atom .none))
    (rest : List Stmt) :
    execBlockP (P.H F) [] noRec (psS1 :: psS2 :: rest) ρ st = execBlockP (P.H F) [] noRec rest ρ st := by
  unfold psS1 psS2
  simp only [src_Task_parent_set]
  cases how : s.owner t <;> simp [pylite_step, hself, hpar, hh, how]

theorem ps_s4_none_detached (s1 : G) (st : PState) (hh : st.heap = encHeap s1) (t : Uid) (how : s1.owner t = none)
    (F : Nat) (ρ : PyLite.Env) (hself : ρ.get? "self" = some (.atom (.ref t)))
    (hpar : ρ.get? "parent" = some (.atom .none)) :
    psS4.execP (P.H F) [] noRec ρ st = .normal ρ (withG st { s1 with parent := upd s1.parent t none }) := by
  unfold psS4
  simp only [src_Task_parent_set]
  have hset := heapSet_parent s1 t none
  simp only [optRef_none] at hset
  simp [pylite_step, hself, hpar, hh, how, hset, mk_withG]

theorem ps_s4_none_member (s1 : G) (st : PState) (t w : Uid) (how : s1.owner t = some w)
    (F : Nat) (hF : s1.fuel + 4 ≤ F) (ρ : PyLite.Env) (hself : ρ.get? "self" = some (.atom (.ref t)))
    (hpar : ρ.get? "parent" = some (.atom .none)) :
    Does (· = ρ) st (setParentSome s1 t w) (psS4.execP (P.H F) [] noRec ρ (withG st s1)) := by
  refine Does.of_ne_recursion fun hrec => Does.stmt rfl fun _ => ?_
  unfold psS4
  simp only [src_Task_parent_set]
  have happ := children_append_spec P s1 (withG st s1) rfl w t F hF hrec
  have hprim := P.root F w (withG st s1)
  rcases hr : setParentSome s1 t w with ⟨s', _ | e⟩ <;> rw [hr] at happ <;> simp only [setterResult, withG_withG] at happ <;>
    simp [pylite_step, hself, hpar, how, hprim, happ]

/-- STAGE B, `None`.  `t.parent = None` = `setParentNone`.  For a member of a WBS the list of the old parent must name
    `t` at most once (`WF.once`): Python removes `t` from that list before AND inside the inner assignment
    `root.children.append(t)`, the model once -/
theorem parent_set_none (s : G) (st : PState) (hh : st.heap = encHeap s) (t : Uid) (F : Nat)
    (hF : s.fuel + 5 ≤ F)
    (honce : ∀ w q, s.owner t = some w → s.parent t = some q → (s.children q).count t ≤ 1)
    (hrec : (setParentNone s t).2 ≠ some (.crash .recursion)) :
    (P.H F).fnV fn_Task_parent_set [.atom (.ref t), .atom .none] st = setterResult st (setParentNone s t) := by
  obtain ⟨st, rfl⟩ := exists_withG hh
  obtain ⟨F, rfl, hF⟩ := fuel_split 1 hF
  rw [P.call _ fn_Task_parent_set _ _ rfl]
  rw [setterResult_withG]
  refine Does.callPV (Q := fun _ => True) rfl ?_ hrec
  rw [ps_flat, parent_set_checks_none P s _ rfl t F _ rfl rfl]
  refine Does.step (ps_s3 P s _ rfl t F _ rfl) ?_
  rw [execBlockP_one]
  unfold setParentNone at hrec ⊢
  obtain ⟨hp, hpr, hsu, hti, hown⟩ := detachOld_fields s t
  cases how : s.owner t with
  | none =>
    simp only [how]
    rw [ps_s4_none_detached P (detachOld s t) _ rfl t (by rw [hown]; exact how) F _ rfl rfl]
    exact Does.ok trivial
  | some w =>
    simp only [how] at hrec ⊢
    -- the inner assignment runs on the state after the removal; the model runs it on `s`
    have hchk : chkParentSome (detachOld s t) t w = chkParentSome s t w := by
      apply chkParentSome_detachOld s t w w how
      intro hcr
      apply hrec
      unfold setParentSome; simp only [hcr]
    have hres : toRes (setParentSome (detachOld s t) t w) = toRes (setParentSome s t w) := by
      unfold setParentSome
      rw [hchk]
      cases hc : chkParentSome s t w with
      | some e => rfl
      | none =>
        obtain ⟨desc, _, hd, _⟩ := chkParentSome_none s t w hc
        dsimp only
        rw [mutParentSome_detachOld s t w desc hd (fun q hq => honce w q how hq)]
    exact ((ps_s4_none_member P (detachOld s t) st t w (by rw [hown]; exact how) F
      (by rw [G.fuel, detachOld_n, ← G.fuel]; omega) _ rfl rfl).of_toRes_eq hres).mono fun _ _ => trivial

theorem parent_set_spec (s : G) (st : PState) (hh : st.heap = encHeap s) (t : Uid) (p : Option Uid) (F : Nat)
    (hF : s.fuel + 5 ≤ F)
    (honce : p = none → ∀ w q, s.owner t = some w → s.parent t = some q → (s.children q).count t ≤ 1)
    (hrec : (setParent s t p).2 ≠ some (.crash .recursion)) :
    (P.H F).fnV fn_Task_parent_set [.atom (.ref t), .atom (optRef p)] st = setterResult st (setParent s t p) := by
  cases p with
  | none => exact parent_set_none P s st hh t F hF (honce rfl) hrec
  | some p => exact parent_set_some P s st hh t p F (by omega) hrec

/-- STAGE B.  Unless the model ends in RecursionError, the translated `parent` setter run on the encoding of ANY state
    gives `None` and the encoding of the model's new state when the model accepts, and raises the model's error when it
    rejects.  `honce` (only for `p = None` on a member of a WBS): the children list of the old parent names `t` at most
    once -/
theorem interpSetParent_eq (s : G) (st : PState) (hh : st.heap = encHeap s) (t : Uid) (p : Option Uid) (F : Nat)
    (hF : s.n + 6 ≤ F)
    (honce : p = none → ∀ w q, s.owner t = some w → s.parent t = some q → (s.children q).count t ≤ 1)
    (hrec : (setParent s t p).2 ≠ some (.crash .recursion)) :
    interpSetParent F t p st = setterResult st (setParent s t p) :=
  parent_set_spec progHd s st hh t p F (by unfold G.fuel; omega) honce hrec

/-- the same on a well-formed state (C01) started from the canonical encoding -/
theorem interpSetParent_eq_wf (s : G) (hw : WF s) (t : Uid) (p : Option Uid) (F : Nat) (hF : s.n + 6 ≤ F)
    (hrec : (setParent s t p).2 ≠ some (.crash .recursion)) :
    interpSetParent F t p (encSt s) = setterResult (encSt s) (setParent s t p) :=
  interpSetParent_eq s (encSt s) rfl t p F hF (fun _ _ q _ _ => List.nodup_iff_count.1 (hw.once q) t) hrec

end Pj.TaskSrc

/-
  Lemmas/TaskSrcCheck.lean — stage 1 of the translated tie for task.py: kernel-checked concrete runs of the translated
  helpers and setters (Extracted/TaskSrc.lean) against the graph model.  See Lemmas/TaskSrc.lean.
-/
import PjVerif.Lemmas.TaskSrc
namespace Pj.TaskSrc
open Pj.PyLite Pj.Extracted

/-! ### stage 1: concrete runs (kernel-checked)

  Every example runs the translated source on the encoding of a concrete graph state and compares the result with the
  model: the returned value, and the objects `0 … n-1` of the final store with the encoding of the model's new state
  (`view`; the encoding is injective, so this is the comparison of the decoded state); errors must coincide. -/
deriving instance DecidableEq for Except

namespace Check

structure Nd where
  tid : Int
  parent : Option Uid := none
  children : List Uid := []
  preds : List Uid := []
  succs : List Uid := []
  owner : Option Uid := none

def dflt : Nd := { tid := 0 }

def mk (l : List Nd) : G :=
  { n := l.length
    tid := fun u => (l.getD u dflt).tid
    parent := fun u => (l.getD u dflt).parent
    children := fun u => (l.getD u dflt).children
    preds := fun u => (l.getD u dflt).preds
    succs := fun u => (l.getD u dflt).succs
    owner := fun u => (l.getD u dflt).owner }

/-- the objects `0 … n-1` of a store -/
def view (n : Nat) (h : Nat → PyLite.Env) : List PyLite.Env := (List.range n).map h

def observe (n : Nat) (r : Res (Val × PState)) : Res (Val × List PyLite.Env) :=
  r.map (fun x => (x.1, view n x.2.heap))

/-- what the run of a setter is compared with: `None` and the encoding of the model's new state, or the model's error -/
def expect (n : Nat) (r : G × Option Err) : Res (Val × List PyLite.Env) :=
  match r with
  | (s', none) => .ok (.atom .none, view n (encHeap s'))
  | (_, some e) => .error e

/-- what the run of a helper that only reads is compared with: the model's value and the unchanged store; `none`
    (the model ran out of fuel) = RecursionError -/
def expectV (s : G) (o : Option Val) : Res (Val × List PyLite.Env) :=
  match o with
  | some v => .ok (v, view s.n (encHeap s))
  | none => .error (.crash .recursion)

def F : Nat := 24

def runV (s : G) (k : Nat) (args : List Val) : Res (Val × List PyLite.Env) := observe s.n (interp F k args (encSt s))

def allU (s : G) (p : Uid → Bool) : Bool := (List.range s.n).all p

def boolV (b : Bool) : Val := .atom (.bool b)
def refV (u : Uid) : Val := .atom (.ref u)

/-- a WBS (hidden root 0: 1 > 2, 3; link 3 → 2), a detached tree 4 > 5 (5 shares its id with 1), detached tasks 6 → 7
    (linked; 7 shares its id with 2), a second WBS (hidden root 8 > 9, 9 shares its id with 1), detached 10, 11, and
    12 (shares its id with 2 and 7) -/
def g1 : G := mk [
  { tid := emptyId, children := [1, 3], owner := some 0 },
  { tid := 10, parent := some 0, children := [2], owner := some 0 },
  { tid := 20, parent := some 1, preds := [3], owner := some 0 },
  { tid := 30, parent := some 0, succs := [2], owner := some 0 },
  { tid := 40, children := [5] },
  { tid := 10, parent := some 4 },
  { tid := 60, succs := [7] },
  { tid := 20, preds := [6] },
  { tid := emptyId, children := [9], owner := some 8 },
  { tid := 10, parent := some 8, owner := some 8 },
  { tid := 100 },
  { tid := 110 },
  { tid := 20 }]

/-- a deeper WBS with a diamond of links: 0 (hidden) > 1 > (2 > 4, 3 > 5), links 4 → 5, 4 → 3, 5 → 6, 6 = root task -/
def g2 : G := mk [
  { tid := emptyId, children := [1, 6], owner := some 0 },
  { tid := 1, parent := some 0, children := [2, 3], owner := some 0 },
  { tid := 2, parent := some 1, children := [4], owner := some 0 },
  { tid := 3, parent := some 1, children := [5], preds := [4], owner := some 0 },
  { tid := 4, parent := some 2, succs := [5, 3], owner := some 0 },
  { tid := 5, parent := some 3, preds := [4], succs := [6], owner := some 0 },
  { tid := 6, parent := some 0, preds := [5], owner := some 0 }]

/-- a state that is NOT well formed: 0 and 1 are each other's parent (a cycle) -/
def g3 : G := mk [
  { tid := 1, parent := some 1, children := [1] },
  { tid := 2, parent := some 0, children := [0] },
  { tid := 3 }]

/-! #### stage A: the helpers -/

-- `_find_root` = `rootF`, `_collect_subtree` = `subtreeF`, `__get_all_children` = `descF`, `__get_all_parents` = `ancF`,
-- the `parent` getter = `pubParent`, `_raw_parent` = the raw parent: for every task of a graph
def helpersAgree (s : G) : Bool :=
  allU s (fun t =>
    decide (runV s fn_find_root [refV t] = expectV s ((rootF s s.fuel t).map refV)) &&
    decide (runV s fn_collect_subtree [refV t] = expectV s ((subtreeF s.children s.fuel t).map refs)) &&
    decide (runV s fn_Task_get_all_children [refV t] = expectV s ((descF s.children s.fuel t).map refs)) &&
    decide (runV s fn_Task_get_all_parents [refV t] = expectV s ((ancF s s.fuel (s.parent t)).map refs)) &&
    decide (runV s fn_Task_get_all_predecessors [refV t] =
      expectV s ((descF s.preds s.fuel t).map (fun l => refs l.eraseDups))) &&
    decide (runV s fn_Task_get_all_successors [refV t] =
      expectV s ((descF s.succs s.fuel t).map (fun l => refs l.eraseDups))) &&
    decide (runV s fn_Task_parent_get [refV t] = expectV s (some (.atom (optRef (s.pubParent t))))) &&
    decide (runV s fn_Task_raw_parent [refV t] = expectV s (some (.atom (optRef (s.parent t))))))

-- (`g1`, `g2`: Lemmas/TaskSrcCheckA.lean)
/-- on the cyclic state the recursions end in RecursionError on both sides (the interpreter has more fuel than the
    model: both run out) -/
example : helpersAgree g3 = true := by decide +kernel

-- `_has_id_intersection(parent, children)` = `hasIdIntersection`: every parent, with one child and with two children
-- (the sweep over `g1`: Lemmas/TaskSrcCheckA.lean)
def idsAgree (s : G) : Bool :=
  allU s (fun p => allU s (fun c =>
    decide (runV s fn_has_id_intersection [refV p, refs [c]] = expectV s ((hasIdIntersection s p [c]).map boolV)) &&
    decide (runV s fn_has_id_intersection [refV p, refs [c, 12]] =
      expectV s ((hasIdIntersection s p [c, 12]).map boolV))))

-- `_linked_with_any(tasks, others)` = `linkedWithAny`, `_unique_objects` = `eraseDups`
-- (the sweeps over `g1`, `g2`: Lemmas/TaskSrcCheckA.lean)
def linkedAgree (s : G) : Bool :=
  allU s (fun a => allU s (fun b =>
    decide (runV s fn_linked_with_any [refs [a, 1], refs [b, 6]] = expectV s (some (boolV (linkedWithAny s [a, 1] [b, 6])))) &&
    decide (runV s fn_unique_objects [refs [a, b, 2, a, b]] = expectV s (some (refs [a, b, 2, a, b].eraseDups)))))

-- `_to_list`: `None`, a task, a list with `None`s
example : runV g1 fn_to_list [.atom .none] = expectV g1 (some (refs [])) := by decide +kernel
example : runV g1 fn_to_list [refV 3] = expectV g1 (some (refs [3])) := by decide +kernel
example : runV g1 fn_to_list [.list [.ref 3, .none, .ref 1, .none]] = expectV g1 (some (refs [3, 1])) := by decide +kernel
/-- something else (an `int`): outside the encoding, the run is stuck -/
example : runV g1 fn_to_list [.atom (.num 5)] = .error stuck := by decide +kernel

-- `_attach(wbs)` / `_detach()` = `setOwners` on the subtree
example : runV g1 fn_Task_attach [refV 4, refV 8] = expect g1.n (setOwners g1 [4, 5] (some 8), none) := by decide +kernel
example : runV g1 fn_Task_attach [refV 4, .atom .none] = expect g1.n (g1, none) := by decide +kernel
example : runV g1 fn_Task_detach [refV 1] = expect g1.n (setOwners g1 [1, 2] none, none) := by decide +kernel
example : runV g3 fn_Task_detach [refV 0] = .error (.crash .recursion) := by decide +kernel

end Check
end Pj.TaskSrc

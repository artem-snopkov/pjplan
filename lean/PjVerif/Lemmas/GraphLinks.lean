/-
  Lemmas/GraphLinks.lean — the predecessor / successor setters preserve well-formedness (C01).  `G.rev` reverses every
  dependency link: each successor lemma, here and in the files that follow, is the predecessor lemma on `s.rev`.
-/
import PjVerif.Lemmas.Fuel
namespace Pj

theorem setPreds_static (s : G) (t : Uid) (l : List Uid) :
    (setPreds s t l).1.n = s.n ∧ (setPreds s t l).1.tid = s.tid := by
  unfold setPreds
  split <;> exact ⟨rfl, rfl⟩

theorem setPreds_n (s : G) (t : Uid) (l : List Uid) : (setPreds s t l).1.n = s.n := (setPreds_static s t l).1
theorem setPreds_tid (s : G) (t : Uid) (l : List Uid) : (setPreds s t l).1.tid = s.tid := (setPreds_static s t l).2

theorem chkLinks_none (s : G) (next : Uid → List Uid) (t : Uid) (l : List Uid)
    (h : chkLinks s next t l = none) :
    ∃ anc desc, ancF s s.fuel (s.parent t) = some anc ∧ descF s.children s.fuel t = some desc ∧
      ∀ v ∈ l, v ∉ anc ∧ v ∉ desc ∧ v ≠ t ∧ ∃ r, descF next s.fuel v = some r ∧ t ∉ r := by
  unfold chkLinks at h
  cases hanc : ancF s s.fuel (s.parent t) with
  | none => rw [hanc] at h; cases h
  | some anc =>
    cases hdesc : descF s.children s.fuel t with
    | none => simp [hanc, hdesc] at h
    | some desc =>
      simp only [hanc, hdesc, ite_some_eq_none, List.findSome?_eq_none_iff, List.any_eq_true, not_exists, not_and,
        Bool.or_eq_true, not_or, List.contains_iff_mem] at h
      refine ⟨anc, desc, rfl, rfl, fun v hv => ?_⟩
      obtain ⟨h1, h2⟩ := h
      have h3 := h2 v hv
      refine ⟨(h1 v hv).1, (h1 v hv).2, h3.1, ?_⟩
      cases hr : descF next s.fuel v with
      | none => simp [hr] at h3
      | some r => exact ⟨r, rfl, by simpa [hr] using h3.2⟩

theorem chkLinks_facts (s : G) (h : WF s) (next : Uid → List Uid) (t : Uid) (l : List Uid)
    (hl : ∀ v ∈ l, s.hidden v = false) (hc : chkLinks s next t l = none) :
    ∀ v ∈ l, v ≠ t ∧ ¬ TC (par s) t v ∧ ¬ TC (par s) v t ∧ ¬ TC (fun a b => b ∈ next a) v t := by
  obtain ⟨anc, desc, hanc, hdesc, hall⟩ := chkLinks_none s next t l hc
  intro v hv
  obtain ⟨h1, h2, h3, r, hr, h4⟩ := hall v hv
  refine ⟨h3, ?_, ?_, ?_⟩
  · intro hp
    exact h1 (ancF_complete s (fun r hr => (h.rootsTop r hr).1) s.fuel t anc hanc v hp (hl v hv))
  · intro hp
    exact h2 (descF_complete s.children s.fuel t desc hdesc v ((TC_child_iff s h.listed t v).mpr hp))
  · intro hp
    exact h4 (descF_complete next s.fuel v r hr t hp)

theorem chkLinks_ok (g : G) (hw : WF g) (hb : Bounded g) (next : Uid → List Uid)
    (hnext : ∀ v, ∃ r, descF next g.fuel v = some r) (t : Uid) (l : List Uid)
    (h : ∀ v ∈ l, v ≠ t ∧ ¬ TC (par g) t v ∧ ¬ TC (par g) v t ∧ ¬ TC (fun a b => b ∈ next a) v t) :
    chkLinks g next t l = none := by
  obtain ⟨anc, hanc⟩ := ancF_parent_total g hw hb t
  obtain ⟨desc, hdesc⟩ := descF_children_total g hw hb t
  unfold chkLinks
  rw [hanc, hdesc]
  simp only
  have hany : ¬ (l.any (fun v => anc.contains v || desc.contains v) = true) := by
    intro hh
    obtain ⟨v, hv, hvc⟩ := List.any_eq_true.mp hh
    obtain ⟨_, h2, h3, _⟩ := h v hv
    rcases Bool.or_eq_true_iff.mp hvc with e | e
    · exact h2 (ancF_sound g _ t anc hanc v (by simpa using e)).1
    · exact h3 ((descF_mem g hw.listed _ t desc hdesc v).mp (by simpa using e))
  rw [if_neg hany]
  apply List.findSome?_eq_none_iff.mpr
  intro v hv
  obtain ⟨h1, _, _, h4⟩ := h v hv
  rw [if_neg h1]
  obtain ⟨r, hr⟩ := hnext v
  rw [hr]
  simp only
  have : r.contains t = false := by
    cases hc : r.contains t with
    | false => rfl
    | true => exact absurd (descF_sound next _ v r hr t (by simpa using hc)) h4
  rw [this]
  simp

theorem mem_mutPreds_preds (s : G) (t : Uid) (l : List Uid) (a b : Uid) :
    a ∈ (mutPreds s t l).preds b ↔ (b ≠ t ∧ a ∈ s.preds b) ∨ (b = t ∧ a ∈ l) := by
  by_cases hb : b = t <;> simp [mutPreds, upd, hb]

/-- the last alternative - `a` had `t` as a successor without being one of its predecessors - is empty when the links
    are stored on both ends -/
theorem mem_mutPreds_succs (s : G) (t : Uid) (l : List Uid) (a b : Uid) :
    b ∈ (mutPreds s t l).succs a ↔ (b ≠ t ∧ b ∈ s.succs a) ∨ (b = t ∧ (a ∈ l ∨ (a ∉ s.preds t ∧ t ∈ s.succs a))) := by
  by_cases hb : b = t <;> by_cases ha : a ∈ s.preds t <;> by_cases hal : a ∈ l <;>
    simp [mutPreds, hb, ha, hal, List.mem_filter]
  all_goals split <;> simp [*]

theorem mutPreds_WF (s : G) (t : Uid) (l : List Uid) (h : WF s) (ht : s.hidden t = false)
    (hl : ∀ v ∈ l, s.hidden v = false)
    (hf : ∀ v ∈ l, v ≠ t ∧ ¬ TC (par s) t v ∧ ¬ TC (par s) v t ∧ ¬ TC (dep s) t v) :
    WF (mutPreds s t l) := by
  have hpar : par (mutPreds s t l) = par s := rfl
  refine ⟨h.listed, h.once, h.forest, ?_, ?_, ?_, ?_⟩
  · intro r hr
    have hr' : s.hidden r = true := hr
    obtain ⟨h1, h2, h3⟩ := h.rootsTop r hr'
    have hrt : r ≠ t := by intro e; rw [e, ht] at hr'; cases hr'
    have hrl : r ∉ l := by intro e; rw [hl r e] at hr'; cases hr'
    refine ⟨h1, ?_, ?_⟩
    · simp [mutPreds, upd, hrt, h2]
    · simp [mutPreds, hrl, h3]
  · intro a b
    rw [mem_mutPreds_preds, mem_mutPreds_succs, h.sym a b]
    refine or_congr_right (and_congr_right fun e => ⟨Or.inl, fun h' => h'.elim id fun h' => ?_⟩)
    exact absurd ((h.sym a t).mpr h'.2) h'.1
  · have hac := acyclic_add_in_edges (fun a b => b ≠ t ∧ dep s a b) t (fun v => v ∈ l)
      (fun x hx => h.dag x (TC.mono (fun a b hab => hab.2) hx))
      (fun v hv hr => by
        rcases RTC.cases_eq_or_TC hr with e | e
        · exact (hf v hv).1 e.symm
        · exact (hf v hv).2.2.2 (TC.mono (fun a b hab => hab.2) e))
    intro x hx
    refine hac x (TC.mono ?_ hx)
    intro a b hab
    exact ((mem_mutPreds_preds s t l a b).mp hab).imp id And.symm
  · intro a b hab
    rw [hpar]
    rcases (mem_mutPreds_preds s t l a b).mp hab with ⟨_, hd⟩ | ⟨hb, hal⟩
    · exact h.noAncDep a b hd
    · subst hb
      exact ⟨(hf a hal).2.2.1, (hf a hal).2.1⟩

theorem setPreds_WF (s : G) (t : Uid) (l : List Uid) (h : WF s) (ht : s.hidden t = false)
    (hl : ∀ v ∈ l, s.hidden v = false) : WF (setPreds s t l).1 := by
  unfold setPreds
  split
  · exact h
  · rename_i hc
    refine mutPreds_WF s t l h ht hl ?_
    intro v hv
    obtain ⟨h1, h2, h3, h4⟩ := chkLinks_facts s h s.preds t l hl hc v hv
    refine ⟨h1, h2, h3, ?_⟩
    intro hp
    exact h4 (TC.flip (r := fun a b => b ∈ s.preds a) hp)

/-- every dependency link reversed: the successor setter acts on `s` as the predecessor setter acts on `s.rev`
    (`setSuccs_eq_rev`) -/
def G.rev (s : G) : G := { s with preds := s.succs, succs := s.preds }

theorem mutSuccs_eq_rev (s : G) (t : Uid) (l : List Uid) : mutSuccs s t l = (mutPreds s.rev t l).rev := rfl

theorem ancF_congr (s s' : G) (hp : s'.parent = s.parent) (ht : s'.tid = s.tid) (f : Nat) (o : Option Uid) :
    ancF s' f o = ancF s f o := by
  have hh : ∀ u, s'.hidden u = s.hidden u := fun u => by simp only [G.hidden, ht]
  have hpp : ∀ u, s'.pubParent u = s.pubParent u := fun u => by simp only [G.pubParent, hp, hh]
  induction f generalizing o with
  | zero => rfl
  | succ f ih =>
    cases o with
    | none => rfl
    | some p => simp only [ancF, hh, hpp, ih]

theorem chkLinks_rev (s : G) (next : Uid → List Uid) (t : Uid) (l : List Uid) :
    chkLinks s.rev next t l = chkLinks s next t l := by
  unfold chkLinks
  rw [ancF_congr s s.rev rfl rfl]
  rfl

theorem setSuccs_eq_rev (s : G) (t : Uid) (l : List Uid) :
    setSuccs s t l = ((setPreds s.rev t l).1.rev, (setPreds s.rev t l).2) := by
  have h : chkLinks s.rev s.rev.preds t l = chkLinks s s.succs t l := chkLinks_rev s s.succs t l
  unfold setSuccs setPreds
  rw [h]
  cases chkLinks s s.succs t l <;> rfl

theorem TC_dep_rev (s : G) (h : WF s) {a b : Uid} (hab : TC (dep s.rev) a b) : TC (dep s) b a :=
  TC.flip (TC.mono (fun x y hxy => (h.sym y x).mpr hxy) hab)

theorem WF.rev {s : G} (h : WF s) : WF s.rev := by
  refine ⟨h.listed, h.once, h.forest, ?_, ?_, ?_, ?_⟩
  · intro r hr
    obtain ⟨h1, h2, h3⟩ := h.rootsTop r hr
    exact ⟨h1, h3, h2⟩
  · intro a b
    exact (h.sym b a).symm
  · intro t ht
    exact h.dag t (TC_dep_rev s h ht)
  · intro a b hab
    obtain ⟨h1, h2⟩ := h.noAncDep b a ((h.sym b a).mpr hab)
    exact ⟨h2, h1⟩

theorem setSuccs_static (s : G) (t : Uid) (l : List Uid) :
    (setSuccs s t l).1.n = s.n ∧ (setSuccs s t l).1.tid = s.tid := by
  rw [setSuccs_eq_rev]
  exact setPreds_static s.rev t l

theorem setSuccs_n (s : G) (t : Uid) (l : List Uid) : (setSuccs s t l).1.n = s.n := (setSuccs_static s t l).1
theorem setSuccs_tid (s : G) (t : Uid) (l : List Uid) : (setSuccs s t l).1.tid = s.tid := (setSuccs_static s t l).2

theorem setSuccs_WF (s : G) (t : Uid) (l : List Uid) (h : WF s) (ht : s.hidden t = false)
    (hl : ∀ v ∈ l, s.hidden v = false) : WF (setSuccs s t l).1 := by
  rw [setSuccs_eq_rev]
  exact (setPreds_WF s.rev t l h.rev ht hl).rev

end Pj

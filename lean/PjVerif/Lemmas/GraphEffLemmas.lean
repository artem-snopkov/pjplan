/-
  Lemmas/GraphEffLemmas.lean — C16: an accepted call leaves exactly the closed form of Spec/GraphEff.lean, proved field
  by field.  Sort is stable because filtering by one key commutes with the merge sort.  For the children setter the
  re-adoption loop computes `dedupLast` (loop invariant of Lemmas/GraphInv.lean), and the owners are read off the
  hierarchy, which determines them on an `Inv` state.  `remove` / `remove_all` / `WBS.remove` are assignments of the
  remaining children.  The released subtrees of C11 are read off the closed form of the children setter.
-/
import PjVerif.Lemmas.GraphTasks
namespace Pj

theorem mutPreds_eq_eff (s : G) (t : Uid) (l : List Uid) : mutPreds s t l = effSetPreds s t l := by
  apply G.eq_of_fields
  refine ⟨rfl, fun u => ⟨rfl, rfl, rfl, rfl, ?_, rfl⟩⟩
  simp only [mutPreds, effSetPreds, Bool.and_eq_true]

theorem setPreds_ok_eq (s s' : G) (t : Uid) (l : List Uid) (h : setPreds s t l = (s', none)) :
    s' = effSetPreds s t l := by
  rcases setPreds_result s t l with ⟨_, _, e⟩ | e <;> rw [e] at h <;> cases h
  exact mutPreds_eq_eff s t l

theorem effSetSuccs_eq_rev (s : G) (t : Uid) (l : List Uid) : effSetSuccs s t l = (effSetPreds s.rev t l).rev := rfl

theorem setSuccs_ok_eq (s s' : G) (t : Uid) (l : List Uid) (h : setSuccs s t l = (s', none)) :
    s' = effSetSuccs s t l := by
  rw [setSuccs_eq_rev] at h
  injection h with h1 h2
  rw [← h1, effSetSuccs_eq_rev, ← setPreds_ok_eq s.rev _ t l (eq_of_ok _ h2)]

theorem setPreds_frame (s s' : G) (t : Uid) (l : List Uid) (u : Uid)
    (h : setPreds s t l = (s', none)) (hu : u ≠ t) (hl : u ∉ l) (ho : u ∉ s.preds t) :
    s'.preds u = s.preds u ∧ s'.succs u = s.succs u ∧ s'.parent u = s.parent u ∧ s'.children u = s.children u ∧
    s'.owner u = s.owner u := by
  rw [setPreds_ok_eq s s' t l h]
  refine ⟨?_, ?_, rfl, rfl, rfl⟩
  · show (if u = t then l else s.preds u) = _
    rw [if_neg hu]
  · have h1 : (s.preds t).contains u = false := by simpa using ho
    have h2 : l.contains u = false := by simpa using hl
    simp only [effSetPreds, h1, h2]
    simp

theorem chMove_ok_eq (s s' : G) (h : Uid) (ts : List Uid) (b a : Option Uid)
    (hs : chMove s h ts b a = (s', none)) : s' = effMove s h ts b a := by
  rcases chMove_spec s h ts b a with e | ⟨_, _, e⟩ <;> rw [e] at hs
  · cases hs
  · injection hs with h1 _; exact h1.symm

theorem drop_idxOf (x : Uid) (l : List Uid) (h : x ∈ l) : l.drop (l.idxOf x) = x :: l.drop (l.idxOf x + 1) := by
  have hlt := List.idxOf_lt_length_iff.mpr h
  rw [List.drop_eq_getElem_cons hlt, List.getElem_idxOf hlt]

theorem take_idxOf_succ (x : Uid) (l : List Uid) (h : x ∈ l) : l.take (l.idxOf x + 1) = l.take (l.idxOf x) ++ [x] := by
  have hlt := List.idxOf_lt_length_iff.mpr h
  rw [List.take_succ_eq_append_getElem hlt, List.getElem_idxOf hlt]

theorem erase_insertAt (l1 : List Uid) (t : Uid) (i : Nat) (ht : t ∉ l1) :
    (l1.take i ++ [t] ++ l1.drop i).erase t = l1 := by
  have h1 : t ∉ l1.take i := fun h => ht (List.mem_of_mem_take h)
  rw [List.append_assoc, List.erase_append_right _ h1]
  simp

theorem moveOne_spec (l : List Uid) (t : Uid) (b a : Option Uid) (hn : l.Nodup) (_ht : t ∈ l)
    (hb : ∀ x, b = some x → x ∈ l ∧ x ≠ t) (ha : ∀ x, a = some x → x ∈ l ∧ x ≠ t) (hab : b.isSome ≠ a.isSome) :
    (moveOne l t b a).erase t = l.erase t ∧
    (∀ x, b = some x → ∃ pre post, moveOne l t b a = pre ++ t :: x :: post) ∧
    (∀ x, a = some x → ∃ pre post, moveOne l t b a = pre ++ x :: t :: post) := by
  have htl : t ∉ l.erase t := fun h => (List.Nodup.mem_erase_iff hn).mp h |>.1 rfl
  cases b with
  | some x =>
    cases a with
    | some y => simp at hab
    | none =>
      obtain ⟨hx, hxt⟩ := hb x rfl
      have hx1 : x ∈ l.erase t := (List.mem_erase_of_ne hxt).mpr hx
      refine ⟨erase_insertAt _ t _ htl, ?_, ?_⟩
      · intro x' hx'
        cases hx'
        refine ⟨(l.erase t).take ((l.erase t).idxOf x), (l.erase t).drop ((l.erase t).idxOf x + 1), ?_⟩
        show (l.erase t).take _ ++ [t] ++ (l.erase t).drop _ = _
        rw [drop_idxOf x _ hx1]; simp
      · intro x' hx'; cases hx'
  | none =>
    cases a with
    | none => simp at hab
    | some x =>
      obtain ⟨hx, hxt⟩ := ha x rfl
      have hx1 : x ∈ l.erase t := (List.mem_erase_of_ne hxt).mpr hx
      refine ⟨erase_insertAt _ t _ htl, ?_, ?_⟩
      · intro x' hx'; cases hx'
      · intro x' hx'
        cases hx'
        refine ⟨(l.erase t).take ((l.erase t).idxOf x), (l.erase t).drop ((l.erase t).idxOf x + 1), ?_⟩
        show (l.erase t).take _ ++ [t] ++ (l.erase t).drop _ = _
        rw [take_idxOf_succ x _ hx1]; simp

def leOf (key : Uid → Int) (rev : Bool) : Uid → Uid → Bool :=
  if rev then (fun a b => decide (key b ≤ key a)) else (fun a b => decide (key a ≤ key b))

theorem sortBy_eq (key : Uid → Int) (rev : Bool) (l : List Uid) : sortBy key rev l = l.mergeSort (leOf key rev) := by
  unfold sortBy leOf; cases rev <;> rfl

theorem leOf_trans (key : Uid → Int) (rev : Bool) (a b c : Uid) :
    leOf key rev a b = true → leOf key rev b c = true → leOf key rev a c = true := by
  unfold leOf; cases rev <;> simp <;> omega

theorem leOf_total (key : Uid → Int) (rev : Bool) (a b : Uid) : (leOf key rev a b || leOf key rev b a) = true := by
  unfold leOf; cases rev <;> simp <;> omega

theorem leOf_of_eq (key : Uid → Int) (rev : Bool) (a b : Uid) (h : key a = key b) : leOf key rev a b = true := by
  unfold leOf; cases rev <;> simp <;> omega

theorem pairwise_adjacent {R : Uid → Uid → Prop} : ∀ (l : List Uid), l.Pairwise R →
    ∀ p ∈ l.zip (l.drop 1), R p.1 p.2 := by
  intro l
  induction l with
  | nil => intro _ p hp; simp at hp
  | cons x xs ih =>
    intro hpw p hp
    cases xs with
    | nil => simp at hp
    | cons y ys =>
      simp only [List.drop_succ_cons, List.drop_zero, List.zip_cons_cons, List.mem_cons] at hp
      rcases hp with rfl | hp
      · exact (List.pairwise_cons.mp hpw).1 y List.mem_cons_self
      · exact ih (List.pairwise_cons.mp hpw).2 p (by simpa using hp)

theorem idxOf_lt_filter (p : Uid → Bool) (a b : Uid) (hab : a ≠ b) (ha : p a = true) (hb : p b = true) :
    ∀ l : List Uid, (l.idxOf a < l.idxOf b ↔ (l.filter p).idxOf a < (l.filter p).idxOf b) := by
  intro l
  induction l with
  | nil => simp
  | cons x xs ih =>
    by_cases hxa : x = a
    · subst hxa
      have : ¬ (x == b) = true := by simpa using hab
      simp [ha, List.idxOf_cons, this]
    · by_cases hxb : x = b
      · subst hxb
        simp [hb, List.idxOf_cons]
      · have h1 : ¬ (x == a) = true := by simpa using hxa
        have h2 : ¬ (x == b) = true := by simpa using hxb
        by_cases hpx : p x = true
        · simp [hpx, List.idxOf_cons, h1, h2, ih]
        · simp [hpx, List.idxOf_cons, h1, h2, ih]

theorem mergeSort_filter_key (key : Uid → Int) (rev : Bool) (k : Int) (l : List Uid) :
    (l.mergeSort (leOf key rev)).filter (fun x => key x == k) = l.filter (fun x => key x == k) := by
  have hsub : (l.filter (fun x => key x == k)).Sublist (l.mergeSort (leOf key rev)) := by
    refine List.sublist_mergeSort (leOf_trans key rev) (leOf_total key rev) ?_ List.filter_sublist
    refine List.Pairwise.imp_of_mem ?_ (List.pairwise_of_forall (R := fun _ _ => True) (fun _ _ => trivial))
    intro a b ha hb _
    have ha' := (List.mem_filter.mp ha).2
    have hb' := (List.mem_filter.mp hb).2
    simp only [beq_iff_eq] at ha' hb'
    exact leOf_of_eq key rev a b (ha'.trans hb'.symm)
  have h2 := hsub.filter (fun x => key x == k)
  rw [List.filter_filter] at h2
  simp only [Bool.and_self] at h2
  have hlen : (l.filter (fun x => key x == k)).length = ((l.mergeSort (leOf key rev)).filter (fun x => key x == k)).length :=
    ((List.mergeSort_perm l (leOf key rev)).filter _).length_eq.symm
  exact (h2.eq_of_length hlen).symm

theorem sortBy_sorted (key : Uid → Int) (rev : Bool) (l : List Uid) :
    sortedByB key rev l (sortBy key rev l) = true := by
  rw [sortBy_eq]
  have hperm := List.mergeSort_perm l (leOf key rev)
  unfold sortedByB
  simp only [Bool.and_eq_true, List.all_eq_true, beq_iff_eq, List.contains_iff_mem]
  refine ⟨⟨⟨⟨?_, ?_⟩, ?_⟩, ?_⟩, ?_⟩
  · intro x _; exact (hperm.count_eq x).symm
  · intro x hx; exact hperm.mem_iff.mp hx
  · exact hperm.length_eq.symm
  · intro p hp
    have := pairwise_adjacent _ (List.pairwise_mergeSort (leOf_trans key rev) (leOf_total key rev) l) p hp
    unfold leOf at this
    cases rev <;> simpa using this
  · intro a _ b _
    by_cases hc : key a = key b ∧ a ≠ b
    · have hf := mergeSort_filter_key key rev (key a) l
      have e1 := idxOf_lt_filter (fun x => key x == key a) a b hc.2 (by simp) (by simp [hc.1]) l
      have e2 := idxOf_lt_filter (fun x => key x == key a) a b hc.2 (by simp) (by simp [hc.1]) (l.mergeSort (leOf key rev))
      rw [hf] at e2
      simp only [Bool.or_eq_true, Bool.not_eq_true', beq_iff_eq, decide_eq_decide]
      right
      exact e2.trans e1.symm
    · simp only [Bool.or_eq_true, Bool.not_eq_true']
      left
      simp only [Bool.and_eq_false_iff, beq_eq_false_iff_ne, ne_eq, bne_eq_false_iff_eq]
      by_cases h1 : key a = key b
      · right; exact Classical.not_not.mp (fun h2 => hc ⟨h1, h2⟩)
      · left; exact h1

theorem setParentNone_ok_eq (s s' : G) (t : Uid) (hw : WF s) (h : setParentNone s t = (s', none)) :
    s' = effSetParentNone s t := by
  unfold effSetParentNone
  rcases setParent_cases s t none with ⟨q, hq, e⟩ | ⟨_, ho, s'', e, fp, fc, fpr, fsu, ftid, fo, fn⟩
  · rw [(hq.resolve_left nofun).2]
    exact setParentSome_ok_eq s s' t q hw (e.symm.trans h)
  · cases e.symm.trans h
    rw [ho]
    apply G.eq_of_fields
    exact ⟨fn, fun u => ⟨by rw [ftid], by rw [fp]; rfl, by rw [fc, detachOld_children s t hw u], by rw [fpr], by rw [fsu],
      by rw [fo]⟩⟩

theorem reorderLoop_closed (s : G) (l : List Uid) (hn : l.Nodup) :
    ∀ (ids : List Int) (new rest r : List Uid), reorderLoop s l ids new rest = .ok r →
      rest = l.filter (fun t => !new.contains t) → (∀ x ∈ new, x ∈ l) →
      r = (new ++ ids.filterMap (fun i => l.find? (fun t => s.tid t == i))) ++
          l.filter (fun t => !(new ++ ids.filterMap (fun i => l.find? (fun t => s.tid t == i))).contains t) := by
  intro ids
  induction ids with
  | nil =>
    intro new rest r h hrest _
    simp only [reorderLoop, pure, Except.pure, Except.ok.injEq] at h
    simp [← h, hrest]
  | cons i ids ih =>
    intro new rest r h hrest hnew
    rw [reorderLoop] at h
    split at h
    · cases h
    · rename_i ch hch
      split at h
      · rename_i hc
        have hcl : ch ∈ l := List.mem_of_find?_eq_some hch
        have := ih (new ++ [ch]) (rest.erase ch) r h ?_ ?_
        · rw [this]
          simp [hch]
        · rw [hrest, List.Nodup.erase_eq_filter (hn.filter _), List.filter_filter]
          apply List.filter_congr
          intro x _
          by_cases hx : x = ch <;> simp [hx]
        · intro x hx
          rcases List.mem_append.mp hx with hx | hx
          · exact hnew x hx
          · rw [List.mem_singleton.mp hx]; exact hcl
      · cases h

theorem chReorder_ok_eq (s s' : G) (h : Uid) (ids : List Int) (hw : WF s)
    (hs : chReorder s h ids = (s', none)) : s' = effReorder s h ids := by
  unfold chReorder at hs
  split at hs
  · cases hs
  · rename_i r hr
    injection hs with h1 _
    have := reorderLoop_closed s (s.children h) (hw.once h) ids [] (s.children h) r hr (List.filter_eq_self.mpr (by simp)).symm (by simp)
    subst h1
    apply G.eq_of_fields
    refine ⟨rfl, fun u => ⟨rfl, rfl, ?_, rfl, rfl, rfl⟩⟩
    show upd s.children h r u = if u = h then _ else s.children u
    rw [this]
    simp [upd]

/-! ### owners are determined by the hierarchy on an `Inv` state -/

theorem mem_below (s : G) (hw : WF s) (hb : Bounded s) (ts : List Uid) (x : Uid) :
    x ∈ below s ts ↔ ∃ t ∈ ts, RTC (par s) x t := by
  unfold below
  rw [List.mem_flatMap]
  constructor
  · rintro ⟨t, ht, hx⟩
    obtain ⟨sub, hsub⟩ := subtreeF_children_total s hw hb t
    rw [hsub] at hx
    exact ⟨t, ht, (subtreeF_mem s hw.listed _ t sub hsub x).mp hx⟩
  · rintro ⟨t, ht, hx⟩
    obtain ⟨sub, hsub⟩ := subtreeF_children_total s hw hb t
    refine ⟨t, ht, ?_⟩
    rw [hsub]
    exact (subtreeF_mem s hw.listed _ t sub hsub x).mpr hx

theorem contains_below (s : G) (hw : WF s) (hb : Bounded s) (ts : List Uid) (x : Uid) :
    (below s ts).contains x = true ↔ ∃ t ∈ ts, RTC (par s) x t := by
  rw [List.contains_iff_mem]; exact mem_below s hw hb ts x

/-! ### the closed form of the children setter read with `∈` and the closures -/

theorem effSetChildren_parent (s : G) (h : Uid) (l : List Uid) (x : Uid) :
    (effSetChildren s h l).parent x = if x ∈ l then some h else if x ∈ s.children h then none else s.parent x := by
  show (if (dedupLast l).contains x then some h else if (s.children h).contains x then none else s.parent x) = _
  simp only [contains_dedupLast, List.contains_iff_mem]

theorem effSetChildren_children (s : G) (h : Uid) (l : List Uid) (q : Uid) :
    (effSetChildren s h l).children q = if q = h then dedupLast l else (s.children q).filter (fun c => !l.contains c) := by
  show (if q = h then dedupLast l else (s.children q).filter (fun c => !(dedupLast l).contains c)) = _
  simp only [contains_dedupLast]

theorem effSetChildren_owner (s : G) (h : Uid) (l : List Uid) (hw : WF s) (hb : Bounded s) (x : Uid) :
    ((∃ v ∈ l, RTC (par s) x v) → (effSetChildren s h l).owner x = s.owner h) ∧
    (¬ (∃ v ∈ l, RTC (par s) x v) → Dropped s h l x → (effSetChildren s h l).owner x = none) ∧
    (¬ (∃ v ∈ l, RTC (par s) x v) → ¬ Dropped s h l x → (effSetChildren s h l).owner x = s.owner x) := by
  have ha : (below s (dedupLast l)).contains x = true ↔ ∃ v ∈ l, RTC (par s) x v := by
    simp only [contains_below s hw hb, mem_dedupLast]
  have hr : (below s ((s.children h).filter (fun c => !(dedupLast l).contains c))).contains x = true ↔ Dropped s h l x := by
    simp only [contains_below s hw hb, List.mem_filter, contains_dedupLast, Bool.not_eq_true', ← Bool.not_eq_true,
      List.contains_iff_mem, and_assoc, Dropped]
  have e : (effSetChildren s h l).owner x = if (below s (dedupLast l)).contains x then s.owner h
      else if (below s ((s.children h).filter (fun c => !(dedupLast l).contains c))).contains x then none else s.owner x := rfl
  rw [e]
  exact ⟨fun c1 => by rw [if_pos (ha.mpr c1)], fun c1 c2 => by rw [if_neg (mt ha.mp c1), if_pos (hr.mpr c2)],
    fun c1 c2 => by rw [if_neg (mt ha.mp c1), if_neg (mt hr.mp c2)]⟩

theorem owner_eq_of_top (s s' : G) (hi : Inv s) (hi' : Inv s') (htid : s'.tid = s.tid) (x r : Uid)
    (h1 : RTC (par s) x r) (h2 : s.parent r = none) (h1' : RTC (par s') x r) (h2' : s'.parent r = none) :
    s'.owner x = s.owner x := by
  have hh : s'.hidden r = s.hidden r := hidden_of_tid s s' htid r
  cases hr : s.hidden r with
  | true =>
    rw [(owner_iff_root s hi x r).mpr ⟨h1, hr⟩, (owner_iff_root s' hi' x r).mpr ⟨h1', hh.trans hr⟩]
  | false =>
    rw [(owner_none_iff s hi x).mpr ⟨r, h1, h2, hr⟩, (owner_none_iff s' hi' x).mpr ⟨r, h1', h2', hh.trans hr⟩]

theorem owner_eq_of_parent_eq {s s' : G} (hi : Inv s) (hi' : Inv s') (htid : s'.tid = s.tid) (hp : s'.parent = s.parent)
    (x : Uid) : s'.owner x = s.owner x := by
  obtain ⟨r, hxr, hr⟩ := top_exists s hi.wf hi.bnd x
  exact owner_eq_of_top s s' hi hi' htid x r hxr hr (par_eq_of_parent_eq hp ▸ hxr) (hp ▸ hr)

theorem chain_kept (s s' : G) (keep : Uid → Prop) (hk : ∀ z, keep z → s'.parent z = s.parent z) (x : Uid) :
    ∀ y, RTC (par s) x y → (∀ z, RTC (par s) x z → TC (par s) z y → keep z) → RTC (par s') x y := by
  intro y hxy
  induction hxy with
  | refl => intro _; exact RTC.refl
  | tail hxb hbc ih =>
    intro hz
    refine RTC.tail (ih (fun z h1 h2 => hz z h1 (TC.tail h2 hbc))) ?_
    unfold par at hbc ⊢
    rw [hk _ (hz _ hxb (TC.single hbc))]; exact hbc

theorem owner_after_setChildren (s s' : G) (h : Uid) (l : List Uid) (hi : Inv s) (hi' : Inv s') (htid : s'.tid = s.tid)
    (hne : ∀ v ∈ l, ¬ RTC (par s) h v) (hoh : s'.owner h = s.owner h)
    (hpar : ∀ x, s'.parent x = if x ∈ l then some h else if x ∈ s.children h then none else s.parent x) (x : Uid) :
    ((∃ v ∈ l, RTC (par s) x v) → s'.owner x = s.owner h) ∧
    (¬ (∃ v ∈ l, RTC (par s) x v) → Dropped s h l x → s'.owner x = none) ∧
    (¬ (∃ v ∈ l, RTC (par s) x v) → ¬ Dropped s h l x → s'.owner x = s.owner x) := by
  have hw := hi.wf
  have hkeep : ∀ z, (z ∉ l ∧ z ∉ s.children h) → s'.parent z = s.parent z := by
    intro z hz; rw [hpar, if_neg hz.1, if_neg hz.2]
  refine ⟨?_, ?_, ?_⟩
  · rintro ⟨v, hv, hxv⟩
    rw [← hoh]
    refine owner_of_RTC s' hi'.own.inherit ?_
    have : ∀ y, RTC (fun a b => par s b a) v y → RTC (par s') y h := by
      intro y hy
      induction hy with
      | refl => exact RTC.head (r := par s') (show s'.parent v = some h by rw [hpar, if_pos hv]) RTC.refl
      | tail hvb hbc ih =>
        rename_i b c
        -- `par s c b`, `b` below `v`
        by_cases hcl : c ∈ l
        · exact RTC.head (r := par s') (show s'.parent c = some h by rw [hpar, if_pos hcl]) RTC.refl
        · by_cases hch : c ∈ s.children h
          · have hpc := (hw.listed c h).mpr hch
            have : b = h := by
              have h1 : s.parent c = some b := hbc
              rw [hpc] at h1; exact (Option.some.inj h1).symm
            subst this
            exact absurd (RTC.flip hvb) (hne v hv)
          · refine RTC.head (r := par s') (show s'.parent c = some b from ?_) ih
            rw [hkeep c ⟨hcl, hch⟩]; exact hbc
    exact this x (RTC.unflip hxv)
  · rintro hna ⟨c, hc, hcl, hxc⟩
    have hch : s.hidden c = false := child_not_hidden s hw h c hc
    have hx' : RTC (par s') x c := by
      refine chain_kept s s' _ hkeep x c hxc ?_
      intro z hxz hzc
      exact ⟨fun hzl => hna ⟨z, hzl, hxz⟩, fun hzh => sibling_not_TC s hw h z c hzh hc hzc⟩
    have hp' : s'.parent c = none := by rw [hpar, if_neg hcl, if_pos hc]
    exact (owner_none_iff s' hi' x).mpr ⟨c, hx', hp', (hidden_of_tid s s' htid c).trans hch⟩
  · intro hna hnr
    obtain ⟨r, hxr, hr⟩ := top_exists s hw hi.bnd x
    have hrl : r ∉ l := fun hrl => hna ⟨r, hrl, hxr⟩
    have hrc : r ∉ s.children h := by
      intro hrc
      rw [(hw.listed r h).mpr hrc] at hr; cases hr
    have hx' : RTC (par s') x r := by
      refine chain_kept s s' _ hkeep x r hxr ?_
      intro z hxz _
      refine ⟨fun hzl => hna ⟨z, hzl, hxz⟩, fun hzh => ?_⟩
      exact hnr ⟨z, hzh, fun hzl => hna ⟨z, hzl, hxz⟩, hxz⟩
    exact owner_eq_of_top s s' hi hi' htid x r hxr hr hx' (by rw [hkeep r ⟨hrl, hrc⟩]; exact hr)

theorem setChildren_ok_eq (s s' : G) (h : Uid) (l : List Uid) (hi : Inv s)
    (hv : ∀ v ∈ l, s.hidden v = false) (hh : h < s.n) (hl : ∀ v ∈ l, v < s.n)
    (hs : setChildren s h l = (s', none)) : s' = effSetChildren s h l := by
  have hc := chkChildren_of_ok hs
  have pre := Pre.of_chk s h l hi hv hh hl hc
  obtain ⟨s'', e0, hi', e1, e2, e3, e4, e5, e6, e7⟩ := setChildren_exact s h l pre hc
  cases e0.symm.trans hs
  apply G.eq_of_fields
  refine ⟨e1, fun u => ⟨by rw [e2]; rfl, by rw [e6, effSetChildren_parent], by rw [e7, effSetChildren_children],
    by rw [e3]; rfl, by rw [e4]; rfl, ?_⟩⟩
  obtain ⟨o1, o2, o3⟩ := owner_after_setChildren s s' h l hi hi' e2 (fun v hv => pre.not_RTC hv) e5 e6 u
  obtain ⟨f1, f2, f3⟩ := effSetChildren_owner s h l hi.wf hi.bnd u
  by_cases c1 : ∃ v ∈ l, RTC (par s) u v
  · rw [o1 c1, f1 c1]
  · by_cases c2 : Dropped s h l u
    · rw [o2 c1 c2, f2 c1 c2]
    · rw [o3 c1 c2, f3 c1 c2]

theorem setParent_effect (g g' : G) (c : Uid) (p : Option Uid) (hw : WF g) (ho : g.owner c = none)
    (h : setParent g c p = (g', none)) :
    g'.parent = upd g.parent c p ∧
    ∀ u, g'.children u =
      if p = some u then (g.children u).filter (fun x => x != c) ++ [c] else (g.children u).filter (fun x => x != c) := by
  cases p with
  | some q =>
    rw [setParentSome_ok_eq g g' c q hw h]
    refine ⟨rfl, fun u => ?_⟩
    show (if u = q then _ else _) = _
    by_cases e : u = q
    · subst e; rw [if_pos rfl, if_pos rfl]
    · rw [if_neg e, if_neg (fun e' => e (Option.some.inj e').symm)]
  | none =>
    rw [setParentNone_ok_eq g g' c hw h]
    unfold effSetParentNone
    rw [ho]
    exact ⟨rfl, fun u => (if_neg (by simp)).symm⟩

theorem setChildren_effect (g g' : G) (h : Uid) (l : List Uid) (hi : Inv g) (hv : ∀ v ∈ l, g.hidden v = false)
    (hh : h < g.n) (hl : ∀ v ∈ l, v < g.n) (hs : setChildren g h l = (g', none)) :
    (∀ x, g'.parent x = if x ∈ l then some h else if x ∈ g.children h then none else g.parent x) ∧
    (∀ u, g'.children u = if u = h then dedupLast l else (g.children u).filter (fun x => !l.contains x)) := by
  rw [setChildren_ok_eq g g' h l hi hv hh hl hs]
  exact ⟨effSetChildren_parent g h l, effSetChildren_children g h l⟩

/-- tasks left out of an accepted children assignment end up parentless and, together with their whole subtree,
    ownerless, unless part of that subtree is adopted by the same call: read off the closed form -/
theorem setChildren_released (s s' : G) (h : Uid) (l : List Uid) (hi : Inv s)
    (hv : ∀ v ∈ l, s.hidden v = false) (hh : h < s.n) (hl : ∀ v ∈ l, v < s.n)
    (hok : setChildren s h l = (s', none)) (c : Uid) (hc : c ∈ s.children h)
    (hno : ∀ y ∈ l, ¬ RTC (par s) y c) : Released s s' c := by
  have hw := hi.wf
  have hcl : c ∉ l := fun hm => hno c hm RTC.refl
  have pre := Pre.of_chk s h l hi hv hh hl (chkChildren_of_ok hok)
  rw [setChildren_ok_eq s s' h l hi hv hh hl hok]
  refine ⟨fun x hx => ?_, ?_, fun x hx => ?_⟩
  · rw [effSetChildren_parent, if_neg (fun hm => hno x hm hx.toRTC), if_neg (fun hm => sibling_not_TC s hw h x c hm hc hx)]
  · rw [effSetChildren_parent, if_neg hcl, if_pos hc]
  · refine (effSetChildren_owner s h l hw hi.bnd x).2.1 ?_ ⟨c, hc, hcl, hx⟩
    rintro ⟨t, htl, hxt⟩
    -- two ancestors of `x` are comparable; `t` is not below `c`, and `c`, a child of `h`, is not below `t ∈ l`
    rcases par_chain s hxt hx with e | e
    · exact hno t htl e
    · exact pre.not_RTC htl (par_RTC_step s ((hw.listed c h).mpr hc) e (fun e' => hcl (e' ▸ htl)))

theorem sibling_unique (s : G) (hw : WF s) (h c c' x : Uid) (hc : c ∈ s.children h) (hc' : c' ∈ s.children h)
    (hx : RTC (par s) x c) (hx' : RTC (par s) x c') : c = c' := by
  apply Classical.byContradiction
  intro hne
  exact siblings_disjoint s hw h c c' x ((hw.listed c h).mpr hc) ((hw.listed c' h).mpr hc') hne hx hx'

theorem effSetChildren_filter_eq_effRemove (s : G) (h : Uid) (ts : List Uid) (hi : Inv s) :
    effSetChildren s h ((s.children h).filter (fun c => !ts.contains c)) = effRemove s h ts := by
  have hw := hi.wf
  have hmemL : ∀ u, u ∈ (s.children h).filter (fun c => !ts.contains c) ↔ u ∈ s.children h ∧ u ∉ ts := by
    intro u; rw [List.mem_filter]; simp
  have hmemG : ∀ u, u ∈ (s.children h).filter (fun c => ts.contains c) ↔ u ∈ s.children h ∧ u ∈ ts := by
    intro u; rw [List.mem_filter]; simp
  apply G.eq_of_fields
  refine ⟨rfl, fun u => ⟨rfl, ?_, ?_, rfl, rfl, ?_⟩⟩
  · rw [effSetChildren_parent]
    show _ = if ((s.children h).filter (fun c => ts.contains c)).contains u then none else s.parent u
    simp only [List.contains_iff_mem, hmemL, hmemG]
    by_cases h1 : u ∈ s.children h
    · by_cases h2 : u ∈ ts
      · simp [h1, h2]
      · simp [h1, h2, (hw.listed u h).mpr h1]
    · simp [h1]
  · rw [effSetChildren_children, dedupLast_of_nodup _ ((hw.once h).filter _)]
    show _ = if u = h then (s.children h).filter (fun c => !ts.contains c) else s.children u
    by_cases huh : u = h
    · rw [if_pos huh, if_pos huh]
    · rw [if_neg huh, if_neg huh]
      -- a child of `u` is no child of `h`
      refine List.filter_eq_self.mpr fun c hc => ?_
      rw [Bool.not_eq_true', ← Bool.not_eq_true, List.contains_iff_mem, hmemL]
      intro hcl
      have h2 := (hw.listed c u).mpr hc
      rw [(hw.listed c h).mpr hcl.1] at h2
      exact huh (Option.some.inj h2).symm
  · obtain ⟨f1, f2, f3⟩ := effSetChildren_owner s h ((s.children h).filter (fun c => !ts.contains c)) hw hi.bnd u
    show _ = if (below s ((s.children h).filter (fun c => ts.contains c))).contains u then none else s.owner u
    have hg : (below s ((s.children h).filter (fun c => ts.contains c))).contains u = true ↔
        Dropped s h ((s.children h).filter (fun c => !ts.contains c)) u := by
      simp only [contains_below s hw hi.bnd, Dropped, hmemG, hmemL]
      exact exists_congr fun c => ⟨fun ⟨⟨h1, h2⟩, h3⟩ => ⟨h1, fun h' => h'.2 h2, h3⟩,
        fun ⟨h1, h2, h3⟩ => ⟨⟨h1, Classical.not_not.mp fun h' => h2 ⟨h1, h'⟩⟩, h3⟩⟩
    by_cases c1 : ∃ v ∈ (s.children h).filter (fun c => !ts.contains c), RTC (par s) u v
    · -- below a child that stays: the owner is the one of `h` already, and no sibling is above `u` as well
      obtain ⟨v, hv, huv⟩ := c1
      have c2 : ¬ Dropped s h ((s.children h).filter (fun c => !ts.contains c)) u := by
        rintro ⟨c, hc, hcl, huc⟩
        exact hcl (sibling_unique s hw h v c u ((hmemL v).mp hv).1 hc huv huc ▸ hv)
      rw [f1 ⟨v, hv, huv⟩, if_neg (mt hg.mp c2), owner_of_RTC s hi.own.inherit huv]
      exact (hi.own.inherit v h ((hw.listed v h).mpr ((hmemL v).mp hv).1)).symm
    · by_cases c2 : Dropped s h ((s.children h).filter (fun c => !ts.contains c)) u
      · rw [f2 c1 c2, if_pos (hg.mpr c2)]
      · rw [f3 c1 c2, if_neg (mt hg.mp c2)]

theorem effRemove_nil_of_not_mem (s : G) (h : Uid) (ts : List Uid) (hn : ∀ c ∈ s.children h, c ∉ ts) :
    effRemove s h ts = s := by
  have hg : (s.children h).filter (fun c => ts.contains c) = [] := by
    apply List.filter_eq_nil_iff.mpr
    intro c hc; simpa using hn c hc
  apply G.eq_of_fields
  refine ⟨rfl, fun u => ⟨rfl, ?_, ?_, rfl, rfl, ?_⟩⟩
  · show (if ((s.children h).filter (fun c => ts.contains c)).contains u then none else s.parent u) = _
    rw [hg]; simp
  · show (if u = h then (s.children h).filter (fun c => !ts.contains c) else s.children u) = _
    by_cases huh : u = h
    · subst huh
      rw [if_pos rfl]
      apply List.filter_eq_self.mpr
      intro c hc; simpa using hn c hc
    · rw [if_neg huh]
  · show (if (below s ((s.children h).filter (fun c => ts.contains c))).contains u then none else s.owner u) = _
    rw [hg]; simp [below]

theorem chRemove_ok_eq (s s' : G) (h t : Uid) (hi : Inv s) (hs : chRemove s h t = (s', none)) :
    s' = effRemove s h [t] := by
  unfold chRemove at hs
  split at hs
  · rename_i hc
    have htc : t ∈ s.children h := by simpa using hc
    have hfe : (s.children h).filter (fun x => x != t) = (s.children h).filter (fun c => ![t].contains c) := by
      apply List.filter_congr
      intro x _
      by_cases hx : x = t <;> simp [hx]
    rw [hfe] at hs
    rw [← effSetChildren_filter_eq_effRemove s h [t] hi]
    refine setChildren_ok_eq s s' h _ hi ?_ (hi.bnd.children h t htc).1 ?_ hs
    · intro v hv; exact (children_ok s hi h v (List.mem_filter.mp hv).1).1
    · intro v hv; exact (children_ok s hi h v (List.mem_filter.mp hv).1).2
  · rename_i hc
    have htc : t ∉ s.children h := by simpa using hc
    injection hs with h1 _
    rw [← h1, effRemove_nil_of_not_mem]
    intro c hc' hct
    rw [List.mem_singleton] at hct
    subst hct; exact htc hc'

/-- removing children of `h` is what assigning the remaining ones does -/
theorem effRemove_Inv (s : G) (h : Uid) (ts : List Uid) (hi : Inv s) : Inv (effRemove s h ts) := by
  by_cases hh : h < s.n
  · have hok : ∀ v ∈ (s.children h).filter (fun c => !ts.contains c), s.hidden v = false ∧ v < s.n :=
      fun v hv => children_ok s hi h v (List.mem_filter.mp hv).1
    have hacc := setChildren_atomic s h _ hi (fun v hv => (hok v hv).1) hh (fun v hv => (hok v hv).2)
      (chkChildren_sublist s h _ hi (fun v hv => (List.mem_filter.mp hv).1))
    rw [← effSetChildren_filter_eq_effRemove s h ts hi,
      ← setChildren_ok_eq s _ h _ hi (fun v hv => (hok v hv).1) hh (fun v hv => (hok v hv).2) (eq_of_ok _ hacc)]
    exact setChildren_Inv s h _ hi (fun v hv => (hok v hv).1) hh (fun v hv => (hok v hv).2)
  · rw [effRemove_nil_of_not_mem s h ts (fun c hc => absurd (hi.bnd.children h c hc).1 hh)]
    exact hi

/-- parents and children lists by computation, owners because both states satisfy the invariant -/
theorem effRemove_comp (s : G) (h t : Uid) (ts : List Uid) (hi : Inv s) :
    effRemove (effRemove s h [t]) h ts = effRemove s h (t :: ts) := by
  have hc1 : (effRemove s h [t]).children h = (s.children h).filter (fun c => ![t].contains c) := by
    simp [effRemove]
  have hpar : ∀ u, (effRemove (effRemove s h [t]) h ts).parent u = (effRemove s h (t :: ts)).parent u := by
    intro u
    show (if (((effRemove s h [t]).children h).filter (fun c => ts.contains c)).contains u then none
        else if ((s.children h).filter (fun c => [t].contains c)).contains u then none else s.parent u) =
      if ((s.children h).filter (fun c => (t :: ts).contains c)).contains u then none else s.parent u
    rw [hc1]
    simp only [List.contains_iff_mem, List.mem_filter, List.mem_cons, List.not_mem_nil, or_false, Bool.not_eq_true']
    by_cases h1 : u ∈ s.children h <;> by_cases h2 : u = t <;> by_cases h3 : u ∈ ts <;> simp [h1, h2, h3]
  apply G.eq_of_fields
  refine ⟨rfl, fun u => ⟨rfl, hpar u, ?_, rfl, rfl, ?_⟩⟩
  · show (if u = h then ((effRemove s h [t]).children h).filter (fun c => !ts.contains c)
        else (effRemove s h [t]).children u) =
      if u = h then (s.children h).filter (fun c => !(t :: ts).contains c) else s.children u
    by_cases huh : u = h
    · rw [if_pos huh, if_pos huh, hc1, List.filter_filter]
      apply List.filter_congr
      intro c _
      by_cases h2 : c = t <;> simp [h2]
    · rw [if_neg huh, if_neg huh]
      show (if u = h then _ else s.children u) = _
      rw [if_neg huh]
  · exact owner_eq_of_parent_eq (effRemove_Inv s h _ hi) (effRemove_Inv _ h ts (effRemove_Inv s h [t] hi)) rfl
      (funext hpar) u

theorem chRemoveAll_ok_eq (h : Uid) : ∀ (ts : List Uid) (s s' : G), Inv s →
    forEach (fun s t => chRemove s h t) s ts = (s', none) → s' = effRemove s h ts := by
  intro ts
  induction ts with
  | nil =>
    intro s s' _ hs
    simp only [forEach] at hs
    injection hs with h1 _
    rw [← h1, effRemove_nil_of_not_mem]
    intro c _ hc; cases hc
  | cons t ts ih =>
    intro s s' hi hs
    rw [forEach] at hs
    have hok := chRemove_ok s h t hi
    have he := eq_of_ok _ hok
    have h1 := chRemove_ok_eq s _ h t hi he
    have hi1 : Inv (chRemove s h t).1 := (ICall.kept (Q := False) (.chRemove hi.stored h t) hi).inv
    rw [he] at hs
    rw [ih _ s' hi1 hs, h1]
    exact effRemove_comp s h t ts hi

theorem wbsRemove_ok_eq (s s' : G) (w t : Uid) (hi : Inv s) (hw : s.hidden w = true)
    (hs : wbsRemove s w t = (s', none)) :
    s' = if s.owner t == some w && t != w then (match s.parent t with | some p => effRemove s p [t] | none => s) else s := by
  rcases wbsRemove_cases s w t hi with ⟨p, hp, hpw, e⟩ | ⟨e, hn⟩ <;> rw [e] at hs
  · have hpar : s.parent t = some p := (hi.wf.listed t p).mpr hp
    have htw : TC (par s) t w := TC.of_step_RTC (r := par s) hpar hpw
    have hown : s.owner t = some w := (owner_iff_root s hi t w).mpr ⟨htw.toRTC, hw⟩
    have hne : t ≠ w := fun e => hi.wf.forest t (e ▸ htw)
    rw [if_pos (by simp [hown, hne]), hpar]
    exact chRemove_ok_eq s s' p t hi hs
  · rw [if_neg]
    · injection hs with h1 _; exact h1.symm
    · intro hc
      simp only [Bool.and_eq_true, beq_iff_eq, bne_iff_ne, ne_eq] at hc
      rcases ((owner_iff_root s hi t w).mp hc.1).1.cases_eq_or_TC with e | e
      · exact hc.2 e
      · exact hn e

/-- C16: an accepted call of an operation with a closed-form description leaves exactly the described state -/
theorem step_effect (s s' e : G) (op : Op) (hi : Inv s) (hl : op.legal s) (he : effOf s op = some e)
    (h : step s op = (s', none)) : s' = e := by
  have hr := hl.inRange
  have hv := hl.visible
  cases op
  case setParent t p =>
    cases p <;> cases he
    · exact setParentNone_ok_eq s s' t hi.wf h
    · exact setParentSome_ok_eq s s' t _ hi.wf h
  case chAppend h' t => cases he; exact setParentSome_ok_eq s s' t h' hi.wf h
  case setChildren h' l =>
    cases he
    exact setChildren_ok_eq s s' h' l hi hv (hr h' List.mem_cons_self) (fun v hvl => hr v (List.mem_cons_of_mem _ hvl)) h
  case floordiv h' l =>
    cases he
    have hok := List.forall_mem_append.mpr
      ⟨children_ok s hi h', fun v hvl => ⟨hv v hvl, hr v (List.mem_cons_of_mem _ hvl)⟩⟩
    exact setChildren_ok_eq s s' h' _ hi (fun v hvl => (hok v hvl).1) (hr h' List.mem_cons_self)
      (fun v hvl => (hok v hvl).2) h
  case chInsert h' i t =>
    cases he
    have hok : ∀ v ∈ pyInsert ((s.children h').filter (fun x => x != t)) i t, s.hidden v = false ∧ v < s.n := by
      intro v hvl
      rcases mem_pyInsert _ _ _ _ hvl with rfl | hvl
      · exact ⟨hv v List.mem_cons_self, hr v (List.mem_cons_of_mem _ List.mem_cons_self)⟩
      · exact children_ok s hi h' v (List.mem_filter.mp hvl).1
    exact setChildren_ok_eq s s' h' _ hi (fun v hvl => (hok v hvl).1) (hr h' List.mem_cons_self)
      (fun v hvl => (hok v hvl).2) h
  case chRemove h' t => cases he; exact chRemove_ok_eq s s' h' t hi h
  case chRemoveAll h' ts => cases he; exact chRemoveAll_ok_eq h' ts s s' hi h
  case wbsRemove w t => cases he; exact wbsRemove_ok_eq s s' w t hi (hl.wbs w t (Or.inl rfl)) h
  case chReorder h' ids => cases he; exact chReorder_ok_eq s s' h' ids hi.wf h
  case setPreds t l => cases he; exact setPreds_ok_eq s s' t l h
  case setSuccs t l => cases he; exact setSuccs_ok_eq s s' t l h
  case prAppend t x => cases he; exact setPreds_ok_eq s s' t _ h
  case suAppend t x => cases he; exact setSuccs_ok_eq s s' t _ h
  case lshift t l => cases he; exact setPreds_ok_eq s s' t _ h
  case rshift t l => cases he; exact setSuccs_ok_eq s s' t _ h
  case prRemove t x =>
    cases he
    simp only [step, prRemove] at h
    split at h
    · rename_i hc; rw [if_pos hc]; exact setPreds_ok_eq s s' t _ h
    · rename_i hc; rw [if_neg hc]; injection h with h1 _; exact h1.symm
  case suRemove t x =>
    cases he
    simp only [step, suRemove] at h
    split at h
    · rename_i hc; rw [if_pos hc]; exact setSuccs_ok_eq s s' t _ h
    · rename_i hc; rw [if_neg hc]; injection h with h1 _; exact h1.symm
  all_goals cases he

end Pj

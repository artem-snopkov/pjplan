/-
  Lemmas/CsvSrcD.lean — CSV I/O (io/csv_io.py, io/raw.py): what the translated tie covers, and the NEGATIVE CHECK.

  Program: Extracted/CsvSrc.lean (`csvFuns`, 13 functions, regenerated by tools/extract_csv.py, key `csv_src`), run by
  `runIO L csvFuns F` over the I/O library of Model/PyLiteIO.lean; the setting (`WbsD`, `recsOf`, `interpWrite`,
  `interpRead`, `expectRead`, `sampleLib`) is Lemmas/CsvSrc.lean.

  Proved for every library `L`: the seven cell functions and `__parse_header` (CsvSrcA, CsvSrcB1), `write_csv` of a
    well-formed description (`write_csv_eq`, CsvSrcW), and the success direction of `read_csv` down to the closed form of
    the store it returns (CsvSrcR / S / T: `read_csv_reduce`, `read_csv_run2`, `final_roots` / `final_kids` /
    `final_parent` / `final_preds`, `final_tasks`).  Not proved in general: that this closed form is the model's `readCsv`
    + `rebuildForest` (`expectRead`; what is missing: the header of CsvSrcT.lean), and the error direction of `read_csv`.
  Runs with `sampleLib`.  CsvSrcCheckA: 30 evaluated runs of the cell functions and of `__parse_header`.  CsvSrcCheckB:
    `interpWrite sampleLib FF W = .ok (writeCsv (recsOf sampleLib W))` for `w0`, `w1`, `w2`, instances of `write_csv_eq`.
    CsvSrcCheckC: `observeRead (interpRead sampleLib FF text) = expectRead sampleLib text` on the three written files and
    on `t1`, `t2`, `t3` (no `min_start` column, a child before its parent, a dangling parent id, a BOM with permuted
    columns, sibling order), instances of `read_csv_run2` (`agree_of`: its hypotheses tested on the file, the tasks read
    off the closed form of the store and compared with `expectRead` by evaluation); the error cases are evaluated runs.
  Disagreements found: none on the inputs checked.  Observations (the model does not speak about them): `write_csv`
    ALWAYS emits a `min_start` column (it travels as a custom attribute of `TaskRaw`); every task read back carries the
    extra attributes `parent_id` and `predecessor_ids` (`k not in dir(t)`); a predecessor id that names no task is
    RuntimeError (`wbs[id]`), the `if predecessor_task is not None` is dead.

  NEGATIVE CHECK (scratch copies of csv_io.py / raw.py, translator + the three Check files re-built on the mutant.  CheckA
  and the error cases of CheckC are evaluated runs; CheckB and the agreeing runs of CheckC are instances of `write_csv_eq` /
  `read_csv_run2`, so on a translated mutant those theorems fail first.  Miss = the translator refuses the edited source
  (it leaves the translatable fragment), which the check reports as a broken tie):
    `%y` pivot hand-rolled with 68 (tuple assignment, `datetime(...)`)        Miss (__parse_date: assignment)
    `return _val or ''` in `__format_custom`                                   Miss (`or` as a value)
    `return _val if _val else ''` in `__format_custom`                         translated; CheckA (format_custom 0 / False) and
                                                                               CheckB (`w1`) fail
    digits-only float parser (`_val.isdigit()`)                                Miss (__parse_float: call)
    `min_start` defaulting to start: `.get('min_start', raw.start)`            Miss;  `min_start=raw.start`: translated,
                                                                               CheckC fails (w1, t1, t2)
    predecessor ids through a set (`list(set(...))`)                           Miss (tasks_to_raws: call)
    negative predecessor ids dropped (`if not v.startswith('-')`)              translated; CheckA ("-3;5;0"), CheckC fail
    `splitlines` reader                                                        Miss (read_csv: call)
    sibling order reversed (`children.insert(0, task)` / `reversed(raws)`)     Miss (both)
    custom columns sorted (`sorted(fields.keys())`)                            Miss (write_csv: call)
    `__parse_bool`: `_val != ''`                                               translated; CheckA, CheckC fail
  Harmless rewrites: `if _val == ''` for `if len(_val) == 0` and `'' if not task.name else task.name` - translated, a
    different term, all checks pass; the keyword arguments of `Task(...)` in another order - the same term.

  Limitations.  (1) Numbers are rationals: `str` of an int and of a float with the same value coincide (`sampleLib`
    prints 2.0 as "2"); `L` is a parameter.  (2) The `Task` / `WBS` library is primitive with the naive meaning of
    Model/PyLiteIO.lean (`setParent` etc.; the relation setters are the subject of Lemmas/TaskSrc*.lean); `Task()` only
    checks negative estimate / spent.  (3) `TaskRaw(...)` arguments are evaluated in the order of the signature, not of the
    call (they only read).  (4) The csv reader is eager (Python's is lazy: an error in a later line surfaces later,
    nothing observable happens in between).  (5) `encoding` is ignored, `delimiter` must be ';' (anything else is stuck).
    (6) `type(v).__name__` is a library parameter (the value is dead).
-/
import PjVerif.Lemmas.CsvSrcA

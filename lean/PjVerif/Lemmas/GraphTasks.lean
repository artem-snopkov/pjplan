/-
  Lemmas/GraphTasks.lean — shape and order of a successful `descF` enumeration (depth first, siblings in list order, no
  repetition on a forest), hence `WBS.tasks`, `wbs[id]` and membership, for Props/C05.lean and Props/C11.lean.
-/
import PjVerif.Lemmas.GraphInvStep
namespace Pj

/-- the enumeration below `c` with fuel `f`, `[]` when the fuel runs out -/
def dsc (next : Uid → List Uid) (f : Nat) (c : Uid) : List Uid := (descF next f c).getD []

theorem descF_succ_eq (next : Uid → List Uid) (f : Nat) (t : Uid) (l : List Uid)
    (h : descF next (f + 1) t = some l) :
    (∀ c ∈ next t, descF next f c = some (dsc next f c)) ∧
    l = ((next t).map (fun c => c :: dsc next f c)).flatten := by
  simp only [descF, Option.map_eq_some_iff] at h
  obtain ⟨ll, hll, rfl⟩ := h
  have h1 : ∀ c ∈ next t, descF next f c = some (dsc next f c) := by
    intro c hc
    obtain ⟨b, _, hg⟩ := mapM_some_mem _ _ _ hll c hc
    simp only [Option.map_eq_some_iff] at hg
    obtain ⟨r', hr', _⟩ := hg
    simp [dsc, hr']
  refine ⟨h1, ?_⟩
  congr 1
  refine mapM_some_eq_map _ _ _ _ hll ?_
  intro c hc b hb
  rw [h1 c hc] at hb
  simpa using hb.symm

theorem descF_eq_flatten (next : Uid → List Uid) (f : Nat) (t : Uid) (l : List Uid)
    (h : descF next f t = some l) :
    (∀ c ∈ next t, descF next f c = some (dsc next f c)) ∧
    l = ((next t).map (fun c => c :: dsc next f c)).flatten := by
  cases f with
  | zero => simp [descF] at h
  | succ f =>
    obtain ⟨h1, h2⟩ := descF_succ_eq next f t l h
    have h3 : ∀ c ∈ next t, descF next (f + 1) c = some (dsc next f c) :=
      fun c hc => descF_mono next f c _ (h1 c hc)
    have h4 : ∀ c ∈ next t, dsc next (f + 1) c = dsc next f c := by
      intro c hc; simp [dsc, h3 c hc]
    refine ⟨fun c hc => by rw [h4 c hc]; exact h3 c hc, ?_⟩
    rw [h2]
    congr 1
    apply List.map_congr_left
    intro c hc
    rw [h4 c hc]

theorem descF_total_below (next : Uid → List Uid) (f : Nat) (t : Uid) (l : List Uid)
    (h : descF next f t = some l) : ∀ x ∈ l, ∃ d, descF next f x = some d := by
  intro x hx
  have hr := descF_sound next f t l h x hx
  clear hx
  induction hr with
  | single hc => exact ⟨_, (descF_eq_flatten next f t l h).1 _ hc⟩
  | tail _ hc ih =>
    obtain ⟨d, hd⟩ := ih
    exact ⟨_, (descF_eq_flatten next f _ d hd).1 _ hc⟩

/-! ### depth-first order: every listed node is directly followed by its own enumeration -/

theorem flatten_map_split {γ : Type} (g : Uid → List γ) (cs1 cs2 : List Uid) (c : Uid) :
    ((cs1 ++ c :: cs2).map g).flatten = (cs1.map g).flatten ++ g c ++ (cs2.map g).flatten := by
  simp [List.append_assoc]

theorem descF_segment (next : Uid → List Uid) (f : Nat) (t0 : Uid) (l : List Uid)
    (h : descF next f t0 = some l) :
    ∀ t, t ∈ l → ∃ pre post d, descF next f t = some d ∧ l = pre ++ t :: d ++ post := by
  induction f generalizing t0 l with
  | zero => simp [descF] at h
  | succ f ih =>
    intro t ht
    obtain ⟨h1, h2⟩ := descF_succ_eq next f t0 l h
    rw [h2] at ht
    obtain ⟨b, hb, htb⟩ := List.mem_flatten.mp ht
    obtain ⟨c, hc, rfl⟩ := List.mem_map.mp hb
    obtain ⟨cs1, cs2, hsplit⟩ := List.append_of_mem hc
    have hl : l = ((cs1.map (fun c => c :: dsc next f c)).flatten) ++ (c :: dsc next f c) ++
        ((cs2.map (fun c => c :: dsc next f c)).flatten) := by
      rw [h2, hsplit, flatten_map_split]
    rcases List.mem_cons.mp htb with rfl | htd
    · exact ⟨_, _, dsc next f t, descF_mono next f t _ (h1 t hc), hl⟩
    · obtain ⟨pre, post, d, hd, hsplit'⟩ := ih c _ (h1 c hc) t htd
      refine ⟨(cs1.map (fun c => c :: dsc next f c)).flatten ++ c :: pre,
        post ++ (cs2.map (fun c => c :: dsc next f c)).flatten, d, descF_mono next f t d hd, ?_⟩
      rw [hl, hsplit']
      simp [List.append_assoc]

theorem flatten_map_nodup (g : Uid → List Uid) (cs : List Uid) (hn : cs.Nodup)
    (h1 : ∀ c ∈ cs, (g c).Nodup)
    (h2 : ∀ c ∈ cs, ∀ c' ∈ cs, c ≠ c' → ∀ x, x ∈ g c → x ∈ g c' → False) :
    ((cs.map g).flatten).Nodup := by
  induction cs with
  | nil => simp
  | cons c cs ih =>
    rw [List.map_cons, List.flatten_cons, List.nodup_append]
    obtain ⟨hc, hn'⟩ := List.nodup_cons.mp hn
    refine ⟨h1 c List.mem_cons_self, ?_, ?_⟩
    · exact ih hn' (fun c' hc' => h1 c' (List.mem_cons_of_mem _ hc'))
        (fun a ha b hb => h2 a (List.mem_cons_of_mem _ ha) b (List.mem_cons_of_mem _ hb))
    · intro a ha b hb hab
      subst hab
      obtain ⟨lb, hlb, hbl⟩ := List.mem_flatten.mp hb
      obtain ⟨c', hc', rfl⟩ := List.mem_map.mp hlb
      refine h2 c List.mem_cons_self c' (List.mem_cons_of_mem _ hc') ?_ a ha hbl
      intro e; subst e; exact hc hc'

theorem siblings_disjoint (s : G) (hw : WF s) (t c c' x : Uid) (hc : s.parent c = some t)
    (hc' : s.parent c' = some t) (hne : c ≠ c') (hx : RTC (par s) x c) (hx' : RTC (par s) x c') : False := by
  have key : ∀ a b, s.parent a = some t → s.parent b = some t → a ≠ b → RTC (par s) a b → False := by
    intro a b ha hb hab hr
    rcases hr.cases_eq_or_TC with e | e
    · exact hab e
    · rcases par_TC_cases s ha e with rfl | e'
      · exact hw.forest b (TC.single hb)
      · exact hw.forest b (TC.head (r := par s) hb e')
  rcases par_chain s hx hx' with h | h
  · exact key c c' hc hc' hne h
  · exact key c' c hc' hc (Ne.symm hne) h

theorem sibling_not_TC (s : G) (hw : WF s) (h z c : Uid) (hz : z ∈ s.children h) (hc : c ∈ s.children h) :
    ¬ TC (par s) z c := by
  intro hzc
  have hpc : par s c h := (hw.listed c h).mpr hc
  rcases par_TC_cases s ((hw.listed z h).mpr hz) hzc with e | e
  · subst e; exact hw.forest c (TC.single hpc)
  · exact hw.forest h (TC.tail e hpc)

theorem descF_children_nodup (s : G) (hw : WF s) (f : Nat) (t : Uid) (l : List Uid)
    (h : descF s.children f t = some l) : l.Nodup := by
  induction f generalizing t l with
  | zero => simp [descF] at h
  | succ f ih =>
    obtain ⟨h1, h2⟩ := descF_succ_eq s.children f t l h
    rw [h2]
    have hmem : ∀ c ∈ s.children t, ∀ x, x ∈ c :: dsc s.children f c → RTC (par s) x c := by
      intro c hc x hx
      rcases List.mem_cons.mp hx with rfl | hx
      · exact RTC.refl
      · exact ((descF_mem s hw.listed f c _ (h1 c hc) x).mp hx).toRTC
    refine flatten_map_nodup _ _ (hw.once t) ?_ ?_
    · intro c hc
      refine List.nodup_cons.mpr ⟨?_, ih c _ (h1 c hc)⟩
      intro hcc
      exact hw.forest c ((descF_mem s hw.listed f c _ (h1 c hc) c).mp hcc)
    · intro c hc c' hc' hne x hx hx'
      exact siblings_disjoint s hw t c c' x ((hw.listed c t).mpr hc) ((hw.listed c' t).mpr hc') hne
        (hmem c hc x hx) (hmem c' hc' x hx')

theorem idxOf_cons_ne (l : List Uid) (a x : Uid) (h : x ≠ a) : (a :: l).idxOf x = l.idxOf x + 1 := by
  rw [List.idxOf_cons]
  have : (a == x) = false := by simpa using fun e => h e.symm
  rw [this]; rfl

theorem sublist_idxOf_lt {l L : List Uid} (h : l.Sublist L) (hn : L.Nodup) {a b : Uid} (hb : b ∈ l)
    (hidx : l.idxOf a < l.idxOf b) : L.idxOf a < L.idxOf b := by
  have ha : a ∈ l := List.idxOf_lt_length_iff.mp (Nat.lt_of_lt_of_le hidx List.idxOf_le_length)
  induction h with
  | slnil => cases hb
  | @cons l L x h ih =>
    obtain ⟨hx, hn⟩ := List.nodup_cons.mp hn
    rw [idxOf_cons_ne L x a (fun e => hx (e ▸ h.mem ha)), idxOf_cons_ne L x b (fun e => hx (e ▸ h.mem hb))]
    exact Nat.succ_lt_succ (ih hn hb hidx ha)
  | @cons_cons l L x h ih =>
    obtain ⟨_, hn⟩ := List.nodup_cons.mp hn
    have hbx : b ≠ x := fun e => by rw [e, List.idxOf_cons_self] at hidx; cases hidx
    rw [idxOf_cons_ne _ x b hbx] at hidx ⊢
    by_cases ea : a = x
    · rw [ea, List.idxOf_cons_self]; exact Nat.succ_pos _
    · rw [idxOf_cons_ne _ x a ea] at hidx ⊢
      exact Nat.succ_lt_succ (ih hn ((List.mem_cons.mp hb).resolve_left hbx) (Nat.lt_of_succ_lt_succ hidx)
        ((List.mem_cons.mp ha).resolve_left ea))

theorem heads_sublist_flatten {α : Type} (g : α → List α) : ∀ l : List α, l.Sublist (l.map (fun c => c :: g c)).flatten
  | [] => .slnil
  | a :: l => by
    rw [List.map_cons, List.flatten_cons, List.cons_append]
    exact (List.sublist_append_of_sublist_right (heads_sublist_flatten g l)).cons_cons a

theorem descF_next_sublist (next : Uid → List Uid) (f : Nat) (t : Uid) (d : List Uid) (h : descF next f t = some d) :
    (next t).Sublist d := by
  rw [(descF_eq_flatten next f t d h).2]; exact heads_sublist_flatten _ _

/-- pre-order: every listed node is followed by its `next`-list, in list order -/
theorem subtreeF_preorder (next : Uid → List Uid) (f : Nat) (r : Uid) (S : List Uid) (h : subtreeF next f r = some S) :
    ∀ t ∈ S, (t :: next t).Sublist S := by
  obtain ⟨D, hD, rfl⟩ := Option.map_eq_some_iff.mp h
  intro t ht
  rcases List.mem_cons.mp ht with rfl | ht
  · exact (descF_next_sublist next f t D hD).cons_cons t
  · obtain ⟨pre, post, d, hd, rfl⟩ := descF_segment next f r D hD t ht
    rw [List.append_assoc]
    exact (List.sublist_append_of_sublist_right
      (List.sublist_append_of_sublist_left ((descF_next_sublist next f t d hd).cons_cons t))).cons r

theorem descF_order (s : G) (hw : WF s) (f : Nat) (w : Uid) (l : List Uid)
    (h : descF s.children f w = some l) (p a b : Uid) (hp : p = w ∨ p ∈ l)
    (hidx : (s.children p).idxOf a < (s.children p).idxOf b) (hb : b ∈ s.children p) :
    l.idxOf a < l.idxOf b := by
  refine sublist_idxOf_lt ?_ (descF_children_nodup s hw f w l h) hb hidx
  rcases hp with rfl | hp
  · exact descF_next_sublist _ f p l h
  · obtain ⟨pre, post, d, hd, rfl⟩ := descF_segment s.children f w l h p hp
    rw [List.append_assoc]
    exact List.sublist_append_of_sublist_right
      (List.sublist_append_of_sublist_left ((descF_next_sublist _ f p d hd).cons p))

/-- the monitor's `preorder` (Spec/Graph.lean) is the model's `WBS.tasks` -/
theorem preorder_eq (s : G) (w : Uid) : preorder s w = wbsTasks s w := rfl

theorem wbsTasks_spec (s : G) (w : Uid) (hi : Inv s) :
    ∃ l, wbsTasks s w = some l ∧ l.Nodup ∧ ∀ t, t ∈ l ↔ TC (par s) t w := by
  obtain ⟨l, hl⟩ := descF_children_total s hi.wf hi.bnd w
  exact ⟨l, hl, descF_children_nodup s hi.wf _ w l hl, descF_mem s hi.wf.listed _ w l hl⟩

theorem member_unique (s : G) (hi : Inv s) (w t t' : Uid) (ht : TC (par s) t w) (ht' : TC (par s) t' w)
    (hid : s.tid t = s.tid t') : t = t' := by
  apply Classical.byContradiction
  intro hne
  exact hi.ids t t' hne (not_hidden_of_TC s hi.wf t w ht) (not_hidden_of_TC s hi.wf t' w ht')
    ⟨w, ht.toRTC, ht'.toRTC⟩ hid

theorem wbsGet_ok_iff (s : G) (w : Uid) (i : Int) (t : Uid) (hi : Inv s) :
    wbsGet s w i = .ok t ↔ (TC (par s) t w ∧ s.tid t = i) := by
  obtain ⟨l, hl, _, hmem⟩ := wbsTasks_spec s w hi
  simp only [wbsGet, hl]
  constructor
  · intro h
    split at h
    · rename_i t' hf
      cases h
      exact ⟨(hmem t).mp (List.mem_of_find?_eq_some hf), by simpa using List.find?_some hf⟩
    · cases h
  · rintro ⟨ht, hid⟩
    split
    · rename_i t' hf
      have h1 := (hmem t').mp (List.mem_of_find?_eq_some hf)
      have h2 : s.tid t' = i := by simpa using List.find?_some hf
      rw [member_unique s hi w t t' ht h1 (by rw [hid, h2])]
    · rename_i hf
      exact absurd (by simpa using hid) (List.find?_eq_none.mp hf t ((hmem t).mpr ht))

theorem wbsGet_error_iff (s : G) (w : Uid) (i : Int) (hi : Inv s) :
    wbsGet s w i = .error .runtime ↔ ¬ ∃ t, TC (par s) t w ∧ s.tid t = i := by
  obtain ⟨l, hl, _, hmem⟩ := wbsTasks_spec s w hi
  simp only [wbsGet, hl]
  constructor
  · intro h
    split at h
    · cases h
    · rename_i hf
      rintro ⟨t, ht, hid⟩
      exact List.find?_eq_none.mp hf t ((hmem t).mpr ht) (by simpa using hid)
  · intro h
    split
    · rename_i t' hf
      exact absurd ⟨t', (hmem t').mp (List.mem_of_find?_eq_some hf), by simpa using List.find?_some hf⟩ h
    · rfl

theorem setChildren_clash (s : G) (h : Uid) (l : List Uid)
    (hown : ∀ e, (match s.owner h with
                  | none => if l.any (fun v => (s.owner v).isSome) then some Err.runtime else none
                  | some w => if l.any (fun v => (s.owner v).isSome && s.owner v != some w) then some Err.runtime else none) = some e
              → e = .runtime)
    (hclash : hasIdIntersection s h l = some true) : setChildren s h l = (s, some .runtime) := by
  have hc : chkChildren s h l = some .runtime := by
    unfold chkChildren
    simp only
    split
    · rename_i e he
      rw [hown e he]
    · rw [hclash]
  exact setChildren_of_rejected hc

theorem owner_member_iff (s : G) (w t : Uid) (hi : Inv s) (hw : s.hidden w = true) (ht : s.hidden t = false) :
    s.owner t = some w ↔ ∃ l, wbsTasks s w = some l ∧ t ∈ l := by
  obtain ⟨l, hl, _, hmem⟩ := wbsTasks_spec s w hi
  rw [owner_iff_root s hi t w]
  constructor
  · rintro ⟨hr, _⟩
    refine ⟨l, hl, (hmem t).mpr ?_⟩
    rcases hr.cases_eq_or_TC with e | e
    · subst e; rw [hw] at ht; cases ht
    · exact e
  · rintro ⟨l', hl', htl⟩
    rw [hl] at hl'; cases hl'
    exact ⟨((hmem t).mp htl).toRTC, hw⟩

theorem owner_none_iff_noWbs (s : G) (t : Uid) (hi : Inv s) :
    s.owner t = none ↔ ∀ w, s.hidden w = true → ¬ RTC (par s) t w := by
  rw [Option.eq_none_iff_forall_ne_some]
  exact forall_congr' fun w => by rw [Ne, owner_iff_root s hi t w, not_and']

/-- a task outside every WBS whose subtree shares no id with the members of `w` can be attached to `w`; it need not
    be the top of its detached tree -/
theorem reattach (s : G) (w t : Uid) (hi : Inv s) (hw : s.hidden w = true) (ht : s.hidden t = false)
    (hdet : s.owner t = none)
    (hids : ∀ x y, RTC (par s) x t → TC (par s) y w → s.tid x ≠ s.tid y) :
    ∃ s', chAppend s w t = (s', none) ∧ s'.owner t = some w := by
  have hwf := hi.wf
  have hwp := (hwf.rootsTop w hw).1
  have hchk : chkParentSome s t w = none := by
    refine chkParentSome_ok s t w hwf hi.bnd ?_ ?_ (attach_root s hwf hw (fun e => by rw [e, ht] at hw; cases hw))
    · intro w' ho
      rw [hdet] at ho; cases ho
    · intro _
      refine (hasId_false_iff s hwf hi.bnd w [t]).mpr ⟨?_, ?_⟩
      · -- the receiving tree is `w` with its members: the root is hidden, the members are covered by `hids`
        rintro a ⟨c, hc, hac⟩ _ b hb
        cases List.mem_singleton.mp hc
        rcases ((sameTree_iff_top s RTC.refl hwp).mp hb).cases_eq_or_TC with e | e
        · rw [e]; exact tid_ne_of_hidden s (below_not_hidden s hwf ht hac) hw
        · exact hids a b hac e
      · rintro a a' ⟨c, hc, hac⟩ ⟨c', hc', hac'⟩ _ _ hne
        cases List.mem_singleton.mp hc
        cases List.mem_singleton.mp hc'
        exact hi.ids a a' hne (below_not_hidden s hwf ht hac) (below_not_hidden s hwf ht hac') ⟨t, hac, hac'⟩
  obtain ⟨m, he⟩ := setParentSome_Moved s t w hwf hchk
  exact ⟨_, eq_of_ok _ he, m.ownIn t w (hi.own.root w hw) RTC.refl⟩

/-- what "the subtree of `c` (as it was in `s`) is released in `cur`" means -/
structure Released (s cur : G) (c : Uid) : Prop where
  keep : ∀ x, TC (par s) x c → cur.parent x = s.parent x
  top : cur.parent c = none
  own : ∀ x, RTC (par s) x c → cur.owner x = none

theorem Released.closed {s cur : G} {c : Uid} (hr : Released s cur c) {x y : Uid}
    (hx : RTC (par s) x c) (hxy : RTC (par cur) x y) : RTC (par s) y c := by
  induction hxy with
  | refl => exact hx
  | @tail b y _ hstep ih =>
    rcases ih.cases_eq_or_TC with e | e
    · subst e
      have : cur.parent b = some y := hstep
      rw [hr.top] at this; cases this
    · have h1 : cur.parent b = some y := hstep
      rw [hr.keep b e] at h1
      rcases par_TC_cases s h1 e with e' | e'
      · subst e'; exact RTC.refl
      · exact e'.toRTC

end Pj

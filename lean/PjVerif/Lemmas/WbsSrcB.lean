/-
  Lemmas/WbsSrcB.lean — stage 2 of the translated tie for wbs.py: `_ChildrenList.remove`,
  `WBS.__remove`, `WBS.remove`, `WBS.remove_all`.  See Lemmas/WbsSrc.lean.
-/
import PjVerif.Lemmas.WbsSrcA
import PjVerif.Lemmas.FacadeSrcA
namespace Pj.WbsSrc
open Pj.PyLite Pj.Extracted Pj.TaskSrc
set_option linter.unusedSimpArgs false
set_option linter.unusedVariables false

variable (filt : List Atom → PState → List Uid)

theorem wf_children_remove : wbsFuns fn_ChildrenList_remove =
    some (src_ChildrenList_remove_params, src_ChildrenList_remove) := rfl
theorem wf_remove_rec : wbsFuns fn_WBS_remove_rec = some (src_WBS_remove_rec_params, src_WBS_remove_rec) := rfl
theorem wf_remove : wbsFuns fn_WBS_remove = some (src_WBS_remove_params, src_WBS_remove) := rfl
theorem wf_remove_all : wbsFuns fn_WBS_remove_all = some (src_WBS_remove_all_params, src_WBS_remove_all) := rfl

/-- `h.children.remove(t)` = `chRemove`; the value tells whether the task was a child -/
theorem children_remove_spec (s : G) (st : PState) (hh : st.heap = encHeap s) (h t : Uid) (F : Nat)
    (hF : s.n + 8 ≤ F) (hrec : (chRemove s h t).2 ≠ some (.crash .recursion)) :
    (Hw filt F).fnV fn_ChildrenList_remove [.atom (.ref h), .atom (.ref t)] st =
      if (s.children h).contains t then resultV st (.atom (.bool true)) (chRemove s h t)
      else .ok (.atom (.bool false), st) := by
  obtain ⟨F, rfl, hF⟩ := fuel_split 2 hF
  unfold chRemove at hrec ⊢
  rw [fnW_top _ _ _ _ _ wf_children_remove]
  refine (FacadeSrc.remove_body_spec (Hw filt (F + 1)) "children" fn_Task_children_set "t" (by decide) s st hh h t _
    (setChildren s h ((s.children h).filter (fun x => x != t))) (encTask_children s h)
    (by rw [fnW_base _ _ _ wf_base_check_not_none]; exact check_not_none_spec progHd st F t)
    (fun hc => fnW_children_set filt s st hh h _ _ (valueOf_refs _) (F + 1) (by omega) (by rwa [if_pos hc] at hrec))).trans ?_
  cases (s.children h).contains t
  · exact congrArg (fun σ => Except.ok (Val.atom (.bool false), σ)) (withG_self st s hh)
  · rfl

/-- a search that fails leaves the state alone -/
theorem removeGo_false (rec : G → Uid → Option (G × Option Err × Bool)) (s s' : G) :
    ∀ (l : List Uid), removeGo rec s l = some (s', none, false) → s' = s := by
  intro l
  induction l with
  | nil => intro h; simp only [removeGo] at h; cases h; rfl
  | cons c cs ih =>
    intro h
    simp only [removeGo] at h
    rcases hr : rec s c with _ | ⟨s1, _ | e, _ | _⟩ <;> rw [hr] at h <;> simp only [] at h
    · cases h
    · exact ih h
    · cases h
    · cases h
    · cases h

theorem removeRecS_false (t : Uid) (f : Nat) (s s' : G) (cur : Uid)
    (h : removeRecS t f s cur = some (s', none, false)) : s' = s := by
  cases f with
  | zero => simp [removeRecS] at h
  | succ f =>
    simp only [removeRecS] at h
    split at h
    · simp at h
    · exact removeGo_false _ s s' _ h

def removeResult (st : PState) (r : G × Option Err × Bool) : Res (Val × PState) :=
  match r with
  | (s', none, b) => .ok (.atom (.bool b), withG st s')
  | (_, some e, _) => .error e

structure RmEnv (ρ : PyLite.Env) (w t cur : Uid) : Prop where
  self : ρ.get? "self" = some (.atom (.ref w))
  task : ρ.get? "task_to_remove" = some (.atom (.ref t))
  current : ρ.get? "current" = some (.atom (.ref cur))

theorem RmEnv.set {ρ : PyLite.Env} {w t cur : Uid} (hρ : RmEnv ρ w t cur) (v : Val) : RmEnv (Env.set ρ "ch" v) w t cur :=
  ⟨by rw [Env.get?_set, if_neg (by decide)]; exact hρ.self, by rw [Env.get?_set, if_neg (by decide)]; exact hρ.task,
   by rw [Env.get?_set, if_neg (by decide)]; exact hρ.current⟩

def rmLoop : Stmt := match src_WBS_remove_rec with | [_, _, l, _] => l | _ => .pass
def rmBody : List Stmt := match rmLoop with | .forLive _ _ _ b => b | _ => []
theorem rm_shape : src_WBS_remove_rec =
    [.ifElse (.isNone (.var "task_to_remove")) [.ret (.bool false)] [],
     .ifElse (.callFn fn_ChildrenList_remove (.listCons (.var "current") (.listCons (.var "task_to_remove") .listNil)))
       [.ret (.bool true)] [],
     rmLoop, .ret (.bool false)] := rfl
theorem rmLoop_eq : rmLoop = .forLive "ch" (.var "current") "children" rmBody := rfl
theorem rmBody_eq : rmBody = [.ifElse (.callFn fn_WBS_remove_rec (.listCons (.var "self") (.listCons
    (.var "task_to_remove") (.listCons (.var "ch") .listNil)))) [.ret (.bool true)] []] := rfl

/-- the loop `for ch in current.children: if self.__remove(task_to_remove, ch): return True` over the LIVE list: as
    long as the recursive calls fail the store - and with it the list - is unchanged; a call that succeeds (or raises)
    ends the loop.  The hypothesis about the items of `l` is the induction hypothesis of `remove_rec_spec`. -/
theorem rm_loop (H : PHandlers) (s : G) (st : PState) (hh : st.heap = encHeap s) (w t cur : Uid)
    (rec : G → Uid → Option (G × Option Err × Bool)) (snap : List Atom)
    (hsnap : (st.heap cur).get? "children" = some (Val.list snap))
    (hfalse : ∀ c s', rec s c = some (s', none, false) → s' = s) :
    ∀ (l : List Uid),
      (∀ c ∈ l, ∀ r, rec s c = some r → r.2.1 ≠ some (.crash .recursion) →
        H.fnV fn_WBS_remove_rec [.atom (.ref w), .atom (.ref t), .atom (.ref c)] st = removeResult st r) →
      ∀ r, removeGo rec s l = some r → r.2.1 ≠ some (.crash .recursion) →
      ∀ ρ, RmEnv ρ w t cur →
        match r with
        | (s', none, true) =>
          forLiveLoopP "ch" cur "children" snap (fun ρ st => execBlockP H [] noRec rmBody ρ st) (l.map Atom.ref) ρ st =
            .ret (.atom (.bool true)) (withG st s')
        | (_, none, false) => ∃ ρ', RmEnv ρ' w t cur ∧
          forLiveLoopP "ch" cur "children" snap (fun ρ st => execBlockP H [] noRec rmBody ρ st) (l.map Atom.ref) ρ st =
            .normal ρ' st
        | (_, some e, _) =>
          forLiveLoopP "ch" cur "children" snap (fun ρ st => execBlockP H [] noRec rmBody ρ st) (l.map Atom.ref) ρ st =
            .raise e := by
  intro l
  induction l with
  | nil =>
    intro _ r hr _ ρ hρ
    simp only [removeGo] at hr
    cases hr
    exact ⟨ρ, hρ, by simp only [List.map_nil, forLiveLoopP, hsnap, if_true]⟩
  | cons c cs ih =>
    intro hcall r hr hne ρ hρ
    simp only [removeGo] at hr
    have hρ' := hρ.set (.atom (.ref c))
    have hev := fun r1 (h1 : rec s c = some r1) h2 =>
      (evalP_callFn3 (ha := evalP_var _ _ _ _ _ _ hρ'.self) (hb := evalP_var _ _ _ _ _ _ hρ'.task)
        (hc := evalP_var H [] _ st "ch" _ (by rw [Env.get?_set, if_pos rfl])) ..).trans
        (hcall c List.mem_cons_self r1 h1 h2)
    rcases hrc : rec s c with _ | ⟨s1, _ | e, _ | _⟩ <;> rw [hrc] at hr <;> simp only [] at hr
    · cases hr
    · -- the call fails: the store is unchanged, the loop goes on
      have hs1 : s1 = s := hfalse c s1 hrc
      subst hs1
      have := ih (fun c hc => hcall c (List.mem_cons_of_mem _ hc)) r hr hne (Env.set ρ "ch" (.atom (.ref c))) hρ'
      have hbody : execBlockP H [] noRec rmBody (Env.set ρ "ch" (.atom (.ref c))) st =
          .normal (Env.set ρ "ch" (.atom (.ref c))) st := by
        simp [pylite_step, rmBody_eq, ↓hev _ hrc (by simp), removeResult, withG_self st s1 hh]
      simp only [List.map_cons, forLiveLoopP, hsnap, if_true, hbody]
      exact this
    · -- the call succeeds: `return True`
      cases hr
      have hbody : execBlockP H [] noRec rmBody (Env.set ρ "ch" (.atom (.ref c))) st =
          .ret (.atom (.bool true)) (withG st s1) := by
        simp [pylite_step, rmBody_eq, ↓hev _ hrc (by simp), removeResult]
      simp only [List.map_cons, forLiveLoopP, hsnap, if_true, hbody]
    all_goals
      -- the call raises
      cases hr
      have hbody : execBlockP H [] noRec rmBody (Env.set ρ "ch" (.atom (.ref c))) st = .raise e := by
        simp [pylite_step, rmBody_eq, ↓hev _ hrc hne, removeResult]
      simp only [List.map_cons, forLiveLoopP, hsnap, if_true, hbody]

/-- `self.__remove(t, cur)` = `removeRec t` from `cur` -/
theorem remove_rec_spec (s : G) (st : PState) (hh : st.heap = encHeap s) (w t : Uid) :
    ∀ (f : Nat) (cur : Uid) (r : G × Option Err × Bool), removeRecS t f s cur = some r →
      r.2.1 ≠ some (.crash .recursion) → ∀ F, f + s.n + 9 ≤ F →
      (Hw filt F).fnV fn_WBS_remove_rec [.atom (.ref w), .atom (.ref t), .atom (.ref cur)] st = removeResult st r := by
  intro f
  induction f with
  | zero => intro cur r h; simp [removeRecS] at h
  | succ f ih =>
    intro cur r h hne F hF
    obtain ⟨F, rfl, hF⟩ := fuel_split 1 hF
    rw [fnW_top _ _ _ _ _ wf_remove_rec, callPV_eq]
    simp only [src_WBS_remove_rec_params, rm_shape, bindParamsV, pure, Except.pure, bind, Except.bind]
    have hρ : RmEnv [("self", .atom (.ref w)), ("task_to_remove", .atom (.ref t)), ("current", .atom (.ref cur))] w t cur :=
      ⟨rfl, rfl, rfl⟩
    generalize hρe : ([("self", Val.atom (.ref w)), ("task_to_remove", .atom (.ref t)), ("current", .atom (.ref cur))] :
      PyLite.Env) = ρ at hρ
    -- `if task_to_remove is None`
    rw [execBlockP_cons, execP_ifElse (v := .atom (.bool false)) (st' := st)
      (hc := by simp only [Expr.evalP, hρ.task, bind, Except.bind, pure, Except.pure]; rfl) (hb := rfl)]
    simp only [Bool.false_eq_true, if_false, execBlockP_nil]
    simp only [removeRecS] at h
    have hcr : (Expr.callFn fn_ChildrenList_remove (.listCons (.var "current") (.listCons (.var "task_to_remove")
        .listNil))).evalP (Hw filt F) [] ρ st =
        (Hw filt F).fnV fn_ChildrenList_remove [.atom (.ref cur), .atom (.ref t)] st :=
      evalP_callFn2 (ha := evalP_var _ _ _ _ _ _ hρ.current) (hb := evalP_var _ _ _ _ _ _ hρ.task) ..
    by_cases hc : (s.children cur).contains t = true
    · -- the task is a child of `current`: `chRemove`
      rw [if_pos hc] at h
      cases h
      have hsp := children_remove_spec filt s st hh cur t F (by omega) hne
      rw [if_pos hc] at hsp
      rw [hsp] at hcr
      cases hr : chRemove s cur t with
      | mk s' e =>
        rw [hr] at hcr
        cases e with
        | none =>
          rw [execBlockP_cons, execP_ifElse (hc := hcr) (hb := rfl)]
          simp only [if_true]
          rw [execBlockP_cons, execP_ret (he := evalP_bool _ _ _ _ true)]
          rfl
        | some e =>
          rw [execBlockP_cons]
          simp only [Stmt.execP, hcr, resultV, bind, Except.bind]
          rfl
    · -- search below the children
      rw [if_neg hc] at h
      have hsp := children_remove_spec filt s st hh cur t F (by omega)
        (by unfold chRemove; rw [if_neg hc]; simp)
      rw [if_neg hc] at hsp
      rw [hsp] at hcr
      rw [execBlockP_cons, execP_ifElse (hc := hcr) (hb := rfl)]
      simp only [Bool.false_eq_true, if_false, execBlockP_nil]
      have hsnap : (st.heap cur).get? "children" = some (Val.list ((s.children cur).map Atom.ref)) := by
        rw [hh, encHeap_apply, encTask_children]; rfl
      have hl := rm_loop (Hw filt F) s st hh w t cur (removeRecS t f) ((s.children cur).map Atom.ref) hsnap
        (fun c s' hc => removeRecS_false t f s s' c hc) (s.children cur)
        (fun c _ r1 h1 h2 => ih c r1 h1 h2 F (by omega)) r h hne ρ hρ
      rw [execBlockP_cons, rmLoop_eq]
      simp only [Stmt.execP, evalP_var _ _ _ _ _ _ hρ.current, hsnap]
      rcases r with ⟨s', _ | e, _ | _⟩
      · -- not found
        obtain ⟨ρ', hρ', hloop⟩ := hl
        have hs' : s' = s := removeGo_false _ s s' _ h
        subst hs'
        rw [hloop]
        dsimp only
        rw [execBlockP_cons, execP_ret (he := evalP_bool _ _ _ _ false)]
        simp only [removeResult, withG_self st s' hh]
      · simp only [] at hl
        rw [hl]
        rfl
      · simp only [] at hl
        rw [hl]
        rfl
      · simp only [] at hl
        rw [hl]
        rfl

def wbsRemoveResult (st : PState) (s : G) (w t : Uid) : Res (Val × PState) :=
  match removeRec t s.fuel s w with
  | none => .error (.crash .recursion)
  | some r => removeResult st r

theorem wbsRemoveResult_state (st : PState) (s : G) (w t : Uid) :
    (wbsRemoveResult st s w t).map (·.2) = (setterResult st (wbsRemove s w t)).map (·.2) := by
  unfold wbsRemoveResult wbsRemove
  rcases removeRec t s.fuel s w with _ | ⟨s', _ | e, b⟩ <;> rfl

theorem remove_rec_root (s : G) (st : PState) (hh : st.heap = encHeap s) (w t : Uid) (F : Nat)
    (hF : 2 * s.n + 10 ≤ F) (hrec : (wbsRemove s w t).2 ≠ some (.crash .recursion)) :
    (Hw filt F).fnV fn_WBS_remove_rec [.atom (.ref w), .atom (.ref t), .atom (.ref w)] st =
      wbsRemoveResult st s w t := by
  unfold wbsRemoveResult
  unfold wbsRemove at hrec
  cases hr : removeRec t s.fuel s w with
  | none => rw [hr] at hrec; exact absurd rfl hrec
  | some r =>
    rw [hr] at hrec
    exact remove_rec_spec filt s st hh w t s.fuel w r (by rw [removeRecS_eq]; exact hr)
      (by rcases r with ⟨s', e, b⟩; exact hrec) F (by unfold G.fuel; omega)

/-- the first statement of `remove`: `if not isinstance(task, Task): raise RuntimeError` -/
theorem remove_guard (H : PHandlers) (ρ : PyLite.Env) (st : PState) (x : Val) (b : Bool)
    (hρ : ρ.get? "task" = some x) (hx : pyTypeIs x "Task" = .ok b) (rest : List Stmt) :
    execBlockP H [] noRec (.ifElse (.not (.typeIs (.var "task") "Task")) [.raiseRuntime] [] :: rest) ρ st =
      if b then execBlockP H [] noRec rest ρ st else .raise .runtime := by
  rw [execBlockP_cons, execP_ifElse (v := .atom (.bool (!b))) (st' := st) (b := !b) (hb := rfl) (hc := by
    simp only [Expr.evalP, hρ, hx, truthP, bind, Except.bind, pure, Except.pure])]
  cases b
  · simp only [Bool.not_false, Bool.false_eq_true, if_true, if_false]
    rw [execBlockP_cons, execP_raise]
  · simp only [Bool.not_true, Bool.false_eq_true, if_true, if_false, execBlockP_nil]

/-- STAGE 2, `WBS.remove(t)` = `wbsRemove` (with the flag of `removeRec` as the value) -/
theorem interpRemove_eq (s : G) (st : PState) (hh : st.heap = encHeap s) (w t : Uid) (F : Nat)
    (hF : 2 * s.n + 12 ≤ F) (hrec : (wbsRemove s w t).2 ≠ some (.crash .recursion)) :
    interpRemove F w (.atom (.ref t)) st = wbsRemoveResult st s w t := by
  obtain ⟨F, rfl, hF⟩ := fuel_split 1 hF
  unfold interpRemove
  rw [interpW_eq, fnW_top _ _ _ _ _ wf_remove, callPV_bound rfl, src_WBS_remove,
    remove_guard (b := true) (hρ := rfl) (hx := rfl), if_pos rfl, blockRes_ret,
    evalP_callFn3 (ha := evalP_var _ _ _ _ "self" _ rfl) (hb := evalP_var _ _ _ _ "task" _ rfl)
      (hc := evalP_root noFilt _ _ _ _ "self" w rfl)]
  exact remove_rec_root noFilt s st hh w t F (by omega) hrec

/-- `wbs.remove(x)` for `x` that is not a task (`None`, a list): RuntimeError -/
theorem interpRemove_none (st : PState) (w : Uid) (F : Nat) :
    interpRemove (F + 1) w (.atom .none) st = .error .runtime := by
  unfold interpRemove
  rw [interpW_eq, fnW_top _ _ _ _ _ wf_remove, callPV_bound rfl, src_WBS_remove,
    remove_guard (b := false) (hρ := rfl) (hx := rfl)]
  rfl

theorem interpRemove_list (st : PState) (w : Uid) (vs : List Atom) (F : Nat) :
    interpRemove (F + 1) w (.list vs) st = .error .runtime := by
  unfold interpRemove
  rw [interpW_eq, fnW_top _ _ _ _ _ wf_remove, callPV_bound rfl, src_WBS_remove,
    remove_guard (b := false) (hρ := rfl) (hx := rfl)]
  rfl

structure RaEnv (ρ : PyLite.Env) (w : Uid) (v : Val) : Prop where
  self : ρ.get? "self" = some (.atom (.ref w))
  lst : ρ.get? "tasks_to_delete" = some v

def raBody : List Stmt :=
  [.expr (.callFn fn_WBS_remove_rec (.listCons (.var "self") (.listCons (.var "t")
    (.listCons (.prim "_root" (.listCons (.var "self") .listNil)) .listNil))))]

theorem ra_shape : src_WBS_remove_all =
    [.assign "tasks_to_delete" (.prim "tasks_call" (.listCons (.var "self") (.listCons (.var "key")
       (.listCons (.var "kwargs") .listNil)))),
     .ifElse (.cmp .eq (.len (.var "tasks_to_delete")) (.num 0)) [.ret .listNil] [],
     .forIn "t" (.var "tasks_to_delete") raBody, .ret (.var "tasks_to_delete")] := rfl

theorem RaEnv.set {ρ : PyLite.Env} {w : Uid} {lv : Val} (hρ : RaEnv ρ w lv) (v : Val) : RaEnv (Env.set ρ "t" v) w lv :=
  ⟨by rw [Env.get?_set, if_neg (by decide)]; exact hρ.self, by rw [Env.get?_set, if_neg (by decide)]; exact hρ.lst⟩

/-- `for t in tasks_to_delete: self.__remove(t, self.__root)` = `forEach wbsRemove` -/
theorem ra_loop (st : PState) (w : Uid) (lv : Val) (F : Nat) (ts : List Uid) (s0 : G) (hF : 2 * s0.n + 10 ≤ F)
    (ρ : PyLite.Env) (hρ : RaEnv ρ w lv) (hit : ρ.get? "tasks_to_delete" = some (refs ts)) :
    Does (RaEnv · w lv) st (forEach (fun s t => wbsRemove s w t) s0 ts)
      ((Stmt.forIn "t" (.var "tasks_to_delete") raBody).execP (Hw filt F) [] noRec ρ (withG st s0)) := by
  refine Does.forIn _ (fun s => s.n = s0.n) (evalP_var _ _ _ _ _ _ hit) hρ rfl fun s t ρ _ hρ hn =>
    ⟨?_, fun _ => (wbsRemove_n s w t).trans hn⟩
  rw [raBody, execBlockP_one]
  refine Does.of_ne_recursion fun hne => ?_
  have hb := remove_rec_root filt s (withG st s) rfl w t F (by omega) hne
  unfold wbsRemoveResult at hb
  unfold wbsRemove at hne ⊢
  generalize removeRec t s.fuel s w = r at hb hne ⊢
  rcases r with _ | ⟨s1, e, b⟩
  · exact absurd rfl hne
  refine Does.expr (v := .atom (.bool b)) (hρ.set _) fun _ => ?_
  rw [evalP_callFn3 (ha := evalP_var _ _ _ _ _ _ (hρ.set _).self)
      (hb := evalP_var _ _ _ _ _ _ (by rw [Env.get?_set, if_pos rfl]))
      (hc := evalP_root filt F [] _ _ "self" w (hρ.set _).self)]
  cases e <;> exact hb

/-- STAGE 2, `WBS.remove_all(key, **kwargs)`: the filter evaluation `self.tasks(key, **kwargs)` yields the tasks
    `filt [self, key, kwargs] st`; they are removed one by one (`forEach wbsRemove`, the `wbsRemoveAll` of `step`);
    the value is the list of the chosen tasks -/
theorem interpRemoveAll_eq (s : G) (st : PState) (hh : st.heap = encHeap s) (w : Uid) (key kw : Atom) (F : Nat)
    (hF : 2 * s.n + 12 ≤ F)
    (hrec : (forEach (fun s t => wbsRemove s w t) s (filt [.ref w, key, kw] st)).2 ≠ some (.crash .recursion)) :
    interpRemoveAll filt F w key kw st =
      resultV st (refs (filt [.ref w, key, kw] st))
        (forEach (fun s t => wbsRemove s w t) s (filt [.ref w, key, kw] st)) := by
  obtain ⟨F, rfl, hF⟩ := fuel_split 1 hF
  unfold interpRemoveAll
  rw [interpW_eq, fnW_top _ _ _ _ _ wf_remove_all, ra_shape]
  generalize hts : filt [.ref w, key, kw] st = ts at hrec ⊢
  obtain ⟨st0, rfl⟩ := exists_withG hh
  -- `tasks_to_delete = self.tasks(key, **kwargs)`
  have hassign : (Stmt.assign "tasks_to_delete" (.prim "tasks_call" (.listCons (.var "self") (.listCons (.var "key")
      (.listCons (.var "kwargs") .listNil))))).execP (Hw filt F) [] noRec
      [("self", .atom (.ref w)), ("key", .atom key), ("kwargs", .atom kw)] (withG st0 s) = .normal _ (withG st0 s) :=
    execP_assign (v := refs ts) (he := by
      simp only [Expr.evalP, Expr.evalArgsP, Env.get?_cons, Env.get?_nil, Hw_prim, wbsPrim, hts, bind, Except.bind,
        pure, Except.pure, String.reduceEq, if_false, if_true, reduceIte])
  have hρ : RaEnv (Env.set [("self", .atom (.ref w)), ("key", .atom key), ("kwargs", .atom kw)] "tasks_to_delete"
      (refs ts)) w (refs ts) :=
    ⟨by rw [Env.get?_set, if_neg (by decide)]; rfl, by rw [Env.get?_set, if_pos rfl]⟩
  generalize Env.set [("self", .atom (.ref w)), ("key", .atom key), ("kwargs", .atom kw)] "tasks_to_delete"
    (refs ts) = ρ1 at hρ hassign
  -- `if len(tasks_to_delete) == 0: return []`
  have hif : (Stmt.ifElse (.cmp .eq (.len (.var "tasks_to_delete")) (.num 0)) [.ret .listNil] []).execP (Hw filt F) []
      noRec ρ1 (withG st0 s) =
      if decide (ts.length = 0) then execBlockP (Hw filt F) [] noRec [.ret .listNil] ρ1 (withG st0 s)
      else execBlockP (Hw filt F) [] noRec [] ρ1 (withG st0 s) :=
    execP_ifElse (v := .atom (.bool (decide (ts.length = 0)))) (st' := withG st0 s) (hb := rfl) (hc := by
      rw [evalP_cmp (ha := evalP_len (h := evalP_var _ _ _ _ _ _ hρ.lst) ..) (hb := evalP_num ..)
        (hr := compare_eq_num _ _)]
      simp [Rat.natCast_eq_zero_iff])
  cases ts with
  | nil =>
    rw [callPV_bound rfl, execBlockP_cons, hassign]
    dsimp only
    rw [execBlockP_cons, hif]
    simp only [List.length_nil, decide_true, if_true]
    rw [execBlockP_cons, execP_ret (v := .list []) (st' := withG st0 s) (he := by simp only [Expr.evalP, pure, Except.pure])]
    rfl
  | cons t ts =>
    rw [resultV_withG]
    refine Does.callPV_ret (body := [_, _, _]) (Q := (RaEnv · w (refs (t :: ts)))) rfl ?_
      (fun _ _ h => evalP_var _ _ _ _ _ _ h.lst) hrec
    rw [execBlockP_cons, hassign]
    dsimp only
    rw [execBlockP_cons, hif]
    simp only [List.length_cons, Nat.add_one_ne_zero, decide_false, Bool.false_eq_true, if_false, execBlockP_nil]
    rw [execBlockP_one]
    exact ra_loop filt st0 w _ F (t :: ts) s (by omega) _ hρ hρ.lst

end Pj.WbsSrc

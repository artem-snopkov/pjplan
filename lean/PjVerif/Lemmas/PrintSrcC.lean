/-
  Lemmas/PrintSrcC.lean — stage 2 of the translated sheet printer (see Lemmas/PrintSrc.lean, PrintSrcA.lean, PrintSrcB.lean):
  the layout numbers.  `__calc_max_title_len` = `titleLen`, `__max_field_len` = `maxFieldLen`, for every string library `S`
  with `S.OK`, every `pts`, theme, state; the subtrees at most as deep as the model's fuel (`DepthOK`).  Both functions keep
  a running maximum in a local: their statements are composed with `Upd` (Lemmas/PyUpd.lean), the fixed parameters are an
  `Env.le` list.
-/
import PjVerif.Lemmas.PrintSrcB
import PjVerif.Lemmas.PyUpd
namespace Pj.PrintSrc
open Pj.PyLite Pj.Print Pj.Extracted.Print
open Pj.TaskSrc (execBlockP_cons execBlockP_nil execBlockP_append execBlockP_one evalP_var noRec natCast_succ_rat)
set_option linter.unusedVariables false

variable {S : Lib} (pts : Nat → PyTask) (th : PyTheme)

theorem natCast_zero_rat : ((0 : Nat) : Rat) = 0 := rfl

abbrev inNat (acc : String) : Place Nat := inLocal acc fun n => .atom (.num (n : Rat))

theorem evalP_max_nat (H : PHandlers) (self ρ : PyLite.Env) (st : PState) (a b : Expr) (x y : Nat)
    (ha : a.evalP H self ρ st = .ok (.atom (.num ((x : Nat) : Rat)), st))
    (hb : b.evalP H self ρ st = .ok (.atom (.num ((y : Nat) : Rat)), st)) :
    (Expr.max a b).evalP H self ρ st = .ok (.atom (.num ((max x y : Nat) : Rat)), st) := by
  simp only [Expr.evalP, ha, hb, pyMax_nat, bind, Except.bind, pure, Except.pure]

/-! ## `__calc_max_title_len` -/

/-- the length of the name (0 for None) -/
def nameLen (pts : Nat → PyTask) (t : Nat) : Nat := ((pts t).name.map List.length).getD 0

/-- the parameters of `__calc_max_title_len` that are never assigned -/
def tlP (t level : Nat) : PyLite.Env := [("task", .atom (.ref t)), ("level", .atom (.num ((level : Nat) : Rat)))]

theorem tlName_spec (hS : S.OK) (F t level : Nat) (ρ : PyLite.Env) (st : PState) (hρ : Env.le (tlP t level) ρ) :
    execBlockP (Hp S pts th F) [] noRec (src_calc_max_title_len.take 1) ρ st =
      .normal (ρ.set "name_len" (.atom (.num ((nameLen pts t : Nat) : Rat)))) st := by
  have ht := hρ.get "task"
  cases hname : (pts t).name with
  | none =>
    simp [pylite_step, src_calc_max_title_len, ht, hname, Lib.os, nameLen]
  | some nm =>
    simp [pylite_step, src_calc_max_title_len, ht, hname, Lib.os, nameLen, s_ne_none, prim_strlen' pts th hS]

theorem tlWidth_eval (hS : S.OK) (F t level : Nat) (ρ : PyLite.Env) (st : PState)
    (hl : ρ.get? "level" = some (.atom (.num ((level : Nat) : Rat))))
    (hn : ρ.get? "name_len" = some (.atom (.num ((nameLen pts t : Nat) : Rat)))) :
    (Expr.bin .add (.prim "strlen" (.listCons (.prim "repeat" (.listCons (.prim "lit:   " .listNil)
        (.listCons (.var "level") .listNil))) .listNil)) (.var "name_len")).evalP (Hp S pts th F) [] ρ st =
      .ok (.atom (.num ((3 * level + nameLen pts t : Nat) : Rat)), st) := by
  rw [Rat.natCast_add]
  simp [pylite_step, hl, hn, prim_repeat pts th hS, prim_strlen' pts th hS, flatten_replicate3]

theorem tlMax_spec (hS : S.OK) (F t level cur : Nat) (ρ : PyLite.Env) (st : PState)
    (hl : ρ.get? "level" = some (.atom (.num ((level : Nat) : Rat))))
    (hn : ρ.get? "name_len" = some (.atom (.num ((nameLen pts t : Nat) : Rat))))
    (hc : ρ.get? "_current_max" = some (.atom (.num ((cur : Nat) : Rat)))) :
    execBlockP (Hp S pts th F) [] noRec ((src_calc_max_title_len.drop 1).take 1) ρ st =
      .normal (ρ.set "_current_max" (.atom (.num ((max cur (3 * level + nameLen pts t) : Nat) : Rat)))) st := by
  have hw := tlWidth_eval pts th hS F t level ρ st hl hn
  have hm := evalP_max_nat (Hp S pts th F) [] ρ st _ _ cur (3 * level + nameLen pts t) (evalP_var _ [] ρ st _ _ hc) hw
  show execBlockP (Hp S pts th F) [] noRec [.assign "_current_max" (.max _ _)] ρ st = _
  simp only [execBlockP_cons, execBlockP_nil, Stmt.execP, hm]

def tlHead : List Stmt := src_calc_max_title_len.take 2
theorem tl_head_shape : tlHead = src_calc_max_title_len.take 1 ++ (src_calc_max_title_len.drop 1).take 1 := rfl
theorem tl_shape' : src_calc_max_title_len = tlHead ++ [tlLoop, .ret (.var "_current_max")] := rfl

theorem tlHead_upd (hS : S.OK) (F t level : Nat) :
    Upd (Hp S pts th F) (inNat "_current_max") (Env.le (tlP t level)) (Env.le (tlP t level))
      tlHead (fun cur => max cur (3 * level + nameLen pts t)) := by
  refine Upd.of_local fun ρ cur st hρ hc => ?_
  have hρ1 := hρ.set_ne "name_len" (.atom (.num ((nameLen pts t : Nat) : Rat)))
  refine ⟨(ρ.set "name_len" (.atom (.num ((nameLen pts t : Nat) : Rat)))).set "_current_max"
    (.atom (.num ((max cur (3 * level + nameLen pts t) : Nat) : Rat))), ?_, hρ1.set_ne "_current_max" _,
    by simp [Pj.TaskSrc.Env.get?_set]⟩
  rw [tl_head_shape, execBlockP_append, tlName_spec pts th hS F t level ρ st hρ]
  exact tlMax_spec pts th hS F t level cur _ st (hρ1.get "level") (by simp [Pj.TaskSrc.Env.get?_set])
    (by simp [Pj.TaskSrc.Env.get?_set, hc])

def tlArgs (t level cur : Nat) : List Val :=
  [.atom (.ref t), .atom (.num ((level : Nat) : Rat)), .atom (.num ((cur : Nat) : Rat))]

/-- what a call for a child does (the induction hypothesis) -/
def TlKidsOK (S : Lib) (pts : Nat → PyTask) (th : PyTheme) (F n level : Nat) (cs : List Nat) : Prop :=
  ∀ c ∈ cs, ∀ m st', (Hp S pts th F).fnV fn_calc_max_title_len (tlArgs c (level + 1) m) st' =
    .ok (.atom (.num ((titleLen (tsOf S pts) n (level + 1) c m : Nat) : Rat)), st')

theorem tlBody_upd (F n t level c : Nat)
    (hcall : ∀ m st, (Hp S pts th F).fnV fn_calc_max_title_len (tlArgs c (level + 1) m) st =
      .ok (.atom (.num ((titleLen (tsOf S pts) n (level + 1) c m : Nat) : Rat)), st)) :
    Upd (Hp S pts th F) (inNat "_current_max") (Env.le (("ch", .atom (.ref c)) :: tlP t level))
      (Env.le (("ch", .atom (.ref c)) :: tlP t level)) tlBody (fun m => titleLen (tsOf S pts) n (level + 1) c m) :=
  Upd.of_set (fun ρ v h => h.set_ne "_current_max" v) fun ρ m st hρ hm => by
    have hc := hcall m st
    simp only [tlArgs, ← natCast_succ_rat] at hc
    simp [pylite_step, tlBody, tlLoop, src_calc_max_title_len, hρ.get "ch", hρ.get "level", hm, hc]

theorem title_body (hS : S.OK) (F n t level cur : Nat) (st : PState)
    (hrec : TlKidsOK S pts th F n level (pts t).children) :
    callPV (Hp S pts th F) src_calc_max_title_len_params src_calc_max_title_len (tlArgs t level cur) st =
      .ok (.atom (.num ((titleLen (tsOf S pts) (n + 1) level t cur : Nat) : Rat)), st) := by
  have hloop := Upd.forIn_le Atom.ref (fun c m => titleLen (tsOf S pts) n (level + 1) c m) (pts t).children "ch"
    (.prim "children" (.listCons (.var "task") .listNil)) tlBody (inLocal_set (by decide))
    (fun ρ st (h : Env.le (tlP t level) ρ) => by simp [pylite_step, h.get "task", refsA])
    fun c hc => tlBody_upd pts th F n t level c (hrec c hc)
  exact ((tlHead_upd pts th hS F t level).append hloop).returns (pre := []) (a := cur) rfl rfl (Env.le.append (tlP t level) _)
    (by simp [Pj.TaskSrc.Env.get?_cons]) fun ρ _ hc => by simp [pylite_step, hc, titleLen, toPTask, nameLen]

theorem title_len_spec (hS : S.OK) (n F t level cur : Nat) (st : PState) (hd : DepthOK pts (n + 1) t) :
    (Hp S pts th (F + n + 1)).fnV fn_calc_max_title_len (tlArgs t level cur) st =
      .ok (.atom (.num ((titleLen (tsOf S pts) (n + 1) level t cur : Nat) : Rat)), st) :=
  DepthOK.rec_calls (Q := fun F n t => ∀ level cur st, (Hp S pts th F).fnV fn_calc_max_title_len (tlArgs t level cur) st =
      .ok (.atom (.num ((titleLen (tsOf S pts) n level t cur : Nat) : Rat)), st))
    (fun F n t hrec level cur st => by
      rw [pfnV_succ _ _ _ _ _ _ _ pf_title]
      exact title_body pts th hS F n t level cur st fun c hc m st' => hrec c hc (level + 1) m st')
    (n + 1) F t hd level cur st

theorem interpTitleLen_eq (hS : S.OK) (F n t level cur : Nat) (hd : DepthOK pts (n + 1) t) (hF : n + 1 ≤ F) :
    interpTitleLen S pts F t level cur = .ok (.atom (.num ((titleLen (tsOf S pts) (n + 1) level t cur : Nat) : Rat))) := by
  rw [interpTitleLen, interp_eq pts noTheme hF fun F =>
    Nat.add_assoc F n 1 ▸ title_len_spec pts noTheme hS n F t level cur st0 hd]
  rfl

/-! ## `__max_field_len` -/

theorem pf_maxfield : printFuns fn_max_field_len = some (src_max_field_len_params, src_max_field_len) := rfl

def mfInit : Stmt := src_max_field_len.getD 0 .pass
def mfLoop : Stmt := src_max_field_len.getD 1 .pass
def mfBody : List Stmt := match mfLoop with | .forIn _ _ b => b | _ => []
def mfCell : Stmt := mfBody.getD 0 .pass
def mfKids : Stmt := mfBody.getD 1 .pass
theorem mf_shape : src_max_field_len = [mfInit, mfLoop, .ret (.var "max_len")] := rfl
theorem mfCell_eq : mfCell = .assign "max_len" (.max (.var "max_len")
    (.prim "strlen" (.listCons (.callFn fn_get_field_value (.listCons (.var "t") (.listCons (.var "field") .listNil))) .listNil))) := rfl
theorem mfKids_eq : mfKids = .assign "max_len" (.max (.var "max_len")
    (.callFn fn_max_field_len (.listCons (.prim "children" (.listCons (.var "t") .listNil)) (.listCons (.var "field") .listNil)))) := rfl

def mfArgs (S : Lib) (tasks : List Nat) (field : Str) : List Val := [refsA tasks, .atom (S.s field)]

/-- its parameters; neither is assigned -/
def mfP (S : Lib) (tasks : List Nat) (field : Str) : PyLite.Env := [("tasks", refsA tasks), ("field", .atom (S.s field))]

theorem mfInit_spec (hS : S.OK) (F : Nat) (tasks : List Nat) (field : Str) (ρ : PyLite.Env) (st : PState)
    (hρ : Env.le (mfP S tasks field) ρ) :
    mfInit.execP (Hp S pts th F) [] noRec ρ st =
      .normal (ρ.set "max_len" (.atom (.num ((field.length + 1 : Nat) : Rat)))) st := by
  have hf := hρ.get "field"
  rw [← natCast_succ_rat]
  simp [pylite_step, mfInit, src_max_field_len, hf, prim_strlen' pts th hS]

/-- a round of the loop: the locals -/
abbrev mfT (S : Lib) (tasks : List Nat) (field : Str) (t : Nat) : PyLite.Env := ("t", .atom (.ref t)) :: mfP S tasks field

theorem mfCell_upd (hS : S.OK) (F t : Nat) (tasks : List Nat) (field : Str) :
    Upd (Hp S pts th (F + 3)) (inNat "max_len") (Env.le (mfT S tasks field t)) (Env.le (mfT S tasks field t))
      [mfCell] (fun m => max m (fieldValue (tsOf S pts) t field).length) :=
  Upd.of_set (fun ρ v h => h.set_ne "max_len" v) fun ρ m st hρ hm => by
    have hlen : (Expr.prim "strlen" (.listCons (.callFn fn_get_field_value (.listCons (.var "t") (.listCons (.var "field")
        .listNil))) .listNil)).evalP (Hp S pts th (F + 3)) [] ρ st =
        .ok (.atom (.num (((fieldValue (tsOf S pts) t field).length : Nat) : Rat)), st) := by
      simp [pylite_step, hρ.get "field", hρ.get "t", field_value_spec pts th hS F t field st, prim_strlen' pts th hS]
    have hmx := evalP_max_nat (Hp S pts th (F + 3)) [] ρ st _ _ m _ (evalP_var _ [] ρ st _ _ hm) hlen
    rw [execBlockP_one, mfCell_eq]
    simp only [Stmt.execP, hmx]

theorem mfKids_upd (F t k : Nat) (tasks : List Nat) (field : Str)
    (hcall : ∀ st, (Hp S pts th F).fnV fn_max_field_len (mfArgs S (pts t).children field) st =
      .ok (.atom (.num ((k : Nat) : Rat)), st)) :
    Upd (Hp S pts th F) (inNat "max_len") (Env.le (mfT S tasks field t)) (Env.le (mfT S tasks field t))
      [mfKids] (fun m => max m k) :=
  Upd.of_set (fun ρ v h => h.set_ne "max_len" v) fun ρ m st hρ hm => by
    have hc := hcall st
    simp only [mfArgs] at hc
    have hk : (Expr.callFn fn_max_field_len (.listCons (.prim "children" (.listCons (.var "t") .listNil))
        (.listCons (.var "field") .listNil))).evalP (Hp S pts th F) [] ρ st = .ok (.atom (.num ((k : Nat) : Rat)), st) := by
      simp [pylite_step, hρ.get "field", hρ.get "t", hc]
    have hmx := evalP_max_nat (Hp S pts th F) [] ρ st _ _ m _ (evalP_var _ [] ρ st _ _ hm) hk
    rw [execBlockP_one, mfKids_eq]
    simp only [Stmt.execP, hmx]

/-- what the call for the children of a task does (the induction hypothesis) -/
def MfKidsOK (S : Lib) (pts : Nat → PyTask) (th : PyTheme) (F n : Nat) (field : Str) (tasks : List Nat) : Prop :=
  ∀ t ∈ tasks, ∀ st', (Hp S pts th F).fnV fn_max_field_len (mfArgs S (pts t).children field) st' =
    .ok (.atom (.num ((maxFieldLen (tsOf S pts) field n (pts t).children : Nat) : Rat)), st')

/-- one step of the model's fold -/
def mfStep (S : Lib) (pts : Nat → PyTask) (field : Str) (n : Nat) (m t : Nat) : Nat :=
  max (max m (fieldValue (tsOf S pts) t field).length) (maxFieldLen (tsOf S pts) field n (tsOf S pts t).children)

theorem maxFieldLen_succ (field : Str) (n : Nat) (tasks : List Nat) :
    maxFieldLen (tsOf S pts) field (n + 1) tasks = tasks.foldl (mfStep S pts field n) (field.length + 1) := rfl

theorem max_field_body (hS : S.OK) (F n : Nat) (tasks : List Nat) (field : Str) (st : PState)
    (hrec : MfKidsOK S pts th (F + 3) n field tasks) :
    callPV (Hp S pts th (F + 3)) src_max_field_len_params src_max_field_len (mfArgs S tasks field) st =
      .ok (.atom (.num ((maxFieldLen (tsOf S pts) field (n + 1) tasks : Nat) : Rat)), st) := by
  have hloop := Upd.forIn_le Atom.ref (fun t m => mfStep S pts field n m t) tasks "t" (.var "tasks") mfBody
    (inLocal_set (by decide)) (fun ρ st (h : Env.le (mfP S tasks field) ρ) => by simp [pylite_step, h.get "tasks", refsA])
    fun t ht => (mfCell_upd pts th hS F t tasks field).append (mfKids_upd pts th (F + 3) t _ tasks field (hrec t ht))
  exact hloop.returns (pre := [mfInit]) (a := field.length + 1) (ρ0 := mfP S tasks field) rfl
    ((execBlockP_one ..).trans (mfInit_spec pts th hS (F + 3) tasks field _ st (Env.le.refl _)))
    ((Env.le.refl _).set_ne "max_len" _) (by simp [Pj.TaskSrc.Env.get?_set])
    fun ρ _ hc => by rw [maxFieldLen_succ]; simp [pylite_step, hc]

theorem max_field_len_spec (hS : S.OK) (field : Str) (n F : Nat) (tasks : List Nat) (st : PState)
    (hd : ∀ t ∈ tasks, DepthOK pts n t) :
    (Hp S pts th (F + n + 4)).fnV fn_max_field_len (mfArgs S tasks field) st =
      .ok (.atom (.num ((maxFieldLen (tsOf S pts) field (n + 1) tasks : Nat) : Rat)), st) := by
  rw [pfnV_succ _ _ _ _ _ _ _ pf_maxfield]
  refine max_field_body pts th hS (F + n) n tasks field st fun t ht st' => ?_
  exact DepthOK.rec_calls (Q := fun F n t => ∀ st', (Hp S pts th (F + 3)).fnV fn_max_field_len
      (mfArgs S (pts t).children field) st' = .ok (.atom (.num ((maxFieldLen (tsOf S pts) field n (pts t).children : Nat) : Rat)), st'))
    (fun F n t hrec st' => by
      rw [pfnV_succ _ _ _ _ _ _ _ pf_maxfield]
      exact max_field_body pts th hS F n _ field st' fun c hc => hrec c hc)
    n F t (hd t ht) st'

theorem interpMaxFieldLen_eq (hS : S.OK) (F n : Nat) (tasks : List Nat) (field : Str)
    (hd : ∀ t ∈ tasks, DepthOK pts n t) (hF : n + 4 ≤ F) :
    interpMaxFieldLen S pts F tasks field =
      .ok (.atom (.num ((maxFieldLen (tsOf S pts) field (n + 1) tasks : Nat) : Rat))) := by
  rw [interpMaxFieldLen, interp_eq pts noTheme hF fun F =>
    Nat.add_assoc F n 4 ▸ max_field_len_spec pts noTheme hS field n F tasks st0 hd]
  rfl

end Pj.PrintSrc

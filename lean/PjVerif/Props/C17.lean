/-
  Props/C17.lean — C17: calendars and the availability search.
-/
import PjVerif.Lemmas.Calendar
import PjVerif.Lemmas.CalendarSrc
namespace Pj

/-- leaf constructors, scalar promotion and `/ 0` reject exactly the invalid definitions, with
    RuntimeError (never another exception) -/
theorem C17_ctor_rejects (e : CExpr) (hs : e.wellShaped = true) (hd : e.dictKeysNodup = true) :
    (e.invalid = true → e.build = .error .runtime) ∧
    (e.invalid = false → ∃ c, e.build = .ok c) :=
  -- `hd`: the weekday mapping is a Python dict, its keys are distinct (without it the statement is
  -- false for the list encoding: `ctor_rejects_counterexample` in Lemmas/Calendar.lean)
  ctor_rejects_of_nodup e hs hd

/-- a valid definition evaluates, at every date, to the meaning C17 gives it: the operator applied
    to the operands' values, operands without information skipped, negative difference = none,
    `|` = first positive operand, a number = constant calendar, leaf calendars = configured value
    inside validity and none/0 outside.  Undefined (`den = none`) only for division by a calendar
    whose value on the date is 0, where Python raises ZeroDivisionError. -/
theorem C17_eval_den (e : CExpr) (c : Cal) (t : Time) (hs : e.wellShaped = true)
    (hb : e.build = .ok c) :
    c.eval t = (match e.den t with
                | some v => .ok v
                | none => .error (.crash .zeroDivision)) := by
  have _ := hs  -- implied by `hb`: `build` accepts no definition with a misplaced number
  rw [eval_den_lift e t c hb]
  cases e.den t <;> rfl

/-- a resource reports 0, never None, where its calendar has no information -/
theorem C17_resource_total (c : Cal) (t : Time) (v : Option Rat) (h : c.eval t = .ok v) :
    capR c t = .ok (v.getD 0) := by
  simp [capR, h, bind, Except.bind, pure, Except.pure]

/-- the availability search returns the earliest (backward: latest) whole-day offset with positive
    capacity (backward: on the preceding day) and raises RuntimeError exactly when there is none
    within the horizon -/
theorem C17_search (c : Cal) (cap : Time → Rat) (hcap : ∀ x, capR c x = .ok (cap x))
    (dir : Int) (hdir : dir = 1 ∨ dir = -1) (H : Nat) (t : Time) :
    SearchSpec cap dir H t (search c dir H t) := by
  have _ := hdir  -- the spec holds for any step; `hdir` only records the API contract
  exact search_spec c cap hcap dir H t

/-- the spec determines the result: two results meeting it are equal (so "exactly when") -/
theorem C17_search_unique (cap : Time → Rat) (dir : Int) (hdir : dir = 1 ∨ dir = -1) (H : Nat)
    (t : Time) (r r' : Res Time)
    (h : SearchSpec cap dir H t r) (h' : SearchSpec cap dir H t r') : r = r' := by
  have _ := hdir
  exact SearchSpec_unique cap dir H t r r' h h'

/-- the executable monitor is sound for the spec -/
theorem C17_searchSpecB_sound (cap : Time → Rat) (dir : Int) (H : Nat) (t : Time) (r : Res Time)
    (h : searchSpecB cap dir H t r = true) : SearchSpec cap dir H t r := by
  exact (searchSpecB_iff cap dir H t r).1 h

/-! non-vacuity: a concrete composed definition is well-shaped, valid, builds, and has the stated value -/
example :
    let e : CExpr := .op .sub (.op .add (.weeklyList none none [0,1,2,3,4] 8) (.num 2)) (.fixed 3 (some 10) none)
    e.wellShaped = true ∧ e.invalid = false ∧ e.den 11 = some (some 7) ∧ e.den 9 = some (some 2) := by
  decide +kernel

/-! ### the tie to the current source, by translation

`tools/extract_calendar.py` translates, on every run, the bodies of `get_available_units` of the eight calendar classes,
of `Resource.get_available_units` and of `IResource.get_nearest_availability_date` (calendar.py, resource.py) into terms
of the small embedded language `PyLite` (Extracted/CalendarSrc.lean); `Model/PyLite.lean` gives them meaning.  The three
theorems below say that running the translated source on the fields of a constructed calendar object is the model the
theorems above are about - so an edit of those methods that changes their meaning breaks these proofs. -/

/-- interpreting the translated `get_available_units` methods on a calendar object = the model's `Cal.eval` -/
theorem C17_source_eval (c : Cal) (t : Time) : CalSrc.interp c t = c.eval t :=
  CalSrc.interp_eq_eval c t

/-- `Resource.get_available_units` as translated = the model's capacity function (None becomes 0) -/
theorem C17_source_resource (c : Cal) (t : Time) : CalSrc.interpResource c t = (capR c t).map some :=
  CalSrc.interpResource_eq_capR c t

/-- the translated `while` loop of `get_nearest_availability_date` = the model's search (`fuel` bounds the interpreter's
    loop and only needs to exceed the horizon) -/
theorem C17_source_search (fuel : Nat) (c : Cal) (dir : Int) (n : Nat) (t : Time) (hf : n < fuel) :
    CalSrc.interpSearch fuel c dir n t = search c dir n t :=
  CalSrc.interpSearch_eq_search fuel c dir n t hf

end Pj

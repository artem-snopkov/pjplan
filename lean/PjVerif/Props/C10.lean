/-
  Props/C10.lean — C10: clone and subtree produce faithful, independent copies.
  The copy is the model's own setters replayed on fresh uids (Model/Clone.lean), so everything proved about the
  setters (C01, C05, C11, C15) applies to it.
-/
import PjVerif.Lemmas.CloneLemmas
import PjVerif.Lemmas.WbsSrcC
namespace Pj

/-- the selection a `clone` / `subtree(roots)` call copies: the roots and their descendants, each once -/
def selOf (s : G) (roots : List Uid) : Option (List Uid) :=
  (roots.mapM (fun r => subtreeF s.children s.fuel r)).map (fun l => dedupFirst l.flatten)

/-- the call is well-formed: `w` is a WBS of a reachable state and the roots are ordinary members of it -/
structure CloneArgs (s : G) (w : Uid) (roots : List Uid) : Prop where
  inv : Inv s
  wbs : s.hidden w = true
  wLt : w < s.n
  member : ∀ r ∈ roots, s.owner r = some w ∧ s.hidden r = false

/-- the copies are new objects: every uid of the source universe keeps its id, and the state only grows by the
    copies and the new WBS root -/
theorem C10_fresh (s : G) (w : Uid) (roots sel : List Uid) (h : selOf s roots = some sel) :
    (cloneSel s w roots).1.n = s.n + sel.length + 1 ∧ (cloneSel s w roots).2.2 = s.n + sel.length ∧
    (∀ u, u < s.n → (cloneSel s w roots).1.tid u = s.tid u) ∧
    (∀ i, i < sel.length → (cloneSel s w roots).1.tid (s.n + i) = s.tid (sel.getD i 0)) := by
  obtain ⟨subs, hsubs, rfl⟩ := Option.map_eq_some_iff.mp h
  rw [cloneSel_eq s w roots subs hsubs]
  obtain ⟨hn, ht⟩ := seqOps_n_tid s w roots (dedupFirst subs.flatten) (extend s (dedupFirst subs.flatten))
  refine ⟨hn, rfl, ?_, ?_⟩
  · intro u hu
    show (seqOps id _ _).1.tid u = _
    rw [ht]; exact extend_tid_lt s _ u hu
  · intro i hi
    show (seqOps id _ _).1.tid (s.n + i) = _
    rw [ht]; exact extend_tid_clone s _ i hi

/-- whatever the outcome, the state after the call satisfies the full invariant: well-formed graph, truthful owners,
    unique ids, bounded -/
theorem C10_result_inv (s : G) (w : Uid) (roots : List Uid) (ha : CloneArgs s w roots) :
    Inv (cloneSel s w roots).1 :=
  cloneSel_Inv s w roots ha.inv ha.member

/-- the source WBS is left unchanged: every field of every task that belongs to `w` (and of `w`'s root) -/
theorem C10_source_frame (s : G) (w : Uid) (roots : List Uid) (ha : CloneArgs s w roots) :
    sourceFrameB s (cloneSel s w roots).1 w = true :=
  cloneSel_sourceFrame s w roots ha.inv

/-- tasks outside the source WBS only gain mirror entries that point to copies -/
theorem C10_outside_frame (s : G) (w : Uid) (roots : List Uid) (ha : CloneArgs s w roots) :
    outsideFrameB s (cloneSel s w roots).1 w = true :=
  cloneSel_outsideFrame s w roots ha.inv

/-- on a reachable state the copy is never rejected -/
theorem C10_accepted (s : G) (w : Uid) (roots : List Uid) (ha : CloneArgs s w roots) :
    (cloneSel s w roots).2.1 = none :=
  cloneSel_accepted s w roots ha.inv ha.wbs ha.member

/-- the copy mirrors the selection: ids, hierarchy and sibling order, owner = the new WBS; links between selected
    tasks are copied, links to other members of the source are dropped, links to outside tasks are shared -/
theorem C10_iso (s : G) (w : Uid) (roots sel : List Uid) (ha : CloneArgs s w roots) (h : selOf s roots = some sel)
    (hind : rootsIndependentB s roots = true) :
    cloneHierarchyB s (cloneSel s w roots).1 (s.n + sel.length) sel roots = true ∧
    cloneLinksB s (cloneSel s w roots).1 w sel = true := by
  obtain ⟨subs, hsubs, rfl⟩ := Option.map_eq_some_iff.mp h
  exact cloneSel_iso s w roots subs ha.inv ha.wbs ha.member hsubs hind

/-- non-vacuity and a concrete check: a 4-task WBS; the selected branch has a link inside (3 → 2), a link from a
    non-selected member (1 → 2), a link from a task of another WBS (4 → 2) and a link to a task of no WBS (3 → 5);
    `subtree` of that branch -/
theorem C10_example :
    let s0 := fresh 8 (fun u => if u == 6 || u == 7 then emptyId else (u : Int))
    let s := run s0 [.setChildren 6 [0, 1], .setChildren 0 [2, 3], .setChildren 7 [4], .setPreds 2 [3, 1, 4], .suAppend 3 5]
    let r := cloneSel s 6 [0]
    r.2.1 = none ∧ cloneHierarchyB s r.1 (s.n + 3) [0, 2, 3] [0] = true ∧ cloneLinksB s r.1 6 [0, 2, 3] = true ∧
    sourceFrameB s r.1 6 = true ∧ outsideFrameB s r.1 6 = true ∧ r.1.preds 9 = [4, 10] := by
  decide +kernel

/-! ### the tie of `WBS` (wbs.py) to the current source, by translation (tools/extract_wbs.py → Extracted/WbsSrc.lean, Lemmas/WbsSrc*.lean);
    the program of wbs.py is layered over the program of task.py: a call into task.py runs the translated setters of Lemmas/TaskSrc*.lean -/

/-- the translated `WBS.clone` / `WBS.subtree` (with `__clone`, `__clone_tasks` and its closure `link_target`) build, on a reachable
    state and for roots that are members of the WBS, exactly the model's copy (`cloneWbs` / `cloneSel`): the new WBS object, the store
    of the model's new state, the allocation pointer.  Source and model differ in three places (dicts keyed by task id vs identity;
    relations read while the setters run vs from the initial state; the new WBS() made last vs first) - each proved equal on
    reachable states (`WbsSrc.IdInjOn.pyEq`, `Sound.cell`, `WbsSrc.Mid.task_chain`).  `Task.clone()`, `WBS()` and the copying of a WBS's public attributes are primitives. -/
theorem C10_source_clone (s : G) (st : PyLite.PState) (hh : st.heap = TaskSrc.encHeap s) (hr : st.reads = s.n) (hi : Inv s) (w : Uid)
    (hwbs : s.hidden w = true) (F : Nat) (hF : (cloneWbs s w).1.n + 12 ≤ F) :
    WbsSrc.interpClone F w st = WbsSrc.cloneResult st (cloneWbs s w) :=
  WbsSrc.interpClone_eq s st hh hr hi w hwbs F hF

theorem C10_source_subtree (s : G) (st : PyLite.PState) (hh : st.heap = TaskSrc.encHeap s) (hr : st.reads = s.n) (hi : Inv s) (w : Uid)
    (hwbs : s.hidden w = true) (v : PyLite.Val) (roots : List Uid) (hv : TaskSrc.ValueOf v roots)
    (hm : ∀ r ∈ roots, s.owner r = some w ∧ s.hidden r = false) (F : Nat) (hF : (cloneSel s w roots).1.n + 12 ≤ F) :
    WbsSrc.interpSubtree F w v st = WbsSrc.cloneResult st (cloneSel s w roots) :=
  WbsSrc.interpSubtree_eq s st hh hr hi w hwbs v roots hv hm F hF

end Pj

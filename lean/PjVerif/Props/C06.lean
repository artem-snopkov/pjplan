/-
  Props/C06.lean — C06: scheduling is pure and deterministic in WBS, resources, start and clock.
  The model is a function, so determinism and purity of the *model* hold by construction; that the implementation
  behaves as this function (same object twice, fresh object, input untouched) is what the correspondence stream of the
  check tests.  What is proved here: the output shape and clock independence (PARTIAL, findings KF-S6-C06).
-/
import PjVerif.Lemmas.SchedC06
import PjVerif.Lemmas.SchedC07
import PjVerif.Props.Witness
import PjVerif.Lemmas.CalcSrc
import PjVerif.Lemmas.WbsSrcC
namespace Pj

/-- every member of the result has a start and an end, both schedulers -/
theorem C06_dates_present_forward (env : Env) (f0 : Uid → Fields) (res0 : List (Option Nat × Cal)) (o : Output)
    (hf : env.flagsOK) (h : forwardCalc env f0 res0 = .ok o) :
    ∀ t ∈ memberList env, (o.f t).start.isSome = true ∧ (o.f t).end_.isSome = true :=
  (forwardCalc_c07 env f0 res0 o False hf False.elim h).2.2

theorem C06_dates_present_backward (env : Env) (f0 : Uid → Fields) (res0 : List (Option Nat × Cal)) (o : Output)
    (hf : env.flagsOK) (h : backwardCalc env f0 res0 = .ok o) :
    ∀ t ∈ memberList env, (o.f t).start.isSome = true ∧ (o.f t).end_.isSome = true :=
  (backwardCalc_c07 env f0 res0 o hf h).2.2

/-- under the hypotheses `ClockHyp` (Lemmas/SchedC06.lean) on both clocks the forward result does not depend on the
    clock at all -/
theorem C06_clock_partial (env : Env) (f0 : Uid → Fields) (res0 : List (Option Nat × Cal)) (clk clk' : Nat → Time)
    (hf : env.flagsOK) (h1 : ClockHyp env f0 clk) (h2 : ClockHyp env f0 clk') :
    (forwardCalc { env with clock := clk } f0 res0).map (fun o => (o.rows, o.res, (memberList env).map o.f)) =
    (forwardCalc { env with clock := clk' } f0 res0).map (fun o => (o.rows, o.res, (memberList env).map o.f)) :=
  congrArg _ (forwardCalc_clock env f0 res0 clk clk' hf h1 h2)

/-- the full statement fails (findings/KF-S6-C06.json: two clocks, both not later than the project start, different
    results).  With the end clamp repaired (KF-S6, `fwdEnd` of Model/Sched.lean) the witness is of the zero-work kind:
    its only task has nothing left to do, starts at the midnight of the project start day and ends at the later of
    that midnight and the clock -/
theorem C06_clock_full_fails :
    let env := Witness.kfS6C06Env
    let clk' : Nat → Time := fun _ => env.bound
    (∀ k, env.clock k ≤ env.bound) ∧ (∀ k, clk' k ≤ env.bound) ∧
    (forwardCalc env Witness.kfS6C06F0 Witness.kfS6C06Res).map (fun o => (memberList env).map o.f) ≠
    (forwardCalc { env with clock := clk' } Witness.kfS6C06F0 Witness.kfS6C06Res).map (fun o => (memberList env).map o.f) := by
  refine ⟨fun k => ?_, fun k => Rat.le_refl, ?_⟩
  · show ((315687 : Rat) / 16) ≤ ((315721 : Rat) / 16)
    decide +kernel
  · apply map_ne_of_proj _ _ _ (fun l => l.map (fun x => x.end_))
    decide +kernel

/-- the remaining kind of clock dependence: a member leaf with a user-fixed start (Monday 2024-01-01) and no fixed end,
    project start Wednesday 2024-01-03, two clocks both not later than the project start, one on the day before the
    fixed start's day and one on the day after it: the work is booked from the clock on, so the usage rows differ -/
theorem C06_clock_fixed_start_fails :
    let env : Env :=
      { n := 1,
        info := fun u => match u with
          | 0 => { tid := 1, parent := none, children := [], preds := [], succs := [], member := true,
                   resource := some 0, milestone := false, minStart := none }
          | _ => default,
        roots := [0], balance := true, defaultEst := (8 : Rat),
        clock := fun _ => ((39445 : Rat) / 2), bound := (19725 : Rat) }
    let f0 : Uid → Fields := fun _ => { start := some (19723 : Rat), end_ := none, est := none, spent := none }
    let clk' : Nat → Time := fun _ => ((39449 : Rat) / 2)
    (∀ k, env.clock k ≤ env.bound) ∧ (∀ k, clk' k ≤ env.bound) ∧
    (forwardCalc env f0 []).map (fun o => o.rows) ≠ (forwardCalc { env with clock := clk' } f0 []).map (fun o => o.rows) := by
  refine ⟨fun k => ?_, fun k => ?_, ?_⟩
  · show ((39445 : Rat) / 2) ≤ (19725 : Rat)
    decide +kernel
  · show ((39449 : Rat) / 2) ≤ (19725 : Rat)
    decide +kernel
  · apply map_ne_of_proj _ _ _ (fun l => l.map (fun x => x.day))
    decide +kernel

/-- the translated `ForwardScheduler.calc` (validation, loop check, future-end check, clone, prepare, the pass over the roots; every
    call of a function of schedule.py runs the translated source of its callee down to calendar.py; `wbs.tasks`, `roots`,
    `clone()`, `all_children`, `all_parents` are primitives with the model's meaning) is the model's `forwardCalc`, errors included - unless the model
    ends in RecursionError (excluded for inputs that pass the pre-checks, C14).  `mem` = `WBS.tasks`, `w` the WBS object, `B0` the
    store of list/set containers, `hms` the effective-milestone encoding. -/
theorem C06_source_calc_forward (env : Env) (ms : Uid → Bool) (mem : List Uid) (w : Nat)
    (hmem : members env = some mem)
    (hms : ∀ u, (env.info u).milestone = (ms u && (env.info u).children.isEmpty))
    (fuel wfuel pfuel : Nat) (hf : env.n + 2 ≤ fuel) (hw : Extracted.fwdShiftMaxSteps < wfuel) (hp : env.n + 1 ≤ pfuel)
    (f0 : Uid → Fields) (res0 : List (Option Nat × Cal)) (rows0 : List Row) (done0 : List Uid) (B0 : List (List PyLite.Atom))
    (hne : forwardCalc env f0 res0 ≠ .error (.crash .recursion)) :
    match forwardCalc env f0 res0 with
    | .ok out => ∃ σ B, CalcSrc.interpFwdCalc env mem w fuel wfuel (PassSrc.calRef res0) pfuel
          (CalcSrc.wb (PassSrc.encS env ms { f := f0, rows := rows0, done := done0, res := res0, reads := 0 }) B0) =
          .ok (.atom (.ref w), CalcSrc.wb (PassSrc.encS env ms σ) B) ∧ out = { f := σ.f, rows := σ.rows, res := σ.res }
    | .error e => CalcSrc.interpFwdCalc env mem w fuel wfuel (PassSrc.calRef res0) pfuel
          (CalcSrc.wb (PassSrc.encS env ms { f := f0, rows := rows0, done := done0, res := res0, reads := 0 }) B0) = .error e :=
  CalcSrc.interpFwdCalc_eq env ms mem w hmem (PassSrc.Reach.all hms) (fun _ _ => trivial) fuel wfuel pfuel hf hw hp f0 res0 rows0 done0 B0 hne

/-- the same for `BackwardScheduler.calc` and `backwardCalc` -/
theorem C06_source_calc_backward (env : Env) (ms : Uid → Bool) (mem : List Uid) (w : Nat)
    (hmem : members env = some mem)
    (hms : ∀ u, (env.info u).milestone = (ms u && (env.info u).children.isEmpty))
    (fuel wfuel pfuel : Nat) (hf : env.n + 2 ≤ fuel) (hw : Extracted.bwdShiftMaxSteps < wfuel) (hp : env.n + 1 ≤ pfuel)
    (f0 : Uid → Fields) (res0 : List (Option Nat × Cal)) (rows0 : List Row) (done0 : List Uid) (B0 : List (List PyLite.Atom))
    (hne : backwardCalc env f0 res0 ≠ .error (.crash .recursion)) :
    match backwardCalc env f0 res0 with
    | .ok out => ∃ σ B, CalcSrc.interpBwdCalc env mem w fuel wfuel (PassSrc.calRef res0) pfuel
          (CalcSrc.wb (PassSrcBwd.encSB env ms { f := f0, rows := rows0, done := done0, res := res0, reads := 0 }) B0) =
          .ok (.atom (.ref w), CalcSrc.wb (PassSrcBwd.encSB env ms σ) B) ∧ out = { f := σ.f, rows := σ.rows, res := σ.res }
    | .error e => CalcSrc.interpBwdCalc env mem w fuel wfuel (PassSrc.calRef res0) pfuel
          (CalcSrc.wb (PassSrcBwd.encSB env ms { f := f0, rows := rows0, done := done0, res := res0, reads := 0 }) B0) = .error e :=
  CalcSrc.interpBwdCalc_eq env ms mem w hmem (PassSrc.Reach.all hms) (fun _ _ => trivial) fuel wfuel pfuel hf hw hp f0 res0 rows0 done0 B0 hne

/-! ### the tie of `WBS` (wbs.py) to the current source, by translation (tools/extract_wbs.py → Extracted/WbsSrc.lean, Lemmas/WbsSrc*.lean);
    the program of wbs.py is layered over the program of task.py: a call into task.py runs the translated setters of Lemmas/TaskSrc*.lean -/

/-- the translated `WBS.clone` / `WBS.subtree` (with `__clone`, `__clone_tasks` and its closure `link_target`) build, on a reachable
    state and for roots that are members of the WBS, exactly the model's copy (`cloneWbs` / `cloneSel`): the new WBS object, the store
    of the model's new state, the allocation pointer.  Source and model differ in three places (dicts keyed by task id vs identity;
    relations read while the setters run vs from the initial state; the new WBS() made last vs first) - each proved equal on
    reachable states.  `Task.clone()`, `WBS()` and the copying of a WBS's public attributes are primitives. -/
theorem C06_source_clone (s : G) (st : PyLite.PState) (hh : st.heap = TaskSrc.encHeap s) (hr : st.reads = s.n) (hi : Inv s) (w : Uid)
    (hwbs : s.hidden w = true) (F : Nat) (hF : (cloneWbs s w).1.n + 12 ≤ F) :
    WbsSrc.interpClone F w st = WbsSrc.cloneResult st (cloneWbs s w) :=
  WbsSrc.interpClone_eq s st hh hr hi w hwbs F hF

theorem C06_source_subtree (s : G) (st : PyLite.PState) (hh : st.heap = TaskSrc.encHeap s) (hr : st.reads = s.n) (hi : Inv s) (w : Uid)
    (hwbs : s.hidden w = true) (v : PyLite.Val) (roots : List Uid) (hv : TaskSrc.ValueOf v roots)
    (hm : ∀ r ∈ roots, s.owner r = some w ∧ s.hidden r = false) (F : Nat) (hF : (cloneSel s w roots).1.n + 12 ≤ F) :
    WbsSrc.interpSubtree F w v st = WbsSrc.cloneResult st (cloneSel s w roots) :=
  WbsSrc.interpSubtree_eq s st hh hr hi w hwbs v roots hv hm F hF

end Pj

/-
  Props/C01.lean — C01: hierarchy and dependency graph stay well-formed under any mutation history.
-/
import PjVerif.Lemmas.GraphPerm
import PjVerif.Lemmas.TaskSrcD
namespace Pj

/-- a universe of isolated tasks and empty WBSs is well-formed -/
theorem C01_init (n : Nat) (tid : Uid → Int) : WF (fresh n tid) := fresh_WF n tid

/-- one call of any public mutator, legal or illegal arguments, returning or raising -/
theorem C01_step (s : G) (op : Op) (hw : WF s) (hv : op.visible s) : WF (step s op).1 :=
  step_WF s op hw hv

/-- the state after every finite history (the arguments never name a hidden WBS root in task position, which the
    public API cannot do) -/
theorem C01_run (ops : List Op) (s : G) (hw : WF s) (hv : ∀ op ∈ ops, op.visible s) : WF (run s ops) := by
  induction ops generalizing s with
  | nil => exact hw
  | cons op ops ih =>
    have h1 : run s (op :: ops) = run (step s op).1 ops := by simp [run]
    rw [h1]
    apply ih
    · exact step_WF s op hw (hv op List.mem_cons_self)
    · intro op' hop'
      exact visible_of_tid s _ (step_tid s op) op' (hv op' (List.mem_cons_of_mem _ hop'))

/-- … and every prefix, i.e. "at every intermediate state" -/
theorem C01_run_prefix (ops pre : List Op) (s : G) (hw : WF s) (hv : ∀ op ∈ ops, op.visible s)
    (hp : pre <+: ops) : WF (run s pre) :=
  C01_run pre s hw (fun op hop => hv op (hp.subset hop))

/-! ### the tie of the relation setters of `Task` to the current source, by translation (tools/extract_task.py → Extracted/TaskSrc.lean,
    Lemmas/TaskSrc*.lean): the model's `setParent` / `setPreds` / `setSuccs` / `setChildren` are what the CURRENT task.py computes -/

/-- the translated `parent` setter (with `_find_root`, `_collect_subtree`, `_has_id_intersection`, `_linked_with_any`, `_attach`,
    `_detach`, `all_parents`, `all_children` as translated callees), run on the encoding of a well-formed state, gives the encoding of
    the model's new state when the model accepts and the model's error when it rejects - unless the model's fuel runs out -/
theorem C01_source_set_parent (s : G) (hw : WF s) (t : Uid) (p : Option Uid) (F : Nat) (hF : s.n + 6 ≤ F)
    (hrec : (setParent s t p).2 ≠ some (.crash .recursion)) :
    TaskSrc.interpSetParent F t p (TaskSrc.encSt s) = TaskSrc.setterResult (TaskSrc.encSt s) (setParent s t p) :=
  TaskSrc.interpSetParent_eq_wf s hw t p F hF hrec

/-- the translated `predecessors` / `successors` setters (validation loops, unlink loop, relink loop) are the model's `setPreds` /
    `setSuccs`, for every state (no well-formedness needed) and every admissible right-hand side (`ValueOf`: a list of tasks and
    `None`s, one task, `None`) -/
theorem C01_source_set_predecessors (s : G) (st : PyLite.PState) (hh : st.heap = TaskSrc.encHeap s) (t : Uid) (v : PyLite.Val)
    (l : List Uid) (hv : TaskSrc.ValueOf v l) (F : Nat) (hF : s.n + 4 ≤ F) (hrec : (setPreds s t l).2 ≠ some (.crash .recursion)) :
    TaskSrc.interpSetPreds F t v st = TaskSrc.setterResult st (setPreds s t l) :=
  TaskSrc.interpSetPreds_eq s st hh t v l hv F hF hrec

theorem C01_source_set_successors (s : G) (st : PyLite.PState) (hh : st.heap = TaskSrc.encHeap s) (t : Uid) (v : PyLite.Val)
    (l : List Uid) (hv : TaskSrc.ValueOf v l) (F : Nat) (hF : s.n + 4 ≤ F) (hrec : (setSuccs s t l).2 ≠ some (.crash .recursion)) :
    TaskSrc.interpSetSuccs F t v st = TaskSrc.setterResult st (setSuccs s t l) :=
  TaskSrc.interpSetSuccs_eq s st hh t v l hv F hF hrec

/-- the translated `children` setter (validations, release of the old children, the loop of `v.parent = self` assignments - each
    running the translated `parent` setter on an intermediate state) is the model's `setChildren`, for every state -/
theorem C01_source_set_children (s : G) (st : PyLite.PState) (hh : st.heap = TaskSrc.encHeap s) (h : Uid) (v : PyLite.Val)
    (l : List Uid) (hv : TaskSrc.ValueOf v l) (F : Nat) (hF : s.n + 6 ≤ F) (hrec : (setChildren s h l).2 ≠ some (.crash .recursion)) :
    TaskSrc.interpSetChildren F h v st = TaskSrc.setterResult st (setChildren s h l) :=
  TaskSrc.interpSetChildren_eq s st hh h v l hv F hF hrec

end Pj

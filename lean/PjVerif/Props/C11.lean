/-
  Props/C11.lean — C11: Task.wbs always tells the truth about WBS membership.
-/
import PjVerif.Lemmas.GraphEffLemmas
import PjVerif.Lemmas.TaskSrcD
import PjVerif.Lemmas.WbsSrcB
namespace Pj

theorem C11_step (s : G) (op : Op) (hi : Inv s) (hl : op.legal s) : OwnerOK (step s op).1 :=
  (step_Inv s op hi hl).own

theorem C11_run (ops : List Op) (s : G) (hi : Inv s) (hl : ∀ op ∈ ops, op.legal s) : OwnerOK (run s ops) :=
  (run_Inv ops s hi hl).own

/-- a task reports WBS `w` as owner exactly when it appears in `w.tasks` -/
theorem C11_member_iff (s : G) (w t : Uid) (hi : Inv s) (hw : s.hidden w = true) (ht : s.hidden t = false) :
    s.owner t = some w ↔ ∃ l, wbsTasks s w = some l ∧ t ∈ l :=
  owner_member_iff s w t hi hw ht

/-- a task has no owner exactly when it is in no WBS -/
theorem C11_none_iff (s : G) (t : Uid) (hi : Inv s) :
    s.owner t = none ↔ ∀ w, s.hidden w = true → ¬ RTC (par s) t w :=
  owner_none_iff_noWbs s t hi

/-- tasks left out of an accepted children/roots assignment (hence also `remove`, `remove_all`, `WBS.remove`,
    which all go through it) report no owner afterwards, together with their whole subtree, unless part of that
    subtree is itself adopted by the same call -/
theorem C11_released (s s' : G) (h : Uid) (l : List Uid) (hi : Inv s)
    (hv : ∀ v ∈ l, s.hidden v = false) (hh : h < s.n) (hl : ∀ v ∈ l, v < s.n)
    (hok : setChildren s h l = (s', none)) (c : Uid) (hc : c ∈ s.children h) (hcl : c ∉ l)
    (hno : ∀ y ∈ l, ¬ RTC (par s) y c) :
    ∀ x, RTC (par s) x c → s'.owner x = none ∧ s'.parent c = none := by
  have hr := setChildren_released s s' h l hi hv hh hl hok c hc hno
  exact fun x hx => ⟨hr.own x hx, hr.top⟩

/-- a task that belongs to no WBS and whose subtree shares no id with the members of `w` can be appended to the roots
    of `w` (stated for a parentless task of the universe; `reattach` needs neither) -/
theorem C11_reattach (s : G) (w t : Uid) (hi : Inv s) (hw : s.hidden w = true) (ht : s.hidden t = false)
    (htn : t < s.n) (hwn : w < s.n) (hdet : s.owner t = none) (hpar : s.parent t = none)
    (hids : ∀ x y, RTC (par s) x t → TC (par s) y w → s.tid x ≠ s.tid y) :
    ∃ s', chAppend s w t = (s', none) ∧ s'.owner t = some w :=
  reattach s w t hi hw ht hdet hids

/-! ### the tie of the relation setters of `Task` to the current source, by translation (tools/extract_task.py → Extracted/TaskSrc.lean,
    Lemmas/TaskSrc*.lean): the model's `setParent` / `setPreds` / `setSuccs` / `setChildren` are what the CURRENT task.py computes -/

/-- the translated `parent` setter (with `_find_root`, `_collect_subtree`, `_has_id_intersection`, `_linked_with_any`, `_attach`,
    `_detach`, `all_parents`, `all_children` as translated callees), run on the encoding of a well-formed state, gives the encoding of
    the model's new state when the model accepts and the model's error when it rejects - unless the model's fuel runs out -/
theorem C11_source_set_parent (s : G) (hw : WF s) (t : Uid) (p : Option Uid) (F : Nat) (hF : s.n + 6 ≤ F)
    (hrec : (setParent s t p).2 ≠ some (.crash .recursion)) :
    TaskSrc.interpSetParent F t p (TaskSrc.encSt s) = TaskSrc.setterResult (TaskSrc.encSt s) (setParent s t p) :=
  TaskSrc.interpSetParent_eq_wf s hw t p F hF hrec

/-- the translated `children` setter (validations, release of the old children, the loop of `v.parent = self` assignments - each
    running the translated `parent` setter on an intermediate state) is the model's `setChildren`, for every state -/
theorem C11_source_set_children (s : G) (st : PyLite.PState) (hh : st.heap = TaskSrc.encHeap s) (h : Uid) (v : PyLite.Val)
    (l : List Uid) (hv : TaskSrc.ValueOf v l) (F : Nat) (hF : s.n + 6 ≤ F) (hrec : (setChildren s h l).2 ≠ some (.crash .recursion)) :
    TaskSrc.interpSetChildren F h v st = TaskSrc.setterResult st (setChildren s h l) :=
  TaskSrc.interpSetChildren_eq s st hh h v l hv F hF hrec

/-- the translated `_attach` / `_detach` write the owner on exactly the task and its descendants (`setOwners`) -/
theorem C11_source_attach (w : Uid) (f : Nat) (s : G) (st : PyLite.PState) (hh : st.heap = TaskSrc.encHeap s) (t : Uid) (r : List Uid)
    (h : descF s.children f t = some r) (F : Nat) (hF : f ≤ F) :
    (TaskSrc.Hd F).fnV Extracted.fn_Task_attach [.atom (.ref t), .atom (.ref w)] st =
      .ok (.atom .none, TaskSrc.withG st (setOwners s (t :: r) (some w))) :=
  TaskSrc.attach_spec TaskSrc.progHd w f s st hh t r h F hF

theorem C11_source_detach (f : Nat) (s : G) (st : PyLite.PState) (hh : st.heap = TaskSrc.encHeap s) (t : Uid) (r : List Uid)
    (h : descF s.children f t = some r) (F : Nat) (hF : f ≤ F) :
    (TaskSrc.Hd F).fnV Extracted.fn_Task_detach [.atom (.ref t)] st = .ok (.atom .none, TaskSrc.withG st (setOwners s (t :: r) none)) :=
  TaskSrc.detach_spec TaskSrc.progHd f s st hh t r h F hF

/-! ### the tie of `WBS` (wbs.py) to the current source, by translation (tools/extract_wbs.py → Extracted/WbsSrc.lean, Lemmas/WbsSrc*.lean);
    the program of wbs.py is layered over the program of task.py: a call into task.py runs the translated setters of Lemmas/TaskSrc*.lean -/

/-- the translated `WBS.tasks` returns the model's member list (`wbsTasks`: the depth-first enumeration below the hidden root) -/
theorem C11_source_tasks (s : G) (st : PyLite.PState) (hh : st.heap = TaskSrc.encHeap s) (w : Uid) (r : List Uid)
    (h : wbsTasks s w = some r) (F : Nat) (hF : s.n + 3 ≤ F) :
    WbsSrc.interpTasks F w st = .ok (TaskSrc.refs r, st) :=
  WbsSrc.interpTasks_eq s st hh w r h F hF

/-- the translated `WBS.remove` (with its recursive `__remove` and `_ChildrenList.remove`) is the model's `wbsRemove`, for every state;
    `wbsRemoveResult_state`: state and error are those of `wbsRemove`, the returned flag is the one of `removeRec` -/
theorem C11_source_remove (s : G) (st : PyLite.PState) (hh : st.heap = TaskSrc.encHeap s) (w t : Uid) (F : Nat)
    (hF : 2 * s.n + 12 ≤ F) (hrec : (wbsRemove s w t).2 ≠ some (.crash .recursion)) :
    WbsSrc.interpRemove F w (.atom (.ref t)) st = WbsSrc.wbsRemoveResult st s w t :=
  WbsSrc.interpRemove_eq s st hh w t F hF hrec

end Pj

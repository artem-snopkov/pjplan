/-
  Props/C07.lean — C07: every scheduled task has start ≤ end and summary tasks roll up their children.
-/
import PjVerif.Lemmas.SchedC07
import PjVerif.Lemmas.PassSrc
import PjVerif.Lemmas.PassSrcBwd
namespace Pj

/-- forward: summary start/end/estimate/spent are the roll-ups of the children whatever the user had put there;
    start ≤ end for every task when the user-fixed dates are consistent (a fixed end comes with a fixed start not
    after it) -/
theorem C07_forward (env : Env) (f0 : Uid → Fields) (res0 : List (Option Nat × Cal)) (o : Output)
    (hf : env.flagsOK) (hcons : consistentFixed env f0 = true) (h : forwardCalc env f0 res0 = .ok o) :
    c07StartLeEnd env o = true ∧ c07Rollup env o = true := by
  have := forwardCalc_c07 env f0 res0 o (consistentFixed env f0 = true) hf id h
  exact ⟨this.2.1 hcons, this.1⟩

theorem C07_rollup_forward (env : Env) (f0 : Uid → Fields) (res0 : List (Option Nat × Cal)) (o : Output)
    (hf : env.flagsOK) (h : forwardCalc env f0 res0 = .ok o) : c07Rollup env o = true :=
  (forwardCalc_c07 env f0 res0 o False hf False.elim h).1

theorem C07_backward (env : Env) (f0 : Uid → Fields) (res0 : List (Option Nat × Cal)) (o : Output)
    (hf : env.flagsOK) (h : backwardCalc env f0 res0 = .ok o) :
    c07StartLeEnd env o = true ∧ c07Rollup env o = true :=
  have := backwardCalc_c07 env f0 res0 o hf h
  ⟨this.2.1 trivial, this.1⟩

/-- consequently `WBS.start` / `WBS.end` (earliest root start / latest root end, wbs.py:41-55) are the earliest
    start and the latest end over all tasks of the result (milestones are leaves) -/
theorem C07_wbs_start_end_forward (env : Env) (f0 : Uid → Fields) (res0 : List (Option Nat × Cal)) (o : Output)
    (hf : env.flagsOK) (h : forwardCalc env f0 res0 = .ok o)
    (hms : ∀ t ∈ memberList env, (env.info t).milestone = true → isLeaf env t = true) :
    minOpt (env.roots.filterMap (fun r => (o.f r).start)) = minOpt ((memberList env).filterMap (fun t => (o.f t).start)) ∧
    maxOpt (env.roots.filterMap (fun r => (o.f r).end_)) = maxOpt ((memberList env).filterMap (fun t => (o.f t).end_)) :=
  forwardCalc_wbs_start_end env f0 res0 o hf h hms

theorem C07_wbs_start_end_backward (env : Env) (f0 : Uid → Fields) (res0 : List (Option Nat × Cal)) (o : Output)
    (hf : env.flagsOK) (h : backwardCalc env f0 res0 = .ok o)
    (hms : ∀ t ∈ memberList env, (env.info t).milestone = true → isLeaf env t = true) :
    minOpt (env.roots.filterMap (fun r => (o.f r).start)) = minOpt ((memberList env).filterMap (fun t => (o.f t).start)) ∧
    maxOpt (env.roots.filterMap (fun r => (o.f r).end_)) = maxOpt ((memberList env).filterMap (fun t => (o.f t).end_)) :=
  backwardCalc_wbs_start_end env f0 res0 o hf h hms

/-! ### the tie of the recursive passes to the current source, by translation: as in Props/C02.lean, where the
    setting is described; stated again here so that this property has it among its obligations -/

theorem C07_source_forward_pass (env : Env) (ms : Uid → Bool) (wfuel : Nat)
    (hms : ∀ u, (env.info u).milestone = (ms u && (env.info u).children.isEmpty))
    (hw : Extracted.fwdShiftMaxSteps < wfuel) (fuel fuel' : Nat) (hle : fuel ≤ fuel') (stk : List Uid) (σ : SS)
    (t : Uid) (minDate : Time) (hne : fwdPass env fuel stk σ t minDate ≠ .error (.crash .recursion)) :
    PassSrc.interpFwdPass env wfuel (PassSrc.calRef σ.res) fuel' (PassSrc.encS env ms σ) t minDate =
      (fwdPass env fuel stk σ t minDate).map (PassSrc.encS env ms) :=
  PassSrc.interpFwdPass_eq env ms wfuel hms hw fuel fuel' hle stk σ t minDate hne

/-- as `C04_source_backward_pass` -/
theorem C07_source_backward_pass (env : Env) (ms : Uid → Bool) (wfuel : Nat)
    (hms : ∀ u, (env.info u).milestone = (ms u && (env.info u).children.isEmpty))
    (hw : Extracted.bwdShiftMaxSteps < wfuel) (fuel fuel' : Nat) (hle : fuel ≤ fuel') (stk : List Uid) (σ : SS)
    (t : Uid) (minDate : Time) (hne : bwdPass env fuel stk σ t minDate ≠ .error (.crash .recursion)) :
    PassSrcBwd.interpBwdPass env wfuel (PassSrc.calRef σ.res) fuel' (PassSrcBwd.encSB env ms σ) t minDate =
      (bwdPass env fuel stk σ t minDate).map (PassSrcBwd.encSB env ms) :=
  PassSrcBwd.interpBwdPass_eq env ms wfuel hms hw fuel fuel' hle stk σ t minDate hne

/-- the translated `__prepare_tasks` of both schedulers clear exactly what the model's `prepare` clears (the dates, estimate and
    spent a user had put on a summary task): `mem` = the members (`project.tasks`), `w` the WBS object -/
theorem C07_source_prepare (env : Env) (ms : Uid → Bool) (σ : SS) (w : Nat) (mem : List Uid) (hw : w ∉ mem) :
    PassSrcBwd.interpPrepare Extracted.src_Fwd_prepare (PassSrcBwd.wbsState (PassSrc.encS env ms σ) w mem) w =
      .ok (PassSrcBwd.wbsState (PassSrc.encS env ms { σ with f := prepare env σ.f mem }) w mem) ∧
    PassSrcBwd.interpPrepare Extracted.src_Bwd_prepare (PassSrcBwd.wbsState (PassSrcBwd.encSB env ms σ) w mem) w =
      .ok (PassSrcBwd.wbsState (PassSrcBwd.encSB env ms { σ with f := prepare env σ.f mem }) w mem) :=
  ⟨PassSrcBwd.interpFwdPrepare_eq env ms σ w mem hw, PassSrcBwd.interpBwdPrepare_eq env ms σ w mem hw⟩

end Pj

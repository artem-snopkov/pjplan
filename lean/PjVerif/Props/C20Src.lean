/-
  Props/C20Src.lean — C20, source level (PARTIAL tie): the sheet printer `_Repr` of task.py is translated on every run
  (tools/extract_print.py → Extracted/PrintSrc.lean).  Proved in general (Lemmas/PrintSrcA.lean, PrintSrcB.lean): the cell texts for EVERY
  field name, the rows `__print_task_subtree` hands to the table (depth-first, children on/off, the colour rule) and the value of `repr`
  (header row + the rows of every task of the list = the model's `sheet`), and the two layout numbers (`__calc_max_title_len`,
  `__max_field_len`, Lemmas/PrintSrcC.lean).  `TextTable` / `colored_text` (utils.py) are a primitive whose meaning is the model's
  `render`.  The runs of the translated program on a concrete WBS (Lemmas/PrintSrcCheckB.lean, on the WBS of PrintSrcCheck.lean) are instances of
  the theorems (Lemmas/PrintSrcRuns.lean; the concrete string library round-trips: Lemmas/PrintSrcLib.lean), compared with literal
  texts by evaluating the model (what Python prints, up to the stand-ins of `cLib` for `strftime` and `str` of a number).
-/
import PjVerif.Lemmas.PrintSrcA
import PjVerif.Lemmas.PrintSrcB
import PjVerif.Lemmas.PrintSrcC
import PjVerif.Lemmas.PrintSrcCheck
import PjVerif.Lemmas.PrintSrcCheckB
namespace Pj
open Pj.PyLite Pj.Print

/-- the translated `_Repr.__get_linked_task_id`: the linked task's id, marked `(external)` when it belongs to another WBS; '' for None
    and for the hidden root - for every string library `S` whose encoding round-trips (`S.OK`) -/
theorem C20_source_linked_id (S : PrintSrc.Lib) (pts : Nat → PrintSrc.PyTask) (hS : S.OK) (F t : Nat) (l : Option Nat) (hF : 1 ≤ F) :
    PrintSrc.interpLinkedId S pts F t l =
      .ok (.atom (S.s (match l with | none => [] | some l => linkedId (PrintSrc.tsOf S pts) t l))) :=
  PrintSrc.interpLinkedId_eq pts hS F t l hF

/-- the translated `_Repr.__get_linked_tasks_id`: the comma-joined ids of the linked tasks, in list order, one per link -/
theorem C20_source_linked_ids (S : PrintSrc.Lib) (pts : Nat → PrintSrc.PyTask) (hS : S.OK) (F t : Nat) (ls : List Nat) (hF : 2 ≤ F) :
    PrintSrc.interpLinkedIds S pts F t ls =
      .ok (.atom (S.s (joinComma (ls.map (linkedId (PrintSrc.tsOf S pts) t))))) :=
  PrintSrc.interpLinkedIds_eq pts hS F t ls hF

/-- the translated `_Repr.__get_field_value` on the computed fields (predecessors, successors, parent, id, estimate, spent) is the
    model's cell function `fieldValue`: the case `field ∈ stdFields` of `C20_source_field_value` -/
theorem C20_source_field_value_std (S : PrintSrc.Lib) (pts : Nat → PrintSrc.PyTask) (hS : S.OK) (F t : Nat) (field : Str)
    (hf : field ∈ PrintSrc.stdFields) (hF : 3 ≤ F) :
    PrintSrc.interpFieldValue S pts F t field = .ok (.atom (S.s (fieldValue (PrintSrc.tsOf S pts) t field))) :=
  PrintSrc.interpFieldValue_eq pts hS F t field hf hF

/-- the translated `_Repr.__get_field_value` is `fieldValue` on EVERY field name: unknown names give '', differently-cased names are retried through `lower()`, `None` gives '-',
    datetimes go through `strftime`, everything else through `str()` -/
theorem C20_source_field_value (S : PrintSrc.Lib) (pts : Nat → PrintSrc.PyTask) (hS : S.OK) (F t : Nat) (field : Str) (hF : 3 ≤ F) :
    PrintSrc.interpFieldValue S pts F t field = .ok (.atom (S.s (fieldValue (PrintSrc.tsOf S pts) t field))) :=
  PrintSrc.interpFieldValue_eq_all pts hS F t field hF

/-- the translated `_Repr.__print_task_subtree` hands the table exactly the model's rows of the subtree, in depth-first order, with
    the colour rule (`print_color`, else `level_colors[level]`, else GREY) - for a subtree at most `n + 1` levels deep (`DepthOK`; the
    model's enumeration has that fuel) and `print_color` values that are `None` or a str (`ColOK`) -/
theorem C20_source_subtree_rows (S : PrintSrc.Lib) (pts : Nat → PrintSrc.PyTask) (th : PrintSrc.PyTheme) (hS : S.OK)
    (hc : PrintSrc.ColOK S pts) (F n t level : Nat) (fields : List Str) (children : Bool) (log : List PyLite.Atom)
    (hd : children = true → PrintSrc.DepthOK pts (n + 1) t) (hF : n + 4 ≤ F) :
    PrintSrc.interpSubtree S pts th F t fields level children log =
      .ok (log ++ PrintSrc.logOfRows S (subtreeRows (PrintSrc.tsOf S pts) fields children (PrintSrc.toTheme th) (n + 1) level t)) :=
  PrintSrc.interpSubtree_eq pts th hS hc F n t level fields children log hd hF

/-- the translated `_Repr.repr`: the header row followed by the rows of every task of the list; its value is the model's `sheet` -/
theorem C20_source_repr (S : PrintSrc.Lib) (pts : Nat → PrintSrc.PyTask) (th : PrintSrc.PyTheme) (hS : S.OK)
    (hc : PrintSrc.ColOK S pts) (F n : Nat) (tasks : List Nat) (fields : List Str) (children : Bool)
    (hd : children = true → ∀ t ∈ tasks, PrintSrc.DepthOK pts (n + 1) t) (hF : n + 5 ≤ F) :
    PrintSrc.interpRepr S pts th F tasks fields children =
      .ok (.atom (S.s (sheet (PrintSrc.tsOf S pts) n tasks fields children (PrintSrc.toTheme th))),
        PrintSrc.logOfRows S (PrintSrc.sheetRows (PrintSrc.tsOf S pts) n tasks fields children (PrintSrc.toTheme th))) :=
  PrintSrc.interpRepr_eq pts th hS hc F n tasks fields children hd hF

/-- the translated `_Repr.__calc_max_title_len` / `__max_field_len`: the width of the name column (indentation included) and of any
    other column (header + 1, the longest cell text over the tasks and their descendants); subtrees at most as deep as the fuel of
    `titleLen` / `maxFieldLen` (`DepthOK`; for `__max_field_len` the fuel is `n + 1` where `DepthOK` is stated with `n`, so `1 ≤ n`
    as soon as there is a task) -/
theorem C20_source_title_len (S : PrintSrc.Lib) (pts : Nat → PrintSrc.PyTask) (hS : S.OK) (F n t level cur : Nat)
    (hd : PrintSrc.DepthOK pts (n + 1) t) (hF : n + 1 ≤ F) :
    PrintSrc.interpTitleLen S pts F t level cur =
      .ok (.atom (.num ((PrintSrc.titleLen (PrintSrc.tsOf S pts) (n + 1) level t cur : Nat) : Rat))) :=
  PrintSrc.interpTitleLen_eq pts hS F n t level cur hd hF

theorem C20_source_max_field_len (S : PrintSrc.Lib) (pts : Nat → PrintSrc.PyTask) (hS : S.OK) (F n : Nat) (tasks : List Nat)
    (field : Str) (hd : ∀ t ∈ tasks, PrintSrc.DepthOK pts n t) (hF : n + 4 ≤ F) :
    PrintSrc.interpMaxFieldLen S pts F tasks field =
      .ok (.atom (.num ((PrintSrc.maxFieldLen (PrintSrc.tsOf S pts) field (n + 1) tasks : Nat) : Rat))) :=
  PrintSrc.interpMaxFieldLen_eq pts hS F n tasks field hd hF

end Pj

/-
  Props/C19Src.lean — C19, source level: the Mermaid renderers (viz/mermaid/network.py, gantt.py) are translated on every run
  (tools/extract_render.py → Extracted/RenderSrc.lean).  Proved in general (Lemmas/RenderSrcA.lean, RenderSrcB.lean), for every string
  library whose encoding round-trips, every view (members, title, flags, the clock `now`, style texts) and task description: the network
  label (quotes removed, both braces escaped), the whole network source (one edge per predecessor, Start edges, style lines) = the model's
  `networkSrc`; the Gantt task state (milestone / done / active), the Gantt task line and the whole Gantt source (`__src`: title, weekends,
  tick interval, grouping into sections in first-occurrence order - Lemmas/RenderSrcC0.lean, RenderSrcC.lean) = the model's `stateOf` /
  `ganttLine` / `ganttSrc`.  `DhtmlxGantt.__data` (entries and links, tools/extract_dhtmlx.py → Extracted/DhtmlxSrc.lean) is tied by
  `DhtmlxSrc.interpOut_eq` (Lemmas/DhtmlxSrcA.lean): for every string library whose encoding round-trips, every view and every task
  table whose tasks have distinct `__dict__` names, the translated program builds the model's entries and links.  The runs on concrete
  WBSs (Lemmas/DhtmlxSrcCheck.lean, DhtmlxSrcCheckB.lean - a WBS with nested tasks, a milestone, outside predecessors and parents, user
  attributes named like entry keys; a grid of 72 progress cases; every forest on three tasks with every single link) are its instances,
  compared with literal values by evaluating the model - imported here, so a translated source that no longer reproduces them breaks
  this module.  `to_html`, the templates, `__columns` and scales are not
  translated.  The runs of the Mermaid programs on a concrete WBS (RenderSrcCheck*.lean) are instances of the theorems, compared with the
  literal texts by evaluating the model.
-/
import PjVerif.Lemmas.RenderSrcA
import PjVerif.Lemmas.RenderSrcB
import PjVerif.Lemmas.RenderSrcC
import PjVerif.Lemmas.DhtmlxSrcCheck
import PjVerif.Lemmas.DhtmlxSrcCheckB
import PjVerif.Lemmas.RenderSrcCheck
import PjVerif.Lemmas.RenderSrcCheckB
namespace Pj
open Pj.PyLite Pj.Render

/-- the translated `MermaidNetwork.__label`: the double quotes are removed and both braces escaped -/
theorem C19_source_network_label (S : PrintSrc.Lib) (V : RenderSrc.View) (pts : Nat → RenderSrc.RTask) (hS : S.OK) (F : Nat) (name : Str)
    (hF : 1 ≤ F) :
    RenderSrc.interpLabel S V pts F name = .ok (.atom (S.s (escLabel (name.filter (fun c => c != '"'))))) :=
  RenderSrc.interpLabel_eq V pts hS F name hF

/-- the translated `MermaidNetwork.__src` returns the model's network source: one edge per predecessor of every member, a Start edge for
    every member without predecessors, the style lines -/
theorem C19_source_network_src (S : PrintSrc.Lib) (V : RenderSrc.View) (pts : Nat → RenderSrc.RTask) (hS : S.OK) (F : Nat) (hF : 2 ≤ F) :
    RenderSrc.interpNetworkSrc S V pts F = .ok (.atom (S.s (networkSrc (RenderSrc.nAll S V pts) V.tasks))) :=
  RenderSrc.interpNetworkSrc_eq V pts hS F hF

/-- the translated `MermaidGantt.__mermaid_task_state` (milestone first, then done, then active, relative to the clock of the view) and the
    translated task line are the model's `stateOf` / `ganttLine` -/
theorem C19_source_gantt_task_state (S : PrintSrc.Lib) (V : RenderSrc.View) (pts : Nat → RenderSrc.RTask) (F t : Nat) (hF : 1 ≤ F) :
    RenderSrc.interpTaskState S V pts F t = .ok (.atom (S.s (stateOf (RenderSrc.toGTask S V (pts t))))) :=
  RenderSrc.interpTaskState_eq V pts F t hF

theorem C19_source_gantt_line (S : PrintSrc.Lib) (V : RenderSrc.View) (pts : Nat → RenderSrc.RTask) (hS : S.OK) (F t : Nat) (hF : 2 ≤ F) :
    RenderSrc.interpGanttLine S V pts F t = .ok (.atom (S.s (ganttLine (RenderSrc.toGTask S V (pts t))))) :=
  RenderSrc.interpGanttLine_eq V pts hS F t hF

/-- the translated `MermaidGantt.__src` returns the model's Gantt source: the header lines, then - when there is more than one section (tasks
    without one form the section '-') - for every section in first-occurrence order its header and the lines of its tasks in WBS order,
    else the lines of all tasks.  `SecOK`: section values that are equal as Python values are equal as texts and vice versa (true when every
    `gantt_section` is a str: `secOK_of_strs`) -/
theorem C19_source_gantt_src (S : PrintSrc.Lib) (V : RenderSrc.View) (pts : Nat → RenderSrc.RTask) (hS : S.OK)
    (hK : RenderSrc.SecOK S V pts) (F : Nat) (hF : 3 ≤ F) :
    RenderSrc.interpGanttSrc S V pts F = .ok (.atom (S.s (ganttSrc V.title V.weekends V.tick (RenderSrc.gTasks S V pts)))) :=
  RenderSrc.interpGanttSrc_eq V pts hS hK F hF

end Pj

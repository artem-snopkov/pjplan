/-
  Props/C14.lean — C14: calc terminates with a schedule or a RuntimeError diagnosis.
  In the model non-termination is impossible (every loop has fuel) and every Python exception class has a constructor,
  so the property reads: the outcome is `ok` or `error runtime`, never `error (crash …)` — RecursionError (fuel
  exhausted / a task met again while it is in progress), KeyError, TypeError, ZeroDivisionError, ValueError.
-/
import PjVerif.Lemmas.SchedC14
import PjVerif.Lemmas.CalcSrc
namespace Pj

/-- structural invariants of the WBS handed to `calc` (what C01/C05/C11 guarantee for every reachable graph), in the
    vocabulary of the scheduling environment -/
structure EnvWF (env : Env) : Prop where
  /-- every uid mentioned anywhere is one of the `n` objects -/
  rootsLt : ∀ r ∈ env.roots, r < env.n
  childLt : ∀ a c, c ∈ (env.info a).children → c < env.n
  predLt : ∀ a p, p ∈ (env.info a).preds → p < env.n
  succLt : ∀ a p, p ∈ (env.info a).succs → p < env.n
  /-- the hierarchy is a forest stored on both ends; roots have no parent -/
  parentIff : ∀ c p, (env.info c).parent = some p ↔ c ∈ (env.info p).children
  childrenNodup : ∀ p, (env.info p).children.Nodup
  rootsNodup : env.roots.Nodup
  rootsTop : ∀ r ∈ env.roots, (env.info r).parent = none
  forest : ∀ x, ¬ TC (fun a b => b ∈ (env.info a).children) x x
  /-- links are symmetric and acyclic, and never connect a task with its own ancestor or descendant -/
  sym : ∀ a b, a ∈ (env.info b).preds ↔ b ∈ (env.info a).succs
  dag : ∀ x, ¬ TC (fun a b => a ∈ (env.info b).preds) x x
  noAncDep : ∀ a b, a ∈ (env.info b).preds →
    ¬ TC (fun x y => y ∈ (env.info x).children) a b ∧ ¬ TC (fun x y => y ∈ (env.info x).children) b a
  flags : env.flagsOK

/-- no calendar query raises (excludes division by a calendar whose value is 0, which C17 leaves undefined) -/
def CalsTotal (res0 : List (Option Nat × Cal)) : Prop :=
  ∀ p ∈ res0, ∀ t, ∃ v, capR p.2 t = .ok v

theorem EnvWF.toWFE {env : Env} (hw : EnvWF env) : WFE env :=
  ⟨hw.rootsLt, hw.childLt, hw.predLt, hw.succLt, hw.parentIff, hw.childrenNodup, hw.rootsNodup, hw.rootsTop,
    hw.forest, hw.sym, hw.dag, hw.noAncDep, hw.flags⟩

theorem CalsTotal.toCalsOK {res0 : List (Option Nat × Cal)} (hc : CalsTotal res0) : CalsOK res0 :=
  fun p hp t => hc p hp t

theorem C14_forward (env : Env) (f0 : Uid → Fields) (res0 : List (Option Nat × Cal))
    (hw : EnvWF env) (hc : CalsTotal res0) : c14Outcome (forwardCalc env f0 res0) = true :=
  c14Outcome_of_nocrash _ (forwardCalc_nocrash env f0 res0 hw.toWFE hc.toCalsOK)

theorem C14_backward (env : Env) (f0 : Uid → Fields) (res0 : List (Option Nat × Cal))
    (hw : EnvWF env) (hc : CalsTotal res0) : c14Outcome (backwardCalc env f0 res0) = true :=
  c14Outcome_of_nocrash _ (backwardCalc_nocrash env f0 res0 hw.toWFE hc.toCalsOK)

/-- the unschedulable classes are diagnosed: a predecessor outside the WBS without both dates, a fixed end in the
    future (forward), a dependency cycle that closes through the hierarchy ⇒ RuntimeError -/
theorem C14_diagnoses_forward (env : Env) (f0 : Uid → Fields) (res0 : List (Option Nat × Cal))
    (hw : EnvWF env) (hc : CalsTotal res0) (hd : c14MustDiagnose env f0 true = true) :
    forwardCalc env f0 res0 = .error .runtime :=
  have _ := hc  -- the diagnosis is made by the pre-check, before any calendar is consulted
  forwardCalc_diagnoses env f0 res0 hw.toWFE hd

theorem C14_diagnoses_backward (env : Env) (f0 : Uid → Fields) (res0 : List (Option Nat × Cal))
    (hw : EnvWF env) (hc : CalsTotal res0) (hd : c14MustDiagnose env f0 false = true) :
    backwardCalc env f0 res0 = .error .runtime :=
  have _ := hc
  backwardCalc_diagnoses env f0 res0 hw.toWFE hd

/-- a resource that never becomes available within the horizon ⇒ RuntimeError from the availability search
    (forward: nothing on or after the start day; backward: nothing before the end day) -/
theorem C14_dead_resource_forward (cal : Cal) (used : Int → Rat) (start : Time)
    (hdead : ∀ k : Nat, k < Extracted.maxDays → ∃ c, capR cal (midnight start + (k : Rat)) = .ok c ∧ c ≤ 0) :
    nearestFwd cal used start = .error .runtime :=
  nearestFwd_dead cal used start hdead

theorem C14_dead_resource_backward (cal : Cal) (used : Int → Rat) (start : Time)
    (hdead : ∀ k : Nat, k < Extracted.maxDays → ∃ c, capR cal (midnight start - (k : Rat) - 1) = .ok c ∧ c ≤ 0) :
    nearestBwd cal used start = .error .runtime :=
  nearestBwd_dead cal used start hdead

/-- the DFS pre-check is sound: when it passes, the relation it walked has no cycle through any task it started
    from — the fact the "no unbounded recursion" argument rests on -/
theorem C14_loopsFrom_sound (next : Uid → List Uid) (fuel : Nat) (starts : List Uid) (val : List Uid)
    (h : starts.foldlM (fun v t => loopsFrom next fuel [] v t) [] = .ok val) :
    ∀ t ∈ starts, ¬ TC (fun a b => b ∈ next a) t t :=
  loopsFrom_sound next fuel starts val h

/-! ### the tie of the pre-checks and of `calc` to the current source, by translation (tools/extract_calc.py, Lemmas/CalcSrc.lean) -/

/-- the translated `_check_loops` (both passes of the depth-first search, with its in-progress list, its validated set and the
    function-valued `waits_for` parameter) is the model's `checkLoops` - unless the model's fuel runs out -/
theorem C14_source_check_loops (env : Env) (ms : Uid → Bool) (mem : List Uid) (w : Nat)
    {E : TaskInfo → Bool → Fields → PyLite.Env} (hE : CalcSrc.CalcEnc E) (f : Uid → Fields) (st : PyLite.PState)
    (hh : st.heap = PassSrcBwd.heapOf E env ms f) (fuel' : Nat) (hf : env.n + 2 ≤ fuel')
    (hne : checkLoops env mem ≠ .error (.crash .recursion)) :
    CalcSrc.unit (CalcSrc.interpCheckLoops env mem w fuel' [.ref w] st) = checkLoops env mem :=
  CalcSrc.interpCheckLoops_eq env ms mem w hE f st hh fuel' hf hne

/-- the translated `_validate_graph_isolation` raises RuntimeError exactly when the model's `isolationOk` is false -/
theorem C14_source_isolation (env : Env) (ms : Uid → Bool) (mem : List Uid) (w : Nat)
    {E : TaskInfo → Bool → Fields → PyLite.Env} (hE : CalcSrc.CalcEnc E) (f : Uid → Fields) (st : PyLite.PState)
    (hh : st.heap = PassSrcBwd.heapOf E env ms f) :
    CalcSrc.interpIsolation env mem w [.ref w] st =
      if isolationOk env f mem = true then
        .ok (.atom .none, { st with boxes := st.boxes ++ [mem.map CalcSrc.idA] })
      else .error .runtime :=
  CalcSrc.interpIsolation_eq env ms mem w hE f st hh

/-- the translated `_waits_for` is the model's `waitsFor` (own and inherited predecessors, expanded to leaves) -/
theorem C14_source_waits_for (env : Env) (ms : Uid → Bool) (mem : List Uid) (w : Nat)
    {E : TaskInfo → Bool → Fields → PyLite.Env} (hE : CalcSrc.CalcEnc E) (f : Uid → Fields) (st : PyLite.PState)
    (hh : st.heap = PassSrcBwd.heapOf E env ms f) (t : Uid) :
    CalcSrc.interpWaitsFor env mem w [.ref t] st = .ok (.list ((waitsFor env t).map PyLite.Atom.ref), st) :=
  CalcSrc.interpWaitsFor_eq env ms mem w hE f st hh t

/-- the translated `ForwardScheduler.calc` is the model's `forwardCalc`, errors included, unless the model ends in
    RecursionError (the statement of `C06_source_calc_forward`, where the parameters are explained) -/
theorem C14_source_calc_forward (env : Env) (ms : Uid → Bool) (mem : List Uid) (w : Nat)
    (hmem : members env = some mem)
    (hms : ∀ u, (env.info u).milestone = (ms u && (env.info u).children.isEmpty))
    (fuel wfuel pfuel : Nat) (hf : env.n + 2 ≤ fuel) (hw : Extracted.fwdShiftMaxSteps < wfuel) (hp : env.n + 1 ≤ pfuel)
    (f0 : Uid → Fields) (res0 : List (Option Nat × Cal)) (rows0 : List Row) (done0 : List Uid) (B0 : List (List PyLite.Atom))
    (hne : forwardCalc env f0 res0 ≠ .error (.crash .recursion)) :
    match forwardCalc env f0 res0 with
    | .ok out => ∃ σ B, CalcSrc.interpFwdCalc env mem w fuel wfuel (PassSrc.calRef res0) pfuel
          (CalcSrc.wb (PassSrc.encS env ms { f := f0, rows := rows0, done := done0, res := res0, reads := 0 }) B0) =
          .ok (.atom (.ref w), CalcSrc.wb (PassSrc.encS env ms σ) B) ∧ out = { f := σ.f, rows := σ.rows, res := σ.res }
    | .error e => CalcSrc.interpFwdCalc env mem w fuel wfuel (PassSrc.calRef res0) pfuel
          (CalcSrc.wb (PassSrc.encS env ms { f := f0, rows := rows0, done := done0, res := res0, reads := 0 }) B0) = .error e :=
  CalcSrc.interpFwdCalc_eq env ms mem w hmem (PassSrc.Reach.all hms) (fun _ _ => trivial) fuel wfuel pfuel hf hw hp f0 res0 rows0 done0 B0 hne

/-- the same for `BackwardScheduler.calc` and `backwardCalc` -/
theorem C14_source_calc_backward (env : Env) (ms : Uid → Bool) (mem : List Uid) (w : Nat)
    (hmem : members env = some mem)
    (hms : ∀ u, (env.info u).milestone = (ms u && (env.info u).children.isEmpty))
    (fuel wfuel pfuel : Nat) (hf : env.n + 2 ≤ fuel) (hw : Extracted.bwdShiftMaxSteps < wfuel) (hp : env.n + 1 ≤ pfuel)
    (f0 : Uid → Fields) (res0 : List (Option Nat × Cal)) (rows0 : List Row) (done0 : List Uid) (B0 : List (List PyLite.Atom))
    (hne : backwardCalc env f0 res0 ≠ .error (.crash .recursion)) :
    match backwardCalc env f0 res0 with
    | .ok out => ∃ σ B, CalcSrc.interpBwdCalc env mem w fuel wfuel (PassSrc.calRef res0) pfuel
          (CalcSrc.wb (PassSrcBwd.encSB env ms { f := f0, rows := rows0, done := done0, res := res0, reads := 0 }) B0) =
          .ok (.atom (.ref w), CalcSrc.wb (PassSrcBwd.encSB env ms σ) B) ∧ out = { f := σ.f, rows := σ.rows, res := σ.res }
    | .error e => CalcSrc.interpBwdCalc env mem w fuel wfuel (PassSrc.calRef res0) pfuel
          (CalcSrc.wb (PassSrcBwd.encSB env ms { f := f0, rows := rows0, done := done0, res := res0, reads := 0 }) B0) = .error e :=
  CalcSrc.interpBwdCalc_eq env ms mem w hmem (PassSrc.Reach.all hms) (fun _ _ => trivial) fuel wfuel pfuel hf hw hp f0 res0 rows0 done0 B0 hne

end Pj

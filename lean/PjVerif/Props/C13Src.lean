/-
  Props/C13Src.lean — C13, source level (PARTIAL tie): io/csv_io.py and io/raw.py are translated on every run
  (tools/extract_csv.py → Extracted/CsvSrc.lean: the cell parsers and formatters, `read_csv`, `write_csv`, `tasks_to_raws`, `raws_to_wbs`).
  Proved in general, for every meaning `L` of the built-ins (Lemmas/CsvSrcA.lean, CsvSrcB1.lean, CsvSrcW.lean, CsvSrcR.lean): every cell
  parser and `__format_custom`, `__parse_header` (= the model's `headerIndex`), and the whole WRITE side: `write_csv` of a well-formed
  WBS description is the model's `writeCsv` of the records.  The READ side, success direction, is proved down to a closed form of the store: `read_csv` = `raws_to_wbs`
  on the parsed rows (`read_csv_reduce`, CsvSrcR.lean); the first two loops of `raws_to_wbs` - create the tasks, hang the hierarchy - as
  explicit folds on the store (CsvSrcS.lean); the `roots` loop, the predecessor loop and the whole run of `raws_to_wbs` and of `read_csv`
  (CsvSrcT.lean; `C13_source_read_csv` below), the resulting store given over the row table by `final_roots`, `final_kids`,
  `final_parent`, `final_preds`, `final_tasks`;
  the last step from those closed forms to the literal `rebuildForest` of the model (it needs `int()` injective on the id texts and a fuel
  argument on the model side), the `successors` lists, the error direction and so the full reader are
  tied on concrete files (Lemmas/CsvSrcCheckC.lean - imported here, so a translated source that no longer reproduces them breaks this
  module; on the agreeing files the run is the instance of `read_csv_run2` and the kernel evaluates the last step, `agree_of`; the error
  cases are kernel-evaluated runs of the translated program): tests at the level of the kernel, not theorems about every input.
-/
import PjVerif.Lemmas.CsvSrcD
import PjVerif.Lemmas.CsvSrcB
import PjVerif.Lemmas.CsvSrcS
import PjVerif.Lemmas.CsvSrcT
import PjVerif.Lemmas.CsvSrcCheckA
import PjVerif.Lemmas.CsvSrcCheckB
import PjVerif.Lemmas.CsvSrcCheckC
namespace Pj
open Pj.PyLite Pj.Csv

/-- texts are numbered injectively (a text is the atom `.str (strCode s)`) -/
theorem C13_source_text_code_roundtrip (s : List Char) : strDecode (strCode s) = s :=
  CsvSrc.strDecode_code s

/-- the translated `__parse_str`: an empty cell is `None`, any other cell is its text - for every meaning `L` of the built-ins -/
theorem C13_source_parse_str (L : IOLib) (F : Nat) (s : List Char) :
    CsvSrc.interpCell L (F + 1) Extracted.Csv.fn_parse_str (strA s) = .ok (.atom (CsvSrc.optStr (nonEmpty s))) :=
  CsvSrc.parse_str_eq L F s

/-- the translated `__parse_bool`: `True` exactly when the text is "True"; an empty cell is `False`, nothing raises -/
theorem C13_source_parse_bool (L : IOLib) (F : Nat) (s : List Char) :
    CsvSrc.interpCell L (F + 1) Extracted.Csv.fn_parse_bool (strA s) = .ok (.atom (.bool (s == "True".toList))) :=
  CsvSrc.parse_bool_eq L F s

/-- `__parse_int`, `__parse_float`, `__parse_date`: an empty cell is `None`; otherwise the library conversion decides, its error being
    the cell's error -/
theorem C13_source_parse_int (L : IOLib) (F : Nat) (s : List Char) :
    CsvSrc.interpCell L (F + 1) Extracted.Csv.fn_parse_int (strA s) = CsvSrc.cellParse L.toInt PyLite.Atom.num s :=
  CsvSrc.parse_int_eq L F s

theorem C13_source_parse_float (L : IOLib) (F : Nat) (s : List Char) :
    CsvSrc.interpCell L (F + 1) Extracted.Csv.fn_parse_float (strA s) = CsvSrc.cellParse L.toFloat PyLite.Atom.num s :=
  CsvSrc.parse_float_eq L F s

theorem C13_source_parse_date (L : IOLib) (F : Nat) (s : List Char) :
    CsvSrc.interpCell L (F + 1) Extracted.Csv.fn_parse_date (strA s) = CsvSrc.cellParse L.strptime PyLite.Atom.time s :=
  CsvSrc.parse_date_eq L F s

/-- `__parse_predecessors`: the cell split on ';', every piece through `int()` -/
theorem C13_source_parse_predecessors (L : IOLib) (F : Nat) (s : List Char) :
    CsvSrc.interpCell L (F + 1) Extracted.Csv.fn_parse_predecessors (strA s) =
      if s = [] then .ok (.list []) else ((splitOn ';' s).mapM L.toInt).map (fun qs => PyLite.Val.list (qs.map PyLite.Atom.num)) :=
  CsvSrc.parse_predecessors_eq L F s

/-- `__format_custom`: datetimes through `strftime`, every other value unchanged (0, 0.0, False, '' and None included - the empty
    cell for `None` is the csv writer's doing) -/
theorem C13_source_format_custom (L : IOLib) (F : Nat) (a : PyLite.Atom) :
    CsvSrc.interpCell L (F + 1) Extracted.Csv.fn_format_custom a =
      match a with
      | .time t => .ok (.atom (strA (L.strftime t)))
      | .ref _ => .error PyLite.stuck
      | a => .ok (.atom a) :=
  CsvSrc.format_custom_eq L F a

/-- the dict `hdrDict cells`, which the translated `__parse_header` returns (`CsvSrc.parse_header_run`, Lemmas/CsvSrcB1.lean), is the
    model's `headerIndex`: BOM stripped, the last of repeated column names wins -/
theorem C13_source_header_index (cells : List Str) (name : Str) :
    PyLite.Dict.get? (CsvSrc.hdrDict cells) (strA name) = (headerIndex cells name).map CsvSrc.numI :=
  CsvSrc.hdrDict_get cells name

/-- the WRITE side: running the translated `write_csv` (with `tasks_to_raws`, the header assembly, the row loop and the csv writer) on
    a well-formed description `W` of a WBS (`WF`: indices in range, custom attribute names distinct, not slot names, not starting
    with '_', values None / number / bool / str / datetime) produces exactly the model's file -/
theorem C13_source_write_csv (L : IOLib) (F : Nat) (W : CsvSrc.WbsD) (hWF : CsvSrc.WF W) :
    CsvSrc.interpWrite L (F + 3) W = .ok (writeCsv (CsvSrc.recsOf L W)) :=
  CsvSrc.write_csv_eq L F W hWF

/-- the READ side, success direction: for a text that parses into a header and rows whose standard cells are present and parseable
    (`RowsRaw`), with well-typed raw rows (`RawOK2`: scalars where scalars belong, estimates / spent not negative; `hno`: no raw row has an
    attribute `parent` holding an object - the proof does not use it), pairwise different ids, predecessor ids that name rows and acyclic parent ids, running the translated `read_csv` (with `raws_to_wbs`: create the tasks,
    hang the hierarchy, add the roots, link the predecessors through `wbs[id]`) returns the new WBS object and the store `finalSt`, whose
    roots, children lists, parents, predecessor lists and depth-first task order are given in closed form over the row table by
    `CsvSrc.final_roots`, `final_kids`, `final_parent`, `final_preds`, `final_tasks` -/
theorem C13_source_read_csv (L : IOLib) (F : Nat) (text : List Char) (hdr : List Str) (rows : List (List Str))
    (es : List PyLite.Env) (hp : parse text = some (hdr :: rows)) (hes : CsvSrc.RowsRaw L hdr rows es)
    (hok : ∀ e ∈ es, CsvSrc.RawOK2 e) (hno : ∀ e ∈ es, ∀ x, e.get? "parent" ≠ some (.atom (.ref x)))
    (hids : (es.map (fun e => CsvSrc.slot e "id")).Pairwise (fun a b => a.pyEq b = false))
    (hpreds : ∀ e ∈ es, ∀ k ∈ CsvSrc.predsOf e,
      (CsvSrc.dictRef (CsvSrc.idDict (CsvSrc.readSt hdr rows es) (List.range es.length)) k).isSome)
    (hac : CsvSrc.Acyclic (CsvSrc.readSt hdr rows es) (List.range es.length)) :
    CsvSrc.interpRead L (F + 3) text =
      .ok (.atom (.ref (CsvSrc.wbsRef (CsvSrc.readSt hdr rows es) (List.range es.length))),
        CsvSrc.finalSt (CsvSrc.readSt hdr rows es) (List.range es.length)) :=
  CsvSrc.read_csv_run2 L F text hdr rows es hp hes hok hids hpreds hac

end Pj

/-
  Props/C02.lean — C02: forward schedules never start a task before its prerequisites are finished.
  PARTIAL: proved when no task that has children carries a dependency link (known findings KF-S2: with links on
  summary tasks the recursive pass hands bounds down the wrong edges).
-/
import PjVerif.Lemmas.SchedC02
import PjVerif.Props.Witness
import PjVerif.Lemmas.PassSrc
namespace Pj

/-- under the structural facts C01 guarantees for every reachable graph (parent pointers agree with the children
    lists, links are stored on both ends) and when no task that has children carries a dependency link:
    a leaf with unfixed start never starts, and never has work reserved, on a day earlier than the end day of any
    prerequisite, the project start day, its min_start day or the current day; a milestone sits exactly at the latest
    prerequisite end (or the project start) -/
theorem C02_partial (env : Env) (f0 : Uid → Fields) (res0 : List (Option Nat × Cal)) (o : Output)
    (hf : env.flagsOK) (hc : env.clockOK) (hs : noSummaryLinks env = true) (ho : outsideLeaves env = true)
    (hp : env.parentsOK) (hl : env.linksSym)
    (h : forwardCalc env f0 res0 = .ok o) :
    c02Leaf env f0 o = true ∧ c02Milestone env o = true :=
  forwardCalc_c02 env f0 res0 o hf hc hs ho hp hl h

/-- the full statement fails on the model exactly as it fails on the code (replayed there on every run,
    findings/KF-S2-C02.json): a kernel-checked counterexample with a link on a summary task -/
theorem C02_full_fails :
    ∃ o, forwardCalc Witness.kfS2Env Witness.kfS2F0 Witness.kfS2Res = .ok o ∧ c02Leaf Witness.kfS2Env Witness.kfS2F0 o = false := by
  have hev : (match forwardCalc Witness.kfS2Env Witness.kfS2F0 Witness.kfS2Res with
      | .ok o => c02Leaf Witness.kfS2Env Witness.kfS2F0 o == false
      | .error _ => false) = true := by decide +kernel
  cases hc : forwardCalc Witness.kfS2Env Witness.kfS2F0 Witness.kfS2Res with
  | error e => rw [hc] at hev; cases hev
  | ok o => rw [hc] at hev; exact ⟨o, rfl, by simpa using hev⟩

/-! ### the tie of the recursive forward pass to the current source, by translation

`tools/extract_pass.py` translates `ForwardScheduler.__forward_pass` (schedule.py) into a PyLite term on every run
(Extracted/PassSrc.lean); a third evaluator of PyLite runs it on an object store: task attributes as mutable slots, the
`calculated` list, the resource table with `setdefault`, the scripted clock, the ledger, recursion with fuel; the two calls
of the inner-loop methods run their translated source (Props/C03.lean).  The theorem: interpreting the translated method on the
encoding of a model state is the encoding of the model's `fwdPass` - unless the model run ends in RecursionError (fuel
exhausted or a task met again while in progress: a check Python does not have; excluded for real inputs by C14).  `ms` is
the tasks' own milestone flag; `hms` says the model's flag is the effective one (flagged and childless). -/

theorem C02_source_forward_pass (env : Env) (ms : Uid → Bool) (wfuel : Nat)
    (hms : ∀ u, (env.info u).milestone = (ms u && (env.info u).children.isEmpty))
    (hw : Extracted.fwdShiftMaxSteps < wfuel) (fuel fuel' : Nat) (hle : fuel ≤ fuel') (stk : List Uid) (σ : SS)
    (t : Uid) (minDate : Time) (hne : fwdPass env fuel stk σ t minDate ≠ .error (.crash .recursion)) :
    PassSrc.interpFwdPass env wfuel (PassSrc.calRef σ.res) fuel' (PassSrc.encS env ms σ) t minDate =
      (fwdPass env fuel stk σ t minDate).map (PassSrc.encS env ms) :=
  PassSrc.interpFwdPass_eq env ms wfuel hms hw fuel fuel' hle stk σ t minDate hne

end Pj

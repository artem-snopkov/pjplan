/-
  Props/C12Src.lean — C12, source level: the translated critical_path.py computes the model's critical path.  (A module
  of its own because Lemmas/CritPathSrcD.lean imports Props/C12.lean, for `C12_members`.)
-/
import PjVerif.Lemmas.CritPathSrcD
namespace Pj
open CPEnv

/-! The tie of `WBS.critical_path()` / `CriticalPathCalculator` (alg/critical_path.py, the `end_date = None` path) to the
    current source, by translation (tools/extract_critpath.py → Extracted/CritPathSrc.lean, Lemmas/CritPathSrc*.lean).
    The source builds an activity-on-arrow network of `_PNode` / `_PLink` objects and runs two memoised recursions over
    it; the model characterises the result directly (earliest finish, longest remaining tail): an algorithmic
    equivalence, not a statement-by-statement one. -/

/-- running the translated `WBS.critical_path()` on an acyclic WBS whose member leaves have pairwise different ids returns the model's
    critical tasks, each once, as a SET (the source lists them in the insertion order of its `__links` dict, the model in WBS
    order) - provided the source's float tolerance test `abs(r) <= 1e-9 * max(1.0, length)` agrees with the model's exact
    test `r = 0` on the leaves (`TolExact`) -/
theorem C12_source_critical_path (e : CPEnv) (tid : Uid → Int) (hid : CritPathSrc.IdInj e tid) (hdesc : CritPathSrc.DescOK e)
    (hac : acyclicB e = true) (htol : CritPathSrc.TolExact e) (F : Nat) (hF : 2 * e.n + 9 ≤ F) :
    ∃ (r l : List Uid), CritPathSrc.interpCriticalPath F e tid = .ok (TaskSrc.refs r) ∧ criticalPath e = .ok l ∧ r.Nodup ∧
      ∀ t, t ∈ r ↔ t ∈ l :=
  CritPathSrc.interpCriticalPath_set e tid hid hdesc hac htol F hF

/-- … a permutation of the model's list when the WBS lists every member once -/
theorem C12_source_critical_path_perm (e : CPEnv) (tid : Uid → Int) (hid : CritPathSrc.IdInj e tid) (hdesc : CritPathSrc.DescOK e)
    (hac : acyclicB e = true) (htol : CritPathSrc.TolExact e) (hmem : e.members.Nodup) (F : Nat) (hF : 2 * e.n + 9 ≤ F) :
    ∃ (r l : List Uid), CritPathSrc.interpCriticalPath F e tid = .ok (TaskSrc.refs r) ∧ criticalPath e = .ok l ∧ r.Perm l :=
  CritPathSrc.interpCriticalPath_perm e tid hid hdesc hac htol hmem F hF

/-- the grid form of the tolerance hypothesis: every length `max(estimate - spent, 0)` of a member leaf is a multiple of 1/8 and the
    project is shorter than 10^8 units -/
theorem C12_source_critical_path_grid (e : CPEnv) (tid : Uid → Int) (hid : CritPathSrc.IdInj e tid) (hdesc : CritPathSrc.DescOK e)
    (hac : acyclicB e = true) (hg : CritPathSrc.OnGrid e) (hlt : ∀ len, projectLen e = some len → len < 100000000)
    (F : Nat) (hF : 2 * e.n + 9 ≤ F) :
    ∃ (r l : List Uid), CritPathSrc.interpCriticalPath F e tid = .ok (TaskSrc.refs r) ∧ criticalPath e = .ok l ∧ r.Nodup ∧
      ∀ t, t ∈ r ↔ t ∈ l :=
  CritPathSrc.interpCriticalPath_grid e tid hid hdesc hac hg hlt F hF


end Pj

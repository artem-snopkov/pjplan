/-
  Props/C09.lean — C09: backward schedules meet deadline and dependencies, as late as capacity allows.
  PARTIAL for the dependency and late-packing clauses (no links on tasks that have children, finding KF-S2-C09);
  deadline and date encoding are proved for every WBS without user-fixed dates.
-/
import PjVerif.Lemmas.SchedC09
import PjVerif.Props.Witness
import PjVerif.Lemmas.ScheduleSrc
import PjVerif.Lemmas.PassSrcBwd
namespace Pj

/-- no task ends after the requested project end -/
theorem C09_deadline (env : Env) (f0 : Uid → Fields) (res0 : List (Option Nat × Cal)) (o : Output)
    (hf : env.flagsOK) (hn : noFixedDates env f0 = true) (h : backwardCalc env f0 res0 = .ok o) :
    c09Deadline env o = true := by
  exact backwardCalc_c09Deadline env f0 res0 o hf hn h

/-- dates encode capacity from the end of the day -/
theorem C09_encode (env : Env) (f0 : Uid → Fields) (res0 : List (Option Nat × Cal)) (o : Output)
    (hf : env.flagsOK) (hn : noFixedDates env f0 = true) (h : backwardCalc env f0 res0 = .ok o) :
    c09Encode env o = true := by
  exact backwardCalc_c09Encode env f0 res0 o hf hn h

/-- every dependency between member tasks is respected and the schedule is late-packed, when no task that has
    children carries a dependency link.  Further hypotheses are the structural facts C01 guarantees (parent pointers
    agree with the children lists, links stored on both ends) and that predecessors / successors outside the WBS are
    plain leaves (their own dates stand for themselves). -/
theorem C09_partial (env : Env) (f0 : Uid → Fields) (res0 : List (Option Nat × Cal)) (o : Output)
    (hf : env.flagsOK) (hn : noFixedDates env f0 = true) (hs : noSummaryLinks env = true)
    (hp : env.parentsOK) (hl : env.linksSym) (ho : outsideLeaves env = true)
    (hos : ∀ t ∈ memberList env, ∀ s ∈ (env.info t).succs,
      s ∈ memberList env ∨ (env.info s).children.isEmpty = true)
    (h : backwardCalc env f0 res0 = .ok o) :
    c09Deps env o = true ∧ c09LatePacked env o = true :=
  backwardCalc_c09Deps_packed env f0 res0 o hf hn hs hp hl ho hos h

theorem C09_full_fails :
    ∃ o, backwardCalc Witness.kfS2C09Env Witness.kfS2C09F0 Witness.kfS2C09Res = .ok o ∧
      c09Deps Witness.kfS2C09Env o = false := by
  have hev : (match backwardCalc Witness.kfS2C09Env Witness.kfS2C09F0 Witness.kfS2C09Res with
      | .ok o => c09Deps Witness.kfS2C09Env o == false
      | .error _ => false) = true := by decide +kernel
  cases hb : backwardCalc Witness.kfS2C09Env Witness.kfS2C09F0 Witness.kfS2C09Res with
  | error e => rw [hb] at hev; cases hev
  | ok o => rw [hb] at hev; exact ⟨o, rfl, by simpa using hev⟩

/-! ### the tie of the inner loops to the current source, by translation: as in Props/C03.lean, where the setting is
    described; stated again here so that this property has it among its obligations -/

/-- as `C03_source_nearest_backward` -/
theorem C09_source_nearest_backward (cal : Cal) (b : Bool) (rows : List Row) (r : Option Nat) (t : Uid) (start : Time) :
    SchedSrc.interpNearestBwd cal b (SchedSrc.resRef r) t (rows.map SchedSrc.encRow) start =
      (nearestBwd cal (SchedSrc.usedOf rows r t b) start).map (fun e => (e, rows.map SchedSrc.encRow)) :=
  SchedSrc.interpNearestBwd_eq cal b rows r t start

/-- as `C03_source_shift_backward` -/
theorem C09_source_shift_backward (fuel : Nat) (cal : Cal) (b : Bool) (rows : List Row) (r : Option Nat) (t : Uid)
    (end_ : Time) (left : Rat) (hf : Extracted.bwdShiftMaxSteps < fuel) :
    SchedSrc.interpShiftBwd fuel cal b (SchedSrc.resRef r) t (rows.map SchedSrc.encRow) end_ left =
      (shiftBwd cal (SchedSrc.usedOf rows r t b) end_ left).map
        (fun p => (p.1, (rows ++ p.2.map (mkRow r t)).map SchedSrc.encRow)) :=
  SchedSrc.interpShiftBwd_eq fuel cal b rows r t end_ left hf

/-- as `C04_source_backward_pass` -/
theorem C09_source_backward_pass (env : Env) (ms : Uid → Bool) (wfuel : Nat)
    (hms : ∀ u, (env.info u).milestone = (ms u && (env.info u).children.isEmpty))
    (hw : Extracted.bwdShiftMaxSteps < wfuel) (fuel fuel' : Nat) (hle : fuel ≤ fuel') (stk : List Uid) (σ : SS)
    (t : Uid) (minDate : Time) (hne : bwdPass env fuel stk σ t minDate ≠ .error (.crash .recursion)) :
    PassSrcBwd.interpBwdPass env wfuel (PassSrc.calRef σ.res) fuel' (PassSrcBwd.encSB env ms σ) t minDate =
      (bwdPass env fuel stk σ t minDate).map (PassSrcBwd.encSB env ms) :=
  PassSrcBwd.interpBwdPass_eq env ms wfuel hms hw fuel fuel' hle stk σ t minDate hne

end Pj

/-
  Props/C19.lean — C19: renderings show every task and dependency exactly once with its real dates.
  "Text put into task names cannot add, drop or alter other entries" is stated as: reading the emitted source with a
  plain lexical reader of the lines the renderer writes gives back exactly the entries of the WBS.
-/
import PjVerif.Lemmas.RenderLemmas
namespace Pj.Render

/-- single-line text (the property's domain for task names, titles, section names) -/
def OneLine (s : Str) : Prop := '\n' ∉ s

/-- formatted ids and dates as Python's `str(int)` / `strftime` produce them: no comma, no line break, no NUL character -/
def Token (s : Str) : Prop := ',' ∉ s ∧ '\n' ∉ s ∧ '\x00' ∉ s

/-- one Gantt task line reads back as the task's entry, whatever single-line text the name contains — quotes, braces,
    angle brackets, '$', ':' (removed by the renderer), commas, "id_…" look-alikes -/
theorem C19_gantt_line (t : GTask) (hn : OneLine t.name) (hz : '\x00' ∉ t.name)
    (hid : Token t.idText ∧ (∀ c ∈ t.idText, c ≠ ' ')) (hs : Token t.start) (he : Token t.end_) :
    readGanttLine (ganttLine t).dropLast = some (expectedGantt t) := by
  -- `hn`, `hz`, `he` are not needed for a single line; for the whole source `C19_gantt` uses the line-break parts of `hn`
  -- and `he`; the '\x00' parts, the blank in the id and the comma in `end_` are used by neither
  have _ := hn; have _ := hz; have _ := he
  rw [ganttLine_dropLast]
  exact readGanttLine_body t hid.1.1 hs.1

/-- the Gantt source has exactly one task line per task (no sections: in WBS order), each reading back as that task -/
theorem C19_gantt (title : Option Str) (weekends : Bool) (tick : Option Str) (tasks : List GTask)
    (hsec : ∀ t ∈ tasks, t.sect = none)
    (ht : ∀ x, title = some x → OneLine x) (hk : ∀ x, tick = some x → OneLine x)
    (hn : ∀ t ∈ tasks, OneLine t.name ∧ '\x00' ∉ t.name)
    (hid : ∀ t ∈ tasks, Token t.idText ∧ (∀ c ∈ t.idText, c ≠ ' ') ∧ Token t.start ∧ Token t.end_) :
    (readGantt (ganttSrc title weekends tick tasks)).map (·.2) = tasks.map expectedGantt := by
  refine readGantt_noSections title weekends tick tasks hsec ht hk ?_
  intro t h
  obtain ⟨hi, _, hs, he⟩ := hid t h
  exact ⟨(hn t h).1, hi.1, hi.2.1, hs.1, hs.2.1, he.2.1⟩

/-- with sections every task still has exactly one line: the entries read are a permutation of the tasks' entries (the
    exact list, grouped by section in order of first appearance, is `readGantt_src`, Lemmas/RenderLemmas.lean) -/
theorem C19_gantt_sections (title : Option Str) (weekends : Bool) (tick : Option Str) (tasks : List GTask)
    (ht : ∀ x, title = some x → OneLine x) (hk : ∀ x, tick = some x → OneLine x)
    (hn : ∀ t ∈ tasks, OneLine t.name ∧ '\x00' ∉ t.name ∧ OneLine (sectionOf t))
    (hid : ∀ t ∈ tasks, Token t.idText ∧ (∀ c ∈ t.idText, c ≠ ' ') ∧ Token t.start ∧ Token t.end_) :
    ((readGantt (ganttSrc title weekends tick tasks)).map (·.2)).Perm (tasks.map expectedGantt) := by
  refine readGantt_perm title weekends tick tasks ht hk ?_ (fun t h => (hn t h).2.2)
  intro t h
  obtain ⟨hi, _, hs, he⟩ := hid t h
  exact ⟨(hn t h).1, hi.1, hi.2.1, hs.1, hs.2.1, he.2.1⟩

/-- the network source has exactly one edge per dependency and one Start edge per task without predecessors, whatever
    single-line text the names contain — braces included: the renderer writes them as `#123;` / `#125;`, so the label of
    a node never contains a brace (finding KF-R1, repaired).  The labels read are the escaped ones (`escLabel`); they
    are not claimed to be decoded back (`escLabel` is not injective: "{" and "#123;" give the same label). -/
theorem C19_network (all : Nat → NTask) (tasks : List Nat)
    (hn : ∀ i, OneLine (all i).name)
    (hid : ∀ i, (∀ c ∈ (all i).idText, c.isDigit ∨ c = '-') ∧ (all i).idText ≠ [])
    (hst : ∀ i ∈ tasks, (all i).style = none) :
    readNetwork (networkSrc all tasks) = expectedEdges all tasks := by
  exact readNetwork_ok all tasks hn hid hst

/-- the label of a node contains no brace, whatever the name -/
theorem C19_escLabel_noBrace (s : Str) : '{' ∉ escLabel s ∧ '}' ∉ escLabel s :=
  ⟨lbrace_notin_escLabel s, rbrace_notin_escLabel s⟩

/-- the attack name `a}} --> 7{{x` of KF-R1 adds no edge: the source reads back as the two real edges -/
theorem C19_network_example :
    let all : Nat → NTask := fun i => if i = 0 then { idText := lit "1", name := lit "a}} --> 7{{x", preds := [], style := none }
                                       else { idText := lit "2", name := lit "b", preds := [0], style := none }
    readNetwork (networkSrc all [0, 1]) = expectedEdges all [0, 1] ∧ (readNetwork (networkSrc all [0, 1])).length = 2 := by
  decide +kernel

/-- DHTMLX data: progress lies within 0..1 -/
theorem C19_progress (t : DTask) (hs : ∀ s, t.spent = some s → 0 ≤ s) : 0 ≤ progressOf t ∧ progressOf t ≤ 1 := by
  unfold progressOf
  split
  · constructor <;> grind
  · split
    · cases h : t.spent with
      | none => constructor <;> grind
      | some s =>
        have := hs s h
        rename_i h1 h2
        simp only
        split
        · rw [Rat.div_def, Rat.zero_mul]; constructor <;> grind
        · rename_i h3
          have := rat_div_unit (t.estimate - s) t.estimate (by grind) (by grind) h2
          constructor <;> grind
    · constructor <;> grind

/-- DHTMLX links are numbered 1..k without repetition, one per dependency in walk order -/
theorem C19_links (ts : Nat → DTask) (n : Nat) (roots : List Nat) :
    (dhtmlxLinks ts n roots).map (·.id) = (List.range (dhtmlxLinks ts n roots).length).map (· + 1) ∧
    (dhtmlxLinks ts n roots).map (fun l => (l.source, l.target)) =
      (dhtmlxOrder ts n roots).flatMap (fun i => (ts i).preds.map (fun p => ((ts p).id, (ts i).id))) := by
  unfold dhtmlxLinks
  generalize (dhtmlxOrder ts n roots).flatMap (fun i => (ts i).preds.map (fun p => ((ts p).id, (ts i).id))) = pairs
  constructor
  · simp [Function.comp_def]
  · apply List.ext_getElem
    · simp
    · intro i h1 h2
      simp at h1 h2 ⊢
      simp [h2]

/-- DHTMLX data has exactly one entry per task walked, carrying its id, name, dates, parent id or 0 -/
theorem C19_data (ts : Nat → DTask) (n : Nat) (roots : List Nat) :
    (dhtmlxData ts n roots).length = (dhtmlxOrder ts n roots).length ∧
    ∀ k, k < (dhtmlxOrder ts n roots).length →
      let t := ts ((dhtmlxOrder ts n roots).getD k 0)
      let e := (dhtmlxData ts n roots).getD k default
      e.id = t.id ∧ e.text = t.name ∧ e.start = t.start ∧ e.end_ = t.end_ ∧ e.milestone = t.milestone ∧
      e.parent = (match t.parent with | some p => (ts p).id | none => 0) := by
  unfold dhtmlxData
  generalize dhtmlxOrder ts n roots = o
  constructor
  · simp
  · intro k hk
    simp [List.getD_eq_getElem?_getD, hk]
    cases (ts o[k]).parent <;> rfl

end Pj.Render

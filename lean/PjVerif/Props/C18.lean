/-
  Props/C18.lean — C18: task queries select exactly the matching tasks.
  The filter chain is translated from the source on every run (Extracted/Query.lean); these theorems are re-checked
  against what the code says now.
-/
import PjVerif.Lemmas.Query
namespace Pj

/-- the translated chain has exactly the documented suffixes, each branch cuts exactly its suffix off the keyword -/
theorem C18_table :
    Extracted.queryChain.map (fun b => (b.1, b.2.1)) =
      allKinds.map (fun k => (kindSuffix k, (kindSuffix k).length)) := by
  decide

/-- every branch's reject condition is the negation of the documented meaning of its kind, for every attribute value
    and every filter value (including the cases where Python raises TypeError) -/
theorem C18_kind_meaning (re : String → String → Bool) (val : Val) (v : FVal) :
    ∀ p ∈ Extracted.queryChain.zip allKinds,
      p.1.2.2.eval re val v = (meaning re p.2 val v).map (fun b => !b) := by
  simp only [Extracted.queryChain, allKinds, List.zip_cons_cons, List.zip_nil_right, List.mem_cons,
    List.not_mem_nil, or_false]
  rintro p (rfl | rfl | rfl | rfl | rfl | rfl | rfl | rfl | rfl | rfl | rfl)
  · exact eval_guard re val v .search
  · exact eval_guard_not re val v .search
  · exact (bind_not_map_not _).symm
  · simp [RExpr.eval, meaning, Except.map, pure, Except.pure]
  · simp [RExpr.eval, meaning, Except.map, pure, Except.pure]
  · simp only [RExpr.eval, meaning]
    cases RExpr.inV.eval re val v <;> rfl
  · exact eval_guard_not re val v (.cmp .ne)
  · exact eval_guard_not re val v (.cmp .le)
  · exact eval_guard_not re val v (.cmp .lt)
  · exact eval_guard_not re val v (.cmp .ge)
  · exact eval_guard_not re val v (.cmp .gt)

theorem C18_default_meaning (re : String → String → Bool) (val : Val) (v : FVal) :
    Extracted.queryDefault.eval re val v = (meaning re .eq val v).map (fun b => !b) := by
  cases val <;> cases v <;>
    simp [Extracted.queryDefault, RExpr.eval, meaning, cmpVal, Except.map, pure, Except.pure]

/-- the chain's first-match parsing agrees with the documented suffixes for every keyword -/
theorem C18_parse (k : List Char) :
    ∃ kd, specParse k = ((parseKey Extracted.queryChain Extracted.queryDefault k).1, kd) ∧
      ∀ re val v, (parseKey Extracted.queryChain Extracted.queryDefault k).2.eval re val v =
        (meaning re kd val v).map (fun b => !b) := by
  have htab : ∀ x ∈ Extracted.queryChain.zip allKinds,
      x.1.1 = kindSuffix x.2 ∧ x.1.2.1 = (kindSuffix x.2).length := by decide
  have hfind := find?_zip_agree (fun b : String × Nat × RExpr => endsWith k b.1.toList)
    (fun kd => endsWith k (kindSuffix kd).toList) Extracted.queryChain allKinds (by decide)
    (fun x hx => by simp only [(htab x hx).1])
  rw [specParse_eq_find]
  unfold parseKey
  rcases hfind with ⟨h1, h2⟩ | ⟨a, b, hm, h1, h2⟩
  · rw [h1, h2]
    exact ⟨.eq, rfl, fun re val v => C18_default_meaning re val v⟩
  · rw [h1, h2]
    refine ⟨b, ?_, fun re val v => C18_kind_meaning re val v (a, b) hm⟩
    show (cutLast k (kindSuffix b).length, b) = (cutLast k a.2.1, b)
    rw [show a.2.1 = (kindSuffix b).length from (htab (a, b) hm).2]

/-- one filter holds in the code's sense exactly when it holds by the documented meaning -/
theorem C18_holds (re : String → String → Bool) (attr : List Char → Val) (k : List Char) (v : FVal) :
    holds re attr k v = specHolds re attr k v := by
  obtain ⟨kd, h1, h2⟩ := C18_parse k
  rw [holds_eq, specHolds_eq, h1, h2]
  exact map_not_bind_not _

theorem C18_holdsAll (re : String → String → Bool) (attr : List Char → Val) (fs : List (List Char × FVal)) :
    holdsAll re attr fs = specHoldsAll re attr fs := by
  induction fs with
  | nil => rfl
  | cons f fs ih =>
    obtain ⟨k, v⟩ := f
    simp only [holdsAll, specHoldsAll, C18_holds, ih]

/-- a task lacking the attribute never satisfies a comparison or pattern filter -/
theorem C18_absent (re : String → String → Bool) (attr : List Char → Val) (k : List Char) (v : FVal)
    (habs : attr (specParse k).1 = .none)
    (hk : (specParse k).2 ∈ [Kind.ne, .lt, .le, .gt, .ge, .like, .notLike]) :
    holds re attr k v = .ok false := by
  rw [C18_holds, specHolds_eq, habs]
  simp only [List.mem_cons, List.not_mem_nil, or_false] at hk
  rcases hk with h | h | h | h | h | h | h <;> rw [h] <;> rfl

/-- the query returns, in list order, exactly the positions whose task satisfies every filter -/
theorem C18_query (re : String → String → Bool) (attrs : List (List Char → Val)) (fs : List (List Char × FVal))
    (idx : List Nat) (h : queryIdx re attrs fs = .ok idx) :
    idx = (List.range attrs.length).filter (fun i => isOkTrue (specHoldsAll re (attrs.getD i (fun _ => .none)) fs)) ∧
    idx.Pairwise (· < ·) := by
  have hsel := foldlM_select (fun i => holdsAll re (attrs.getD i (fun _ => .none)) fs)
    (List.range attrs.length) [] idx h
  simp only [C18_holdsAll, List.nil_append] at hsel
  refine ⟨hsel, ?_⟩
  rw [hsel]
  exact List.Pairwise.filter _ List.pairwise_lt_range

end Pj

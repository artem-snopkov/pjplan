/-
  Props/C15.lean — C15: a rejected mutation changes nothing.
-/
import PjVerif.Lemmas.GraphInvStep
import PjVerif.Lemmas.TaskSrcD
import PjVerif.Lemmas.FacadeSrcD
namespace Pj

/-- partial: every mutator except the three element-wise list-level operations (`list << x`, `list >> x`, bulk
    attribute assignment on a task list, known finding G12) is atomic on every reachable state: if the call
    raises, the state is literally the one before the call. -/
theorem C15_partial (s : G) (op : Op) (hi : Inv s) (hl : op.legal s) (hne : op.elementwise = false)
    (he : (step s op).2 ≠ none) : (step s op).1 = s :=
  step_err_unchanged s op hi hl hne he

/-- the real content for multi-element arguments: once the children setter's up-front validation has passed,
    none of the inner parent-setter calls can raise -/
theorem C15_children_validated_no_inner_raise (s : G) (h : Uid) (l : List Uid) (hi : Inv s)
    (hv : ∀ v ∈ l, s.hidden v = false) (hh : h < s.n) (hl : ∀ v ∈ l, v < s.n)
    (hc : chkChildren s h l = none) : (setChildren s h l).2 = none :=
  setChildren_atomic s h l hi hv hh hl hc

/-- the full statement fails for the element-wise operations.  Witness: universe of 2 tasks, `[t1, t0] << [t0]`
    appends `t0` to `t1`'s predecessors and then raises on `t0 << t0`. -/
theorem C15_full_fails :
    let s0 := fresh 2 (fun u => (u : Int))
    let op := Op.listLshift [1, 0] [0]
    (step s0 op).2 = some .runtime ∧ (step s0 op).1.preds 1 = [0] ∧ s0.preds 1 = [] := by
  decide

/-! ### the tie of the relation setters of `Task` to the current source, by translation (tools/extract_task.py → Extracted/TaskSrc.lean,
    Lemmas/TaskSrc*.lean): the model's `setParent` / `setPreds` / `setSuccs` / `setChildren` are what the CURRENT task.py computes -/
/- (C15: for a rejected call the interpreter's result carries the error class only - that the store is left alone is a property of the
   model's setters, `C15_*` above, and of the correspondence stream; see Lemmas/TaskSrc.lean, limitation 1) -/

/-- the translated `parent` setter (with `_find_root`, `_collect_subtree`, `_has_id_intersection`, `_linked_with_any`, `_attach`,
    `_detach`, `all_parents`, `all_children` as translated callees), run on the encoding of a well-formed state, gives the encoding of
    the model's new state when the model accepts and the model's error when it rejects - unless the model's fuel runs out -/
theorem C15_source_set_parent (s : G) (hw : WF s) (t : Uid) (p : Option Uid) (F : Nat) (hF : s.n + 6 ≤ F)
    (hrec : (setParent s t p).2 ≠ some (.crash .recursion)) :
    TaskSrc.interpSetParent F t p (TaskSrc.encSt s) = TaskSrc.setterResult (TaskSrc.encSt s) (setParent s t p) :=
  TaskSrc.interpSetParent_eq_wf s hw t p F hF hrec

/-- the translated `predecessors` / `successors` setters (validation loops, unlink loop, relink loop) are the model's `setPreds` /
    `setSuccs`, for every state (no well-formedness needed) and every admissible right-hand side (`ValueOf`: a list of tasks and
    `None`s, one task, `None`) -/
theorem C15_source_set_predecessors (s : G) (st : PyLite.PState) (hh : st.heap = TaskSrc.encHeap s) (t : Uid) (v : PyLite.Val)
    (l : List Uid) (hv : TaskSrc.ValueOf v l) (F : Nat) (hF : s.n + 4 ≤ F) (hrec : (setPreds s t l).2 ≠ some (.crash .recursion)) :
    TaskSrc.interpSetPreds F t v st = TaskSrc.setterResult st (setPreds s t l) :=
  TaskSrc.interpSetPreds_eq s st hh t v l hv F hF hrec

theorem C15_source_set_successors (s : G) (st : PyLite.PState) (hh : st.heap = TaskSrc.encHeap s) (t : Uid) (v : PyLite.Val)
    (l : List Uid) (hv : TaskSrc.ValueOf v l) (F : Nat) (hF : s.n + 4 ≤ F) (hrec : (setSuccs s t l).2 ≠ some (.crash .recursion)) :
    TaskSrc.interpSetSuccs F t v st = TaskSrc.setterResult st (setSuccs s t l) :=
  TaskSrc.interpSetSuccs_eq s st hh t v l hv F hF hrec

/-- the translated `children` setter (validations, release of the old children, the loop of `v.parent = self` assignments - each
    running the translated `parent` setter on an intermediate state) is the model's `setChildren`, for every state -/
theorem C15_source_set_children (s : G) (st : PyLite.PState) (hh : st.heap = TaskSrc.encHeap s) (h : Uid) (v : PyLite.Val)
    (l : List Uid) (hv : TaskSrc.ValueOf v l) (F : Nat) (hF : s.n + 6 ≤ F) (hrec : (setChildren s h l).2 ≠ some (.crash .recursion)) :
    TaskSrc.interpSetChildren F h v st = TaskSrc.setterResult st (setChildren s h l) :=
  TaskSrc.interpSetChildren_eq s st hh h v l hv F hF hrec

/-! ### the tie of the list façades of task.py (`_ChildrenList`, `_PredecessorsList`, `_SuccessorsList`, the operators, the list-level
    operations) to the current source, by translation (tools/extract_facade.py → Extracted/FacadeSrc.lean, Lemmas/FacadeSrc*.lean): 17 further
    functions of the program of task.py -/

/-- the three element-wise list-level operations (the operations of the known findings KF-G12a/b/c) are, in the current source, what the
    model's `step` says: the setter applied element by element -/
theorem C15_source_list_lshift (s : G) (st : PyLite.PState) (hh : st.heap = TaskSrc.encHeap s) (ts : List Uid) (v : PyLite.Val) (l : List Uid)
    (hv : TaskSrc.ValueOf v l) (F : Nat) (hF : s.n + 6 ≤ F) (hrec : (step s (.listLshift ts l)).2 ≠ some (.crash .recursion)) :
    FacadeSrc.interpListLshift F ts v st = FacadeSrc.opResult st v (step s (.listLshift ts l)) :=
  FacadeSrc.interpListLshift_eq s st hh ts v l hv F hF hrec

theorem C15_source_list_rshift (s : G) (st : PyLite.PState) (hh : st.heap = TaskSrc.encHeap s) (ts : List Uid) (v : PyLite.Val) (l : List Uid)
    (hv : TaskSrc.ValueOf v l) (F : Nat) (hF : s.n + 6 ≤ F) (hrec : (step s (.listRshift ts l)).2 ≠ some (.crash .recursion)) :
    FacadeSrc.interpListRshift F ts v st = FacadeSrc.opResult st v (step s (.listRshift ts l)) :=
  FacadeSrc.interpListRshift_eq s st hh ts v l hv F hF hrec

theorem C15_source_list_set_parent (s : G) (st : PyLite.PState) (hh : st.heap = TaskSrc.encHeap s) (hi : Inv s) (ts : List Uid) (p : Option Uid)
    (hvis : ∀ t ∈ ts, s.hidden t = false) (hts : ∀ t ∈ ts, t < s.n) (hp : ∀ q, p = some q → q < s.n) (F : Nat)
    (hF : s.n + 7 ≤ F) (hrec : (step s (.listSetParent ts p)).2 ≠ some (.crash .recursion)) :
    FacadeSrc.interpListSetParent F ts p st = FacadeSrc.opResult st (.atom .none) (step s (.listSetParent ts p)) :=
  FacadeSrc.interpListSetParent_eq s st hh hi ts p hvis hts hp F hF hrec

/-- `None` as the task argument of `remove` / `insert` / `append` of the three façades is refused with RuntimeError in every state -/
theorem C15_source_none_argument_refused (st : PyLite.PState) (F : Nat) (hF : 2 ≤ F) (o i : PyLite.Val) :
    FacadeSrc.interpF FacadeSrc.noLib F Extracted.Facade.fn_ChildrenList_remove [o, .atom .none] st = .error .runtime ∧
    FacadeSrc.interpF FacadeSrc.noLib F Extracted.Facade.fn_ChildrenList_insert [o, i, .atom .none] st = .error .runtime ∧
    FacadeSrc.interpF FacadeSrc.noLib F Extracted.fn_ChildrenList_append [o, .atom .none] st = .error .runtime ∧
    FacadeSrc.interpF FacadeSrc.noLib F Extracted.Facade.fn_PredecessorsList_append [o, .atom .none] st = .error .runtime ∧
    FacadeSrc.interpF FacadeSrc.noLib F Extracted.Facade.fn_PredecessorsList_remove [o, .atom .none] st = .error .runtime ∧
    FacadeSrc.interpF FacadeSrc.noLib F Extracted.Facade.fn_SuccessorsList_append [o, .atom .none] st = .error .runtime ∧
    FacadeSrc.interpF FacadeSrc.noLib F Extracted.Facade.fn_SuccessorsList_remove [o, .atom .none] st = .error .runtime :=
  FacadeSrc.interpNoneArg_eq st F hF o i

end Pj

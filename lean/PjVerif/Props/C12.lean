/-
  Props/C12.lean — C12: critical_path returns exactly the zero-float leaves of the dependency network.
-/
import PjVerif.Lemmas.CritPath
namespace Pj
open CPEnv

/-- on an (effectively) acyclic WBS the call returns exactly the leaves whose earliest finish plus longest remaining
    tail equals the project length -/
theorem C12_exact (e : CPEnv) (l : List Uid) (h : criticalPath e = .ok l) :
    specCritical e = some l := by
  obtain ⟨len, hlen, rfl⟩ := (criticalPath_ok_iff e l).mp h
  unfold specCritical
  rw [hlen, show ∀ f : Rat → Option (List Uid), (some len >>= f) = f len from fun _ => rfl,
    mapM_eq_map (w := fun t => (t, CritPathSrc.critOf e len t)) fun t ht => ?_]
  · exact congrArg some (filter_tag _ _)
  · obtain ⟨f, v, hf, hv⟩ := passes_defined e hlen ht
    have ht' : tail e t = some (len - v) := tailF_of_lfF e len _ t v hv
    simp only [hf, ht', CritPathSrc.critOf, hv, bind, Option.bind, pure, Option.some.injEq, Prod.mk.injEq, true_and,
      decide_eq_decide]
    grind

/-- … and it does return (no KeyError) whenever the leaf-level waits-for relation is acyclic -/
theorem C12_total (e : CPEnv) (ha : acyclicB e = true) : ∃ l, criticalPath e = .ok l := by
  obtain ⟨len, hlen⟩ := projectLen_of_acyclic e ha
  exact ⟨_, (criticalPath_ok_iff e _).mpr ⟨len, hlen, rfl⟩⟩

/-- only leaf tasks of the WBS are returned, each at most once -/
theorem C12_members (e : CPEnv) (l : List Uid) (h : criticalPath e = .ok l) (hn : e.members.Nodup) :
    l.Nodup ∧ ∀ t ∈ l, t ∈ e.members ∧ e.isLeaf t = true := by
  obtain ⟨len, -, rfl⟩ := (criticalPath_ok_iff e l).mp h
  exact ⟨(hn.sublist List.filter_sublist).sublist List.filter_sublist,
    fun t ht => List.mem_filter.mp (List.mem_filter.mp ht).1⟩

/-- the result is never empty when the WBS has a leaf -/
theorem C12_nonempty (e : CPEnv) (l : List Uid) (h : criticalPath e = .ok l) (hl : leaves e ≠ []) : l ≠ [] := by
  obtain ⟨len, hlen, rfl⟩ := (criticalPath_ok_iff e l).mp h
  obtain ⟨hle, hmax⟩ := projectLen_spec e len hlen
  obtain ⟨t, ht, heft⟩ := hmax hl
  obtain ⟨v, hv⟩ := lfF_total e len (acyclicB_of_projectLen e hlen) t ht
  have h1 := lfF_le_len e len _ t v hv
  have h2 := ef_le_lfF e len hle _ t ht v hv len heft
  refine List.ne_nil_of_mem (a := t) (List.mem_filter.mpr ⟨ht, ?_⟩)
  simp only [CritPathSrc.critOf, heft, hv, decide_eq_true_eq]
  grind

/-- dependencies declared on summary tasks bind all their leaves: a leaf below a summary that has a predecessor
    waits for every leaf member below that predecessor -/
theorem C12_inherited (e : CPEnv) (t a p x : Uid) (ha : a ∈ t :: ancestors e (e.n + 1) t) (hp : p ∈ e.preds a)
    (hx : x = p ∨ ∃ d, descF e.children (e.n + 1) p = some d ∧ x ∈ d)
    (hl : e.isLeaf x = true) (hm : x ∈ e.members) : x ∈ prereqs e t := by
  unfold prereqs
  rw [List.mem_eraseDups, List.mem_filter]
  refine ⟨List.mem_flatMap.mpr ⟨p, List.mem_flatMap.mpr ⟨a, ha, hp⟩, ?_⟩, ?_⟩
  · rcases hx with rfl | ⟨d, hd, hxd⟩
    · exact List.mem_cons_self
    · rw [hd]; exact List.mem_cons_of_mem _ hxd
  · simp [hl, hm]

end Pj

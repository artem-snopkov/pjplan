/-
  Props/C16.lean — C16: accepted mutations have exactly their documented effect and touch nothing else.
  `effOf s op` (Spec/GraphEff.lean) is the documented effect as a closed-form state; the frame is part of it: every
  field it does not mention is copied from `s`.
-/
import PjVerif.Lemmas.GraphEffLemmas
import PjVerif.Lemmas.TaskSrcD
import PjVerif.Lemmas.WbsSrcB
import PjVerif.Lemmas.FacadeSrcD
namespace Pj

/-- two states agree on every field of every object -/
def G.Same (a b : G) : Prop :=
  a.n = b.n ∧ ∀ u, a.tid u = b.tid u ∧ a.parent u = b.parent u ∧ a.children u = b.children u ∧
    a.preds u = b.preds u ∧ a.succs u = b.succs u ∧ a.owner u = b.owner u

theorem G.Same.of_eq {a b : G} (h : a = b) : G.Same a b :=
  h ▸ ⟨rfl, fun _ => ⟨rfl, rfl, rfl, rfl, rfl, rfl⟩⟩

/-- operations whose effect goes through the children setter's re-adoption loop -/
def Op.viaChildrenSetter : Op → Bool
  | .setChildren _ _ => true
  | .floordiv _ _ => true
  | .chInsert _ _ _ => true
  | .chRemove _ _ => true
  | .chRemoveAll _ _ => true
  | .wbsRemove _ _ => true
  | _ => false

/-- every accepted call of a mutator with a closed-form description (`effOf s op = some e`) has exactly that effect,
    on every reachable state.  Read with `viaChildrenSetter = false`: parent / predecessor / successor setters and
    their list façades (append, remove), the `<<` and `>>` operators, `reorder`; the flag only names the reading, the
    statement holds for every `op` -/
theorem C16_effect_direct (s s' e : G) (op : Op) (hi : Inv s) (hl : op.legal s)
    (hv : op.viaChildrenSetter = false) (he : effOf s op = some e) (h : step s op = (s', none)) : G.Same s' e :=
  have _ := hv
  G.Same.of_eq (step_effect s s' e op hi hl he h)

/-- the same statement read with `viaChildrenSetter = true`: the operations that assign a whole children list -
    `children = l`, `roots = l`, `//`, `insert`, `remove`, `remove_all`, `WBS.remove` -/
theorem C16_effect_children (s s' e : G) (op : Op) (hi : Inv s) (hl : op.legal s)
    (hv : op.viaChildrenSetter = true) (he : effOf s op = some e) (h : step s op = (s', none)) : G.Same s' e :=
  have _ := hv
  G.Same.of_eq (step_effect s s' e op hi hl he h)

/-- `sort`: only the one children list changes; it becomes a stable, ordered (reversed on request) permutation -/
theorem C16_sort (s : G) (h : Uid) (keys : List (Uid × Int)) (rev : Bool) :
    let s' := (step s (.chSort h keys rev)).1
    (step s (.chSort h keys rev)).2 = none ∧
    sortedByB (keyOf keys) rev (s.children h) (s'.children h) = true ∧
    G.Same s' { s with children := upd s.children h (s'.children h) } := by
  refine ⟨rfl, ?_, ?_⟩
  · show sortedByB (keyOf keys) rev (s.children h) (upd s.children h (sortBy (keyOf keys) rev (s.children h)) h) = true
    rw [upd_same]
    exact sortBy_sorted (keyOf keys) rev (s.children h)
  · apply G.Same.of_eq
    show ({ s with children := upd s.children h (sortBy (keyOf keys) rev (s.children h)) } : G) =
      { s with children := upd s.children h (upd s.children h (sortBy (keyOf keys) rev (s.children h)) h) }
    rw [upd_same]

/-- `move`: accepted ⇒ exactly the fold of single moves, nothing else changes -/
theorem C16_move (s s' : G) (h : Uid) (ts : List Uid) (b a : Option Uid)
    (hs : step s (.chMove h ts b a) = (s', none)) : G.Same s' (effMove s h ts b a) :=
  G.Same.of_eq (chMove_ok_eq s s' h ts b a hs)

/-- one move puts the task immediately before / after the anchor and keeps the relative order of the others -/
theorem C16_moveOne (l : List Uid) (t : Uid) (b a : Option Uid) (hn : l.Nodup) (ht : t ∈ l)
    (hb : ∀ x, b = some x → x ∈ l ∧ x ≠ t) (ha : ∀ x, a = some x → x ∈ l ∧ x ≠ t) (hab : b.isSome ≠ a.isSome) :
    (moveOne l t b a).erase t = l.erase t ∧
    (∀ x, b = some x → ∃ pre post, moveOne l t b a = pre ++ t :: x :: post) ∧
    (∀ x, a = some x → ∃ pre post, moveOne l t b a = pre ++ x :: t :: post) :=
  moveOne_spec l t b a hn ht hb ha hab

/-- frame of an accepted `t.predecessors = l`: a task that is neither `t`, nor in `l`, nor a former predecessor of
    `t` keeps all its relations and its owner -/
theorem C16_frame_links (s s' : G) (t : Uid) (l : List Uid) (u : Uid) (hi : Inv s)
    (h : step s (.setPreds t l) = (s', none)) (hu : u ≠ t) (hl : u ∉ l) (ho : u ∉ s.preds t) :
    s'.preds u = s.preds u ∧ s'.succs u = s.succs u ∧ s'.parent u = s.parent u ∧ s'.children u = s.children u ∧
    s'.owner u = s.owner u :=
  have _ := hi
  setPreds_frame s s' t l u h hu hl ho

/-! ### the tie of the relation setters of `Task` to the current source, by translation (tools/extract_task.py → Extracted/TaskSrc.lean,
    Lemmas/TaskSrc*.lean): the model's `setParent` / `setPreds` / `setSuccs` / `setChildren` are what the CURRENT task.py computes -/

/-- the translated `parent` setter (with `_find_root`, `_collect_subtree`, `_has_id_intersection`, `_linked_with_any`, `_attach`,
    `_detach`, `all_parents`, `all_children` as translated callees), run on the encoding of a well-formed state, gives the encoding of
    the model's new state when the model accepts and the model's error when it rejects - unless the model's fuel runs out -/
theorem C16_source_set_parent (s : G) (hw : WF s) (t : Uid) (p : Option Uid) (F : Nat) (hF : s.n + 6 ≤ F)
    (hrec : (setParent s t p).2 ≠ some (.crash .recursion)) :
    TaskSrc.interpSetParent F t p (TaskSrc.encSt s) = TaskSrc.setterResult (TaskSrc.encSt s) (setParent s t p) :=
  TaskSrc.interpSetParent_eq_wf s hw t p F hF hrec

/-- the translated `predecessors` / `successors` setters (validation loops, unlink loop, relink loop) are the model's `setPreds` /
    `setSuccs`, for every state (no well-formedness needed) and every admissible right-hand side (`ValueOf`: a list of tasks and
    `None`s, one task, `None`) -/
theorem C16_source_set_predecessors (s : G) (st : PyLite.PState) (hh : st.heap = TaskSrc.encHeap s) (t : Uid) (v : PyLite.Val)
    (l : List Uid) (hv : TaskSrc.ValueOf v l) (F : Nat) (hF : s.n + 4 ≤ F) (hrec : (setPreds s t l).2 ≠ some (.crash .recursion)) :
    TaskSrc.interpSetPreds F t v st = TaskSrc.setterResult st (setPreds s t l) :=
  TaskSrc.interpSetPreds_eq s st hh t v l hv F hF hrec

theorem C16_source_set_successors (s : G) (st : PyLite.PState) (hh : st.heap = TaskSrc.encHeap s) (t : Uid) (v : PyLite.Val)
    (l : List Uid) (hv : TaskSrc.ValueOf v l) (F : Nat) (hF : s.n + 4 ≤ F) (hrec : (setSuccs s t l).2 ≠ some (.crash .recursion)) :
    TaskSrc.interpSetSuccs F t v st = TaskSrc.setterResult st (setSuccs s t l) :=
  TaskSrc.interpSetSuccs_eq s st hh t v l hv F hF hrec

/-- the translated `children` setter (validations, release of the old children, the loop of `v.parent = self` assignments - each
    running the translated `parent` setter on an intermediate state) is the model's `setChildren`, for every state -/
theorem C16_source_set_children (s : G) (st : PyLite.PState) (hh : st.heap = TaskSrc.encHeap s) (h : Uid) (v : PyLite.Val)
    (l : List Uid) (hv : TaskSrc.ValueOf v l) (F : Nat) (hF : s.n + 6 ≤ F) (hrec : (setChildren s h l).2 ≠ some (.crash .recursion)) :
    TaskSrc.interpSetChildren F h v st = TaskSrc.setterResult st (setChildren s h l) :=
  TaskSrc.interpSetChildren_eq s st hh h v l hv F hF hrec

/-! ### the tie of `WBS` (wbs.py) to the current source, by translation (tools/extract_wbs.py → Extracted/WbsSrc.lean, Lemmas/WbsSrc*.lean);
    the program of wbs.py is layered over the program of task.py: a call into task.py runs the translated setters of Lemmas/TaskSrc*.lean -/

/-- the translated `WBS.remove` (with its recursive `__remove` and `_ChildrenList.remove`) is the model's `wbsRemove`, for every state;
    `wbsRemoveResult_state`: state and error are those of `wbsRemove`, the returned flag is the one of `removeRec` -/
theorem C16_source_remove (s : G) (st : PyLite.PState) (hh : st.heap = TaskSrc.encHeap s) (w t : Uid) (F : Nat)
    (hF : 2 * s.n + 12 ≤ F) (hrec : (wbsRemove s w t).2 ≠ some (.crash .recursion)) :
    WbsSrc.interpRemove F w (.atom (.ref t)) st = WbsSrc.wbsRemoveResult st s w t :=
  WbsSrc.interpRemove_eq s st hh w t F hF hrec

/-- the translated `WBS.remove_all` removes, one after the other, the tasks its filter selected (the filter evaluation
    `self.tasks(key, **kwargs)` is an oracle `filt`: C18 is about it) and returns them -/
theorem C16_source_remove_all (filt : List PyLite.Atom → PyLite.PState → List Uid) (s : G) (st : PyLite.PState)
    (hh : st.heap = TaskSrc.encHeap s) (w : Uid) (key kw : PyLite.Atom) (F : Nat) (hF : 2 * s.n + 12 ≤ F)
    (hrec : (forEach (fun s t => wbsRemove s w t) s (filt [.ref w, key, kw] st)).2 ≠ some (.crash .recursion)) :
    WbsSrc.interpRemoveAll filt F w key kw st =
      WbsSrc.resultV st (TaskSrc.refs (filt [.ref w, key, kw] st)) (forEach (fun s t => wbsRemove s w t) s (filt [.ref w, key, kw] st)) :=
  WbsSrc.interpRemoveAll_eq filt s st hh w key kw F hF hrec

/-- the translated `roots` setter and `WBS.__floordiv__` are the children setter / `floordiv` on the hidden root -/
theorem C16_source_roots_set (s : G) (st : PyLite.PState) (hh : st.heap = TaskSrc.encHeap s) (w : Uid) (v : PyLite.Val) (l : List Uid)
    (hv : TaskSrc.ValueOf v l) (F : Nat) (hF : s.n + 7 ≤ F) (hrec : (setChildren s w l).2 ≠ some (.crash .recursion)) :
    WbsSrc.interpRootsSet F w v st = TaskSrc.setterResult st (setChildren s w l) :=
  WbsSrc.interpRootsSet_eq s st hh w v l hv F hF hrec

theorem C16_source_wbs_floordiv (s : G) (st : PyLite.PState) (hh : st.heap = TaskSrc.encHeap s) (w : Uid) (v : PyLite.Val) (l : List Uid)
    (hv : TaskSrc.ValueOf v l) (F : Nat) (hF : s.n + 8 ≤ F) (hrec : (floordiv s w l).2 ≠ some (.crash .recursion)) :
    WbsSrc.interpFloordiv F w v st = WbsSrc.resultV st v (floordiv s w l) :=
  WbsSrc.interpFloordiv_eq s st hh w v l hv F hF hrec

/-! ### the tie of the list façades of task.py (`_ChildrenList`, `_PredecessorsList`, `_SuccessorsList`, the operators, the list-level
    operations) to the current source, by translation (tools/extract_facade.py → Extracted/FacadeSrc.lean, Lemmas/FacadeSrc*.lean): 17 further
    functions of the program of task.py -/

/-- `h.children.append(t)` / `.remove(t)` / `.insert(i, t)` (a façade taken from the current state) are the model's `chAppend` / `chRemove` /
    `chInsert` (`pyInsert`: Python's negative and out-of-range indexes) -/
theorem C16_source_children_append (s : G) (st : PyLite.PState) (hh : st.heap = TaskSrc.encHeap s) (h t : Uid) (F : Nat) (hF : s.n + 5 ≤ F)
    (hrec : (chAppend s h t).2 ≠ some (.crash .recursion)) :
    FacadeSrc.interpChAppend F h t st = FacadeSrc.opResult st (.atom .none) (chAppend s h t) :=
  FacadeSrc.interpChAppend_eq s st hh h t F hF hrec

theorem C16_source_children_remove (s : G) (st : PyLite.PState) (hh : st.heap = TaskSrc.encHeap s) (h t : Uid) (F : Nat) (hF : s.n + 7 ≤ F)
    (hrec : (chRemove s h t).2 ≠ some (.crash .recursion)) :
    FacadeSrc.interpChRemove F h t st = FacadeSrc.opResult st (.atom (.bool ((s.children h).contains t))) (chRemove s h t) :=
  FacadeSrc.interpChRemove_eq s st hh h t F hF hrec

theorem C16_source_children_insert (s : G) (st : PyLite.PState) (hh : st.heap = TaskSrc.encHeap s) (h : Uid) (i : Int) (t : Uid) (F : Nat)
    (hF : s.n + 7 ≤ F) (hrec : (chInsert s h i t).2 ≠ some (.crash .recursion)) :
    FacadeSrc.interpChInsert F h i t st = FacadeSrc.opResult st (.atom .none) (chInsert s h i t) :=
  FacadeSrc.interpChInsert_eq s st hh h i t F hF hrec

/-- `h.children.move(v, before=b, after=a)` is the model's `chMove` (`moveOne`), `h.children.reorder(ids)` the model's `chReorder`
    (`reorderLoop`: StopIteration for an unknown id, ValueError for a repeated one) - for every state, no proviso -/
theorem C16_source_children_move (s : G) (st : PyLite.PState) (hh : st.heap = TaskSrc.encHeap s) (h : Uid) (v : PyLite.Val) (ts : List Uid)
    (hv : TaskSrc.ValueOf v ts) (b a : Option Uid) (F : Nat) (hF : 3 ≤ F) :
    FacadeSrc.interpChMove F h v b a st = FacadeSrc.opResult st (.atom .none) (chMove s h ts b a) :=
  FacadeSrc.interpChMove_eq s st hh h v ts hv b a F hF

theorem C16_source_children_reorder (s : G) (st : PyLite.PState) (hh : st.heap = TaskSrc.encHeap s) (h : Uid) (ids : List Int) (F : Nat)
    (hF : 2 ≤ F) :
    FacadeSrc.interpChReorder F h ids st = FacadeSrc.opResult st (.atom .none) (chReorder s h ids) :=
  FacadeSrc.interpChReorder_eq s st hh h ids F hF

/-- `h.children.sort(key, reverse)` with a `str` key is the model's `chSort` (`sortBy`), for EVERY meaning `L` of `__getattribute__`
    under which the attribute values of the children are ordered as the model's integer keys (Python's stable `sorted` is a primitive,
    proved equal to the model's merge sort: `insSort_eq_mergeSort`) -/
theorem C16_source_children_sort (L : FacadeSrc.Lib) (s : G) (st : PyLite.PState) (hh : st.heap = TaskSrc.encHeap s) (h : Uid) (k : Nat)
    (rev : Bool) (key : Uid → Int) (val : Uid → PyLite.Atom) (F : Nat) (hF : 2 ≤ F)
    (hval : ∀ u ∈ s.children h, L "__getattribute__" [.ref u, .str k] = .ok (val u))
    (hord : ∀ u ∈ s.children h, ∀ v ∈ s.children h, PyLite.keyLe (val u) (val v) = some (decide (key u ≤ key v))) :
    FacadeSrc.interpChSort L F h (.atom (.str k)) rev st = FacadeSrc.opResult st (.atom .none) (chSort s h key rev) :=
  FacadeSrc.interpChSort_str_eq L s st hh h k rev key val F hF hval hord

/-- `t.predecessors.append(x)` / `.remove(x)` and the successor twins are the model's `prAppend` / `prRemove` / `suAppend` / `suRemove` -/
theorem C16_source_predecessors_append (s : G) (st : PyLite.PState) (hh : st.heap = TaskSrc.encHeap s) (t x : Uid) (F : Nat) (hF : s.n + 5 ≤ F)
    (hrec : (prAppend s t x).2 ≠ some (.crash .recursion)) :
    FacadeSrc.interpPrAppend F t x st = FacadeSrc.opResult st (.atom .none) (prAppend s t x) :=
  FacadeSrc.interpPrAppend_eq s st hh t x F hF hrec

theorem C16_source_predecessors_remove (s : G) (st : PyLite.PState) (hh : st.heap = TaskSrc.encHeap s) (t x : Uid) (F : Nat) (hF : s.n + 5 ≤ F)
    (hrec : (prRemove s t x).2 ≠ some (.crash .recursion)) :
    FacadeSrc.interpPrRemove F t x st = FacadeSrc.opResult st (.atom (.bool ((s.preds t).contains x))) (prRemove s t x) :=
  FacadeSrc.interpPrRemove_eq s st hh t x F hF hrec

theorem C16_source_successors_append (s : G) (st : PyLite.PState) (hh : st.heap = TaskSrc.encHeap s) (t x : Uid) (F : Nat) (hF : s.n + 5 ≤ F)
    (hrec : (suAppend s t x).2 ≠ some (.crash .recursion)) :
    FacadeSrc.interpSuAppend F t x st = FacadeSrc.opResult st (.atom .none) (suAppend s t x) :=
  FacadeSrc.interpSuAppend_eq s st hh t x F hF hrec

theorem C16_source_successors_remove (s : G) (st : PyLite.PState) (hh : st.heap = TaskSrc.encHeap s) (t x : Uid) (F : Nat) (hF : s.n + 5 ≤ F)
    (hrec : (suRemove s t x).2 ≠ some (.crash .recursion)) :
    FacadeSrc.interpSuRemove F t x st = FacadeSrc.opResult st (.atom (.bool ((s.succs t).contains x))) (suRemove s t x) :=
  FacadeSrc.interpSuRemove_eq s st hh t x F hF hrec

/-- the operators `h // v`, `t << v`, `t >> v` are the model's `floordiv` / `lshift` / `rshift` and return their right operand -/
theorem C16_source_floordiv (s : G) (st : PyLite.PState) (hh : st.heap = TaskSrc.encHeap s) (h : Uid) (v : PyLite.Val) (l : List Uid)
    (hv : TaskSrc.ValueOf v l) (F : Nat) (hF : s.n + 7 ≤ F) (hrec : (floordiv s h l).2 ≠ some (.crash .recursion)) :
    FacadeSrc.interpFloordiv F h v st = FacadeSrc.opResult st v (floordiv s h l) :=
  FacadeSrc.interpFloordiv_eq s st hh h v l hv F hF hrec

theorem C16_source_lshift (s : G) (st : PyLite.PState) (hh : st.heap = TaskSrc.encHeap s) (t : Uid) (v : PyLite.Val) (l : List Uid)
    (hv : TaskSrc.ValueOf v l) (F : Nat) (hF : s.n + 5 ≤ F) (hrec : (lshift s t l).2 ≠ some (.crash .recursion)) :
    FacadeSrc.interpLshift F t v st = FacadeSrc.opResult st v (lshift s t l) :=
  FacadeSrc.interpLshift_eq s st hh t v l hv F hF hrec

theorem C16_source_rshift (s : G) (st : PyLite.PState) (hh : st.heap = TaskSrc.encHeap s) (t : Uid) (v : PyLite.Val) (l : List Uid)
    (hv : TaskSrc.ValueOf v l) (F : Nat) (hF : s.n + 5 ≤ F) (hrec : (rshift s t l).2 ≠ some (.crash .recursion)) :
    FacadeSrc.interpRshift F t v st = FacadeSrc.opResult st v (rshift s t l) :=
  FacadeSrc.interpRshift_eq s st hh t v l hv F hF hrec

end Pj

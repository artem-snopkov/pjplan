/-
  Props/C08.lean — C08: forward schedules are tight; dates encode used capacity.
  PARTIAL: the no-idle clause when no task that has children carries a dependency link (finding KF-S3); the encoding
  clause for every clock that is not later than the project start; the WBS-order clause for forests with consistent
  parent pointers and symmetric links (what C01 gives for reachable graphs); the removal clause (balancing off) for
  tasks that take part in no dependency - for tasks with prerequisites, whose dates legitimately depend on those, it
  rests on the correspondence stream.
-/
import PjVerif.Lemmas.SchedC08
import PjVerif.Lemmas.SchedC08Removal
import PjVerif.Props.Witness
import PjVerif.Lemmas.ScheduleSrc
import PjVerif.Lemmas.PassSrc
namespace Pj

/-- with balancing on, every day from a leaf's release day up to (excluding) its last work day is fully booked on
    its resource in the final ledger.  Domain: dependency links are stored on both ends (`linksSym`, C01), and the
    clock or the project start is not before the epoch — a leaf without `min_start` is never started before
    1970-01-01 (`_task.min_start or datetime(1970, 1, 1)`, schedule.py), a floor the release day does not know
    about, so with all dates before 1970 the days up to the epoch stay idle -/
theorem C08_noIdle_partial (env : Env) (f0 : Uid → Fields) (res0 : List (Option Nat × Cal)) (o : Output)
    (hf : env.flagsOK) (hc : env.clockOK) (hs : noSummaryLinks env = true) (ho : outsideLeaves env = true)
    (hl : env.linksSym) (he : epoch ≤ env.clock 0 ∨ epoch ≤ env.bound)
    (h : forwardCalc env f0 res0 = .ok o) : c08NoIdle env f0 o = true := by
  exact C08.noIdle_partial env f0 res0 o hf hc hs ho hl he h

/-- start = first work day's midnight + share booked before the task, end = last work day's midnight + share booked
    up to and including the task; claimed, as the statement does, when the clock is not later than the project start -/
theorem C08_encode (env : Env) (f0 : Uid → Fields) (res0 : List (Option Nat × Cal)) (o : Output)
    (hf : env.flagsOK) (hc : env.clockOK) (hb : ∀ k, env.clock k ≤ env.bound)
    (h : forwardCalc env f0 res0 = .ok o) : c08Encode env f0 o = true := by
  have _ := hc
  exact C08.encode_partial env f0 res0 o hf hb h

/-- among leaves that take part in no dependency (neither themselves nor through an ancestor) capacity is handed out
    in WBS order: the usage rows of an earlier one all precede those of a later one.  Domain: the WBS is a forest
    whose parent pointers mirror the children lists (`membersNodup`, `childrenOK`: otherwise a task listed twice, or
    a leaf whose parent pointer hides an ancestor that carries a link, breaks the clause) and links are stored on
    both ends (`linksSym`) -/
theorem C08_order (env : Env) (f0 : Uid → Fields) (res0 : List (Option Nat × Cal)) (o : Output)
    (hf : env.flagsOK) (hl : env.linksSym) (hch : env.childrenOK) (hn : env.membersNodup)
    (h : forwardCalc env f0 res0 = .ok o) : c08Order env o = true := by
  exact C08.order_holds env f0 res0 o hf hl hch hn h

/-- PARTIAL (tasks without prerequisites): with balancing off the dates, estimate, spent and (day, units) usage rows of
    a leaf that takes part in no dependency - neither itself nor through an ancestor - do not change when other tasks
    are removed, added or re-ordered: `env'` is any other WBS, scheduled with the same project start, (constant) clock
    and default estimate, in which a task `t'` carries the same own data as `t` and whose resource resolves to the same
    calendar -/
theorem C08_removal_free_partial (env env' : Env) (f0 f0' : Uid → Fields) (res0 res0' : List (Option Nat × Cal))
    (o o' : Output) (t t' : Uid)
    (hf : env.flagsOK) (hf' : env'.flagsOK) (hl : env.linksSym) (hl' : env'.linksSym)
    (hp : env.parentsOK) (hp' : env'.parentsOK) (hch : env.childrenOK) (hch' : env'.childrenOK)
    (hn : env.membersNodup) (hn' : env'.membersNodup)
    (hb : env.balance = false) (hb' : env'.balance = false)
    (hclk : ∀ k, env.clock k = env.clock 0) (hclk' : ∀ k, env'.clock k = env.clock 0)
    (hbound : env'.bound = env.bound) (hde : env'.defaultEst = env.defaultEst)
    (ht : t ∈ memberList env) (ht' : t' ∈ memberList env')
    (hfree : freeLeaf env t = true) (hfree' : freeLeaf env' t' = true)
    (hown : C08R.SameOwn env env' f0 f0' t t')
    (hcal : C08R.calOf res0 (env.info t).resource = C08R.calOf res0' (env'.info t').resource)
    (h : forwardCalc env f0 res0 = .ok o) (h' : forwardCalc env' f0' res0' = .ok o') :
    o.f t = o'.f t' ∧ C08R.dayUnits o.rows t = C08R.dayUnits o'.rows t' :=
  C08R.removal_free env env' f0 f0' res0 res0' o o' t t' hf hf' hl hl' hp hp' hch hch' hn hn' hb hb' hclk hclk'
    hbound hde ht ht' hfree hfree' hown hcal h h'

/-- the full no-idle statement fails on the model as on the code (findings/KF-S3-C08.json) -/
theorem C08_noIdle_full_fails :
    ∃ o, forwardCalc Witness.kfS3C08Env Witness.kfS3C08F0 Witness.kfS3C08Res = .ok o ∧
      c08NoIdle Witness.kfS3C08Env Witness.kfS3C08F0 o = false := by
  have h : (match forwardCalc Witness.kfS3C08Env Witness.kfS3C08F0 Witness.kfS3C08Res with
      | .ok o => c08NoIdle Witness.kfS3C08Env Witness.kfS3C08F0 o == false
      | .error _ => false) = true := by decide +kernel
  cases hr : forwardCalc Witness.kfS3C08Env Witness.kfS3C08F0 Witness.kfS3C08Res with
  | ok o => rw [hr] at h; exact ⟨o, rfl, by simpa using h⟩
  | error e => rw [hr] at h; cases h

/-! ### the tie of the inner loops to the current source, by translation: as in Props/C03.lean, where the setting is
    described; stated again here so that this property has it among its obligations -/

/-- as `C03_source_nearest_forward` -/
theorem C08_source_nearest_forward (cal : Cal) (b : Bool) (rows : List Row) (r : Option Nat) (t : Uid) (start : Time) :
    SchedSrc.interpNearestFwd cal b (SchedSrc.resRef r) t (rows.map SchedSrc.encRow) start =
      (nearestFwd cal (SchedSrc.usedOf rows r t b) start).map (fun e => (e, rows.map SchedSrc.encRow)) :=
  SchedSrc.interpNearestFwd_eq cal b rows r t start

/-- as `C03_source_shift_forward` -/
theorem C08_source_shift_forward (fuel : Nat) (cal : Cal) (b : Bool) (rows : List Row) (r : Option Nat) (t : Uid)
    (start : Time) (left : Rat) (hf : Extracted.fwdShiftMaxSteps < fuel) :
    SchedSrc.interpShiftFwd fuel cal b (SchedSrc.resRef r) t (rows.map SchedSrc.encRow) start left =
      (shiftFwd cal (SchedSrc.usedOf rows r t b) start left).map
        (fun p => (p.1, (rows ++ p.2.map (mkRow r t)).map SchedSrc.encRow)) :=
  SchedSrc.interpShiftFwd_eq fuel cal b rows r t start left hf

/-! ### the tie of the recursive passes to the current source, by translation: as in Props/C02.lean, where the
    setting is described; stated again here so that this property has it among its obligations -/

theorem C08_source_forward_pass (env : Env) (ms : Uid → Bool) (wfuel : Nat)
    (hms : ∀ u, (env.info u).milestone = (ms u && (env.info u).children.isEmpty))
    (hw : Extracted.fwdShiftMaxSteps < wfuel) (fuel fuel' : Nat) (hle : fuel ≤ fuel') (stk : List Uid) (σ : SS)
    (t : Uid) (minDate : Time) (hne : fwdPass env fuel stk σ t minDate ≠ .error (.crash .recursion)) :
    PassSrc.interpFwdPass env wfuel (PassSrc.calRef σ.res) fuel' (PassSrc.encS env ms σ) t minDate =
      (fwdPass env fuel stk σ t minDate).map (PassSrc.encS env ms) :=
  PassSrc.interpFwdPass_eq env ms wfuel hms hw fuel fuel' hle stk σ t minDate hne

end Pj

/-
  Props/C04.lean — C04: reserved work equals remaining work and agrees with the task's dates.
-/
import PjVerif.Lemmas.SchedC04
import PjVerif.Lemmas.ScheduleSrc
import PjVerif.Lemmas.PassSrc
import PjVerif.Lemmas.PassSrcBwd
namespace Pj

/-- forward schedules: conservation, at most one row per task and day, rows inside [start day, end) and never
    before the current day, a scheduler-chosen start on the first reserved day, the end within the 24 hours after
    the last reserved day's midnight, nothing reserved for milestones / completed tasks / summaries, user-fixed
    dates of non-milestone leaves returned unchanged.  Hypotheses: the membership flags describe the WBS; the
    clock never runs backwards and the calc does not run across midnight. -/
theorem C04_forward (env : Env) (f0 : Uid → Fields) (res0 : List (Option Nat × Cal)) (o : Output)
    (hf : env.flagsOK) (hc : env.clockOK) (h : forwardCalc env f0 res0 = .ok o) :
    c04Amount env f0 o = true ∧ c04OncePerDay o = true ∧ c04Window env true o = true ∧ c04None env f0 o = true ∧
    c04StartFirstDay env f0 o = true ∧ c04EndLastDay env f0 o = true ∧ c04FixedKept env f0 o = true := by
  exact C04.forwardCalc_c04 env f0 res0 o hf hc h

/-- backward schedules (no user-fixed dates): conservation, once per day, rows inside [start day, end), the start
    within the first reserved day, nothing reserved for milestones and summaries -/
theorem C04_backward (env : Env) (f0 : Uid → Fields) (res0 : List (Option Nat × Cal)) (o : Output)
    (hf : env.flagsOK) (hn : noFixedDates env f0 = true) (h : backwardCalc env f0 res0 = .ok o) :
    c04Amount env f0 o = true ∧ c04OncePerDay o = true ∧ c04Window env false o = true ∧ c04None env f0 o = true ∧
    c04BwdStartFirstDay env f0 o = true := by
  exact C04.backwardCalc_c04 env f0 res0 o hf hn h

/-! ### the tie of the inner loops to the current source, by translation: as in Props/C03.lean, where the setting is
    described; stated again here so that this property has it among its obligations -/

/-- as `C03_source_nearest_forward` -/
theorem C04_source_nearest_forward (cal : Cal) (b : Bool) (rows : List Row) (r : Option Nat) (t : Uid) (start : Time) :
    SchedSrc.interpNearestFwd cal b (SchedSrc.resRef r) t (rows.map SchedSrc.encRow) start =
      (nearestFwd cal (SchedSrc.usedOf rows r t b) start).map (fun e => (e, rows.map SchedSrc.encRow)) :=
  SchedSrc.interpNearestFwd_eq cal b rows r t start

/-- as `C03_source_shift_forward` -/
theorem C04_source_shift_forward (fuel : Nat) (cal : Cal) (b : Bool) (rows : List Row) (r : Option Nat) (t : Uid)
    (start : Time) (left : Rat) (hf : Extracted.fwdShiftMaxSteps < fuel) :
    SchedSrc.interpShiftFwd fuel cal b (SchedSrc.resRef r) t (rows.map SchedSrc.encRow) start left =
      (shiftFwd cal (SchedSrc.usedOf rows r t b) start left).map
        (fun p => (p.1, (rows ++ p.2.map (mkRow r t)).map SchedSrc.encRow)) :=
  SchedSrc.interpShiftFwd_eq fuel cal b rows r t start left hf

/-- as `C03_source_nearest_backward` -/
theorem C04_source_nearest_backward (cal : Cal) (b : Bool) (rows : List Row) (r : Option Nat) (t : Uid) (start : Time) :
    SchedSrc.interpNearestBwd cal b (SchedSrc.resRef r) t (rows.map SchedSrc.encRow) start =
      (nearestBwd cal (SchedSrc.usedOf rows r t b) start).map (fun e => (e, rows.map SchedSrc.encRow)) :=
  SchedSrc.interpNearestBwd_eq cal b rows r t start

/-- as `C03_source_shift_backward` -/
theorem C04_source_shift_backward (fuel : Nat) (cal : Cal) (b : Bool) (rows : List Row) (r : Option Nat) (t : Uid)
    (end_ : Time) (left : Rat) (hf : Extracted.bwdShiftMaxSteps < fuel) :
    SchedSrc.interpShiftBwd fuel cal b (SchedSrc.resRef r) t (rows.map SchedSrc.encRow) end_ left =
      (shiftBwd cal (SchedSrc.usedOf rows r t b) end_ left).map
        (fun p => (p.1, (rows ++ p.2.map (mkRow r t)).map SchedSrc.encRow)) :=
  SchedSrc.interpShiftBwd_eq fuel cal b rows r t end_ left hf

/-! ### the tie of the recursive passes to the current source, by translation: as in Props/C02.lean, where the
    setting is described; stated again here so that this property has it among its obligations -/

theorem C04_source_forward_pass (env : Env) (ms : Uid → Bool) (wfuel : Nat)
    (hms : ∀ u, (env.info u).milestone = (ms u && (env.info u).children.isEmpty))
    (hw : Extracted.fwdShiftMaxSteps < wfuel) (fuel fuel' : Nat) (hle : fuel ≤ fuel') (stk : List Uid) (σ : SS)
    (t : Uid) (minDate : Time) (hne : fwdPass env fuel stk σ t minDate ≠ .error (.crash .recursion)) :
    PassSrc.interpFwdPass env wfuel (PassSrc.calRef σ.res) fuel' (PassSrc.encS env ms σ) t minDate =
      (fwdPass env fuel stk σ t minDate).map (PassSrc.encS env ms) :=
  PassSrc.interpFwdPass_eq env ms wfuel hms hw fuel fuel' hle stk σ t minDate hne

/-- the translated `BackwardScheduler.__backward_pass` (Extracted/PassSrc.lean), interpreted on the encoding of a model state,
    is the encoding of the model's `bwdPass` - unless the model run ends in RecursionError (see `C02_source_forward_pass`).
    `encSB` is `encS` with the tasks' successor lists. -/
theorem C04_source_backward_pass (env : Env) (ms : Uid → Bool) (wfuel : Nat)
    (hms : ∀ u, (env.info u).milestone = (ms u && (env.info u).children.isEmpty))
    (hw : Extracted.bwdShiftMaxSteps < wfuel) (fuel fuel' : Nat) (hle : fuel ≤ fuel') (stk : List Uid) (σ : SS)
    (t : Uid) (minDate : Time) (hne : bwdPass env fuel stk σ t minDate ≠ .error (.crash .recursion)) :
    PassSrcBwd.interpBwdPass env wfuel (PassSrc.calRef σ.res) fuel' (PassSrcBwd.encSB env ms σ) t minDate =
      (bwdPass env fuel stk σ t minDate).map (PassSrcBwd.encSB env ms) :=
  PassSrcBwd.interpBwdPass_eq env ms wfuel hms hw fuel fuel' hle stk σ t minDate hne

end Pj

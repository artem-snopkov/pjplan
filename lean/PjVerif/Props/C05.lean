/-
  Props/C05.lean — C05: task ids stay unique inside every WBS and detached tree; lookup by id is exact;
  WBS.tasks lists every member once, depth first.
-/
import PjVerif.Lemmas.GraphTasks
import PjVerif.Lemmas.TaskSrcD
import PjVerif.Lemmas.WbsSrcA
namespace Pj

/-- no accepted or rejected operation can make two different tasks of one WBS / one detached tree share an id -/
theorem C05_step (s : G) (op : Op) (hi : Inv s) (hl : op.legal s) : UniqueIds (step s op).1 :=
  (step_Inv s op hi hl).ids

/-- … along every history -/
theorem C05_run (ops : List Op) (s : G) (hi : Inv s) (hl : ∀ op ∈ ops, op.legal s) : UniqueIds (run s ops) :=
  (run_Inv ops s hi hl).ids

/-- an operation that is rejected on a reachable state is rejected with RuntimeError (never RecursionError,
    KeyError, …); the one exception is `reorder` with an unknown or repeated id, which is no id-clash rejection -/
theorem C05_reject_is_runtime (s : G) (op : Op) (hi : Inv s) (hl : op.legal s) (e : Err)
    (he : (step s op).2 = some e) (hno : ∀ h ids, op ≠ .chReorder h ids) : e = .runtime := by
  rcases step_err_kind s op hi hl e he with h | ⟨h, ids, rfl⟩
  · exact h
  · exact absurd rfl (hno h ids)

/-- an attach that would bring a second task with an id already present in the receiving WBS/tree is rejected:
    the id-intersection test of the children setter fires ⇒ RuntimeError and nothing changes -/
theorem C05_clash_rejected (s : G) (h : Uid) (l : List Uid)
    (hown : ∀ e, (match s.owner h with
                  | none => if l.any (fun v => (s.owner v).isSome) then some Err.runtime else none
                  | some w => if l.any (fun v => (s.owner v).isSome && s.owner v != some w) then some Err.runtime else none) = some e
              → e = .runtime)
    (hclash : hasIdIntersection s h l = some true) : setChildren s h l = (s, some .runtime) :=
  setChildren_clash s h l hown hclash

/-- `wbs[id]` returns the one member with that id … -/
theorem C05_lookup_some (s : G) (w : Uid) (i : Int) (t : Uid) (hi : Inv s) (hw : s.hidden w = true) :
    wbsGet s w i = .ok t ↔ (TC (par s) t w ∧ s.tid t = i) :=
  wbsGet_ok_iff s w i t hi

/-- … and raises RuntimeError exactly when there is none -/
theorem C05_lookup_none (s : G) (w : Uid) (i : Int) (hi : Inv s) (hw : s.hidden w = true) :
    wbsGet s w i = .error .runtime ↔ ¬ ∃ t, TC (par s) t w ∧ s.tid t = i :=
  wbsGet_error_iff s w i hi

/-- `WBS.tasks` lists exactly the members, each once -/
theorem C05_tasks_members (s : G) (w : Uid) (hi : Inv s) :
    ∃ l, wbsTasks s w = some l ∧ l.Nodup ∧ ∀ t, t ∈ l ↔ TC (par s) t w :=
  wbsTasks_spec s w hi

/-- depth-first order: every member is directly followed by all of its descendants (in their own depth-first
    order), and siblings appear in list order -/
theorem C05_tasks_preorder (s : G) (w : Uid) (hi : Inv s) (l : List Uid) (hl : wbsTasks s w = some l) :
    (∀ t, t ∈ l → ∃ pre post d, descF s.children s.fuel t = some d ∧ l = pre ++ t :: d ++ post) ∧
    (∀ p a b, (p = w ∨ p ∈ l) → a ≠ b → (s.children p).idxOf a < (s.children p).idxOf b → b ∈ s.children p →
        l.idxOf a < l.idxOf b) :=
  ⟨descF_segment s.children s.fuel w l hl,
   fun p a b hp _ hidx hb => descF_order s hi.wf s.fuel w l hl p a b hp hidx hb⟩

/-! ### the tie of the relation setters of `Task` to the current source, by translation (tools/extract_task.py → Extracted/TaskSrc.lean,
    Lemmas/TaskSrc*.lean): the model's `setParent` / `setPreds` / `setSuccs` / `setChildren` are what the CURRENT task.py computes -/

/-- the translated `parent` setter (with `_find_root`, `_collect_subtree`, `_has_id_intersection`, `_linked_with_any`, `_attach`,
    `_detach`, `all_parents`, `all_children` as translated callees), run on the encoding of a well-formed state, gives the encoding of
    the model's new state when the model accepts and the model's error when it rejects - unless the model's fuel runs out -/
theorem C05_source_set_parent (s : G) (hw : WF s) (t : Uid) (p : Option Uid) (F : Nat) (hF : s.n + 6 ≤ F)
    (hrec : (setParent s t p).2 ≠ some (.crash .recursion)) :
    TaskSrc.interpSetParent F t p (TaskSrc.encSt s) = TaskSrc.setterResult (TaskSrc.encSt s) (setParent s t p) :=
  TaskSrc.interpSetParent_eq_wf s hw t p F hF hrec

/-- the translated `children` setter (validations, release of the old children, the loop of `v.parent = self` assignments - each
    running the translated `parent` setter on an intermediate state) is the model's `setChildren`, for every state -/
theorem C05_source_set_children (s : G) (st : PyLite.PState) (hh : st.heap = TaskSrc.encHeap s) (h : Uid) (v : PyLite.Val)
    (l : List Uid) (hv : TaskSrc.ValueOf v l) (F : Nat) (hF : s.n + 6 ≤ F) (hrec : (setChildren s h l).2 ≠ some (.crash .recursion)) :
    TaskSrc.interpSetChildren F h v st = TaskSrc.setterResult st (setChildren s h l) :=
  TaskSrc.interpSetChildren_eq s st hh h v l hv F hF hrec

/-- the translated `_has_id_intersection` (the id clash test both hierarchy setters run before they write) is the model's
    `hasIdIntersection` -/
theorem C05_source_has_id_intersection (s : G) (st : PyLite.PState) (hh : st.heap = TaskSrc.encHeap s) (p : Uid) (chs : List Uid) (b : Bool)
    (h : hasIdIntersection s p chs = some b) (F : Nat) (hF : s.fuel + 2 ≤ F) :
    (TaskSrc.Hd F).fnV Extracted.fn_has_id_intersection [.atom (.ref p), TaskSrc.refs chs] st = .ok (.atom (.bool b), st) :=
  TaskSrc.has_id_intersection_spec TaskSrc.progHd s st hh p chs b h F hF

/-! ### the tie of `WBS` (wbs.py) to the current source, by translation (tools/extract_wbs.py → Extracted/WbsSrc.lean, Lemmas/WbsSrc*.lean);
    the program of wbs.py is layered over the program of task.py: a call into task.py runs the translated setters of Lemmas/TaskSrc*.lean -/

/-- the translated `WBS.tasks` returns the model's member list (`wbsTasks`: the depth-first enumeration below the hidden root) -/
theorem C05_source_tasks (s : G) (st : PyLite.PState) (hh : st.heap = TaskSrc.encHeap s) (w : Uid) (r : List Uid)
    (h : wbsTasks s w = some r) (F : Nat) (hF : s.n + 3 ≤ F) :
    WbsSrc.interpTasks F w st = .ok (TaskSrc.refs r, st) :=
  WbsSrc.interpTasks_eq s st hh w r h F hF

/-- the translated `WBS.__getitem__` is the model's `wbsGet`: the first member with that id, RuntimeError when there is none -/
theorem C05_source_getitem (s : G) (st : PyLite.PState) (hh : st.heap = TaskSrc.encHeap s) (w : Uid) (i : Int) (F : Nat)
    (hF : s.n + 3 ≤ F) (hrec : wbsGet s w i ≠ .error (.crash .recursion)) :
    WbsSrc.interpGetitem F w (.atom (TaskSrc.idA i)) st = WbsSrc.getResult st (wbsGet s w i) :=
  WbsSrc.interpGetitem_eq s st hh w i F hF hrec

end Pj

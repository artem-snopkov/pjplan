import PjVerif.Model.Basic
import PjVerif.Model.Calendar
import PjVerif.Model.Graph
import PjVerif.Model.GraphOps
import PjVerif.Model.Clone
import PjVerif.Model.CritPath
import PjVerif.Model.Csv
import PjVerif.Model.CsvRec
import PjVerif.Model.Print
import PjVerif.Model.Render
import PjVerif.Model.PyLite
import PjVerif.Model.PyLiteW
import PjVerif.Model.PyLiteIO
import PjVerif.Spec.Calendar
import PjVerif.Spec.Graph
import PjVerif.Spec.Clone
import PjVerif.Spec.CritPath
import PjVerif.Spec.Render
import PjVerif.Extracted.Sched
import PjVerif.Model.Sched
import PjVerif.Spec.Sched
import PjVerif.Spec.Sched2
import PjVerif.Extracted.CalendarSrc
import PjVerif.Extracted.ScheduleSrc
import PjVerif.Extracted.PassSrc
import PjVerif.Extracted.CalcSrc
import PjVerif.Extracted.TaskSrc
import PjVerif.Extracted.WbsSrc
import PjVerif.Extracted.FacadeSrc
import PjVerif.Extracted.CritPathSrc
import PjVerif.Extracted.PrintSrc
import PjVerif.Extracted.CsvSrc
import PjVerif.Extracted.RenderSrc
import PjVerif.Extracted.DhtmlxSrc
import PjVerif.Lemmas.ListFacts
import PjVerif.Lemmas.Res
import PjVerif.Lemmas.Calendar
import PjVerif.Lemmas.Rel
import PjVerif.Lemmas.GraphParent
import PjVerif.Lemmas.Fuel
import PjVerif.Lemmas.GraphLinks
import PjVerif.Lemmas.GraphPerm
import PjVerif.Lemmas.GraphBounded
import PjVerif.Lemmas.GraphInv
import PjVerif.Lemmas.GraphInvStep
import PjVerif.Lemmas.GraphTasks
import PjVerif.Lemmas.GraphEffLemmas
import PjVerif.Lemmas.CloneLemmas
import PjVerif.Lemmas.SchedFill
import PjVerif.Lemmas.SchedStep
import PjVerif.Lemmas.SchedWbs
import PjVerif.Lemmas.SchedLedger
import PjVerif.Lemmas.SchedPass
import PjVerif.Lemmas.SchedDir
import PjVerif.Lemmas.SchedCore
import PjVerif.Lemmas.SchedC02
import PjVerif.Lemmas.SchedC04
import PjVerif.Lemmas.SchedC06
import PjVerif.Lemmas.SchedC07
import PjVerif.Lemmas.SchedC08
import PjVerif.Lemmas.SchedC08Removal
import PjVerif.Lemmas.SchedC09
import PjVerif.Lemmas.SchedC14
import PjVerif.Lemmas.Query
import PjVerif.Props.C18
import PjVerif.Lemmas.CritPath
import PjVerif.Props.C12
import PjVerif.Lemmas.CsvLemmas
import PjVerif.Props.C13
import PjVerif.Lemmas.Emits
import PjVerif.Lemmas.PrintLemmas
import PjVerif.Props.C20
import PjVerif.Lemmas.RenderLemmas
import PjVerif.Props.C19
import PjVerif.Props.Witness
import PjVerif.Lemmas.PyLiteEqns
import PjVerif.Lemmas.PyLiteSimp
import PjVerif.Lemmas.PyLiteSteps
import PjVerif.Lemmas.PyLogic
import PjVerif.Lemmas.PyUpd
import PjVerif.Lemmas.CalendarSrc
import PjVerif.Props.C17
import PjVerif.Lemmas.ScheduleSrc
import PjVerif.Props.C03
import PjVerif.Lemmas.PassSrc
import PjVerif.Lemmas.PassSrcBwd
import PjVerif.Props.C02
import PjVerif.Props.C04
import PjVerif.Props.C07
import PjVerif.Props.C08
import PjVerif.Props.C09
import PjVerif.Lemmas.CalcSrc
import PjVerif.Props.C14
import PjVerif.Lemmas.TaskSrc
import PjVerif.Lemmas.TaskSrcA
import PjVerif.Lemmas.TaskSim
import PjVerif.Lemmas.TaskSrcB
import PjVerif.Lemmas.TaskSrcC
import PjVerif.Lemmas.TaskSrcD
import PjVerif.Lemmas.TaskSrcCheck
import PjVerif.Lemmas.TaskSrcRuns
import PjVerif.Lemmas.TaskSrcCheckB
import PjVerif.Lemmas.TaskSrcCheckC
import PjVerif.Lemmas.TaskSrcCheckD
import PjVerif.Lemmas.TaskSrcCheckA
import PjVerif.Lemmas.TaskSrcCheckD1
import PjVerif.Lemmas.TaskSrcCheckE
import PjVerif.Props.C01
import PjVerif.Lemmas.WbsSrc
import PjVerif.Lemmas.WbsSrcA
import PjVerif.Lemmas.WbsSrcM
import PjVerif.Lemmas.WbsSrcCheck
import PjVerif.Lemmas.WbsSrcCheckC
import PjVerif.Props.C05
import PjVerif.Lemmas.FacadeSrc
import PjVerif.Lemmas.FacadeSrcMono
import PjVerif.Lemmas.FacadeSrcSort
import PjVerif.Lemmas.FacadeSrcA
import PjVerif.Lemmas.WbsSrcB
import PjVerif.Lemmas.WbsSrcC1
import PjVerif.Lemmas.WbsSrcC
import PjVerif.Lemmas.WbsSrcRuns
import PjVerif.Lemmas.FacadeSrcB
import PjVerif.Lemmas.FacadeSrcC
import PjVerif.Lemmas.FacadeSrcD
import PjVerif.Lemmas.FacadeSrcCheck
import PjVerif.Lemmas.FacadeSrcRuns
import PjVerif.Lemmas.FacadeSrcCheckI
import PjVerif.Lemmas.FacadeSrcCheckA
import PjVerif.Lemmas.FacadeSrcCheckA2
import PjVerif.Lemmas.FacadeSrcCheckB
import PjVerif.Lemmas.FacadeSrcCheckR
import PjVerif.Lemmas.FacadeSrcCheckC
import PjVerif.Lemmas.FacadeSrcCheckD
import PjVerif.Props.C11
import PjVerif.Props.C15
import PjVerif.Props.C06
import PjVerif.Props.C10
import PjVerif.Props.C16
import PjVerif.Lemmas.CritPathSrc
import PjVerif.Lemmas.CritPathSrcNet
import PjVerif.Lemmas.CritPathSrcStore
import PjVerif.Lemmas.CritPathSrcA1
import PjVerif.Lemmas.CritPathSrcA2
import PjVerif.Lemmas.CritPathSrcA3
import PjVerif.Lemmas.CritPathSrcA
import PjVerif.Lemmas.CritPathSrcB
import PjVerif.Lemmas.CritPathSrcC1
import PjVerif.Lemmas.CritPathSrcC2
import PjVerif.Lemmas.CritPathSrcC3
import PjVerif.Lemmas.CritPathSrcC4
import PjVerif.Lemmas.CritPathSrcC5
import PjVerif.Lemmas.CritPathSrcD
import PjVerif.Lemmas.CritPathSrcCheck
import PjVerif.Lemmas.CritPathSrcRuns
import PjVerif.Lemmas.CritPathSrcCheckB
import PjVerif.Lemmas.CritPathSrcCheckC
import PjVerif.Props.C12Src
import PjVerif.Lemmas.StrLib
import PjVerif.Lemmas.StrLibLemmas
import PjVerif.Lemmas.PrintSrc
import PjVerif.Lemmas.PrintSrcA
import PjVerif.Lemmas.PrintSrcB
import PjVerif.Lemmas.PrintSrcC
import PjVerif.Lemmas.PrintSrcLib
import PjVerif.Lemmas.PrintSrcCheck
import PjVerif.Lemmas.PrintSrcRuns
import PjVerif.Lemmas.PrintSrcCheckB
import PjVerif.Props.C20Src
import PjVerif.Lemmas.CsvSrc
import PjVerif.Lemmas.CsvSrcA
import PjVerif.Lemmas.CsvSrcCheck
import PjVerif.Lemmas.CsvSrcCheckA
import PjVerif.Lemmas.CsvSrcD
import PjVerif.Lemmas.CsvSrcB1
import PjVerif.Lemmas.CsvSrcW
import PjVerif.Lemmas.CsvSrcR
import PjVerif.Lemmas.CsvSrcB
import PjVerif.Lemmas.CsvSrcCheckB
import PjVerif.Lemmas.CsvSrcS
import PjVerif.Lemmas.CsvSrcT
import PjVerif.Lemmas.CsvSrcCheckC
import PjVerif.Props.C13Src
import PjVerif.Lemmas.RenderSrc
import PjVerif.Lemmas.RenderSrcA
import PjVerif.Lemmas.RenderSrcB
import PjVerif.Lemmas.RenderSrcCheck
import PjVerif.Lemmas.RenderSrcC0
import PjVerif.Lemmas.RenderSrcC
import PjVerif.Lemmas.RenderSrcRuns
import PjVerif.Lemmas.RenderSrcCheckB
import PjVerif.Lemmas.DhtmlxSrc
import PjVerif.Lemmas.DhtmlxSrcA
import PjVerif.Lemmas.DhtmlxSrcCheck
import PjVerif.Lemmas.DhtmlxSrcRuns
import PjVerif.Lemmas.DhtmlxSrcCheckB
import PjVerif.Props.C19Src
